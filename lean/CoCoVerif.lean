import CoCoVerif.Model.Basic
import CoCoVerif.Model.Cassette
import CoCoVerif.Spec.Tape
import CoCoVerif.Gen.Disk
import CoCoVerif.Gen.Instructions
import CoCoVerif.Model.Disk
import CoCoVerif.Spec.DiskBasic
import CoCoVerif.Model.Values
import CoCoVerif.Model.Operands
import CoCoVerif.Model.Program
import CoCoVerif.Spec.MC6809
import CoCoVerif.Model.VirtualFile
import CoCoVerif.Lemmas.AppendFinish
import CoCoVerif.Lemmas.AppendLayout
import CoCoVerif.Lemmas.AppendPcr
import CoCoVerif.Lemmas.AssembleStages
import CoCoVerif.Lemmas.Cassette
import CoCoVerif.Lemmas.CreateForward
import CoCoVerif.Lemmas.CreateGraph
import CoCoVerif.Lemmas.CreateLit
import CoCoVerif.Lemmas.DiskAddFile
import CoCoVerif.Lemmas.DiskBytes
import CoCoVerif.Lemmas.DiskFat
import CoCoVerif.Lemmas.DiskFsck
import CoCoVerif.Lemmas.DiskGranules
import CoCoVerif.Lemmas.DiskHolds
import CoCoVerif.Lemmas.DiskInv
import CoCoVerif.Lemmas.DiskList
import CoCoVerif.Lemmas.DiskWitness
import CoCoVerif.Lemmas.EncodeClasses
import CoCoVerif.Lemmas.EncodeData
import CoCoVerif.Lemmas.EncodeDecode
import CoCoVerif.Lemmas.EncodeExpr
import CoCoVerif.Lemmas.EncodeFccLine
import CoCoVerif.Lemmas.EncodeIndexed
import CoCoVerif.Lemmas.EncodeLabel
import CoCoVerif.Lemmas.EncodeLayout
import CoCoVerif.Lemmas.EncodeLists
import CoCoVerif.Lemmas.EncodeOffset
import CoCoVerif.Lemmas.EncodeShape
import CoCoVerif.Lemmas.EncodeSpecial
import CoCoVerif.Lemmas.EncodeWitness
import CoCoVerif.Lemmas.EvalLists
import CoCoVerif.Lemmas.FinalForm
import CoCoVerif.Lemmas.FinishPasses
import CoCoVerif.Lemmas.FitWidth
import CoCoVerif.Lemmas.FixBranch
import CoCoVerif.Lemmas.FixOne
import CoCoVerif.Lemmas.FrontEndAtom
import CoCoVerif.Lemmas.FrontEndOperand
import CoCoVerif.Lemmas.FrontEndSymbol
import CoCoVerif.Lemmas.FrontInclude
import CoCoVerif.Lemmas.FrontScan
import CoCoVerif.Lemmas.HexEmit
import CoCoVerif.Lemmas.ImageBytes
import CoCoVerif.Lemmas.LayoutPasses
import CoCoVerif.Lemmas.ListGetD
import CoCoVerif.Lemmas.ListPass
import CoCoVerif.Lemmas.NamePad
import CoCoVerif.Lemmas.NoAddr
import CoCoVerif.Lemmas.NoIntFix
import CoCoVerif.Lemmas.NoIntHuge
import CoCoVerif.Lemmas.NoIntOp
import CoCoVerif.Lemmas.NoIntPcr
import CoCoVerif.Lemmas.NoIntVal
import CoCoVerif.Lemmas.NumValue
import CoCoVerif.Lemmas.OrgFirst
import CoCoVerif.Lemmas.OutcomeBasics
import CoCoVerif.Lemmas.ParseEval
import CoCoVerif.Lemmas.PcrLoop
import CoCoVerif.Lemmas.PcrLoopLockstep
import CoCoVerif.Lemmas.PcrWidthFix
import CoCoVerif.Lemmas.PcrWidthInv
import CoCoVerif.Lemmas.PcrWidthPost
import CoCoVerif.Lemmas.RelocAddr
import CoCoVerif.Lemmas.RelocAll
import CoCoVerif.Lemmas.RelocAny
import CoCoVerif.Lemmas.RelocCheck
import CoCoVerif.Lemmas.RelocEmit
import CoCoVerif.Lemmas.RelocEqu
import CoCoVerif.Lemmas.RelocFinish
import CoCoVerif.Lemmas.RelocFix
import CoCoVerif.Lemmas.RelocFront
import CoCoVerif.Lemmas.RelocList
import CoCoVerif.Lemmas.RelocListLabel
import CoCoVerif.Lemmas.RelocListProg
import CoCoVerif.Lemmas.RelocMod
import CoCoVerif.Lemmas.RelocOne
import CoCoVerif.Lemmas.RelocSigned
import CoCoVerif.Lemmas.RelocStages
import CoCoVerif.Lemmas.RenameBack
import CoCoVerif.Lemmas.RenameLayout
import CoCoVerif.Lemmas.RenameResolve
import CoCoVerif.Lemmas.RenameText
import CoCoVerif.Lemmas.RenameTranslate
import CoCoVerif.Lemmas.RenameValue
import CoCoVerif.Lemmas.ResolveGraph
import CoCoVerif.Lemmas.ResolveValue
import CoCoVerif.Lemmas.SizeAscii
import CoCoVerif.Lemmas.SizeFix
import CoCoVerif.Lemmas.SizeShape
import CoCoVerif.Lemmas.SizeTranslate
import CoCoVerif.Lemmas.SizeValue
import CoCoVerif.Lemmas.SplitOn
import CoCoVerif.Lemmas.StagesKeep
import CoCoVerif.Lemmas.StagesTrace
import CoCoVerif.Lemmas.SymTab
import CoCoVerif.Lemmas.TapeParse
import CoCoVerif.Lemmas.TranslateGraph
import CoCoVerif.Lemmas.VFAsm
import CoCoVerif.Lemmas.VFCas
import CoCoVerif.Lemmas.VFChain
import CoCoVerif.Lemmas.VFDsk
import CoCoVerif.Lemmas.VFHist
import CoCoVerif.Lemmas.VFUtil
import CoCoVerif.Lemmas.VirtualFile
import CoCoVerif.Props.C01
import CoCoVerif.Props.C01Text
import CoCoVerif.Props.C01TextSym
import CoCoVerif.Props.C02
import CoCoVerif.Props.C02C03Final
import CoCoVerif.Props.C02Full
import CoCoVerif.Props.C02Size
import CoCoVerif.Props.C03
import CoCoVerif.Props.C03Full
import CoCoVerif.Props.C03Width
import CoCoVerif.Props.C04
import CoCoVerif.Props.C05
import CoCoVerif.Props.C06
import CoCoVerif.Props.C07
import CoCoVerif.Props.C08
import CoCoVerif.Props.C09
import CoCoVerif.Props.C10
import CoCoVerif.Props.C11
import CoCoVerif.Props.C11Full
import CoCoVerif.Props.C12
import CoCoVerif.Props.C12Full
import CoCoVerif.Props.C13
import CoCoVerif.Props.C14
import CoCoVerif.Props.C15
import CoCoVerif.Props.C15Host
import CoCoVerif.Props.C16
import CoCoVerif.Props.C17
import CoCoVerif.Props.C18
import CoCoVerif.Props.C18Reloc
import CoCoVerif.Props.C18RelocLists
import CoCoVerif.Props.C18RelocListsProg
import CoCoVerif.Props.C18RelocSrc
import CoCoVerif.Props.C18RelocText
import CoCoVerif.Props.C18Rename
import CoCoVerif.Props.C18RenameFull
import CoCoVerif.Props.C19
import CoCoVerif.Props.DiskDefs
import CoCoVerif.Props.TapeDefs
