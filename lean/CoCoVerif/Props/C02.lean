/-
Props/C02.lean — layout of an accepted program: addresses form a chain (each statement starts where
the previous one ends, ORG restarts the chain), the image is the concatenation of the statements'
bytes, symbols are bound to the address of the statement that carries the label (here: what the final table holds for
an EQU label, `C02_equ_symbol`; the symbol clauses themselves are in Props/C02Full.lean).
-/
import CoCoVerif.Lemmas.ParseEval
import CoCoVerif.Lemmas.ResolveGraph
import CoCoVerif.Lemmas.StagesTrace

namespace CoCo.Props
open CoCo CoCo.Asm

/-- (a) the address chain: every statement has a numeric address; a first statement that is not an ORG sits
at 0; a statement that is not an ORG starts where its predecessor ends -/
def AddressChain (a : Assembly) : Prop :=
  (∀ (j : Nat) (s : Stmt), a.stmts[j]? = some s → ∃ x, addrNat s = some x) ∧
  (∀ s : Stmt, a.stmts[0]? = some s → s.row.mnemonic ≠ "ORG" → addrNat s = some 0) ∧
  (∀ (j : Nat) (s t : Stmt), a.stmts[j]? = some s → a.stmts[j + 1]? = some t → t.row.mnemonic ≠ "ORG" →
      addrNat t = (addrNat s).map (· + s.pkg.size))

/-- (b) `get_binary_array` is the concatenation of the bytes of the statements, in order -/
def ImageConcat (a : Assembly) : Prop :=
  ∀ img, a.image = some img → img = (a.stmts.filterMap stmtBytes).flatten

/-- (c) symbols: a label of an ordinary statement is bound to that statement's address, a label of an
EQU-like statement (`isPseudoDefine`) to the operand value; labels are unique -/
def SymbolsBound (a : Assembly) (pseudoHyp : Stmt → Prop) : Prop :=
  (∀ (i : Nat) (s : Stmt), a.stmts[i]? = some s → s.label.isEmpty = false →
      (s.row.isPseudoDefine = false → a.symtab.get? s.label = some s.pkg.address) ∧
      (s.row.isPseudoDefine = true → pseudoHyp s → a.symtab.get? s.label = some s.operand.value)) ∧
  (∀ (i j : Nat) (s t : Stmt), a.stmts[i]? = some s → a.stmts[j]? = some t → s.label.isEmpty = false → s.label = t.label → i = j)

/-- C02 as first stated.  Its clause "an ORG is the statement of index 0" is too strong (`C02_Statement_too_strong`);
`C02_Statement_v2` (Props/C02Full.lean) is the statement that holds -/
def C02_Statement : Prop :=
  ∀ (fs : Files) (lines : List Str) (a : Assembly), assemble fs lines = .ok a →
    (∃ img, a.image = some img) ∧ ImageConcat a ∧ AddressChain a ∧
    (∀ s ∈ a.stmts, (stmtBytes s).map List.length = some s.pkg.size) ∧
    (∀ (j : Nat) (s : Stmt), a.stmts[j]? = some s → s.row.mnemonic = "ORG" → j = 0) ∧
    SymbolsBound a (fun _ => True)

theorem C02_chain {fs : Files} {lines : List Str} {a : Assembly} (h : assemble fs lines = .ok a) :
    AddressChain a := by
  obtain ⟨st⟩ := assemble_stages h
  obtain ⟨_, hsome, hhead, hstep⟩ := st.chained.spec
  exact ⟨hsome, fun s hs hm => hhead s hs (st.flag_false hs hm),
    fun j s t hs ht hm => hstep j s t hs ht (st.flag_false ht hm)⟩

/-- the telescoping form of the chain: without an ORG in `(lo, hi]`, the distance between two statements
is the sum of the sizes in between -/
theorem C02_telescope {fs : Files} {lines : List Str} {a : Assembly} (h : assemble fs lines = .ok a)
    {lo hi : Nat} (hle : lo ≤ hi) {s t : Stmt} (hs : a.stmts[lo]? = some s) (ht : a.stmts[hi]? = some t)
    (hno : ∀ j u, lo < j → j ≤ hi → a.stmts[j]? = some u → u.row.mnemonic ≠ "ORG")
    {x : Nat} (hx : addrNat s = some x) : addrNat t = some (x + sumSize a.stmts lo hi) := by
  obtain ⟨st⟩ := assemble_stages h
  exact st.telescope hle hs ht hno hx

/-- the only statements whose address is not dictated by the chain are ORGs whose operand is present:
`translatePseudo` copies the operand value into `pkg.address` -/
theorem C02_org_address (o : Operand) (row : Gen.InstrRow) (p : Pkg) (hk : o.kind = .pseudo)
    (hm : row.mnemonic = "ORG") (h : translateOperand o row = .ok p) : p.address = o.value := by
  rw [(translate_org_eq hk hm h).1]

theorem C02_image {fs : Files} {lines : List Str} {a : Assembly} (_h : assemble fs lines = .ok a) :
    ImageConcat a := by
  intro img himg
  obtain ⟨bs, hbs, rfl⟩ := image_eq himg
  rw [(mapM_some hbs).2]

theorem C02_image_of_sizes {a : Assembly}
    (hb : ∀ s ∈ a.stmts, (stmtBytes s).map List.length = some s.pkg.size) : ∃ img, a.image = some img := by
  have hpw : PW (fun s b => stmtBytes s = some b) a.stmts (a.stmts.map fun s => (stmtBytes s).getD []) := by
    refine ⟨List.length_map _, fun j s b hs hj => ?_⟩
    rw [List.getElem?_map, hs] at hj
    obtain rfl := Option.some.inj hj
    obtain ⟨b, hsb, _⟩ := Option.map_eq_some_iff.1 (hb s (List.mem_of_getElem? hs))
    simp only [hsb, Option.getD_some]
  exact ⟨_, by unfold Assembly.image; rw [mapM_of_pw hpw]; rfl⟩

/-- offsets: let `k` be a statement before which nothing is emitted and after which there is no ORG (typically
the initial ORG, `k = 0`). If every statement emits as many bytes as its size, then the bytes of statement
`i ≥ k` start at offset `address i − address k` of the image. -/
theorem C02_offset {fs : Files} {lines : List Str} {a : Assembly} (h : assemble fs lines = .ok a)
    {img : Bytes} (himg : a.image = some img)
    (hsz : ∀ s ∈ a.stmts, (stmtBytes s).map List.length = some s.pkg.size)
    (k : Nat) (hk0 : ∀ j s, j < k → a.stmts[j]? = some s → s.pkg.size = 0)
    (hk1 : ∀ j s, k < j → a.stmts[j]? = some s → s.row.mnemonic ≠ "ORG")
    {i : Nat} (hki : k ≤ i) {sk s : Stmt} (hsk : a.stmts[k]? = some sk) (hs : a.stmts[i]? = some s) :
    ∃ pre b post ak ai, img = pre ++ b ++ post ∧ stmtBytes s = some b ∧
      addrNat sk = some ak ∧ addrNat s = some ai ∧ pre.length + ak = ai := by
  obtain ⟨bs, hbs, rfl⟩ := image_eq himg
  have hpw := (mapM_some hbs).1
  obtain ⟨b, hb, hsb⟩ := hpw.get hs
  obtain ⟨ak, hak⟩ := (C02_chain h).1 k sk hsk
  have hai := C02_telescope h hki hsk hs (fun j u h1 _ hu => hk1 j u h1 hu) hak
  have hlen := lt_of_getElem? hs
  have hpre := prefix_length hpw hsz k hk0 i (Nat.le_of_lt hlen)
  refine ⟨(bs.take i).flatten, b, (bs.drop (i + 1)).flatten, ak, _, flatten_split hb, hsb, hak, hai, ?_⟩
  rw [hpre]
  by_cases hik : i ≤ k
  · have : i = k := by omega
    subst this; simp [sumSize_self]
  · simp [hik]; omega

/-- the instruction table: an EQU-like row is not one of FCB / FDB / RMB / ORG, so its operand is never rewritten -/
theorem pseudoDefine_not_data : ∀ r ∈ Gen.instructions, r.isPseudoDefine = true → isDataRow r = false := by
  decide +kernel

/-- what is needed of an EQU-like statement for "the label keeps the operand value": the operand is a pseudo
operand (always the case for statements produced by `parseLine`) whose value is not a statement index and
(fixes 0f280be and d7356d4) not an expression: an EQU defined by an expression is bound to the VALUE of the
expression, see `C02_equ_symbol` below and `C02_equ_expression_symbol` (Props/C02Full) -/
def PseudoValueHyp (s : Stmt) : Prop :=
  s.operand.kind = .pseudo ∧ s.operand.value.isAddress = false ∧
  s.operand.value.isExpression = false ∧ s.operand.value.isAddrExpr = false

/-- the general form of the EQU clause: the label of an EQU-like statement with a pseudo operand is bound to its
operand value passed through `evalSym` (an expression is evaluated against the table `st.t` built from the labels,
anything else is kept) and `finalVal` -/
theorem C02_equ_symbol {fs : Files} {lines : List Str} {a : Assembly} (st : Stages fs lines a)
    {i : Nat} {s : Stmt} (hs : a.stmts[i]? = some s) (hl : s.label.isEmpty = false)
    (hpd : s.row.isPseudoDefine = true) (hkind : s.operand.kind = .pseudo) :
    ∃ v1 v', evalSym a.stmts st.t s.operand.value = .ok v1 ∧ finalVal a.stmts v1 = some v' ∧
      a.symtab.get? s.label = some v' := by
  obtain ⟨s0', hs0, _, hget⟩ := st.label_entry hs hl
  obtain ⟨s0, o, p, sz, mx, pb, hint, ad, vf, vw, v, c, rfl⟩ := st.compiled hs
  obtain rfl : s0 = s0' := Option.some.inj (c.h0.symm.trans hs0)
  -- an EQU-like row is no data row: `resolve_symbols` leaves its operand alone
  obtain rfl : o = s0.operand := resolveOperand_pseudo c.hres (pseudoDefine_not_data s0.row c.parsed.1 hpd) (.inr hkind)
  rw [hpd, if_pos rfl] at hget
  obtain ⟨v1, v', hev, hv', hfin⟩ := st.symtab_get hget
  exact ⟨v1, v', hev, hfin, hv'⟩

/-- `L NOP / T EQU L+1`: the listing's symbol table shows T with the value 1, the address of L plus 1 (the Python
prints `$0001 T`) -/
def C02_equWitness : List Str := ["L NOP\n", "T EQU L+1\n"].map String.toList

private def equCheck (a : Assembly) : Bool :=
  (match a.symtab.get? "T".toList with
   | some (.numeric 1 _ _ false) => true
   | _ => false) &&
  symtabLines a.symtab == some ["$00   L".toList, "$0001 T".toList]

theorem C02_equ_label_expression_witness :
    ∃ a h md, assemble [] C02_equWitness = .ok a ∧ a.symtab.get? "T".toList = some (.numeric 1 h md false) ∧
      symtabLines a.symtab = some ["$00   L".toList, "$0001 T".toList] := by
  obtain ⟨a, ha, hchk⟩ := checkProgramF_sound (lines := C02_equWitness) (check := equCheck) (by decide +kernel) []
  unfold equCheck at hchk
  simp only [Bool.and_eq_true, beq_iff_eq] at hchk
  obtain ⟨h1, h2⟩ := hchk
  split at h1
  · rename_i h md hg
    exact ⟨a, h, md, ha, hg, h2⟩
  · cases h1

/-- `A EQU 2*3 / B EQU A+1 / LDA #B`: an EQU defined through another EQU; B is listed as 7 and `LDA #B` loads 7 -/
def C02_equChainWitness : List Str := ["A EQU 2*3\n", "B EQU A+1\n", " LDA #B\n"].map String.toList

private def equChainCheck (a : Assembly) : Bool :=
  symtabLines a.symtab == some ["$06   A".toList, "$07   B".toList] && a.image == some [0x86, 7]

theorem C02_equ_chain_witness :
    ∃ a, assemble [] C02_equChainWitness = .ok a ∧
      symtabLines a.symtab = some ["$06   A".toList, "$07   B".toList] ∧ a.image = some [0x86, 7] := by
  obtain ⟨a, ha, hchk⟩ :=
    checkProgramF_sound (lines := C02_equChainWitness) (check := equChainCheck) (by decide +kernel) []
  unfold equChainCheck at hchk
  simp only [Bool.and_eq_true, beq_iff_eq] at hchk
  exact ⟨a, ha, hchk.1, hchk.2⟩

/-- a label that occurs twice (after INCLUDE expansion) is rejected with a diagnostic -/
theorem C02_duplicate_label {fs : Files} {lines : List Str} {parsed ss0 : List Stmt}
    (hp : parseLines lines = .ok parsed) (he : expand fs (includeFuel fs) [] parsed = .ok ss0)
    {i j : Nat} {s t : Stmt} (hij : i < j) (hs : ss0[i]? = some s) (ht : ss0[j]? = some t)
    (hl : s.label = t.label) (hne : s.label.isEmpty = false) : assemble fs lines = .diag := by
  rw [assemble_eq_from hp he, assembleFrom_eq_back, back_chain, buildSymTab_dup hij hs ht hl hne]
  rfl

/-- `LDA -100,X`: a negative 8-bit offset counts its offset byte in the size (fix 3a0f6b8): size 3, three bytes -/
def C02_sizeWitness : List Str := [" LDA -100,X\n"].map String.toList

private def sizeCheck (a : Assembly) : Bool :=
  match a.stmts[0]? with
  | some s => s.pkg.size == 3 && (stmtBytes s).map List.length == some 3
  | none => false

theorem C02_size_fixed :
    ∃ a s, assemble [] C02_sizeWitness = .ok a ∧ a.stmts[0]? = some s ∧ s.pkg.size = 3 ∧
      (stmtBytes s).map List.length = some 3 := by
  obtain ⟨a, ha, hchk⟩ := checkProgramF_sound (lines := C02_sizeWitness) (check := sizeCheck) (by decide +kernel) []
  unfold sizeCheck at hchk
  split at hchk
  · rename_i s hs
    simp only [Bool.and_eq_true, beq_iff_eq] at hchk
    exact ⟨a, s, ha, hs, hchk.1, hchk.2⟩
  · cases hchk

/-- an ORG in the middle of a program -/
def C02_orgWitness : List Str := [" NOP\n", " ORG $100\n", " NOP\n"].map String.toList

/-- an ORG after the first byte of the program is a diagnostic (fix f9c374f, "ORG must come before the first label and
the first byte"): the image is one contiguous block, while the listing addresses would jump (finding B1) -/
theorem C02_org_counterexample_fixed (fs : Files) : assemble fs C02_orgWitness = .diag :=
  diagProgramF_sound (by decide +kernel) fs

/-- the witness of finding B1, `NOP / ORG $10 / NOP / ORG $5 / NOP`, is rejected as well -/
theorem C02_finding_B1_fixed (fs : Files) :
    assemble fs ([" NOP\n", " ORG $10\n", " NOP\n", " ORG $5\n", " NOP\n"].map String.toList) = .diag :=
  diagProgramF_sound (by decide +kernel) fs

/-- an ORG after statements that emit nothing and carry no address label (EQU, NAM) is still accepted -/
theorem C02_org_after_equ_accepted (fs : Files) :
    ∃ a, assemble fs (["C1 EQU 5\n", " NAM X\n", " ORG $100\n", "S NOP\n"].map String.toList) = .ok a ∧
      a.image = some [0x12] ∧ (a.stmts[3]?).bind addrNat = some 0x100 := by
  obtain ⟨a, ha, hchk⟩ := checkProgramF_sound
    (lines := ["C1 EQU 5\n", " NAM X\n", " ORG $100\n", "S NOP\n"].map String.toList)
    (check := fun a => a.image == some [0x12] && (a.stmts[3]?).bind addrNat == some 0x100)
    (by decide +kernel) fs
  simp only [Bool.and_eq_true, beq_iff_eq] at hchk
  exact ⟨a, ha, hchk.1, hchk.2⟩

/-- ORG first, a label, an EQU: the hypotheses of `C02_offset` (with `k = 0`) and `PseudoValueHyp` hold -/
def C02_example : List Str :=
  [" ORG $0E00\n", "TEN EQU 10\n", "START LDA #TEN\n", " NOP\n", "DONE RTS\n"].map String.toList

private def exampleCheck (a : Assembly) : Bool :=
  a.image.isSome &&
  a.stmts.all (fun s => (stmtBytes s).map List.length == some s.pkg.size) &&
  (a.stmts.drop 1).all (fun s => s.row.mnemonic != "ORG") &&
  (match a.stmts[1]? with
   | some s => s.row.isPseudoDefine && s.operand.kind == .pseudo && !s.operand.value.isAddress &&
       !s.operand.value.isExpression && !s.operand.value.isAddrExpr
   | none => false) &&
  (match a.stmts[4]? with
   | some s => addrNat s == some 0x0E03 && a.symtab.get? s.label == some s.pkg.address
   | none => false)

example : ∃ a, assemble [] C02_example = .ok a ∧ exampleCheck a = true :=
  checkProgramF_sound (by decide +kernel) []

end CoCo.Props
