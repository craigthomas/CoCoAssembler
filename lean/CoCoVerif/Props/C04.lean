/-
Props/C04.lean — expressions: what `ExpressionValue.resolve` and `calculate_address_offset` compute (T5).
Statements, main theorems, witnesses and non-vacuity examples; helpers are in Lemmas/CreateLit.lean and
Lemmas/EncodeExpr.lean.

What the model (bug-compatibly) does:
* the two operands are looked up first (a symbol is replaced by its table entry — an entry that is an EQU EXPRESSION
  by the value of that expression, fix 0f280be: `resolve_symbol_equ_expression`, `C04_equ_expression_fixed`; a
  definition cycle is an error, `C04_equ_expression_cycle`), then their SIGNED values (`NumericValue.signed()`:
  magnitude and `negative` flag, fix 74ec239) are combined; division is `int(left / right)`, truncation towards zero;
* the Python int is printed with `"{}".format` and re-read by the STRING constructor, so the range is
  −32768..65535 and everything outside is an error; division by zero is an error;
* the mode of the result is extended if an operand is, else direct — except that a result above 255 is extended
  whatever the operands were (fix 03f5b0d; before it `$80+$80` became a truncated direct operand);
* `calculate_address_offset` (fix bd9f69a) computes `left op right` IN THE WRITTEN ORDER on the two operand values —
  a label is the ADDRESS of its statement, a number its SIGNED value, anything else is a diagnostic — reduces a result
  below zero modulo 65536 (every operator) and refuses one above 65535 or a division by zero (`C04_LabelStatement`,
  `C04_label_full`).
-/
import CoCoVerif.Lemmas.EncodeExpr
import CoCoVerif.Props.C01

namespace CoCo.Props
open CoCo CoCo.Asm

theorem numResult_ofNat (m : Mode) (n : Nat) :
    numResult m (n : Int) = if n > 65535 then .error .other else .ok (posNum m n) := by
  unfold numResult
  rw [if_neg (by omega), Int.natAbs_natCast]

theorem numResult_negOfNat (m : Mode) (n : Nat) (hn : 0 < n) :
    numResult m (-(n : Int)) = if n > 32768 then .error .other else .ok (negNum m n) := by
  unfold numResult
  rw [if_pos (by omega), Int.natAbs_neg, Int.natAbs_natCast]

/-- `numResult` is the signed range check −32768..65535 (hint and mode as the model picks them) -/
theorem numResult_spec (m : Mode) (z : Int) :
    numResult m z =
      if -32768 ≤ z ∧ z ≤ 65535 then
        .ok (if z < 0 then negNum m z.natAbs else posNum m z.natAbs)
      else .error .other := by
  unfold numResult
  by_cases hr : -32768 ≤ z ∧ z ≤ 65535
  · rw [if_pos hr]
    split
    · rw [if_neg (by omega)]
    · rw [if_neg (by omega)]
  · rw [if_neg hr]
    split
    · rw [if_pos (by omega)]
    · rw [if_pos (by omega)]

theorem numResult_ok {m : Mode} {z : Int} (h1 : -32768 ≤ z) (h2 : z ≤ 65535) :
    numResult m z = .ok (if z < 0 then negNum m z.natAbs else posNum m z.natAbs) := by
  rw [numResult_spec, if_pos ⟨h1, h2⟩]

/-! ### `resolve` on two numeric operands, operator by operator

`exprMode ma mb` is `.extended` if either operand is extended or explicit-extended, else `.direct`;
`resMode ma mb z` (the mode of a result `z`) is `.extended` for `z > 255` and `exprMode ma mb` otherwise (fix 03f5b0d);
`posNum m n = .numeric n (if m = .extended then some 4 else if n < 256 then some 2 else none) m false`,
`negNum m n = .numeric n (if m = .extended then some 4 else none) m true`.
These are the statements for NON-NEGATIVE operands (neg flag `false`); operands of either sign: `resolve_signed`,
`numericArith` below. -/

/-- operands of either sign whose result is the natural number `n`: an error above 65535, else `n` in the result mode -/
theorem resolve_nat {a b : Nat} {ha hb : Option Nat} {ma mb : Mode} {na nb : Bool} {op : Char} {m : Mode} {ae : Bool}
    {t : SymTab} {n : Nat} (hz : modelArith op (sInt a na) (sInt b nb) = some (n : Int)) :
    (Value.expr (.numeric a ha ma na) (.numeric b hb mb nb) op m ae).resolve t =
      if n > 65535 then .error .other else .ok (posNum (resMode ma mb (n : Int)) n) := by
  rw [resolve_expr_numeric, hz]
  exact numResult_ofNat _ _

section numeric
variable (a b : Nat) (ha hb : Option Nat) (ma mb : Mode) (m : Mode) (ae : Bool) (t : SymTab)

theorem resolve_add :
    (Value.expr (.numeric a ha ma false) (.numeric b hb mb false) '+' m ae).resolve t =
      if a + b > 65535 then .error .other else .ok (posNum (resMode ma mb ((a + b : Nat) : Int)) (a + b)) :=
  resolve_nat (n := a + b) rfl

theorem resolve_add_ok (h : a + b ≤ 65535) :
    (Value.expr (.numeric a ha ma false) (.numeric b hb mb false) '+' m ae).resolve t =
      .ok (posNum (resMode ma mb ((a + b : Nat) : Int)) (a + b)) := by
  rw [resolve_add, if_neg (by omega)]

theorem resolve_add_overflow (h : a + b > 65535) :
    (Value.expr (.numeric a ha ma false) (.numeric b hb mb false) '+' m ae).resolve t = .error .other := by
  rw [resolve_add, if_pos h]

theorem resolve_sub_nonneg (h : b ≤ a) :
    (Value.expr (.numeric a ha ma false) (.numeric b hb mb false) '-' m ae).resolve t =
      if a - b > 65535 then .error .other else .ok (posNum (resMode ma mb ((a - b : Nat) : Int)) (a - b)) :=
  resolve_nat (n := a - b) (by rw [Int.ofNat_sub h]; rfl)

theorem resolve_sub_neg (h : a < b) :
    (Value.expr (.numeric a ha ma false) (.numeric b hb mb false) '-' m ae).resolve t =
      if b - a > 32768 then .error .other else .ok (negNum (exprMode ma mb) (b - a)) := by
  have e : modelArith '-' (sInt a false) (sInt b false) = some (-((b - a : Nat) : Int)) := by
    rw [Int.ofNat_sub (Nat.le_of_lt h), Int.neg_sub]; rfl
  rw [resolve_expr_numeric, e, ← resMode_of_le (ma := ma) (mb := mb) (z := -((b - a : Nat) : Int)) (by omega)]
  exact numResult_negOfNat _ _ (by omega)

theorem resolve_mul :
    (Value.expr (.numeric a ha ma false) (.numeric b hb mb false) '*' m ae).resolve t =
      if a * b > 65535 then .error .other else .ok (posNum (resMode ma mb ((a * b : Nat) : Int)) (a * b)) :=
  resolve_nat (n := a * b) rfl

theorem resolve_div_zero :
    (Value.expr (.numeric a ha ma false) (.numeric 0 hb mb false) '/' m ae).resolve t = .error .other := by
  rw [resolve_expr_numeric]
  rfl

theorem resolve_div (h : b ≠ 0) :
    (Value.expr (.numeric a ha ma false) (.numeric b hb mb false) '/' m ae).resolve t =
      if a / b > 65535 then .error .other else .ok (posNum (resMode ma mb ((a / b : Nat) : Int)) (a / b)) :=
  resolve_nat (n := a / b) (by simp [modelArith, h])

/-- a 16-bit dividend never overflows -/
theorem resolve_div_ok (h : b ≠ 0) (hab : a ≤ 65535) :
    (Value.expr (.numeric a ha ma false) (.numeric b hb mb false) '/' m ae).resolve t =
      .ok (posNum (resMode ma mb ((a / b : Nat) : Int)) (a / b)) := by
  rw [resolve_div _ _ _ _ _ _ _ _ _ h, if_neg (by have := Nat.div_le_self a b; omega)]

/-- model oddity (unreachable through `createV`, whose splitter only yields the four operators):
any other operator character resolves to 0 -/
theorem resolve_other_op (op : Char) (h : opChar op = false) :
    (Value.expr (.numeric a ha ma false) (.numeric b hb mb false) op m ae).resolve t =
      .ok (posNum (exprMode ma mb) 0) := by
  simp only [opChar, Bool.or_eq_false_iff] at h
  rw [resolve_nat (n := 0) (by simp [modelArith, h.1.1.1, h.1.1.2, h.1.2, h.2]), if_neg (by omega),
    resMode_of_le (by omega)]

end numeric

/-! ### symbols are looked up first; the result depends only on the lookups -/

theorem resolve_symbol_left (x : Str) (mx : Mode) (a : Nat) (ha : Option Nat) (ma : Mode) (na : Bool)
    (r : Value) (op : Char) (m : Mode) (ae : Bool) (t : SymTab)
    (hx : t.get? x = some (.numeric a ha ma na)) :
    (Value.expr (.symbol x mx) r op m ae).resolve t = (Value.expr (.numeric a ha ma na) r op m ae).resolve t :=
  resolve_expr_symbol_left x mx _ r op m ae t hx rfl rfl

theorem resolve_symbol_right (x : Str) (mx : Mode) (b : Nat) (hb : Option Nat) (mb : Mode) (nb : Bool)
    (l : Value) (op : Char) (m : Mode) (ae : Bool) (t : SymTab)
    (hx : t.get? x = some (.numeric b hb mb nb)) :
    (Value.expr l (.symbol x mx) op m ae).resolve t = (Value.expr l (.numeric b hb mb nb) op m ae).resolve t :=
  resolve_expr_symbol_right x mx _ l op m ae t hx rfl rfl

theorem resolve_undefined_left (x : Str) (mx : Mode) (r : Value) (op : Char) (m : Mode) (ae : Bool)
    (t : SymTab) (hx : t.get? x = none) :
    (Value.expr (.symbol x mx) r op m ae).resolve t = .error .other :=
  resolve_expr_undefined_left x mx r op m ae t hx

theorem resolve_undefined_right (x : Str) (mx : Mode) (l : Value) (op : Char) (m : Mode) (ae : Bool)
    (t : SymTab) (hx : t.get? x = none) :
    (Value.expr l (.symbol x mx) op m ae).resolve t = .error .other :=
  resolve_expr_undefined_right x mx l op m ae t hx

/-- order independence: the result of resolving ANY value depends only on what the table returns for
each name, not on where or when a symbol was entered -/
theorem resolve_depends_only_on_lookup (v : Value) (t1 t2 : SymTab)
    (h : ∀ k, t1.get? k = t2.get? k) : v.resolve t1 = v.resolve t2 :=
  resolve_congr_lookup v t1 t2 h

/-! ### address expressions (`calculate_address_offset`)

Since fix bd9f69a the two operands are evaluated IN THE WRITTEN ORDER (a label is its statement's address, a number its
signed value; `AddrOpd`), `left op right` is computed on the integers (division truncates towards zero), a result
below zero is reduced modulo 65536 — for every operator — and `NumericValue(int, size_hint=4, mode=EXTENDED)` checks
the upper bound 65535.  A result above 65535 and a division by zero are a TranslationError (`diag`). -/

/-- the general form with the result named: `left op right = z`, and `n` is `z` (or `z mod 65536` below zero) -/
theorem addrOffset_res {ss : List Stmt} {l r : Value} {x y : Int} (hl : AddrOpd ss l x) (hr : AddrOpd ss r y)
    (op : Char) (m : Mode) (ae : Bool) {z : Int} (hz : addrArith op x y = some z) {n : Nat} (hn : addrWrap z = n) :
    addrOffset ss (.expr l r op m ae) =
      if n > 65535 then .diag else .ok (.numeric n (some 4) .extended false) := by
  rw [addrOffset_opd hl hr, hz]
  simp only [hn, Int.toNat_natCast]
  by_cases h : n > 65535
  · rw [if_pos h, if_pos (by omega)]
  · rw [if_neg h, if_neg (by omega)]

theorem addrOffset_res_ok {ss : List Stmt} {l r : Value} {x y : Int} (hl : AddrOpd ss l x) (hr : AddrOpd ss r y)
    (op : Char) (m : Mode) (ae : Bool) {z : Int} (hz : addrArith op x y = some z) {n : Nat} (hn : addrWrap z = n)
    (hb : n ≤ 65535) :
    addrOffset ss (.expr l r op m ae) = .ok (.numeric n (some 4) .extended false) := by
  rw [addrOffset_res hl hr op m ae hz hn, if_neg (by omega)]

/-- a NEGATIVE result never fails: it is reduced modulo 65536 -/
theorem addrOffset_res_neg {ss : List Stmt} {l r : Value} {x y : Int} (hl : AddrOpd ss l x) (hr : AddrOpd ss r y)
    (op : Char) (m : Mode) (ae : Bool) {z : Int} (hz : addrArith op x y = some z) (hneg : z < 0) :
    addrOffset ss (.expr l r op m ae) = .ok (.numeric (z % 65536).toNat (some 4) .extended false) :=
  addrOffset_res_ok hl hr op m ae hz (by rw [addrWrap_of_neg hneg]; omega) (by omega)

section addr
variable (ss : List Stmt) (ai a k : Nat) (ma mk m : Mode) (hk : Option Nat) (nk ae : Bool)

/-! #### label `op` non-negative constant -/

theorem addrOffset_add (h : addrIntOf ss ai = some a) :
    addrOffset ss (.expr (.address ai ma) (.numeric k hk mk false) '+' m ae) =
      if a + k > 65535 then .diag else .ok (.numeric (a + k) (some 4) .extended false) :=
  addrOffset_res (.label h) .num _ _ _ (z := ((a + k : Nat) : Int)) rfl
    (addrWrap_of_nonneg (by omega))

theorem addrOffset_add_ok (h : addrIntOf ss ai = some a) (hr : a + k ≤ 65535) :
    addrOffset ss (.expr (.address ai ma) (.numeric k hk mk false) '+' m ae) =
      .ok (.numeric (a + k) (some 4) .extended false) := by
  rw [addrOffset_add ss ai a k ma mk m hk ae h, if_neg (by omega)]

theorem addrOffset_add_overflow (h : addrIntOf ss ai = some a) (hr : a + k > 65535) :
    addrOffset ss (.expr (.address ai ma) (.numeric k hk mk false) '+' m ae) = .diag := by
  rw [addrOffset_add ss ai a k ma mk m hk ae h, if_pos hr]

theorem addrOffset_sub_nonneg (h : addrIntOf ss ai = some a) (hr : k ≤ a) (hb : a - k ≤ 65535) :
    addrOffset ss (.expr (.address ai ma) (.numeric k hk mk false) '-' m ae) =
      .ok (.numeric (a - k) (some 4) .extended false) :=
  addrOffset_res_ok (.label h) .num _ _ _ (z := (a : Int) - k) rfl
    (by rw [addrWrap_of_nonneg (by omega)]; omega) hb

/-- a result below zero is reduced modulo 65536 (since fix 1477b47; before it the magnitude `k - a` was stored
with the sign flag and encoded as a positive word) -/
theorem addrOffset_sub_neg (h : addrIntOf ss ai = some a) (hr : a < k) (hk16 : k - a ≤ 65536) :
    addrOffset ss (.expr (.address ai ma) (.numeric k hk mk false) '-' m ae) =
      .ok (.numeric (65536 - (k - a)) (some 4) .extended false) :=
  addrOffset_res_ok (.label h) .num _ _ _ (z := (a : Int) - k) rfl
    (by rw [addrWrap_of_neg (by omega)]; omega) (by omega)

/-- subtraction of a constant from an address below 65536 never fails and always lands in 0..65535 -/
theorem addrOffset_sub_total (h : addrIntOf ss ai = some a) (ha : a ≤ 65535) :
    ∃ z, z ≤ 65535 ∧ addrOffset ss (.expr (.address ai ma) (.numeric k hk mk false) '-' m ae) =
      .ok (.numeric z (some 4) .extended false) ∧ (z : Int) = ((a : Int) - k) % 65536 := by
  by_cases hlt : (a : Int) - k < 0
  · exact ⟨(((a : Int) - k) % 65536).toNat, by omega,
      addrOffset_res_neg (.label h) .num _ _ _ rfl hlt, by omega⟩
  · exact ⟨a - k, by omega,
      addrOffset_res_ok (.label h) .num _ _ _ (z := (a : Int) - k) rfl
        (by rw [addrWrap_of_nonneg (by omega)]; omega) (by omega), by omega⟩

theorem addrOffset_mul (h : addrIntOf ss ai = some a) :
    addrOffset ss (.expr (.address ai ma) (.numeric k hk mk false) '*' m ae) =
      if a * k > 65535 then .diag else .ok (.numeric (a * k) (some 4) .extended false) :=
  addrOffset_res (.label h) .num _ _ _ (z := ((a * k : Nat) : Int)) rfl
    (addrWrap_of_nonneg (Int.natCast_nonneg _))

theorem addrOffset_div_zero (h : addrIntOf ss ai = some a) :
    addrOffset ss (.expr (.address ai ma) (.numeric 0 hk mk nk) '/' m ae) = .diag := by
  rw [addrOffset_opd (.label h) .num]
  cases nk <;> rfl

theorem addrOffset_div (h : addrIntOf ss ai = some a) (hk0 : k ≠ 0) (hb : a / k ≤ 65535) :
    addrOffset ss (.expr (.address ai ma) (.numeric k hk mk false) '/' m ae) =
      .ok (.numeric (a / k) (some 4) .extended false) :=
  addrOffset_res_ok (.label h) .num _ _ _ (z := ((a / k : Nat) : Int)) (by simp [addrArith, hk0])
    (addrWrap_of_nonneg (Int.natCast_nonneg _)) hb

/-! #### non-negative constant `op` label: the WRITTEN order -/

/-- `+` and `*` commute, so the mirrored spelling gives the same result ... -/
theorem addrOffset_mirror_add (h : addrIntOf ss ai = some a) :
    addrOffset ss (.expr (.numeric k hk mk nk) (.address ai ma) '+' m ae) =
      addrOffset ss (.expr (.address ai ma) (.numeric k hk mk nk) '+' m ae) := by
  rw [addrOffset_opd .num (.label h), addrOffset_opd (.label h) .num]
  simp [addrArith, Int.add_comm]

theorem addrOffset_mirror_mul (h : addrIntOf ss ai = some a) :
    addrOffset ss (.expr (.numeric k hk mk nk) (.address ai ma) '*' m ae) =
      addrOffset ss (.expr (.address ai ma) (.numeric k hk mk nk) '*' m ae) := by
  rw [addrOffset_opd .num (.label h), addrOffset_opd (.label h) .num]
  simp [addrArith, Int.mul_comm]

theorem addrOffset_mirror_add_ok (h : addrIntOf ss ai = some a) (hr : a + k ≤ 65535) :
    addrOffset ss (.expr (.numeric k hk mk false) (.address ai ma) '+' m ae) =
      .ok (.numeric (a + k) (some 4) .extended false) := by
  rw [addrOffset_mirror_add ss ai a k ma mk m hk false ae h]
  exact addrOffset_add_ok ss ai a k ma mk m hk ae h hr

/-- ... `k - LABEL` is `k` minus the address: non-negative when the address is not above `k` ... -/
theorem addrOffset_num_sub_label (h : addrIntOf ss ai = some a) (hr : a ≤ k) (hb : k - a ≤ 65535) :
    addrOffset ss (.expr (.numeric k hk mk false) (.address ai ma) '-' m ae) =
      .ok (.numeric (k - a) (some 4) .extended false) :=
  addrOffset_res_ok .num (.label h) _ _ _ (z := (k : Int) - a) rfl
    (by rw [addrWrap_of_nonneg (by omega)]; omega) hb

/-- ... and reduced modulo 65536 when the address is above `k` (`5-LABEL` with the label at 100 is 65536 − 95; before
fix bd9f69a `LABEL-5` = 95 was computed) -/
theorem addrOffset_num_sub_label_neg (h : addrIntOf ss ai = some a) (hr : k < a) (hb : a - k ≤ 65536) :
    addrOffset ss (.expr (.numeric k hk mk false) (.address ai ma) '-' m ae) =
      .ok (.numeric (65536 - (a - k)) (some 4) .extended false) :=
  addrOffset_res_ok .num (.label h) _ _ _ (z := (k : Int) - a) rfl
    (by rw [addrWrap_of_neg (by omega)]; omega) (by omega)

/-- `k/LABEL` divides the constant BY the address (before fix bd9f69a: the address by the constant) -/
theorem addrOffset_num_div_label (h : addrIntOf ss ai = some a) (ha0 : a ≠ 0) (hb : k / a ≤ 65535) :
    addrOffset ss (.expr (.numeric k hk mk false) (.address ai ma) '/' m ae) =
      .ok (.numeric (k / a) (some 4) .extended false) :=
  addrOffset_res_ok .num (.label h) _ _ _ (z := ((k / a : Nat) : Int)) (by simp [addrArith, ha0])
    (addrWrap_of_nonneg (Int.natCast_nonneg _)) hb

/-- `k/LABEL` with the label at address 0: division by zero, a diagnostic -/
theorem addrOffset_num_div_label_zero (h : addrIntOf ss ai = some 0) :
    addrOffset ss (.expr (.numeric k hk mk nk) (.address ai ma) '/' m ae) = .diag := by
  rw [addrOffset_opd .num (.label h)]; rfl

end addr

/-! ### label `op` label, and operands that are neither (since fix 9045646)

Each operand of a label expression is the ADDRESS of its statement when it is a label, its signed number when numeric,
and anything else is an "unresolved expression" diagnostic.  (Before fix 9045646 the STATEMENT INDEX of a second
label, or the `.int` of an arbitrary value, was used as the constant.) -/

section addr2
variable (ss : List Stmt) (ai aj a b : Nat) (ma mb m : Mode) (ae : Bool)

/-- `L2 - L1` with `L1` not above `L2`: the difference of the two ADDRESSES -/
theorem addrOffset_label_sub_label (h : addrIntOf ss ai = some a) (h' : addrIntOf ss aj = some b)
    (hr : b ≤ a) (hb : a - b ≤ 65535) :
    addrOffset ss (.expr (.address ai ma) (.address aj mb) '-' m ae) =
      .ok (.numeric (a - b) (some 4) .extended false) :=
  addrOffset_res_ok (.label h) (.label h') _ _ _ (z := (a : Int) - b) rfl
    (by rw [addrWrap_of_nonneg (by omega)]; omega) hb

/-- `L1 - L2` with `L1` below `L2`: the difference reduced modulo 65536 (since fix 1477b47) -/
theorem addrOffset_label_sub_label_neg (h : addrIntOf ss ai = some a) (h' : addrIntOf ss aj = some b)
    (hr : a < b) (hb16 : b - a ≤ 65536) :
    addrOffset ss (.expr (.address ai ma) (.address aj mb) '-' m ae) =
      .ok (.numeric (65536 - (b - a)) (some 4) .extended false) :=
  addrOffset_res_ok (.label h) (.label h') _ _ _ (z := (a : Int) - b) rfl
    (by rw [addrWrap_of_neg (by omega)]; omega) (by omega)

/-- `L1 + L2`: the sum of the two addresses, a diagnostic when it does not fit 16 bits -/
theorem addrOffset_label_add_label (h : addrIntOf ss ai = some a) (h' : addrIntOf ss aj = some b) :
    addrOffset ss (.expr (.address ai ma) (.address aj mb) '+' m ae) =
      if a + b > 65535 then .diag else .ok (.numeric (a + b) (some 4) .extended false) :=
  addrOffset_res (.label h) (.label h') _ _ _ (z := ((a + b : Nat) : Int)) rfl
    (addrWrap_of_nonneg (by omega))

/-- `L1 * L2`: the product of the two addresses, a diagnostic when it does not fit 16 bits -/
theorem addrOffset_label_mul_label (h : addrIntOf ss ai = some a) (h' : addrIntOf ss aj = some b) :
    addrOffset ss (.expr (.address ai ma) (.address aj mb) '*' m ae) =
      if a * b > 65535 then .diag else .ok (.numeric (a * b) (some 4) .extended false) :=
  addrOffset_res (.label h) (.label h') _ _ _ (z := ((a * b : Nat) : Int)) rfl
    (addrWrap_of_nonneg (Int.natCast_nonneg _))

/-- `L1 / L2`: the quotient of the two addresses; `L2` at address 0 is a division by zero (a diagnostic) -/
theorem addrOffset_label_div_label (h : addrIntOf ss ai = some a) (h' : addrIntOf ss aj = some b) :
    addrOffset ss (.expr (.address ai ma) (.address aj mb) '/' m ae) =
      if b = 0 then .diag else if a / b > 65535 then .diag else .ok (.numeric (a / b) (some 4) .extended false) := by
  by_cases hb0 : b = 0
  · subst hb0; rw [addrOffset_opd (.label h) (.label h')]; simp [addrArith]
  · rw [if_neg hb0]
    exact addrOffset_res (.label h) (.label h') _ _ _ (z := ((a / b : Nat) : Int)) (by simp [addrArith, hb0])
      (addrWrap_of_nonneg (Int.natCast_nonneg _))

/-- label `op` label in general: exactly what label `op` number computes for the number `address(L2)` ... -/
theorem addrOffset_label_label_as_number (op : Char) (hk : Option Nat) (mk : Mode)
    (h : addrIntOf ss ai = some a) (h' : addrIntOf ss aj = some b) :
    addrOffset ss (.expr (.address ai ma) (.address aj mb) op m ae) =
      addrOffset ss (.expr (.address ai ma) (.numeric b hk mk false) op m ae) := by
  rw [addrOffset_opd (.label h) (.label h'), addrOffset_opd (.label h) .num]; rfl

/-- ... and what number `op` label computes for the number `address(L1)` -/
theorem addrOffset_label_label_as_number_left (op : Char) (hk : Option Nat) (mk : Mode)
    (h : addrIntOf ss ai = some a) (h' : addrIntOf ss aj = some b) :
    addrOffset ss (.expr (.address ai ma) (.address aj mb) op m ae) =
      addrOffset ss (.expr (.numeric a hk mk false) (.address aj mb) op m ae) := by
  rw [addrOffset_opd (.label h) (.label h'), addrOffset_opd .num (.label h')]; rfl

/-- the statement INDEX of the second label plays no role: two labels with the same address are interchangeable -/
theorem addrOffset_label_label_index_irrelevant (op : Char) (aj' : Nat)
    (h : addrIntOf ss ai = some a) (h' : addrIntOf ss aj = some b) (h'' : addrIntOf ss aj' = some b) :
    addrOffset ss (.expr (.address ai ma) (.address aj mb) op m ae) =
      addrOffset ss (.expr (.address ai ma) (.address aj' mb) op m ae) := by
  rw [addrOffset_opd (.label h) (.label h'), addrOffset_opd (.label h) (.label h'')]

/-- an operand that is neither a number nor a label next to a label (that names a statement): "unresolved expression"
(a diagnostic), on either side -/
theorem addrOffset_unresolved (op : Char) (v : Value) (h : addrIntOf ss ai = some a)
    (hv1 : v.isAddress = false) (hv2 : v.isNumeric = false) :
    addrOffset ss (.expr (.address ai ma) v op m ae) = .diag ∧
    addrOffset ss (.expr v (.address ai ma) op m ae) = .diag :=
  ⟨addrOffset_addr_other ss ai a ma m ae op v h hv1 hv2, addrOffset_other_addr ss m ae op v _ hv1 hv2⟩

end addr2

/-- `L2 - L1` on a concrete three-statement program: `L1` is statement 0 at address 100, `L2` is statement 2 at
address 4196; the result is 4096 = 4196 − 100 (before fix 9045646: 4196 − 0, the index of `L1`) -/
theorem C04_label_minus_label_concrete :
    addrOffset [{ (default : Stmt) with pkg := { address := .numeric 100 (some 4) .extended false } },
                { (default : Stmt) with pkg := { address := .numeric 103 (some 4) .extended false } },
                { (default : Stmt) with pkg := { address := .numeric 4196 (some 4) .extended false } }]
        (.expr (.address 2 .none) (.address 0 .none) '-' .extended true) =
      .ok (.numeric 4096 (some 4) .extended false) :=
  addrOffset_label_sub_label _ 2 0 4196 100 _ _ _ _ rfl rfl (by decide) (by decide)

/-- `X EQU 1,2` leaves `X` a value that is neither number nor label: `X-L` is an unresolved expression -/
theorem C04_unresolved_concrete (ss : List Stmt) :
    addrOffset ss (.expr (.leftRight "1".toList "2".toList .none) (.address 0 .none) '-' .extended true) = .diag :=
  addrOffset_other_addr ss .extended true '-' _ _ rfl rfl

/-! ### operands of either sign (fix 74ec239: `signed()` instead of `.int`) -/

/-- **`resolve` on two numeric operands of either sign**: the integer arithmetic of their SIGNED values
(`sInt n neg` = `-n` when the neg flag is set), range-checked and rendered by `numResult` -/
theorem resolve_signed (a b : Nat) (ha hb : Option Nat) (ma mb : Mode) (na nb : Bool) (op : Char) (m : Mode)
    (ae : Bool) (t : SymTab) :
    (Value.expr (.numeric a ha ma na) (.numeric b hb mb nb) op m ae).resolve t =
      (match modelArith op (sInt a na) (sInt b nb) with
       | none => .error .other
       | some z => numResult (resMode ma mb z) z) :=
  resolve_expr_numeric a b ha hb ma mb na nb op m ae t

/-- the same with the result spelt out: a value in −32768..65535 is returned as magnitude and sign -/
theorem resolve_signed_ok (a b : Nat) (ha hb : Option Nat) (ma mb : Mode) (na nb : Bool) (op : Char) (m : Mode)
    (ae : Bool) (t : SymTab) {z : Int} (hz : modelArith op (sInt a na) (sInt b nb) = some z)
    (h1 : -32768 ≤ z) (h2 : z ≤ 65535) :
    (Value.expr (.numeric a ha ma na) (.numeric b hb mb nb) op m ae).resolve t =
      .ok (if z < 0 then negNum (resMode ma mb z) z.natAbs else posNum (resMode ma mb z) z.natAbs) := by
  rw [resolve_signed, hz]
  exact numResult_ok h1 h2

/-- **`X op Y` with EQU constants of either sign** (`X EQU -5`, `Y EQU -3`): the symbols are looked up and the signed
arithmetic value is returned -/
theorem resolve_symbols_signed (x y : Str) (mx my : Mode) (a b : Nat) (ha hb : Option Nat) (ma mb : Mode)
    (na nb : Bool) (op : Char) (m : Mode) (ae : Bool) (t : SymTab)
    (hx : t.get? x = some (.numeric a ha ma na)) (hy : t.get? y = some (.numeric b hb mb nb)) :
    (Value.expr (.symbol x mx) (.symbol y my) op m ae).resolve t =
      (match modelArith op (sInt a na) (sInt b nb) with
       | none => .error .other
       | some z => numResult (resMode ma mb z) z) := by
  rw [resolve_symbol_left x mx a ha ma na _ op m ae t hx, resolve_symbol_right y my b hb mb nb _ op m ae t hy]
  exact resolve_signed a b ha hb ma mb na nb op m ae t

/-- a plain symbol keeps the sign of its EQU (before fix 74ec239: the magnitude) -/
theorem resolve_symbol_signed (x : Str) (mx : Mode) (a : Nat) (ha : Option Nat) (ma : Mode) (na : Bool) (t : SymTab)
    (hx : t.get? x = some (.numeric a ha ma na)) :
    (Value.symbol x mx).resolve t = numericOfInt (sInt a na) none .none :=
  resolve_symbol_number hx

/-- `(−5) + 3 = −2`, `(−5) * (−3) = 15`, `(−7) / 2 = −3` (truncation towards zero), `(−5) − (−3) = −2` -/
example : modelArith '+' (sInt 5 true) (sInt 3 false) = some (-2) ∧ modelArith '*' (sInt 5 true) (sInt 3 true) = some 15 ∧
    modelArith '/' (sInt 7 true) (sInt 2 false) = some (-3) ∧ modelArith '-' (sInt 5 true) (sInt 3 true) = some (-2) := by
  decide

/-- **label `op` signed constant**: `calculate_address_offset` with a constant of either sign -/
theorem addrOffset_signed (ss : List Stmt) (ai a k : Nat) (ma mk m : Mode) (hk : Option Nat) (nk ae : Bool) (op : Char)
    (h : addrIntOf ss ai = some a) :
    addrOffset ss (.expr (.address ai ma) (.numeric k hk mk nk) op m ae) =
      (match addrArith op a (sInt k nk) with | none => .diag | some z => addrResult (addrWrap z)) :=
  addrOffset_addr_num ss ai a k ma mk m hk nk ae op h

/-- **signed constant `op` label**, in the written order -/
theorem addrOffset_signed_left (ss : List Stmt) (ai a k : Nat) (ma mk m : Mode) (hk : Option Nat) (nk ae : Bool) (op : Char)
    (h : addrIntOf ss ai = some a) :
    addrOffset ss (.expr (.numeric k hk mk nk) (.address ai ma) op m ae) =
      (match addrArith op (sInt k nk) a with | none => .diag | some z => addrResult (addrWrap z)) :=
  addrOffset_num_addr ss ai a k ma mk m hk nk ae op h

/-- `L + X` with `X EQU -k`, k not above the address of `L`: the address minus `k` (before fix 74ec239: plus `k`) -/
theorem addrOffset_add_negative (ss : List Stmt) (ai a k : Nat) (ma mk m : Mode) (hk : Option Nat) (ae : Bool)
    (h : addrIntOf ss ai = some a) (hle : k ≤ a) (hb : a - k ≤ 65535) :
    addrOffset ss (.expr (.address ai ma) (.numeric k hk mk true) '+' m ae) =
      .ok (.numeric (a - k) (some 4) .extended false) :=
  addrOffset_res_ok (.label h) .num _ _ _ (z := (a : Int) + -(k : Int)) rfl
    (by rw [addrWrap_of_nonneg (by omega)]; omega) hb

/-- `L + X` with `X EQU -k`, k ABOVE the address of `L`: the address minus `k` modulo 65536 (before fix bd9f69a
the result kept its minus sign and a `L+X,PCR` operand aimed `k` bytes BEHIND the label) -/
theorem addrOffset_add_negative_wrap (ss : List Stmt) (ai a k : Nat) (ma mk m : Mode) (hk : Option Nat) (ae : Bool)
    (h : addrIntOf ss ai = some a) (hlt : a < k) (hb : k - a ≤ 65536) :
    addrOffset ss (.expr (.address ai ma) (.numeric k hk mk true) '+' m ae) =
      .ok (.numeric (65536 - (k - a)) (some 4) .extended false) :=
  addrOffset_res_ok (.label h) .num _ _ _ (z := (a : Int) + -(k : Int)) rfl
    (by rw [addrWrap_of_neg (by omega)]; omega) (by omega)

/-- `L - X` with `X EQU -k`: the address plus `k`; a diagnostic when that leaves the 16 bits (only results BELOW zero
are reduced; before fix bd9f69a every difference was taken modulo 65536) -/
theorem addrOffset_sub_negative (ss : List Stmt) (ai a k : Nat) (ma mk m : Mode) (hk : Option Nat) (ae : Bool)
    (h : addrIntOf ss ai = some a) :
    addrOffset ss (.expr (.address ai ma) (.numeric k hk mk true) '-' m ae) =
      if a + k > 65535 then .diag else .ok (.numeric (a + k) (some 4) .extended false) :=
  addrOffset_res (.label h) .num _ _ _ (z := ((a + k : Nat) : Int)) (by simp [addrArith])
    (addrWrap_of_nonneg (by omega))

/-- `L * X` with `X EQU -k`: minus the product, modulo 65536 -/
theorem addrOffset_mul_negative (ss : List Stmt) (ai a k : Nat) (ma mk m : Mode) (hk : Option Nat) (ae : Bool)
    (h : addrIntOf ss ai = some a) (hpos : 0 < a * k) :
    addrOffset ss (.expr (.address ai ma) (.numeric k hk mk true) '*' m ae) =
      .ok (.numeric ((-((a * k : Nat) : Int)) % 65536).toNat (some 4) .extended false) :=
  addrOffset_res_neg (.label h) .num _ _ _ (z := -((a * k : Nat) : Int)) (by simp [addrArith, Int.mul_neg]) (by omega)

/-- `X - L` with `X EQU -k`: minus (k + address), modulo 65536 -/
theorem addrOffset_negative_sub_label (ss : List Stmt) (ai a k : Nat) (ma mk m : Mode) (hk : Option Nat) (ae : Bool)
    (h : addrIntOf ss ai = some a) (hpos : 0 < k + a) :
    addrOffset ss (.expr (.numeric k hk mk true) (.address ai ma) '-' m ae) =
      .ok (.numeric ((-((k + a : Nat) : Int)) % 65536).toNat (some 4) .extended false) :=
  addrOffset_res_neg .num (.label h) _ _ _ (z := -((k + a : Nat) : Int))
    (by simp [addrArith]; omega) (by omega)

/-! ### a negative value as a memory operand: extended, the address modulo 65536 -/

/-- `resolve_symbols` of an operand whose value resolves to a NEGATIVE number: never a direct operand (even when the
magnitude is below 256, even with an explicit `<`); it becomes an ExtendedOperand carrying the signed value -/
theorem resolveOperand_unknown_negative (row : Gen.InstrRow) (s : Str) (v0 : Value) (t : SymTab) {i : Nat}
    {h : Option Nat} {m : Mode} (hv : v0.resolve t = .ok (.numeric i h m true)) :
    resolveOperand { kind := .unknown, text := s, value := v0 } row t =
      .ok { kind := .extended, text := s, value := .numeric i h m true } := by
  cases hx : v0.isExplicitExtended <;> simp [resolveOperand, hv, hx]

/-- ... and the extended operand of a negative value −i, 1 ≤ i ≤ 32768, is encoded as the address 65536 − i -/
theorem C04_negative_extended {r : Gen.InstrRow} (hr : r ∈ Gen.instructions) (hp : r.isPseudo = false)
    {o : Asm.Operand} {c i : Nat} {h : Option Nat} {m : Mode} (hk : o.kind = .extended) (hc : r.ext = some c)
    (hv : o.value = .numeric i h m true) (h1 : 1 ≤ i) (h2 : i ≤ 32768) : Encodes o r (.ext (65536 - i)) := by
  have hf : fitsWord i true = true := by simp [fitsWord]; omega
  have hw : wordField i true = 65536 - i := by simp only [wordField, if_true]; omega
  have := enc_ext_field hp (notSpecial_of_ext hr hc) hk hc (cell_ext hr hp hc).1 (cell_ext hr hp hc).2 hv hf
  rwa [hw] at this

/-! ### witnesses on the source statements of former findings -/

/-- with `X EQU -5`, `X+3` resolves to −2 (before fix 74ec239: 8) -/
theorem C04_finding_neg_operand_ignored_fixed :
    (Value.expr (.symbol ['X'] .none) (.numeric 3 (some 2) .direct false) '+' .none false).resolve
        [(['X'], .numeric 5 none .none true)] = .ok (.numeric 2 none .direct true) := by
  rw [resolve_symbol_left ['X'] .none 5 none .none true _ _ _ _ _ rfl,
    resolve_signed_ok 5 3 none (some 2) .none .direct true false '+' .none false _ (z := -2) (by decide) (by decide)
      (by decide)]
  rfl

/-- constant minus address, `5-LABEL` with the label at address 100: −95, stored modulo 65536 as 65441 = `$FFA1`
(before fix bd9f69a `LABEL-5` = +95 was computed) -/
theorem C04_finding_const_minus_address_fixed (ss : List Stmt) (ai : Nat) (h : addrIntOf ss ai = some 100) :
    addrOffset ss (.expr (.numeric 5 (some 2) .direct false) (.address ai .none) '-' .extended true) =
      .ok (.numeric 65441 (some 4) .extended false) :=
  addrOffset_num_sub_label_neg ss ai 100 5 _ _ _ _ _ h (by decide) (by decide)

/-- the same on a concrete one-statement program -/
theorem C04_finding_const_minus_address_concrete_fixed :
    addrOffset [{ (default : Stmt) with pkg := { address := .numeric 100 (some 4) .extended false } }]
        (.expr (.numeric 5 (some 2) .direct false) (.address 0 .none) '-' .extended true) =
      .ok (.numeric 65441 (some 4) .extended false) :=
  C04_finding_const_minus_address_fixed _ 0 rfl

/-- the constant divided by the address: `20/LABEL` with the label at 100 is 0 (before fix bd9f69a `LABEL/20` = 5 was
computed), `$4000/LABEL` is 163 -/
theorem C04_finding_const_div_address_fixed (ss : List Stmt) (ai : Nat) (h : addrIntOf ss ai = some 100) :
    addrOffset ss (.expr (.numeric 20 (some 2) .direct false) (.address ai .none) '/' .extended true) =
      .ok (.numeric 0 (some 4) .extended false) ∧
    addrOffset ss (.expr (.numeric 0x4000 none .extended false) (.address ai .none) '/' .extended true) =
      .ok (.numeric 163 (some 4) .extended false) :=
  ⟨addrOffset_num_div_label ss ai 100 20 _ _ _ _ _ h (by decide) (by decide),
   addrOffset_num_div_label ss ai 100 0x4000 _ _ _ _ _ h (by decide) (by decide)⟩

/-! ### the result mode (fix 03f5b0d) and the sign of the result (fix 74ec239) -/

/-- a sum of two direct-page values that leaves the direct page is an EXTENDED value with size hint 4 (before fix 03f5b0d
it stayed direct and the operand was truncated) -/
theorem resolve_add_leaves_direct_page (a b : Nat) (ha hb : Option Nat) (ma mb : Mode) (m : Mode)
    (ae : Bool) (t : SymTab) (h1 : 256 ≤ a + b) (h2 : a + b ≤ 65535) :
    (Value.expr (.numeric a ha ma false) (.numeric b hb mb false) '+' m ae).resolve t =
      .ok (.numeric (a + b) (some 4) .extended false) := by
  rw [resolve_add_ok a b ha hb ma mb m ae t h2, resMode_of_gt (by omega)]
  rfl

/-- ... and a result that stays below 256 keeps the mode of its operands -/
theorem resolve_add_stays (a b : Nat) (ha hb : Option Nat) (ma mb : Mode) (m : Mode)
    (ae : Bool) (t : SymTab) (h : a + b ≤ 255) :
    (Value.expr (.numeric a ha ma false) (.numeric b hb mb false) '+' m ae).resolve t =
      .ok (posNum (exprMode ma mb) (a + b)) := by
  rw [resolve_add_ok a b ha hb ma mb m ae t (by omega), resMode_of_le (by omega)]

/-- the hypotheses are met by what the parser builds for `$F0+$20` -/
example : ∃ v, createV "$F0+$20".toList false false = .ok v ∧
    v.resolve [] = .ok (.numeric 0x110 (some 4) .extended false) :=
  ⟨.expr (.numeric 0xF0 (some 2) .direct false) (.numeric 0x20 (some 2) .direct false) '+' .extended false, rfl,
    resolve_add_leaves_direct_page 0xF0 0x20 _ _ _ _ _ _ _ (by decide) (by decide)⟩

/-- the same end to end: `LDA $F0+$20` is the extended `B6 01 10`, `LDA $10+$20` the direct `96 30` -/
theorem C04_direct_sum_fixed :
    asmOne "LDA" "$F0+$20" = some (3, [0xB6, 0x01, 0x10]) ∧ asmOne "LDA" "$10+$20" = some (2, [0x96, 0x30]) :=
  evaluated (by decide +kernel)

/-- a NEGATIVE expression result as a memory operand is an extended operand, the address modulo 65536: `LDA 1-$FF` is
`B6 FF 02` (−254), `LDA 1-2` is `B6 FF FF` (before fix 74ec239: `96 FE`, `96 01`); as an immediate the sign is kept -/
theorem C04_finding_negative_result_loses_sign_fixed :
    asmOne "LDA" "1-$FF" = some (3, [0xB6, 0xFF, 0x02]) ∧ asmOne "LDA" "1-2" = some (3, [0xB6, 0xFF, 0xFF]) ∧
    asmOne "LDA" "#1-2" = some (2, [0x86, 0xFF]) ∧ asmOne "LDX" "#1-2" = some (3, [0x8E, 0xFF, 0xFF]) :=
  evaluated (by decide +kernel)

/-! ### an EQU defined by an expression (fixes 0f280be, d7356d4)

`get_symbol` evaluates the expression where the symbol is used (`resolveF`, one unit of fuel per level), and the pass
`evalSyms` replaces the table entry by its value before the table is listed. -/

/-- `X EQU 1+2`, `LDA #X` is `86 03` (before fix 0f280be a diagnostic: a symbol defined by `EQU` of an EXPRESSION had no
value where it was used) -/
theorem C04_finding_equ_expression_fixed (fs : Files) :
    ∃ a, assemble fs ["X EQU 1+2\n".toList, " LDA #X\n".toList] = .ok a ∧ a.image = some [0x86, 0x03] :=
  evaluated (by decide +kernel)

theorem equ_expression_word (fs : Files) :
    ∃ a, assemble fs ["R EQU 1+2\n".toList, " LDX #R\n".toList] = .ok a ∧ a.image = some [0x8E, 0x00, 0x03] ∧
      symtabLines a.symtab = some ["$03   R".toList] :=
  evaluated (by decide +kernel)

/-- the same with a 16-bit register: `R EQU 1+2`, `LDX #R` is `8E 00 03` -/
theorem C04_equ_expression_fixed (fs : Files) :
    ∃ a, assemble fs ["R EQU 1+2\n".toList, " LDX #R\n".toList] = .ok a ∧ a.image = some [0x8E, 0x00, 0x03] :=
  (equ_expression_word fs).imp fun _ h => ⟨h.1, h.2.1⟩

/-- ... and the symbol table lists the VALUE of the expression (`evalSyms`) -/
theorem C04_equ_expression_symtab (fs : Files) :
    ∃ a, assemble fs ["R EQU 1+2\n".toList, " LDX #R\n".toList] = .ok a ∧
      symtabLines a.symtab = some ["$03   R".toList] :=
  (equ_expression_word fs).imp fun _ h => ⟨h.1, h.2.2⟩

/-- **an EQU defined by an expression of constants, used as a plain symbol**: the symbol resolves to the arithmetic
value of the expression (in −32768..65535), exactly as if the EQU had been written with that number -/
theorem resolve_symbol_equ_expression (x : Str) (mx : Mode) (a b : Nat) (ha hb : Option Nat) (ma mb : Mode)
    (na nb : Bool) (op : Char) (m : Mode) (t : SymTab)
    (hx : t.get? x = some (.expr (.numeric a ha ma na) (.numeric b hb mb nb) op m false))
    {z : Int} (hz : modelArith op (sInt a na) (sInt b nb) = some z) (h1 : -32768 ≤ z) (h2 : z ≤ 65535) :
    (Value.symbol x mx).resolve t = numericOfInt z none .none := by
  rw [resolve_symbol_of_expr hx rfl, resolveF_length_of_get hx, resolveStep_expr_numeric, hz]
  simp only [numResult_ok h1 h2]
  split
  · exact congrArg (numericOfInt · none .none) (by omega : -(z.natAbs : Int) = z)
  · exact congrArg (numericOfInt · none .none) (by omega : ((z.natAbs : Nat) : Int) = z)

/-- an EQU expression that cannot be evaluated (overflow, division by zero) makes the symbol an error where it is used -/
theorem resolve_symbol_equ_expression_error (x : Str) (mx : Mode) (a b : Nat) (ha hb : Option Nat) (ma mb : Mode)
    (na nb : Bool) (op : Char) (m : Mode) (t : SymTab)
    (hx : t.get? x = some (.expr (.numeric a ha ma na) (.numeric b hb mb nb) op m false))
    (hz : ∀ z, modelArith op (sInt a na) (sInt b nb) = some z → ¬ (-32768 ≤ z ∧ z ≤ 65535)) :
    (Value.symbol x mx).resolve t = .error .other := by
  rw [resolve_symbol_of_expr hx rfl, resolveF_length_of_get hx, resolveStep_expr_numeric]
  cases hm : modelArith op (sInt a na) (sInt b nb) with
  | none => rfl
  | some z => simp only [numResult_spec, hz z hm, if_false]

/-- **the same inside an expression**: an operand that names an EQU expression of constants stands for its value -/
theorem resolve_expr_equ_expression_left (x : Str) (mx : Mode) (a b : Nat) (ha hb : Option Nat) (ma mb : Mode)
    (na nb : Bool) (op : Char) (m : Mode) (r : Value) (op' : Char) (m' : Mode) (ae : Bool) (t : SymTab)
    (hx : t.get? x = some (.expr (.numeric a ha ma na) (.numeric b hb mb nb) op m false))
    {z : Int} (hz : modelArith op (sInt a na) (sInt b nb) = some z) (h1 : -32768 ≤ z) (h2 : z ≤ 65535) :
    (Value.expr (.symbol x mx) r op' m' ae).resolve t =
      (Value.expr (if z < 0 then negNum (resMode ma mb z) z.natAbs else posNum (resMode ma mb z) z.natAbs) r op' m' ae).resolve t := by
  refine resolve_expr_symbol_left_expr x mx _ _ r op' m' ae _ hx rfl ?_ ?_
  · rw [resolveF_length_of_get hx, resolveStep_expr_numeric, hz]
    exact numResult_ok h1 h2
  · split <;> rfl

/-- a chain of EQU expressions is followed: `A EQU B+1`, `B EQU C*2`, `C EQU 5`: `A` = 11, `A+B` = 21; the symbol table
lists the three values -/
theorem C04_equ_expression_chain (fs : Files) :
    ∃ a, assemble fs ["A EQU B+1\n".toList, "B EQU C*2\n".toList, "C EQU 5\n".toList, " LDX #A\n".toList,
        " LDA #A+B\n".toList] = .ok a ∧
      a.image = some [0x8E, 0x00, 0x0B, 0x86, 0x15] ∧
      symtabLines a.symtab = some ["$000B A".toList, "$000A B".toList, "$0005 C".toList] :=
  evaluated (by decide +kernel)

/-- a definition CYCLE (`A EQU B+1`, `B EQU A+1`; Python's RecursionError, the fuel of `resolveF` running out) is a
diagnostic, whether the symbol is used (`LDX #A`) or not (`evalSyms` evaluates every EQU expression); so is an EQU
expression that divides by zero -/
theorem C04_equ_expression_cycle (fs : Files) :
    assemble fs ["A EQU B+1\n".toList, "B EQU A+1\n".toList, " LDX #A\n".toList] = .diag ∧
    assemble fs ["A EQU A+1\n".toList, " NOP\n".toList] = .diag ∧
    assemble fs ["A EQU 7/0\n".toList, " NOP\n".toList] = .diag :=
  evaluated (by decide +kernel)

/-- the cycle at the level of `resolve`: fuel `t.length + 1` = 3 runs out -/
theorem C04_equ_expression_cycle_resolve :
    (Value.symbol ['A'] .none).resolve
      [(['A'], .expr (.symbol ['B'] .none) (.numeric 1 (some 2) .direct false) '+' .extended false),
       (['B'], .expr (.symbol ['A'] .none) (.numeric 1 (some 2) .direct false) '+' .extended false)] =
      .error .other := rfl

/-- **a definition that needs itself never has a value**, in general: if the EQU expression of `x` names `x` as an
operand (on either side), `x` is an error wherever it is used, whatever else the table holds (Python: RecursionError) -/
theorem resolve_symbol_self_reference (x : Str) (mx mx' : Mode) (o : Value) (op : Char) (m : Mode) (t : SymTab)
    (hx : t.get? x = some (.expr (.symbol x mx') o op m false) ∨ t.get? x = some (.expr o (.symbol x mx') op m false)) :
    (Value.symbol x mx).resolve t = .error .other := by
  have key : ∀ e, t.get? x = some e → e.isExpression = true →
      (∀ n, resolveStep (getSymF n (t.without x)) e = .error .other) →
      (Value.symbol x mx).resolve t = .error .other := by
    intro e he hexp hstep
    rw [resolve_symbol_of_expr he hexp]
    cases hr : resolveF t.length e t with
    | error err => rw [resolveF_isExpression_error hexp hr]
    | ok s =>
      have h1 := resolveF_to_without t x e he hexp _ _ hr
      cases hn : t.length with
      | zero => rw [hn] at h1; cases h1
      | succ n => rw [hn, resolveF_succ, hstep n] at h1; cases h1
  have hnone : ∀ n, getSymF n (t.without x) x = .error .other := fun n =>
    getSymF_none (by rw [SymTab.get?_without]; simp)
  rcases hx with hx | hx
  · refine key _ hx rfl (fun n => ?_)
    simp only [resolveStep, lookStep_symbol, hnone]
  · refine key _ hx rfl (fun n => ?_)
    simp only [resolveStep, lookStep_symbol, hnone]
    split <;> simp_all

/-- fix 4e31349: a symbol may contain `_` (and `@`, also as an operand of an expression): `MY_SYM EQU 5`,
`LDA #MY_SYM` is `86 05`, `LDA #MY_SYM+1` is `86 06`, the label `A_B` is an address; `X@ EQU 2`, `X@+1` = `1+X@` = 3 -/
theorem C04_symbol_characters_fixed (fs : Files) :
    (∃ a, assemble fs ["MY_SYM EQU 5\n".toList, " LDA #MY_SYM\n".toList, " LDA #MY_SYM+1\n".toList, "A_B NOP\n".toList,
        " LDX #A_B\n".toList] = .ok a ∧ a.image = some [0x86, 0x05, 0x86, 0x06, 0x12, 0x8E, 0x00, 0x04]) ∧
    (∃ a, assemble fs ["X@ EQU 2\n".toList, " LDA #X@+1\n".toList, " LDA #1+X@\n".toList] = .ok a ∧
      a.image = some [0x86, 0x03, 0x86, 0x03]) :=
  evaluated (by decide +kernel)

/-- an EQU of a LABEL expression (fix d7356d4): `L NOP`, `E EQU L+1` — the symbol table lists `E` as the address of `L`
plus one -/
theorem C04_equ_label_expression_symtab (fs : Files) :
    ∃ a, assemble fs ["L NOP\n".toList, "E EQU L+1\n".toList, " NOP\n".toList] = .ok a ∧
      symtabLines a.symtab = some ["$00   L".toList, "$0001 E".toList] :=
  evaluated (by decide +kernel)

/-- a label as a constant (non-PCR) index offset is assembled in the 16-bit offset form, the label's ADDRESS being the
offset: `L` at 0, `LDA L,X` is `A6 89 00 00` (before fix 831a353: a diagnostic) -/
theorem C04_finding_label_index_offset_fixed (fs : Files) :
    ∃ a, assemble fs ["L NOP\n".toList, " LDA L,X\n".toList] = .ok a ∧ a.image = some [0x12, 0xA6, 0x89, 0x00, 0x00] :=
  evaluated (by decide +kernel)

/-- a negative EQU constant keeps its sign: `X EQU -5`, `LDA #X` is `86 FB` (before fix 74ec239: `86 05`) -/
theorem C04_finding_negative_equ_fixed (fs : Files) :
    ∃ a, assemble fs ["X EQU -5\n".toList, " LDA #X\n".toList] = .ok a ∧ a.image = some [0x86, 0xFB] :=
  evaluated (by decide +kernel)

theorem negative_equ_word (fs : Files) :
    ∃ a, assemble fs ["X EQU -5\n".toList, " LDX #X\n".toList] = .ok a ∧ a.image = some [0x8E, 0xFF, 0xFB] ∧
      symtabLines a.symtab = some ["$FFFB X".toList] :=
  evaluated (by decide +kernel)

/-- `X EQU -5`, `LDX #X` is `8E FF FB` -/
theorem C04_negative_equ_word (fs : Files) :
    ∃ a, assemble fs ["X EQU -5\n".toList, " LDX #X\n".toList] = .ok a ∧ a.image = some [0x8E, 0xFF, 0xFB] :=
  (negative_equ_word fs).imp fun _ h => ⟨h.1, h.2.1⟩

/-- `X EQU -5` is listed in the symbol table as `$FFFB` (`numHex`: four digits hold the 16-bit two's complement) -/
theorem C04_negative_equ_symtab (fs : Files) :
    ∃ a, assemble fs ["X EQU -5\n".toList, " LDX #X\n".toList] = .ok a ∧
      symtabLines a.symtab = some ["$FFFB X".toList] :=
  (negative_equ_word fs).imp fun _ h => ⟨h.1, h.2.2⟩

/-- `X EQU -5`, `LDA X`: the memory operand is the extended address `$FFFB` -/
theorem C04_negative_equ_memory (fs : Files) :
    ∃ a, assemble fs ["X EQU -5\n".toList, " LDA X\n".toList] = .ok a ∧ a.image = some [0xB6, 0xFF, 0xFB] :=
  evaluated (by decide +kernel)

/-- `X EQU -5`, `Y EQU -3`: `X*Y` = 15, `X/Y` = 1, `X-Y` = −2, `X+Y` = −8, and `X EQU -7`: `X/2` = −3 -/
theorem C04_negative_equ_arith (fs : Files) :
    (∃ a, assemble fs ["X EQU -5\n".toList, "Y EQU -3\n".toList, " LDA #X*Y\n".toList, " LDA #X/Y\n".toList,
        " LDA #X-Y\n".toList, " LDX #X+Y\n".toList] = .ok a ∧
      a.image = some [0x86, 0x0F, 0x86, 0x01, 0x86, 0xFE, 0x8E, 0xFF, 0xF8]) ∧
    (∃ a, assemble fs ["X EQU -7\n".toList, " LDA #X/2\n".toList, " LDA #X+3\n".toList] = .ok a ∧
      a.image = some [0x86, 0xFD, 0x86, 0xFC]) :=
  evaluated (by decide +kernel)

/-- label ± negative constant: `X EQU -5`, `L` at address 0: `L+X` is `$FFFB`, `L-X` is 5 -/
theorem C04_label_negative_constant (fs : Files) :
    ∃ a, assemble fs ["X EQU -5\n".toList, "L NOP\n".toList, " LDX #L+X\n".toList, " LDX #L-X\n".toList] = .ok a ∧
      a.image = some [0x12, 0x8E, 0xFF, 0xFB, 0x8E, 0x00, 0x05] :=
  evaluated (by decide +kernel)

/-- label expressions in the WRITTEN order, end to end: `L` at `$1001`: `5-L` = 5 − `$1001` = `$F004` (modulo 65536),
`$4000/L` = 3 (before fix bd9f69a: `$0FFC` and `$1001/$4000` = 0) -/
theorem C04_label_order_programs (fs : Files) :
    ∃ a, assemble fs [" ORG $1000\n".toList, " NOP\n".toList, "L FDB $2000\n".toList, " LDX #5-L\n".toList,
        " LDX #$4000/L\n".toList] = .ok a ∧
      a.image = some [0x12, 0x20, 0x00, 0x8E, 0xF0, 0x04, 0x8E, 0x00, 0x03] :=
  evaluated (by decide +kernel)

/-- `L+N` with `N EQU -5` and `L` at address 1: −4, stored modulo 65536 as `$FFFC` — as an immediate `8E FF FC`, and
before `,PCR` the operand aims at `$FFFC` (`A6 8C F4`: −12 from `$0008`), not 5 bytes behind `L` -/
theorem C04_label_plus_negative_wraps (fs : Files) :
    ∃ a, assemble fs ["N EQU -5\n".toList, " NOP\n".toList, "L NOP\n".toList, " LDX #L+N\n".toList,
        " LDA L+N,PCR\n".toList] = .ok a ∧
      a.image = some [0x12, 0x12, 0x8E, 0xFF, 0xFC, 0xA6, 0x8C, 0xF4] :=
  evaluated (by decide +kernel)

/-- `L-X` with `X EQU -5` and `L` at `$FFFE`: `$FFFE + 5` leaves the 16 bits, a diagnostic ("integer value cannot
exceed 65535"); `L+X` in the same place is `$FFF9` -/
theorem C04_label_minus_negative_overflow (fs : Files) :
    assemble fs [" ORG $FFFE\n".toList, "X EQU -5\n".toList, "L NOP\n".toList, " LDX #L-X\n".toList] = .diag ∧
    ∃ a, assemble fs [" ORG $FFFE\n".toList, "X EQU -5\n".toList, "L NOP\n".toList, " LDX #L+X\n".toList] = .ok a ∧
      a.image = some [0x12, 0x8E, 0xFF, 0xF9] :=
  evaluated (by decide +kernel)

/-- all four operators, both orders, a negative constant (`N EQU -2`, `L` at `$10`): `L*N` = −32 (`$FFE0`), `L/N` = −8
(`$FFF8`), `N/L` = 0 (truncation towards zero), `N-L` = −18 (`$FFEE`), `7/L` = 0, `L/7` = 2, `N*L` = `$FFE0`; and a
division BY a label at address 0 is a diagnostic -/
theorem C04_label_signed_programs (fs : Files) :
    (∃ a, assemble fs [" ORG $10\n".toList, "N EQU -2\n".toList, "L NOP\n".toList, " LDX #L*N\n".toList,
        " LDX #L/N\n".toList, " LDX #N/L\n".toList, " LDX #N-L\n".toList, " LDX #7/L\n".toList, " LDX #L/7\n".toList,
        " LDX #N*L\n".toList] = .ok a ∧
      a.image = some [0x12, 0x8E, 0xFF, 0xE0, 0x8E, 0xFF, 0xF8, 0x8E, 0x00, 0x00, 0x8E, 0xFF, 0xEE, 0x8E, 0x00, 0x00,
        0x8E, 0x00, 0x02, 0x8E, 0xFF, 0xE0]) ∧
    assemble fs ["L NOP\n".toList, " LDX #7/L\n".toList] = .diag ∧
    assemble fs ["L NOP\n".toList, "M NOP\n".toList, " LDX #M/L\n".toList] = .diag :=
  evaluated (by decide +kernel)

/-- the signed value a numeric operand denotes -/
def sval (n : Nat) (neg : Bool) : Int := if neg then -(n : Int) else n

/-- integer arithmetic of the four operators (`int(x / y)` truncates toward zero); `none` = division by zero -/
def arith (op : Char) (x y : Int) : Option Int :=
  if op = '+' then some (x + y) else if op = '-' then some (x - y) else if op = '*' then some (x * y)
  else if y = 0 then none else some (x.tdiv y)

/-- numeric part of C04 for operands with the given neg flags: the signed result when it lies in
−32768..65535 (as magnitude plus neg flag, in the mode `resMode`: extended above 255, else `exprMode`), an error
otherwise -/
def NumericArith (na nb : Bool) : Prop :=
  ∀ (a b : Nat) (ha hb : Option Nat) (ma mb : Mode) (op : Char) (m : Mode) (ae : Bool) (t : SymTab),
    opChar op = true →
    match arith op (sval a na) (sval b nb) with
    | some z =>
      if -32768 ≤ z ∧ z ≤ 65535 then
        ∃ h, (Value.expr (.numeric a ha ma na) (.numeric b hb mb nb) op m ae).resolve t =
          .ok (.numeric z.natAbs h (resMode ma mb z) (decide (z < 0)))
      else (Value.expr (.numeric a ha ma na) (.numeric b hb mb nb) op m ae).resolve t = .error .other
    | none => (Value.expr (.numeric a ha ma na) (.numeric b hb mb nb) op m ae).resolve t = .error .other

/-- symbols are replaced by their table entry, undefined symbols are errors, and the result depends
only on the lookups (order independence) -/
def SymbolPart : Prop :=
  (∀ (x : Str) (mx : Mode) (a : Nat) (ha : Option Nat) (ma : Mode) (na : Bool) (r : Value) (op : Char)
      (m : Mode) (ae : Bool) (t : SymTab), t.get? x = some (.numeric a ha ma na) →
      (Value.expr (.symbol x mx) r op m ae).resolve t = (Value.expr (.numeric a ha ma na) r op m ae).resolve t) ∧
  (∀ (x : Str) (mx : Mode) (b : Nat) (hb : Option Nat) (mb : Mode) (nb : Bool) (l : Value) (op : Char)
      (m : Mode) (ae : Bool) (t : SymTab), t.get? x = some (.numeric b hb mb nb) →
      (Value.expr l (.symbol x mx) op m ae).resolve t = (Value.expr l (.numeric b hb mb nb) op m ae).resolve t) ∧
  (∀ (x : Str) (mx : Mode) (o : Value) (op : Char) (m : Mode) (ae : Bool) (t : SymTab), t.get? x = none →
      (Value.expr (.symbol x mx) o op m ae).resolve t = .error .other ∧
      (Value.expr o (.symbol x mx) op m ae).resolve t = .error .other) ∧
  (∀ (v : Value) (t1 t2 : SymTab), (∀ k, t1.get? k = t2.get? k) → v.resolve t1 = v.resolve t2)

/-- C04 at full strength: signed arithmetic for operands of either sign, plus the symbol part -/
def C04_Statement : Prop := (∀ na nb, NumericArith na nb) ∧ SymbolPart

/-- the numeric part restricted to NON-NEGATIVE operands, plus the symbol part -/
def C04_PartialStatement : Prop := NumericArith false false ∧ SymbolPart

theorem symbolPart : SymbolPart :=
  ⟨resolve_symbol_left, resolve_symbol_right,
   fun x mx o op m ae t h => ⟨resolve_undefined_left x mx o op m ae t h, resolve_undefined_right x mx o op m ae t h⟩,
   resolve_depends_only_on_lookup⟩

/-- the specification's arithmetic is the model's, on the four operators -/
theorem arith_eq_model (op : Char) (hop : opChar op = true) (x y : Int) : arith op x y = modelArith op x y := by
  simp only [opChar, Bool.or_eq_true, beq_iff_eq] at hop
  rcases hop with ((rfl | rfl) | rfl) | rfl <;> rfl

/-- the numeric part for operands of EITHER sign (fix 74ec239) -/
theorem numericArith (na nb : Bool) : NumericArith na nb := by
  intro a b ha hb ma mb op m ae t hop
  have hs : ∀ (n : Nat) (g : Bool), sval n g = sInt n g := fun _ _ => rfl
  rw [hs, hs, arith_eq_model op hop, resolve_signed]
  cases modelArith op (sInt a na) (sInt b nb) with
  | none => rfl
  | some z =>
    simp only
    rw [numResult_spec]
    by_cases hr : -32768 ≤ z ∧ z ≤ 65535
    · simp only [hr, and_self, if_true]
      by_cases hz : z < 0
      · exact ⟨_, by simp [hz, negNum]; rfl⟩
      · exact ⟨_, by simp [hz, posNum]; rfl⟩
    · simp only [hr, if_false]

theorem numericArith_nonneg : NumericArith false false := numericArith false false

theorem C04_partial : C04_PartialStatement := ⟨numericArith_nonneg, symbolPart⟩

/-- **C04 at full strength** (before fix 74ec239 a negative operand, reachable through `X EQU -5`, was used as its
magnitude: `C04_Statement_false_fixed`) -/
theorem C04_full : C04_Statement := ⟨numericArith, symbolPart⟩

/-- (−5) + 3 is −2 -/
theorem C04_Statement_false_fixed :
    (Value.expr (.numeric 5 none .none true) (.numeric 3 none .none false) '+' .none false).resolve [] =
      .ok (.numeric 2 none .direct true) := by
  rw [resolve_signed_ok 5 3 none none .none .none true false '+' .none false [] (z := -2) (by decide) (by decide)
    (by decide)]
  rfl

/-! ### the label part: `calculate_address_offset` -/

/-- what one operand of a label expression denotes once the statements have addresses: a label the address of its
statement, a number its signed value -/
inductive OperandValue (ss : List Stmt) : Value → Int → Prop
  | label {i a : Nat} {m : Mode} : addrIntOf ss i = some a → OperandValue ss (.address i m) (a : Int)
  | number {k : Nat} {h : Option Nat} {m : Mode} {neg : Bool} : OperandValue ss (.numeric k h m neg) (sval k neg)

/-- **the label part of C04** (expressions with at least one label, evaluated after layout): for operands that are
labels or numbers, in ANY combination and ORDER, the result is `left op right` on the denoted integers; a result below
zero is stored modulo 65536 (an address), one above 65535 and a division by zero are diagnostics; an operand that is
neither a label nor a number makes the expression an "unresolved expression" diagnostic -/
def C04_LabelStatement : Prop :=
  (∀ (ss : List Stmt) (l r : Value) (x y : Int) (op : Char) (m : Mode) (ae : Bool), opChar op = true →
    OperandValue ss l x → OperandValue ss r y →
    match arith op x y with
    | none => addrOffset ss (.expr l r op m ae) = .diag
    | some z =>
      if (if z < 0 then z % 65536 else z) ≤ 65535 then
        addrOffset ss (.expr l r op m ae) =
          .ok (.numeric (if z < 0 then z % 65536 else z).toNat (some 4) .extended false)
      else addrOffset ss (.expr l r op m ae) = .diag) ∧
  (∀ (ss : List Stmt) (l r : Value) (op : Char) (m : Mode) (ae : Bool),
    l.isAddress = false → l.isNumeric = false → addrOffset ss (.expr l r op m ae) = .diag) ∧
  (∀ (ss : List Stmt) (l r : Value) (x : Int) (op : Char) (m : Mode) (ae : Bool), OperandValue ss l x →
    r.isAddress = false → r.isNumeric = false → addrOffset ss (.expr l r op m ae) = .diag)

theorem OperandValue.opd {ss : List Stmt} {v : Value} {x : Int} (h : OperandValue ss v x) : AddrOpd ss v x := by
  cases h with
  | label h => exact .label h
  | number => exact .num

/-- the specification's arithmetic is `calculate_address_offset`'s, on the four operators -/
theorem arith_eq_addrArith (op : Char) (hop : opChar op = true) (x y : Int) : arith op x y = addrArith op x y := by
  simp only [opChar, Bool.or_eq_true, beq_iff_eq] at hop
  rcases hop with ((rfl | rfl) | rfl) | rfl <;> rfl

/-- **the label part of C04, proved** -/
theorem C04_label_full : C04_LabelStatement := by
  refine ⟨?_, ?_, ?_⟩
  · intro ss l r x y op m ae hop hl hr
    rw [arith_eq_addrArith op hop, addrOffset_opd hl.opd hr.opd]
    cases addrArith op x y with
    | none => rfl
    | some z =>
      simp only
      by_cases hw : addrWrap z > 65535
      · have : ¬ (if z < 0 then z % 65536 else z) ≤ 65535 := by unfold addrWrap at hw; omega
        simp [hw, this]
      · have : (if z < 0 then z % 65536 else z) ≤ 65535 := by unfold addrWrap at hw; omega
        simp only [hw, this, if_false, if_true]; rfl
  · intro ss l r op m ae h1 h2
    exact addrOffset_other_addr ss m ae op l r h1 h2
  · intro ss l r x op m ae hl h1 h2
    rw [addrOffset_expr, hl.opd.operand, addrOperand_other ss r h1 h2]

theorem C04_full_with_labels : C04_Statement ∧ C04_LabelStatement := ⟨C04_full, C04_label_full⟩

/-- non-vacuity of the label part on a two-statement list (`L` is statement 1 at address 100): `5-L` = −95 mod 65536,
`L-5` = 95, `L/0` a diagnostic, `$4000/L` = 163, `L*L` = 10000 -/
example :
    let ss : List Stmt := [{ (default : Stmt) with pkg := { address := .numeric 97 (some 4) .extended false } },
                           { (default : Stmt) with pkg := { address := .numeric 100 (some 4) .extended false } }]
    addrOffset ss (.expr (.numeric 5 (some 2) .direct false) (.address 1 .none) '-' .extended true) =
        .ok (.numeric 65441 (some 4) .extended false) ∧
    addrOffset ss (.expr (.address 1 .none) (.numeric 5 (some 2) .direct false) '-' .extended true) =
        .ok (.numeric 95 (some 4) .extended false) ∧
    addrOffset ss (.expr (.address 1 .none) (.numeric 0 (some 2) .direct false) '/' .extended true) = .diag ∧
    addrOffset ss (.expr (.numeric 0x4000 none .extended false) (.address 1 .none) '/' .extended true) =
        .ok (.numeric 163 (some 4) .extended false) ∧
    addrOffset ss (.expr (.address 1 .none) (.address 1 .none) '*' .extended true) =
        .ok (.numeric 10000 (some 4) .extended false) := by
  intro ss
  have h : addrIntOf ss 1 = some 100 := rfl
  have p := C04_label_full.1 ss
  refine ⟨?_, ?_, ?_, ?_, ?_⟩
  · have q := p (.numeric 5 (some 2) .direct false) (.address 1 .none) _ _ '-' .extended true (by decide) .number (.label h)
    simpa [arith, sval] using q
  · have q := p (.address 1 .none) (.numeric 5 (some 2) .direct false) _ _ '-' .extended true (by decide) (.label h) .number
    simpa [arith, sval] using q
  · have q := p (.address 1 .none) (.numeric 0 (some 2) .direct false) _ _ '/' .extended true (by decide) (.label h) .number
    simpa [arith, sval] using q
  · have q := p (.numeric 0x4000 none .extended false) (.address 1 .none) _ _ '/' .extended true (by decide) .number (.label h)
    simpa [arith, sval] using q
  · have q := p (.address 1 .none) (.address 1 .none) _ _ '*' .extended true (by decide) (.label h) (.label h)
    simpa [arith] using q

/-! ### non-vacuity: concrete expressions through `createV` and `resolve` -/

example : ∃ v, createV "5+3".toList false false = .ok v ∧
    v.resolve [] = .ok (.numeric 8 (some 2) .direct false) :=
  ⟨.expr (.numeric 5 (some 2) .direct false) (.numeric 3 (some 2) .direct false) '+' .extended false, rfl,
    resolve_add_ok 5 3 _ _ _ _ _ _ _ (by decide)⟩

/-- `X EQU 3`, then `X-10` is −7 (magnitude 7 with the neg flag) -/
example : ∃ v, createV "X-10".toList false false = .ok v ∧
    v.resolve [("X".toList, .numeric 3 (some 2) .direct false)] = .ok (.numeric 7 none .direct true) :=
  ⟨.expr (.symbol ['X'] .none) (.numeric 10 (some 2) .direct false) '-' .extended false, rfl, by
    rw [resolve_symbol_left ['X'] .none 3 (some 2) .direct false _ _ _ _ _ rfl,
      resolve_sub_neg 3 10 _ _ _ _ _ _ _ (by decide)]
    rfl⟩

example : ∃ v, createV "$FFFF+1".toList false false = .ok v ∧ v.resolve [] = .error .other :=
  ⟨.expr (.numeric 65535 none .extended false) (.numeric 1 (some 2) .direct false) '+' .extended false, rfl,
    resolve_add_overflow 65535 1 _ _ _ _ _ _ _ (by decide)⟩

example : ∃ v, createV "7/0".toList false false = .ok v ∧ v.resolve [] = .error .other :=
  ⟨.expr (.numeric 7 (some 2) .direct false) (.numeric 0 (some 2) .direct false) '/' .extended false, rfl,
    resolve_div_zero 7 _ _ _ _ _ _ _⟩

example : ∃ v, createV "300*2".toList false false = .ok v ∧
    v.resolve [] = .ok (.numeric 600 (some 4) .extended false) :=
  ⟨.expr (.numeric 300 none .extended false) (.numeric 2 (some 2) .direct false) '*' .extended false, rfl,
    resolve_mul 300 2 _ _ _ _ _ _ _⟩

example : ∃ v, createV "UNDEF+1".toList false false = .ok v ∧ v.resolve [] = .error .other :=
  ⟨.expr (.symbol "UNDEF".toList .none) (.numeric 1 (some 2) .direct false) '+' .extended false, rfl,
    resolve_undefined_left _ _ _ _ _ _ [] rfl⟩

end CoCo.Props

section axioms
open CoCo.Props
#print axioms C04_partial
#print axioms C04_full
#print axioms C04_label_full
#print axioms C04_label_order_programs
#print axioms resolve_symbols_signed
#print axioms C04_negative_extended
#print axioms C04_negative_equ_word
#print axioms addrOffset_add_negative
#print axioms resolve_add_leaves_direct_page
#print axioms C04_finding_equ_expression_fixed
#print axioms C04_equ_expression_fixed
#print axioms resolve_symbol_equ_expression
#print axioms C04_equ_expression_cycle
#print axioms C04_equ_expression_cycle_resolve
#print axioms resolve_symbol_self_reference
#print axioms C04_symbol_characters_fixed
end axioms
