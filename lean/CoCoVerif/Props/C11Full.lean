/-
Props/C11Full.lean — C11 without the two hypotheses about the assembler's output.

`C11_partial` (Props/C11.lean) assumes of the accepted program that its image consists of bytes and that the address
`main` derives from the origin's hex string is below 65536.  Both are theorems about the assembler model
(Lemmas/ImageBytes.lean, Lemmas/FinalForm.lean):

* `C11_image_bytes`: every number of the image is below 256 — every hex string a final statement carries (op code, post
  byte, operand field) is made of hex digits, the literal lists of FCB / FDB included (`Value.MOK`, from the parser
  to the normal form of a final statement: `FinalForm.mok`);
* `C11_origin_lt`: the origin is `NoneValue` or the operand of an ORG, a non-negative number of at most 16 bits with a
  size hint of 2 or 4 digits or none (`C11_origin_shape`), whose hex string has at most four hex digits.

`C11_full_partial` is `C11_partial` without them.  What is left of "partial" is the restriction of the INPUT to program
names made of ASCII characters (`AsciiStr (asmName a nm)`) and to a fresh target path (`fs.get? p = none`); the statement
itself is `C11_Statement`, so `C11_Statement_holds` proves it.
-/
import CoCoVerif.Lemmas.FinalForm
import CoCoVerif.Lemmas.ImageBytes
import CoCoVerif.Props.C11

namespace CoCo.Props
open CoCo CoCo.VF

/-- the image of an accepted program consists of bytes -/
theorem C11_image_bytes {incl : Asm.Files} {lines : List (List Char)} {a : Asm.Assembly} {img : Bytes}
    (h : Asm.assemble incl lines = .ok a) (hi : a.image = some img) : ∀ b ∈ img, b < 256 := by
  obtain ⟨st⟩ := Asm.assemble_stages h
  obtain ⟨bs, hbs, rfl⟩ := Asm.image_eq hi
  intro b hb
  obtain ⟨x, hx, hbx⟩ := List.mem_flatten.mp hb
  obtain ⟨j, hj⟩ := List.mem_iff_getElem?.mp hx
  obtain ⟨s, hs, hsb⟩ := (Asm.mapM_some hbs).1.get' hj
  obtain ⟨h1, h2, h3⟩ := (st.finalForm hs).mok
  exact Asm.stmtBytes_lt h1 h2 h3 hsb b hbx

/-- the origin of an accepted program: `NoneValue` (no ORG) or a non-negative number of at most 16 bits whose size hint
is none, 2 or 4 -/
theorem C11_origin_shape {incl : Asm.Files} {lines : List (List Char)} {a : Asm.Assembly}
    (h : Asm.assemble incl lines = .ok a) :
    a.origin = .none ∨ ∃ i hint m, a.origin = .numeric i hint m false ∧ i ≤ 65535 ∧
      (hint = none ∨ hint = some 2 ∨ hint = some 4) :=
  Asm.assemble_origin_val h

/-- the load address `main` derives from the origin of an accepted program is a 16-bit address -/
theorem C11_origin_lt {incl : Asm.Files} {lines : List (List Char)} {a : Asm.Assembly}
    (h : Asm.assemble incl lines = .ok a) : originAddr a.origin < 65536 :=
  originAddr_lt h

/-- the file `main` hands to the containers is a valid cassette file, whatever the accepted program (ASCII name) -/
theorem C11_file_valid {incl : Asm.Files} {lines : List (List Char)} {a : Asm.Assembly} {nm : Option (List Char)}
    {img : Bytes} (h : Asm.assemble incl lines = .ok a) (hi : a.image = some img) (hn : AsciiStr (asmName a nm)) :
    ValidFile (asmFile a nm img) :=
  asmFile_valid hn (C11_image_bytes h hi) (C11_origin_lt h)

/-- **C11_full_partial**: `C11_partial` without its two hypotheses about the assembler's output.  For every accepted
program, fresh target `p` and ASCII program name: `--to_bin` writes exactly the image; `--to_cas` writes a well-formed
tape holding exactly the file; `--to_dsk` (when not refused) writes a consistent Disk BASIC image holding exactly the
file; without a name no cassette / disk file is made; a four-digit `ORG` is the load and exec address. -/
theorem C11_full_partial :
    ∀ (fs : FS) (incl : Asm.Files) (lines : List (List Char)) (a : Asm.Assembly) (nm : Option (List Char))
      (ap : Bool) (p : Path) (img : Bytes),
      Asm.assemble incl lines = .ok a → a.image = some img → fs.get? p = none → AsciiStr (asmName a nm) →
      (let r := asmMain fs incl lines { toBin := some p, name := nm, append := ap }
       r.exit = 0 ∧ r.fs.get? p = some img ∧ ∀ q, q ≠ p → r.fs.get? q = fs.get? q) ∧
      (asmName a nm ≠ [] →
        let r := asmMain fs incl lines { toCas := some p, name := nm, append := ap }
        r.exit = 0 ∧ (∀ q, q ≠ p → r.fs.get? q = fs.get? q) ∧
        ∃ b, r.fs.get? p = some b ∧ Spec.Tape.WellFormed [toTape (asmFile a nm img)] b) ∧
      (asmName a nm ≠ [] →
        let r := asmMain fs incl lines { toDsk := some p, name := nm, append := ap }
        r.exit = 0 ∧ (∀ q, q ≠ p → r.fs.get? q = fs.get? q) ∧
        (r.refused = [] → ∃ b, r.fs.get? p = some b ∧ Spec.DiskBasic.Fsck b ∧
          Spec.DiskBasic.read b = some [toDFile (asmFile a nm img)])) ∧
      (asmName a nm = [] → ∀ args : AsmArgs, args.name = nm → args.toBin = none →
        (asmMain fs incl lines args).fs = fs) ∧
      (∀ v m, v < 65536 → a.origin = .numeric v (some 4) m false → (asmFile a nm img).load = v) :=
  fun fs incl lines a nm ap p img ha hi hf hn =>
    C11_partial fs incl lines a nm ap p img ha hi hf hn (C11_image_bytes ha hi) (C11_origin_lt ha)

theorem C11_Statement_holds : C11_Statement := C11_full_partial

/-- the hypotheses of `C11_full_partial` are satisfiable, with a non-empty name and a four-digit origin: the program
`demoSrc` of Props/C11.lean (`NAM hello`, `ORG $0E00`, two instructions) on an empty file system -/
example : ∃ (fs : FS) (a : Asm.Assembly) (img : Bytes) (p : Path),
    Asm.assemble [] demoSrc = .ok a ∧ a.image = some img ∧ fs.get? p = none ∧ AsciiStr (asmName a none) ∧
    asmName a none ≠ [] := by
  obtain ⟨a, ha, hi, _, hn⟩ := demo_accepted
  refine ⟨[], a, _, [], ha, hi, rfl, ?_, ?_⟩
  · rw [hn]; unfold AsciiStr; decide
  · rw [hn]; decide

/-- … and its conclusions for that program: the image `86 01 39` is what `--to_bin` writes, and the cassette / disk
file is loaded at `$0E00` -/
theorem C11_demo (p : Path) :
    ∃ a, Asm.assemble [] demoSrc = .ok a ∧
      (let r := asmMain [] [] demoSrc { toBin := some p, name := none, append := false }
       r.exit = 0 ∧ r.fs.get? p = some [0x86, 0x01, 0x39]) ∧
      (asmFile a none [0x86, 0x01, 0x39]).load = 0x0E00 ∧
      ValidFile (asmFile a none [0x86, 0x01, 0x39]) := by
  obtain ⟨a, ha, hi, ho, hn⟩ := demo_accepted
  have hascii : AsciiStr (asmName a none) := by rw [hn]; unfold AsciiStr; decide
  obtain ⟨h1, _, _, _, _⟩ := C11_full_partial [] [] demoSrc a none false p _ ha hi rfl hascii
  exact ⟨a, ha, ⟨h1.1, h1.2.1⟩, by show originAddr a.origin = _; rw [ho], C11_file_valid ha hi hascii⟩

end CoCo.Props

#print axioms CoCo.Props.C11_image_bytes
#print axioms CoCo.Props.C11_origin_lt
#print axioms CoCo.Props.C11_full_partial
#print axioms CoCo.Props.C11_Statement_holds
#print axioms CoCo.Props.C11_demo
