/-
C18-R1 (relocation): LABEL elements of FCB / FDB lists (jump tables), WHOLE PROGRAM.  `reloc_fixAllL_any` / `reloc_finish_any`
with `ListsCovered` in place of `ListsConst` (a list element may be a label, `label ± N`, `label - label` or a constant; in an
FCB list the moved values have two digits, `ElemFits`), the statements related by `FinalRelL`.
ONE DIRECTION (original accepted → moved accepted), not "same outcome kind": in an FCB list `label ± N` with more than two
digits in the original program may wrap to two digits in the moved one.  For `ListsConst` programs `reloc_finish_any` stays
the stronger statement.
-/
import CoCoVerif.Props.C18RelocLists

namespace CoCo.Props
open CoCo CoCo.Asm

section
variable {D : Nat} {as as' : List Stmt}

/-- `fixAll` and then the list pass, any origin, `ListsCovered` instead
of `ListsConst`: when the original program gets through, so does the program moved by `D`; the statements are related by
`FinalRelL` on the layout `fs` that `fixAll` gives for the original program -/
theorem reloc_fixAllL_lists (h : PW (RelocOutAny D) as as')
    (hcov : ∀ (i : Nat) (s : Stmt), as[i]? = some s → CoveredAny D as s) (t : SymTab)
    (hlist : ∀ (i : Nat) (s : Stmt), as[i]? = some s → ListsCovered D as t s)
    {ys : List Stmt} (hA : fixAllL t as = .ok ys) :
    ∃ fs fs' ys', fixAll as 0 as = .ok fs ∧ fixAll as' 0 as' = .ok fs' ∧ PW (FinalRelAny D) fs fs' ∧
      evalLists t fs fs = .ok ys ∧ fixAllL t as' = .ok ys' ∧ PW (FinalRelL D fs t) ys ys' := by
  obtain ⟨fs, fs', ys', e1, e2, hr, e3, e4, hp⟩ :=
    fixAllL_reloc FinalRelAny.listStable (fun _ _ r => r.2) t (reloc_fixAll_any h hcov)
      (fun _ hf => fixAll_listsCovered (addrOf_numeric_any (RelocOutAny.addrShiftAny h)) hlist hf) hA
  exact ⟨fs, fs', ys', e1, e2, hr, e3, e4, hp.mono (fun _ _ => ListStep.finalRelL)⟩

/-- the same, the digits of the moved lists computed on the statements `as` that enter `fixAll`, or on the final statements
`ys` of the original program (all three layouts have the same addresses) -/
theorem reloc_fixAllL_lists' (h : PW (RelocOutAny D) as as')
    (hcov : ∀ (i : Nat) (s : Stmt), as[i]? = some s → CoveredAny D as s) (t : SymTab)
    (hlist : ∀ (i : Nat) (s : Stmt), as[i]? = some s → ListsCovered D as t s)
    {ys : List Stmt} (hA : fixAllL t as = .ok ys) :
    ∃ ys', fixAllL t as' = .ok ys' ∧ PW (FinalRelL D as t) ys ys' ∧ PW (FinalRelL D ys t) ys ys' := by
  obtain ⟨fs, fs', ys', e1, _, _, _, e4, hp⟩ := reloc_fixAllL_lists h hcov t hlist hA
  have s1 : PW SameAddr as fs := fixAll_sameAddr e1
  have s2 : PW SameAddr as ys := fixAllL_sameAddr hA
  have s1' : PW SameAddr fs as := s1.flip.mono fun _ _ => Eq.symm
  refine ⟨ys', e4, hp.mono (fun _ _ r => r.sameAddr s1'), hp.mono (fun _ _ r => (r.sameAddr s1').sameAddr s2)⟩

/-- as `AsmRelAny`, the statements related by `FinalRelL` on the layout `as` (the statements that enter `fixAll`) -/
def AsmRelL (D : Nat) (as : List Stmt) (t : SymTab) (A B : Assembly) : Prop :=
  PW (FinalRelL D as t) A.stmts B.stmts ∧
  A.symtab.length = t.length ∧ B.symtab.length = t.length ∧ SymRelAny D as t A.symtab B.symtab ∧
  OriginAny D A.origin B.origin ∧ B.name = A.name

/-- any origin, four statement classes, EQUs defined by label
expressions, and list elements that are labels, `label ± N`, `label - label` or constants (`ListsCovered`, with `ElemFits`
for FCB lists): when `finish` (`fixAllL`, `evalSyms`, `finalSymTab`, origin and name) accepts the original program, it
accepts the program moved by `D`, and the results are related by `AsmRelL` -/
theorem reloc_finish_lists_any (h : PW (RelocOutAny D) as as')
    (hcov : ∀ (i : Nat) (s : Stmt), as[i]? = some s → CoveredAny D as s) (t : SymTab)
    (hequ : ∀ kv ∈ t, EquCovered D as t kv.2)
    (hlist : ∀ (i : Nat) (s : Stmt), as[i]? = some s → ListsCovered D as t s)
    {A : Assembly} (hA : finish t as = .ok A) :
    ∃ B, finish t as' = .ok B ∧ AsmRelL D as t A B := by
  have hfa := (finish_ok hA).1
  obtain ⟨fs', hfb, hr, _⟩ := reloc_fixAllL_lists' h hcov t hlist hfa
  have hfix : OutRel (PW (FinalRelL D as t)) (fixAllL t as) (fixAllL t as') := by rw [hfa, hfb]; exact .ok hr
  exact (finish_outRel (L := IntAddr D) hfix (RelocOutAny.addrShiftI h) (fun _ _ r => r.row_operand)
    (fun _ _ r => r.2.toI) (fun _ _ r => r.2.2) hequ).get hA

/-- `reloc_finish_any` is the special case "no list element moves": the hypothesis `ListsConst` gives `ListsCovered` -/
theorem listsCovered_of_listsConst {t : SymTab}
    (hlist : ∀ (i : Nat) (s : Stmt), as[i]? = some s → ListsConst t s) :
    ∀ (i : Nat) (s : Stmt), as[i]? = some s → ListsCovered D as t s :=
  fun i s hs => (hlist i s hs).covered

/-- a statement that is no list: the bytes as `FinalRelAny` says (the lemmas `reloc_bytes_*_any` apply) -/
theorem finalRelL_nonlist_stmt {fs : List Stmt} {t : SymTab} {A B : List Stmt} (h : PW (FinalRelL D fs t) A B)
    {j : Nat} {y y' : Stmt} (hy : A[j]? = some y) (hy' : B[j]? = some y') (hl : y.pkg.additional.isList = false) :
    FinalRelAny D y y' := (h.2 j y y' hy hy').nonlist hl

end

/-- a list statement `t` of the original assembly and the statement `t'` of
the assembly of the moved text: when the statement `s4` that entered `fixAll` is `Unmoved` and its list elements are
`ListsCovered`, `t` and `t'` are related by `FinalRelL` on the layout `stA.ss4` — equal up to the address and the field,
which holds `movedList …`: the digits of `t` with every label element (and `label ± N`) `+ D` -/
theorem C18_R1_parsed_lists_any {fs : Files} {la lb : List Str} {pa pb : List Stmt} {D : Nat} {A B : Assembly}
    (hpa : parseLines la = .ok pa) (hpb : parseLines lb = .ok pb) (hrel : PW (OrgRel D (OrgOkAny D)) pa pb)
    (hinc : ∀ s ∈ pa, s.row.isInclude = false)
    (hhead : ∃ s0 r0, pa = s0 :: r0 ∧ s0.row.mnemonic = "ORG")
    (stA : Stages fs la A) (stB : Stages fs lb B) :
    ∀ (i : Nat) (s4 t t' : Stmt), stA.ss4[i]? = some s4 → A.stmts[i]? = some t → B.stmts[i]? = some t' →
      t.pkg.additional.isList = true → Unmoved D stA.ss4 s4 → ListsCovered D stA.ss4 stA.t s4 →
      FinalRelL D stA.ss4 stA.t t t' := by
  intro i s4 t t' hs4 ht ht' hl hc hlc
  obtain ⟨_, hshift, _⟩ := reloc_layout_any hpa hpb hrel hinc hhead stA stB
  have hshiftI : PW (AddrShiftI D) stA.ss4 stB.ss4 := hshift.mono (fun _ _ => AddrShiftAny.toI)
  obtain ⟨s4', u, u', x5, x5', _, hx5, hx5', hu5, hu5', hfu, hfu', hlu, hlu', he | ⟨rfl, _, _, hadd, _⟩⟩ :=
    reloc_pair hpa hpb hrel hinc stA stB hs4 ht ht'
  · obtain ⟨e, _⟩ := reloc_bytes_unmoved' hshiftI he hc hfu hfu'
    have hsh5 : PW (AddrShiftAny D) x5 x5' := addrShiftAny_sameButAdditional hshift (fixAll_pw hx5) (fixAll_pw hx5')
    have hx : FinalRelAny D u u' := ⟨.inl (by rw [e]; rfl), hsh5.2 i u u' hu5 hu5'⟩
    have s1 : PW SameAddr stA.ss4 x5 := fixAll_sameAddr hx5
    have hcu : ListsCovered D x5 stA.t u :=
      (fixFit_listsCovered (addrOf_numeric_any hshift) hfu hlc).sameAddr s1
    obtain ⟨y', ey, step⟩ := evalList1_step FinalRelAny.listStable hsh5 stA.t hx hcu hlu
    rw [hlu'] at ey
    cases ey
    exact (ListStep.finalRelL step).sameAddr (s1.flip.mono fun _ _ => Eq.symm)
  · -- an ORG statement has no list
    rw [hadd] at hl
    cases hl

/-- the list statements of the assemblies of a text and of the text with its ORG
lines moved by `D`: hypotheses as `C18_R1_code_any`; a list statement `t` whose statement `s4` is `Unmoved` and
`ListsCovered` (instead of `ListsConst`): the field of `t'` is `movedList …`, the bytes of `t'` are op code, post byte and
the bytes of that field; for a jump table with the words `ns`: the big-endian bytes of `movedWords …` — the words of the
original program with every label element (and `label ± N`) `+ D` -/
theorem C18_R1_lists_any {fs : Files} {la lb : List Str} {D : Nat} {P : Nat → Prop} {A B : Assembly}
    (hsh : ShiftOrgP D P la lb)
    (hhead : ∃ lab n rest, lab.all isLabelCh = true ∧ n < 65536 ∧ la = orgLine lab n :: rest)
    (stA : Stages fs la A) (stB : Stages fs lb B) :
    ∀ (i : Nat) (s4 t t' : Stmt), stA.ss4[i]? = some s4 → A.stmts[i]? = some t → B.stmts[i]? = some t' →
      t.pkg.additional.isList = true → Unmoved D stA.ss4 s4 → ListsCovered D stA.ss4 stA.t s4 →
      FinalRelL D stA.ss4 stA.t t t' ∧
      t'.pkg.additional = movedList D stA.ss4 stA.t t ∧
      stmtBytes t' = (do
        let a ← emitValue t.pkg.opCode
        let b ← emitValue t.pkg.postByte
        let c ← emitValue (movedList D stA.ss4 stA.t t)
        pure (a ++ b ++ c)) ∧
      ∀ ns : List Nat, (∀ n ∈ ns, n < 65536) → t.pkg.additional = .multiWord (ns.map wordHex) →
        stmtBytes t = (do
          let a ← emitValue t.pkg.opCode
          let b ← emitValue t.pkg.postByte
          pure (a ++ b ++ wordBytes ns)) ∧
        stmtBytes t' = (do
          let a ← emitValue t.pkg.opCode
          let b ← emitValue t.pkg.postByte
          pure (a ++ b ++ wordBytes (movedWords D stA.ss4 stA.t (listElems t.operand.text) ns))) := by
  intro i s4 t t' hs4 ht ht' hl hc hlc
  obtain ⟨hrel, hinc, hhd⟩ := hsh.any.parsed hhead stA stB
  have hr := C18_R1_parsed_lists_any stA.hparse stB.hparse hrel hinc hhd stA stB i s4 t t' hs4 ht ht' hl hc hlc
  exact ⟨hr, (hr.list hl).2, finalRelL_bytes hr hl, fun ns hns hy => finalRelL_words hr hns hy⟩

/-- a sufficient executable test for `ListsCovered`, for the simplest classes: in an FDB list every evaluated element is
rejected, a constant or a plain label (`elemCoveredB`); in an FCB list a constant (`elemConstB`) -/
def listsCoveredB (t : SymTab) (s : Stmt) : Bool :=
  match s.pkg.additional with
  | .multiByte _ => (listElems s.operand.text).all (fun x => !pendingAt 2 x || elemConstB t x)
  | .multiWord _ => (listElems s.operand.text).all (fun x => !pendingAt 4 x || elemCoveredB t x)
  | _ => true

theorem listsCoveredB_sound {D : Nat} {ssA : List Stmt} {t : SymTab} {s : Stmt} (h : listsCoveredB t s = true) :
    ListsCovered D ssA t s := by
  unfold listsCoveredB at h
  constructor
  · intro hs e
    rw [e] at h
    refine all_pending_sound (fun x hx => ?_) h
    have hc : ElemConst t x := elemConstB_sound hx
    exact ⟨hc.covered, fun hm => by rw [elemMovesB_const hc] at hm; cases hm⟩
  · intro hs e
    rw [e] at h
    exact all_pending_sound (fun _ => elemCoveredB_sound) h

theorem tbl_shift : ShiftOrgP 0x100 (fun _ => True) tblA tblB :=
  shiftOrgP_single [] 0x1000 tblBody rfl trivial (by omega) tbl_evaluated.1

/-- evaluated: every statement of `tblA` that enters `fixAll` passes the tests `unmovedB` and `listsCoveredB` -/
theorem tblA_coveredLists :
    (stage4 tblA).bind (fun as => (stageT tblA).map (fun T => as.all (fun s => unmovedB 0x100 as s && listsCoveredB T s)))
      = some true := evaluated (by decide +kernel)

/-- the witness `reloc_list_label_witness` as an instance of `C18_R1_lists_any`: both texts assemble, and every list
statement of the assembly of `tblB` (the jump table `T FDB A,T,K` and the list of constants `C FDB K,K+1,2`) is the
statement of the assembly of `tblA` up to the address and the field, which is `movedList $100 …` -/
theorem tbl_lists_tie : ∃ A B, assemble [] tblA = .ok A ∧ assemble [] tblB = .ok B ∧
    ∀ (stA : Stages [] tblA A) (i : Nat) (s4 t t' : Stmt), stA.ss4[i]? = some s4 → A.stmts[i]? = some t →
      B.stmts[i]? = some t' → t.pkg.additional.isList = true →
      FinalRelL 0x100 stA.ss4 stA.t t t' ∧ t'.pkg.additional = movedList 0x100 stA.ss4 stA.t t := by
  obtain ⟨A, hA, _⟩ := checkProgram_sound tblA_ok []
  obtain ⟨B, hB, _⟩ := checkProgram_sound tblB_ok []
  obtain ⟨stB⟩ := assemble_stages hB
  refine ⟨A, B, hA, hB, fun stA i s4 t t' hs4 ht ht' hl => ?_⟩
  obtain ⟨c1, c2⟩ := all_sound (fun _ => Bool.and_eq_true_iff.mp) (stage4T_map stA tblA_coveredLists) i s4 hs4
  obtain ⟨r1, r2, _⟩ := C18_R1_lists_any tbl_shift ⟨[], 0x1000, tblBody, rfl, by omega, rfl⟩ stA stB i s4 t t' hs4 ht ht'
    hl (unmovedB_sound c1) (listsCoveredB_sound c2)
  exact ⟨r1, r2⟩

#print axioms CoCo.Asm.evalLists_reloc
#print axioms CoCo.Asm.fixAllL_reloc
#print axioms CoCo.Asm.ListsCovered.sameAddr
#print axioms CoCo.Asm.movedList_sameAddr
#print axioms CoCo.Asm.fixAll_listsCovered
#print axioms ListStep.finalRelL
#print axioms reloc_fixAllL_lists
#print axioms reloc_fixAllL_lists'
#print axioms reloc_finish_lists_any
#print axioms finalRelL_bytes
#print axioms finalRelL_words
#print axioms C18_R1_parsed_lists_any
#print axioms C18_R1_lists_any
#print axioms tbl_lists_tie

end CoCo.Props
