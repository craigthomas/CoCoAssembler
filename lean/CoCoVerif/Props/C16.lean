/-
Props/C16.lean — file_util conversions carry every selected file across.
-/
import CoCoVerif.Lemmas.VFChain
import CoCoVerif.Lemmas.VFUtil
import CoCoVerif.Props.C09

namespace CoCo.Props
open CoCo CoCo.VF

/-- `--to_cas p` alone, fresh target: the target is the cassette written from the selected files -/
theorem C16_to_cas (fs : FS) (args : UtilArgs) (src : Bytes) (files : List CFile) (k : Kind) (p : Path)
    (hh : fs.get? args.host = some src) (hs : sniff src = .ok (files, k))
    (hc : args.toCas = some p) (hd : args.toDsk = none) (hb : args.toBin = none) (hf : fs.get? p = none) :
    utilMain fs args =
      { exit := 0, fs := fs.set p (Cas.write (files.filter (selected args.files))) } := by
  rw [utilMain_conv_only .cassette p (openVF_sniffed hh hs) (by decide) hc
      (fun k' hk' => match k' with | .disk => hd | .binary => rfl | .cassette => absurd rfl hk') (Or.inl hb),
    storeTo_fresh fs p .cassette _ args.append _ hf rfl]
  rfl

/-- `--to_dsk p` alone, fresh target, the disk writer succeeding: the target is the disk image written from the
selected files -/
theorem C16_to_dsk (fs : FS) (args : UtilArgs) (src : Bytes) (files : List CFile) (k : Kind) (p : Path)
    (img : Bytes) (hh : fs.get? args.host = some src) (hs : sniff src = .ok (files, k))
    (hc : args.toCas = none) (hd : args.toDsk = some p) (hb : args.toBin = none) (hf : fs.get? p = none)
    (hw : Dsk.write Gen.granuleFillOrder (files.filter (selected args.files)) = .ok img) :
    utilMain fs args = { exit := 0, fs := fs.set p img } := by
  rw [utilMain_dsk_only p (openVF_sniffed hh hs) hc hd (Or.inl hb),
    storeTo_fresh fs p .disk (files.filter (selected args.files)) args.append img hf hw]
  rfl

/-- `--to_dsk p` alone when the files do not fit (or one is too long): exit 1, nothing written -/
theorem C16_to_dsk_refused (fs : FS) (args : UtilArgs) (src : Bytes) (files : List CFile) (k : Kind) (p : Path)
    (hh : fs.get? args.host = some src) (hs : sniff src = .ok (files, k))
    (hc : args.toCas = none) (hd : args.toDsk = some p) (hb : args.toBin = none) (hf : fs.get? p = none)
    (hw : ∀ img, Dsk.write Gen.granuleFillOrder (files.filter (selected args.files)) ≠ .ok img) :
    utilMain fs args = { exit := 1, fs := fs } := by
  have hst : ∀ fs', storeTo fs p .disk (files.filter (selected args.files)) args.append ≠ .ok fs' :=
    storeTo_build_not_ok (openVF_fresh _ hf) hw
  rw [utilMain_dsk_only p (openVF_sniffed hh hs) hc hd (Or.inl hb), hostAfter_not_ok hst, isOk_false hst]
  rfl

/-- `--to_bin` with more than one file in the source: exit 1 and the host file system is unchanged -/
theorem C16_to_bin_many (fs : FS) (args : UtilArgs) (src : Bytes) (files : List CFile) (k : Kind) (p : Path)
    (hh : fs.get? args.host = some src) (hs : sniff src = .ok (files, k))
    (hc : args.toCas = none) (hd : args.toDsk = none) (hb : args.toBin = some p)
    (hn : files.length > 1) :
    utilMain fs args = { exit := 1, fs := fs } := by
  rw [utilMain_open (openVF_sniffed hh hs)]
  simp only [hc, hd, hb, utilConv_none]
  simp only [utilBin]
  cases ho : openVF fs p (some .binary) with
  | ok tgt => simp only [hn, if_true]; rfl
  | diag => rfl
  | internal => rfl
  | diverged => rfl

/-- `--to_bin p` with exactly one file (selected), fresh target: the target holds that file's data -/
theorem C16_to_bin_one (fs : FS) (args : UtilArgs) (src : Bytes) (f : CFile) (k : Kind) (p : Path)
    (hh : fs.get? args.host = some src) (hs : sniff src = .ok ([f], k))
    (hc : args.toCas = none) (hd : args.toDsk = none) (hb : args.toBin = some p) (hf : fs.get? p = none)
    (hsel : selected args.files f = true) :
    utilMain fs args = { exit := 0, fs := fs.set p f.data } := by
  rw [utilMain_open (openVF_sniffed hh hs)]
  simp only [hc, hd, hb, utilConv_none]
  simp [utilBin, openVF, hf, hsel, saveVF, addCoco, buildImage, utilFinish]

/-- … and when `--files` does not name it, an empty file is created -/
theorem C16_to_bin_one_unselected (fs : FS) (args : UtilArgs) (src : Bytes) (f : CFile) (k : Kind) (p : Path)
    (hh : fs.get? args.host = some src) (hs : sniff src = .ok ([f], k))
    (hc : args.toCas = none) (hd : args.toDsk = none) (hb : args.toBin = some p) (hf : fs.get? p = none)
    (hsel : selected args.files f = false) :
    utilMain fs args = { exit := 0, fs := fs.set p [] } := by
  rw [utilMain_open (openVF_sniffed hh hs)]
  simp only [hc, hd, hb, utilConv_none]
  simp [utilBin, openVF, hf, hsel, saveVF, buildImage, utilFinish]

/-- `--to_bin` on a source without files: exit 1, nothing written -/
theorem C16_to_bin_none (fs : FS) (args : UtilArgs) (src : Bytes) (k : Kind) (p : Path)
    (hh : fs.get? args.host = some src) (hs : sniff src = .ok ([], k))
    (hc : args.toCas = none) (hd : args.toDsk = none) (hb : args.toBin = some p) :
    utilMain fs args = { exit := 1, fs := fs } := by
  rw [utilMain_open (openVF_sniffed hh hs)]
  simp only [hc, hd, hb, utilConv_none]
  simp only [utilBin]
  cases ho : openVF fs p (some .binary) with
  | ok tgt => rfl
  | diag => rfl
  | internal => rfl
  | diverged => rfl

/-- `--to_bin` alone: more than one file → exit 1, nothing written; exactly one (selected) file and a fresh
target → the target holds that file's data -/
theorem C16_to_bin (fs : FS) (args : UtilArgs) (src : Bytes) (files : List CFile) (k : Kind) (p : Path)
    (hh : fs.get? args.host = some src) (hs : sniff src = .ok (files, k))
    (hc : args.toCas = none) (hd : args.toDsk = none) (hb : args.toBin = some p) :
    (files.length > 1 → utilMain fs args = { exit := 1, fs := fs }) ∧
    (∀ f, files = [f] → fs.get? p = none → selected args.files f = true →
       utilMain fs args = { exit := 0, fs := fs.set p f.data }) := by
  refine ⟨C16_to_bin_many fs args src files k p hh hs hc hd hb, ?_⟩
  intro f hf hfresh hsel
  subst hf
  exact C16_to_bin_one fs args src f k p hh hs hc hd hb hfresh hsel

/-- `--files` is case-insensitive in the names given -/
theorem C16_selected_upper (names : List (List Char)) (f : CFile) :
    selected (some names) f = selected (some (names.map upperS)) f :=
  selected_case_insensitive _ _ f
    (by rw [List.map_map]; exact List.map_congr_left fun s _ => (upperS_idem s).symm)

/-- the selection depends on a file only through `selKey`, its upper-cased, stripped, NUL-free name -/
theorem C16_selected_key (sel : Option (List (List Char))) (f g : CFile)
    (h : upperS ((Asm.strip (f.name.map Char.ofNat)).filter (· != Char.ofNat 0)) =
         upperS ((Asm.strip (g.name.map Char.ofNat)).filter (· != Char.ofNat 0))) :
    selected sel f = selected sel g := by
  cases sel with
  | none => rfl
  | some names => rw [selected_some, selected_some, show selKey f = selKey g from h]

theorem C16_selected_none (f : CFile) : selected none f = true := rfl

/-- **cassette → disk → cassette** with `file_util` (no `--files`): both runs succeed, the sources are left
alone, and the final cassette lists every file of the first one, in order, each as `chain_file` describes
(same data and types, upper-cased name). Exclusions: E1, G1 on the source cassette; the disk must have room. -/
theorem C16_chain_cas_dsk_cas (fs : FS) (c1 d c2 : Path) (fs0 : List CFile) (img : Bytes)
    (h1 : fs.get? c1 = some (Cas.write fs0)) (hok : CasOK fs0) (hlen : (Cas.write fs0).length < 161280)
    (hl : ∀ f ∈ fs0, f.data.length ≤ 65535)
    (hd : fs.get? d = none) (hc2 : fs.get? c2 = none) (hne : c2 ≠ d)
    (hw : Dsk.write Gen.granuleFillOrder (fs0.map Cas.norm) = .ok img) :
    let r1 := utilMain fs { host := c1, toDsk := some d }
    let r2 := utilMain r1.fs { host := d, toCas := some c2 }
    r1.exit = 0 ∧ r2.exit = 0 ∧
    r2.fs.get? c1 = some (Cas.write fs0) ∧ r2.fs.get? d = some img ∧
    Dsk.list img = .ok ((fs0.map Cas.norm).map Dsk.norm) ∧
    r2.fs.get? c2 = some (Cas.write ((fs0.map Cas.norm).map Dsk.norm)) ∧
    Cas.list (Cas.write ((fs0.map Cas.norm).map Dsk.norm))
      = .ok (fs0.map (fun f => Cas.norm (Dsk.norm (Cas.norm f)))) := by
  obtain ⟨ha, hv, hK⟩ := hok
  have hvD := validD_map_casNorm hv ha hl
  have hok2 : CasOK ((fs0.map Cas.norm).map Dsk.norm) := by
    apply casOK_map_dskNorm hvD
    intro g hg hnil
    obtain ⟨f, hf, rfl⟩ := List.mem_map.mp hg
    have := hK f hf
    rw [show (Cas.norm f).data = f.data from rfl] at hnil
    simp [K_C06_emptyData, hnil] at this
  obtain ⟨hc2', g1, g2, g3⟩ :=
    FS.get?_set_set img (Cas.write ((fs0.map Cas.norm).map Dsk.norm)) h1 hd hc2 hne
  have e1 : utilMain fs { host := c1, toDsk := some d } = { exit := 0, fs := fs.set d img } :=
    C16_to_dsk fs _ _ (fs0.map Cas.norm) .cassette d img h1 (sniff_written_cassette fs0 ha hv hK hlen) rfl rfl rfl hd
      (by rw [filter_selected_none]; exact hw)
  have e2 := C16_to_cas (fs.set d img) { host := d, toCas := some c2 } img _ .disk c2
    (FS.get?_set_same _ _ _) (sniff_written_disk validOrder_default hvD hw) rfl rfl rfl hc2'
  rw [filter_selected_none] at e2
  intro r1 r2
  have hr1 : r1 = { exit := 0, fs := fs.set d img } := e1
  have hr2 : r2 = { exit := 0, fs := (fs.set d img).set c2 (Cas.write ((fs0.map Cas.norm).map Dsk.norm)) } := by
    show utilMain r1.fs _ = _
    rw [hr1]; exact e2
  rw [hr1, hr2]
  refine ⟨rfl, rfl, g1, g2, (Dsk.Holds.write validOrder_default hvD hw).list, g3, ?_⟩
  rw [C06_roundtrip_partial _ hok2.1 hok2.2.1 hok2.2.2, List.map_map, List.map_map]
  rfl

/-- … hence, for names without blanks: the same files up to letter case (and the addresses of non-ML files) -/
theorem C16_chain_result (fs0 : List CFile) (hs : ∀ f ∈ fs0, NoSpace f) :
    fs0.map (fun f => Cas.norm (Dsk.norm (Cas.norm f))) =
      fs0.map (fun f => { Cas.norm f with name := (Cas.padName f.name).map padCh,
                                           load := if f.ftype = 2 then f.load else 0,
                                           exec := if f.ftype = 2 then f.exec else 0 }) :=
  List.map_congr_left (fun f hf => chain_file f (hs f hf))

/-- … and upper-case machine-language files come back exactly as the first cassette lists them -/
theorem C16_chain_identity (fs0 : List CFile)
    (hup : ∀ f ∈ fs0, (∀ c ∈ f.name, padCh c = c ∧ c ≠ 0x20) ∧ f.ftype = 2) :
    fs0.map (fun f => Cas.norm (Dsk.norm (Cas.norm f))) = fs0.map Cas.norm :=
  List.map_congr_left (fun f hf => chain_file_fixed f (hup f hf).1 (hup f hf).2)

/-- **disk → cassette → disk** with `file_util` (no `--files`). Exclusions: E1 on every file, G1 on the
intermediate cassette; the second disk write must succeed. -/
theorem C16_chain_dsk_cas_dsk (fs : FS) (d1 c d2 : Path) (fs0 : List CFile) (img1 img2 : Bytes)
    (h1 : fs.get? d1 = some img1) (hw1 : Dsk.write Gen.granuleFillOrder fs0 = .ok img1)
    (hv : ∀ f ∈ fs0, ValidDFile f) (hE1 : ∀ f ∈ fs0, f.data ≠ [])
    (hlen : (Cas.write (fs0.map Dsk.norm)).length < 161280)
    (hc : fs.get? c = none) (hd2 : fs.get? d2 = none) (hne : d2 ≠ c)
    (hw2 : Dsk.write Gen.granuleFillOrder ((fs0.map Dsk.norm).map Cas.norm) = .ok img2) :
    let r1 := utilMain fs { host := d1, toCas := some c }
    let r2 := utilMain r1.fs { host := c, toDsk := some d2 }
    r1.exit = 0 ∧ r2.exit = 0 ∧
    r2.fs.get? d1 = some img1 ∧ r2.fs.get? c = some (Cas.write (fs0.map Dsk.norm)) ∧
    r2.fs.get? d2 = some img2 ∧
    Dsk.list img2 = .ok (fs0.map (fun f => Dsk.norm (Cas.norm (Dsk.norm f)))) ∧
    Spec.DiskBasic.Fsck img2 := by
  have hok1 := casOK_map_dskNorm hv hE1
  have hvD := validD_map_casNorm hok1.2.1 hok1.1 (fun g hg => by
    obtain ⟨f, hf, rfl⟩ := List.mem_map.mp hg
    exact (hv f hf).2.2.2.2.2.2.2)
  obtain ⟨hd2', g1, g2, g3⟩ := FS.get?_set_set (Cas.write (fs0.map Dsk.norm)) img2 h1 hc hd2 hne
  have e1 := C16_to_cas fs { host := d1, toCas := some c } img1 _ .disk c h1
    (sniff_written_disk validOrder_default hv hw1) rfl rfl rfl hc
  rw [filter_selected_none] at e1
  have e2 : utilMain (fs.set c (Cas.write (fs0.map Dsk.norm))) { host := c, toDsk := some d2 } =
      { exit := 0, fs := (fs.set c (Cas.write (fs0.map Dsk.norm))).set d2 img2 } :=
    C16_to_dsk _ _ _ ((fs0.map Dsk.norm).map Cas.norm) .cassette d2 img2 (FS.get?_set_same _ _ _)
      (sniff_written_cassette _ hok1.1 hok1.2.1 hok1.2.2 hlen) rfl rfl rfl hd2' (by rw [filter_selected_none]; exact hw2)
  intro r1 r2
  have hr1 : r1 = { exit := 0, fs := fs.set c (Cas.write (fs0.map Dsk.norm)) } := e1
  have hr2 : r2 = { exit := 0, fs := (fs.set c (Cas.write (fs0.map Dsk.norm))).set d2 img2 } := by
    show utilMain r1.fs _ = _
    rw [hr1]; exact e2
  rw [hr1, hr2]
  have h := Dsk.Holds.write validOrder_default hvD hw2
  refine ⟨rfl, rfl, g1, g2, g3, ?_, h.fsck.1⟩
  rw [h.list, List.map_map, List.map_map]
  rfl

/-- … every file comes back as the first disk lists it, except for the extension (a cassette stores none) -/
theorem C16_chain_dcd_result (fs0 : List CFile) :
    fs0.map (fun f => Dsk.norm (Cas.norm (Dsk.norm f))) =
      fs0.map (fun f => { Dsk.norm f with ext := if f.ftype = 2 then [66, 73, 78] else [66, 65, 83] }) :=
  List.map_congr_left (fun f _ => chain_dcd_file f)

/-- conversions of a source image that opens (`sniff src = ok (files, k)`) -/
def ConvOK : Prop :=
  (∀ (fs : FS) (args : UtilArgs) (src : Bytes) (files : List CFile) (k : Kind) (p : Path),
     fs.get? args.host = some src → sniff src = .ok (files, k) →
     args.toCas = some p → args.toDsk = none → args.toBin = none → fs.get? p = none →
       utilMain fs args = { exit := 0, fs := fs.set p (Cas.write (files.filter (selected args.files))) }) ∧
  (∀ (fs : FS) (args : UtilArgs) (src : Bytes) (files : List CFile) (k : Kind) (p : Path) (img : Bytes),
     fs.get? args.host = some src → sniff src = .ok (files, k) →
     args.toCas = none → args.toDsk = some p → args.toBin = none → fs.get? p = none →
     Dsk.write Gen.granuleFillOrder (files.filter (selected args.files)) = .ok img →
       utilMain fs args = { exit := 0, fs := fs.set p img }) ∧
  (∀ (fs : FS) (args : UtilArgs) (src : Bytes) (files : List CFile) (k : Kind) (p : Path),
     fs.get? args.host = some src → sniff src = .ok (files, k) →
     args.toCas = none → args.toDsk = none → args.toBin = some p →
       (files.length > 1 → utilMain fs args = { exit := 1, fs := fs }) ∧
       (∀ f, files = [f] → fs.get? p = none → selected args.files f = true →
          utilMain fs args = { exit := 0, fs := fs.set p f.data })) ∧
  (∀ (names : List (List Char)) (f : CFile),
     selected (some names) f = selected (some (names.map upperS)) f)

/-- cassette → disk → cassette for the files `fs0` -/
def ChainCDC (fs0 : List CFile) : Prop :=
  ∀ (fs : FS) (c1 d c2 : Path) (img : Bytes),
    fs.get? c1 = some (Cas.write fs0) → fs.get? d = none → fs.get? c2 = none → c2 ≠ d →
    Dsk.write Gen.granuleFillOrder (fs0.map Cas.norm) = .ok img →
      let r1 := utilMain fs { host := c1, toDsk := some d }
      let r2 := utilMain r1.fs { host := d, toCas := some c2 }
      r1.exit = 0 ∧ r2.exit = 0 ∧ r2.fs.get? c1 = some (Cas.write fs0) ∧
      ∃ b, r2.fs.get? c2 = some b ∧
        Cas.list b = .ok (fs0.map (fun f => Cas.norm (Dsk.norm (Cas.norm f))))

/-- the chain statement on its own, at full strength -/
def C16_chain_Statement : Prop :=
  ∀ fs0 : List CFile, (∀ f ∈ fs0, AsciiName f.name) → (∀ f ∈ fs0, ValidFile f) →
    (∀ f ∈ fs0, f.data.length ≤ 65535) → ChainCDC fs0

/-- **C16** at full strength -/
def C16_Statement : Prop := ConvOK ∧ C16_chain_Statement

theorem C16_conv : ConvOK :=
  ⟨C16_to_cas, C16_to_dsk, C16_to_bin, C16_selected_upper⟩

/-- **C16_partial**: the conversions as stated; the chain under the exclusions E1 (`K_C06_emptyData`) and G1
(`K_C09_bigCassette`) on the source cassette. -/
theorem C16_partial :
    ConvOK ∧
    (∀ fs0 : List CFile, (∀ f ∈ fs0, AsciiName f.name) → (∀ f ∈ fs0, ValidFile f) →
      (∀ f ∈ fs0, f.data.length ≤ 65535) →
      (∀ f ∈ fs0, K_C06_emptyData f.data = false) → K_C09_bigCassette (Cas.write fs0) = false →
        ChainCDC fs0) := by
  refine ⟨C16_conv, ?_⟩
  intro fs0 ha hv hl hK hG fs c1 d c2 img h1 hd hc2 hne hw
  have hlen : (Cas.write fs0).length < 161280 := by simpa [K_C09_bigCassette] using hG
  obtain ⟨e1, e2, e3, _, _, e6, e7⟩ :=
    C16_chain_cas_dsk_cas fs c1 d c2 fs0 img h1 ⟨ha, hv, hK⟩ hlen hl hd hc2 hne hw
  exact ⟨e1, e2, e3, _, e6, e7⟩

/-- non-vacuity: a source that opens (a written cassette), a fresh target, and the run succeeds -/
example (h p : Path) (hne : h ≠ p) :
    (utilMain [(h, Cas.write [demoFile])] { host := h, toCas := some p }).exit = 0 := by
  have hs : sniff (Cas.write [demoFile]) = .ok ([demoFile].map Cas.norm, .cassette) :=
    sniff_written_cassette [demoFile]
      (by intro f hf; simp at hf; subst hf; simp [AsciiName, demoFile])
      (by intro f hf; simp at hf; subst hf; simp [ValidFile, demoFile])
      (by intro f hf; simp at hf; subst hf; simp [K_C06_emptyData, demoFile])
      (by decide +kernel)
  have h1 : FS.get? [(h, Cas.write [demoFile])] h = some (Cas.write [demoFile]) := by
    unfold FS.get?; rw [List.find?_cons_of_pos (by simp)]; rfl
  have h2 : FS.get? [(h, Cas.write [demoFile])] p = none := by
    unfold FS.get?; rw [List.find?_cons_of_neg (by simpa using hne)]; rfl
  rw [C16_to_cas _ { host := h, toCas := some p } _ _ _ p h1 hs rfl rfl rfl h2]

end CoCo.Props
