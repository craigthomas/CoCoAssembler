/-
C18-R2 (renaming), end to end at the level of parsed statements: "consistently renaming labels (to names that are not
register names) changes no emitted byte, address or symbol value."

`renameStmt` renames the label, the symbols of the operand value and the symbols in the TEXT of an index left part
(`LDA TABLE,X`, `[L+1,Y]`, `LEAX L,PCR` keep that part as text until `resolve_symbols` parses it again); it leaves the
operand text alone.  `C18_R2_back`, and `C18_R2_full` in plain terms (`SameButNames`): `back` commutes with it for a renaming
that satisfies `RenOK` (`renOKb` is a sufficient Boolean check), by `Rename.back_rn`.  The elements of FCB / FDB lists that
are symbols or expressions are evaluated from the operand TEXT (`evalLists`): these two theorems therefore ask
`NoPendingLists` (lists of literals) as well; `C18_R2_back_text`, `C18_R2_full_text` rename the operand texts too (`txt`:
what parsing a renamed source gives), ask `TxtOK` instead and cover jump tables.  `C18_R2_text_check` is about two parsed
statement lists that pass the Boolean check `renamedTextB`; source texts are reached only in the evaluated witnesses.
`C18_R2_Statement` of Props/C18.lean is false (`C18_R2_Statement_false`).

Not covered: an evaluated list element that is `A`, `B` or `D` (a label of that name inside a list: `renameLeftText` leaves
these alone) or outside `SimpleLeft`; a closed-form text-level theorem (`parseLine` of a textually renamed line for every
operand syntax) — the text level is reached through the check `renamedTextB`; index left parts outside `SimpleLeft` (a
mode prefix `<`, `>`, `#` before a symbol, an operand of an expression that is not a symbol, a decimal up to 65535 or `$`
with one to four hex digits).
-/
import CoCoVerif.Lemmas.RenameBack
import CoCoVerif.Lemmas.RenameText
import CoCoVerif.Props.C18

namespace CoCo.Props
open CoCo CoCo.Asm

/-- the renaming of symbols `ρ` acting on symbol names and on the text of an index left part; `txt` acts on the operand
text, which only the listing, the register lists of PSHS/EXG and NAM read -/
def textRen (ρ txt : Str → Str) : Rename.Ren := ⟨ρ, Rename.renameLeftText ρ, txt⟩

def symRen (ρ : Str → Str) : Rename.Ren := textRen ρ id

/-- `s` with its labels renamed: the label (if there is one), the symbols in the operand value and in the text of an
index left part. Row, mnemonic, comment, operand text, listing text and the (still empty) code package are untouched. -/
def renameStmt (ρ : Str → Str) (s : Stmt) : Stmt := Rename.renameStmt (symRen ρ) s

/-- the renaming of values that `renameStmt` applies (`renameValue` of `Props/C18.lean`, except that the left part of a
`left,right` pair is renamed as text) -/
abbrev rnV (ρ : Str → Str) : Value → Value := Rename.rnValue (symRen ρ)

theorem renameStmt_label (ρ : Str → Str) (s : Stmt) :
    (renameStmt ρ s).label = if s.label = [] then [] else ρ s.label := rfl
theorem renameStmt_row (ρ : Str → Str) (s : Stmt) : (renameStmt ρ s).row = s.row := rfl
theorem renameStmt_mnemonic (ρ : Str → Str) (s : Stmt) : (renameStmt ρ s).mnemonic = s.mnemonic := rfl
theorem renameStmt_comment (ρ : Str → Str) (s : Stmt) : (renameStmt ρ s).comment = s.comment := rfl
theorem renameStmt_origText (ρ : Str → Str) (s : Stmt) : (renameStmt ρ s).origText = s.origText := rfl
theorem renameStmt_pkg (ρ : Str → Str) (s : Stmt) : (renameStmt ρ s).pkg = s.pkg := rfl
theorem renameStmt_kind (ρ : Str → Str) (s : Stmt) : (renameStmt ρ s).operand.kind = s.operand.kind := rfl
theorem renameStmt_text (ρ : Str → Str) (s : Stmt) : (renameStmt ρ s).operand.text = s.operand.text := rfl
theorem renameStmt_right (ρ : Str → Str) (s : Stmt) : (renameStmt ρ s).operand.right = s.operand.right := rfl
theorem renameStmt_value (ρ : Str → Str) (s : Stmt) : (renameStmt ρ s).operand.value = rnV ρ s.operand.value := rfl
theorem renameStmt_left_text (ρ : Str → Str) (s : Stmt) (l : Str) (h : s.operand.left = .text l) :
    (renameStmt ρ s).operand.left = .text (Rename.renameLeftText ρ l) := by
  show Rename.rnSide (symRen ρ) s.operand.left = _
  rw [h]; rfl

theorem rnValue_textRen (ρ txt : Str → Str) : ∀ (v : Value), Rename.rnValue (textRen ρ txt) v = rnV ρ v
  | .expr l r op m ae => by
    show Value.expr _ _ op m ae = Value.expr _ _ op m ae
    rw [rnValue_textRen ρ txt l, rnValue_textRen ρ txt r]
  | .symbol _ _ | .leftRight _ _ _ | .none | .pyNone | .numeric _ _ _ _ | .address _ _ | .str _ | .multiByte _
  | .multiWord _ => rfl

/-- no statement of `ss` reaches the evaluation of the FCB / FDB lists (`evalLists`; `Rename.preLists ss` are the
statements at that point) with a byte / word list in its operand field that has a symbol or an expression among the
elements of its operand text (`Rename.litElems`: no element is `pendingAt` width 2 or 4). `noPendingListsB` is the
executable form. -/
def NoPendingLists (ss : List Stmt) : Prop :=
  ∀ x, Rename.preLists ss = some x → ∀ s ∈ x, Rename.isList s.pkg.additional = true →
    Rename.litElems s.operand.text = true

/-- the elements of the FCB / FDB lists that the list pass evaluates (symbols, expressions:
`Rename.pendingAny`) are simple: not `A` / `B` / `D`, one of the shapes `SimpleLeft` (a symbol, `atom op atom`), and the new
names in them are symbols again (`Rename.ElemSimple`). `preLists ss` are the statements as they reach the list pass.
`listsSimpleB` is the executable form. A program with `NoPendingLists` satisfies it trivially (`listsSimple_of_noPending`). -/
def ListsSimple (ρ : Str → Str) (ss : List Stmt) : Prop :=
  ∀ x, Rename.preLists ss = some x → ∀ s ∈ x, Rename.isList s.pkg.additional = true →
    ∀ e ∈ listElems s.operand.text, Rename.ElemSimple ρ e

theorem listsSimple_of_noPending (ρ : Str → Str) {ss : List Stmt} (h : NoPendingLists ss) : ListsSimple ρ ss := by
  intro x hx s hs hl e he hp
  rw [Rename.litElems_any (h x hx s hs hl) e he] at hp
  cases hp

/-- the names that occur in `ss`: labels, symbols in operands, symbols in index left parts (`Rename.progNames`), and
the symbols in the elements of FCB / FDB lists (`Rename.listNames`) -/
def allNames (ss : List Stmt) : List Str := Rename.progNames ss ++ Rename.listNames ss

/-- what C18-R2 asks of the renaming `ρ` of the program `ss`:
* `inj` — two names that occur in `ss` (labels, symbols in operands, symbols in index left parts, symbols in the
  elements of FCB / FDB lists: `allNames`) are not renamed to the same name;
* `label` — a renamed label is still a label;
* `left` — the text of an index left part (`TABLE` in `LDA TABLE,X`) is one of the shapes `SimpleLeft` (empty, `A`/`B`/`D`,
  a symbol, a number, `atom op atom`, …), the statement is not an FCC, and the new names in it are symbols again and
  not `A`, `B`, `D` unless the old one was;
* `lists` — `ListsSimple ρ ss`: an element of an FCB / FDB LIST that is a symbol
  or an expression is simple, its new names are symbols. Such elements are evaluated from the operand TEXT
  (`evalLists`), which `renameStmt` does not rename: the theorems about `renameStmt` ask `NoPendingLists ss` in
  addition, those with a renaming `txt` of the texts ask `TxtOK` (the texts of the lists renamed element-wise) -/
structure RenOK (ρ : Str → Str) (ss : List Stmt) : Prop where
  inj : Rename.InjOn ρ (allNames ss)
  label : ∀ s ∈ ss, s.label ≠ [] → ρ s.label ≠ []
  left : ∀ s ∈ ss, ∀ l, s.operand.left = .text l →
    s.row.isStringDefine = false ∧ Rename.SimpleLeft l = true ∧ ∀ x ∈ Rename.leftNames l, Rename.GoodName x (ρ x)
  lists : ListsSimple ρ ss

/-- a renaming of operand texts must leave the register lists of PSHS / PULS / EXG / TFR alone, and rename the
texts of the FCB / FDB lists element by element: an element that the list pass evaluates (a symbol, an expression) is
renamed like an index left part (`renameLeftText`), a literal is left alone (`Rename.renameElemText`) -/
def TxtOK (ρ txt : Str → Str) (ss : List Stmt) : Prop :=
  (∀ s ∈ ss, s.operand.kind = .special → txt s.operand.text = s.operand.text) ∧
  ∀ x, Rename.preLists ss = some x → ∀ s ∈ x, Rename.isList s.pkg.additional = true →
    listElems (txt s.operand.text) = (listElems s.operand.text).map (Rename.renameElemText ρ)

/-- lists of literals, texts left alone: an instance of the clause about lists -/
theorem txtOK_of_noPending {ρ txt : Str → Str} {ss : List Stmt} (hl : NoPendingLists ss)
    (h1 : ∀ s ∈ ss, s.operand.kind = .special → txt s.operand.text = s.operand.text)
    (h2 : ∀ x, Rename.preLists ss = some x → ∀ s ∈ x, Rename.isList s.pkg.additional = true →
      txt s.operand.text = s.operand.text) : TxtOK ρ txt ss :=
  ⟨h1, fun x hx s hs hli => by rw [h2 x hx s hs hli, Rename.map_renameElem_lit ρ (hl x hx s hs hli)]⟩

/-- the clause about lists with `renameLeftText` on EVERY element ("the operand text renamed element-wise"): the same
when all the elements have one of the shapes `SimpleLeft` (a literal of these shapes has no symbol in it) -/
theorem txtOK_of_leftText {ρ txt : Str → Str} {ss : List Stmt}
    (h1 : ∀ s ∈ ss, s.operand.kind = .special → txt s.operand.text = s.operand.text)
    (hsimple : ∀ x, Rename.preLists ss = some x → ∀ s ∈ x, Rename.isList s.pkg.additional = true →
      ∀ e ∈ listElems s.operand.text, Rename.SimpleLeft e = true)
    (h2 : ∀ x, Rename.preLists ss = some x → ∀ s ∈ x, Rename.isList s.pkg.additional = true →
      listElems (txt s.operand.text) = (listElems s.operand.text).map (Rename.renameLeftText ρ)) : TxtOK ρ txt ss :=
  ⟨h1, fun x hx s hs hl => by rw [h2 x hx s hs hl, Rename.map_renameElem_simple ρ (hsimple x hx s hs hl)]⟩

theorem txtOK_id (ρ : Str → Str) {ss : List Stmt} (hl : NoPendingLists ss) : TxtOK ρ id ss :=
  txtOK_of_noPending hl (fun _ _ _ => rfl) (fun _ _ _ _ _ => rfl)

theorem RenOK.listsOK {ρ txt : Str → Str} {ss : List Stmt} (h : RenOK ρ ss) (ht : TxtOK ρ txt ss) :
    Rename.ListsOK (textRen ρ txt) (allNames ss) ss :=
  fun x hx s hs hl => Rename.listRn_simple ρ (textRen ρ txt) rfl (allNames ss) (ht.2 x hx s hs hl)
    (h.lists x hx s hs hl)
    (fun _ he _ hy => List.mem_append.mpr (.inr (Rename.mem_listNames hx hs hl he hy)))

/-- with lists of literals, injectivity on `progNames` is enough -/
theorem RenOK.of_noPending {ρ : Str → Str} {ss : List Stmt} (inj : Rename.InjOn ρ (Rename.progNames ss))
    (label : ∀ s ∈ ss, s.label ≠ [] → ρ s.label ≠ [])
    (left : ∀ s ∈ ss, ∀ l, s.operand.left = .text l →
      s.row.isStringDefine = false ∧ Rename.SimpleLeft l = true ∧ ∀ x ∈ Rename.leftNames l, Rename.GoodName x (ρ x))
    (lists : NoPendingLists ss) : RenOK ρ ss := by
  refine ⟨?_, label, left, listsSimple_of_noPending ρ lists⟩
  have hn := Rename.listNames_lit lists
  intro x hx y hy
  rcases List.mem_append.mp hx with hx | hx
  · rcases List.mem_append.mp hy with hy | hy
    · exact inj x hx y hy
    · exact absurd hy (hn y)
  · exact absurd hx (hn x)

theorem RenOK.stmtOK {ρ txt : Str → Str} {ss : List Stmt} (h : RenOK ρ ss) (ht : TxtOK ρ txt ss) :
    ∀ s ∈ ss, Rename.StmtOK (textRen ρ txt) s := by
  intro s hs
  refine ⟨?_, ht.1 s hs, h.label s hs⟩
  cases hl : s.operand.left with
  | text l =>
    obtain ⟨h1, h2, h3⟩ := h.left s hs l hl
    exact Rename.leftOK_simple ρ (textRen ρ txt) rfl rfl s.row h1 h2 h3
  | _ => trivial

/-- a uniform, stronger form of the side conditions: every name that occurs is renamed to a symbol, no name but `A`,
`B`, `D` to one of these, injectively; index left parts are simple -/
theorem RenOK.of_uniform {ρ : Str → Str} {ss : List Stmt} (hinj : Rename.InjOn ρ (Rename.progNames ss))
    (hgood : ∀ x ∈ Rename.progNames ss, Rename.GoodName x (ρ x))
    (hleft : ∀ s ∈ ss, ∀ l, s.operand.left = .text l → s.row.isStringDefine = false ∧ Rename.SimpleLeft l = true)
    (hlists : NoPendingLists ss) :
    RenOK ρ ss :=
  RenOK.of_noPending hinj (label_left_of_good hgood hleft).1 (label_left_of_good hgood hleft).2 hlists

/-- `RenOK.of_uniform` with jump tables: every name that occurs (list elements included) is renamed to a symbol, no name
but `A`, `B`, `D` to one of these, injectively; index left parts and the evaluated list elements are simple -/
theorem RenOK.of_uniform_lists {ρ : Str → Str} {ss : List Stmt} (hinj : Rename.InjOn ρ (allNames ss))
    (hgood : ∀ x ∈ allNames ss, Rename.GoodName x (ρ x))
    (hleft : ∀ s ∈ ss, ∀ l, s.operand.left = .text l → s.row.isStringDefine = false ∧ Rename.SimpleLeft l = true)
    (hlists : ∀ x, Rename.preLists ss = some x → ∀ s ∈ x, Rename.isList s.pkg.additional = true →
      ∀ e ∈ listElems s.operand.text, Rename.pendingAny e = true → isABD e = false ∧ Rename.SimpleLeft e = true) :
    RenOK ρ ss := by
  obtain ⟨h1, h2⟩ := label_left_of_good (fun x hx => hgood x (List.mem_append.mpr (.inl hx))) hleft
  refine ⟨hinj, h1, h2, fun x hx s hs hl e he hp => ?_⟩
  obtain ⟨h3, h4⟩ := hlists x hx s hs hl e he hp
  exact ⟨h3, h4, fun y hy => hgood y
    (List.mem_append.mpr (.inr (Rename.mem_listNames hx hs hl he (by simp [Rename.elemNames, hp, hy]))))⟩

/-- C18-R2 for the back end, the operand texts renamed by `txt` as well (what parsing a renamed source gives) -/
theorem C18_R2_back_text (ρ txt : Str → Str) (ss : List Stmt) (h : RenOK ρ ss) (ht : TxtOK ρ txt ss) :
    back (ss.map (Rename.renameStmt (textRen ρ txt))) = (back ss).map (Rename.rnAssembly (textRen ρ txt)) :=
  Rename.back_rn ss (allNames ss) h.inj
    (fun s hs x hx => List.mem_append.mpr (.inl (List.mem_flatMap.mpr ⟨s, hs, hx⟩))) (h.stmtOK ht) (h.listsOK ht)

/-- C18-R2 for the back end: renaming the statements renames the assembly and nothing else. (`renameStmt` leaves the
operand texts alone, hence `NoPendingLists`: with a jump table `FDB L1,L2` use `C18_R2_back_text`.) -/
theorem C18_R2_back (ρ : Str → Str) (ss : List Stmt) (h : RenOK ρ ss) (hl : NoPendingLists ss) :
    back (ss.map (renameStmt ρ)) = (back ss).map (Rename.rnAssembly (symRen ρ)) :=
  C18_R2_back_text ρ id ss h (txtOK_id ρ hl)

/-- what the renamed assembly `a'` has in common with `a` -/
def SameButNames (ρ : Str → Str) (a a' : Assembly) : Prop :=
  a'.stmts.length = a.stmts.length ∧
  (∀ (i : Nat) (s s' : Stmt), a.stmts[i]? = some s → a'.stmts[i]? = some s' →
    s'.pkg = { s.pkg with additional := rnV ρ s.pkg.additional } ∧
    (Rename.nameFree s.pkg.additional = true → s'.pkg = s.pkg) ∧
    s'.pkg.address = s.pkg.address ∧ s'.pkg.size = s.pkg.size ∧ stmtBytes s' = stmtBytes s ∧
    s'.row = s.row ∧ s'.label = (if s.label = [] then [] else ρ s.label)) ∧
  a'.image = a.image ∧ a'.origin = a.origin ∧
  a'.symtab = a.symtab.map (fun kv => (ρ kv.1, rnV ρ kv.2)) ∧
  (∀ k v, (k, v) ∈ a.symtab → v.isNumeric = true → (ρ k, v) ∈ a'.symtab)

theorem sameButNames_rnAssembly (ρ txt : Str → Str) {ss : List Stmt} {a : Assembly} (ha : back ss = .ok a) :
    SameButNames ρ a (Rename.rnAssembly (textRen ρ txt) a) := by
  refine ⟨by simp [Rename.rnAssembly], ?_, Rename.image_rn a, ?_, ?_, ?_⟩
  · intro i s s' hs hs'
    have hmem : s ∈ a.stmts := List.mem_of_getElem? hs
    have haddr := Rename.back_addr_numeric ha s hmem
    have e : s' = Rename.rnStmt (textRen ρ txt) s := by
      have : (Rename.rnAssembly (textRen ρ txt) a).stmts[i]? = some (Rename.rnStmt (textRen ρ txt) s) := by
        simp [Rename.rnAssembly, hs]
      rw [this] at hs'
      exact (Option.some.inj hs').symm
    subst e
    have hpkg : (Rename.rnStmt (textRen ρ txt) s).pkg = { s.pkg with additional := rnV ρ s.pkg.additional } := by
      show Rename.rnPkg (textRen ρ txt) s.pkg = _
      simp only [Rename.rnPkg, Rename.rnValue_of_numeric haddr, rnValue_textRen]
    refine ⟨hpkg, ?_, ?_, rfl, Rename.stmtBytes_rn s, rfl, rfl⟩
    · intro hnf
      rw [hpkg, show rnV ρ s.pkg.additional = s.pkg.additional from Rename.rnValue_nameFree hnf]
    · rw [hpkg]
  · show Rename.rnValue (textRen ρ txt) a.origin = a.origin
    rcases Rename.back_origin_numeric ha with h0 | h0
    · rw [h0]; rfl
    · exact Rename.rnValue_of_numeric h0
  · show Rename.rnTab (textRen ρ txt) a.symtab = _
    unfold Rename.rnTab
    apply List.map_congr_left
    intro kv _
    show (ρ kv.1, Rename.rnValue (textRen ρ txt) kv.2) = _
    rw [rnValue_textRen]
  · intro k v hkv hn
    show (ρ k, v) ∈ Rename.rnTab (textRen ρ txt) a.symtab
    have : (ρ k, v) = (fun kv : Str × Value => ((textRen ρ txt).sym kv.1, Rename.rnValue (textRen ρ txt) kv.2)) (k, v) := by
      show (ρ k, v) = (ρ k, Rename.rnValue (textRen ρ txt) v)
      rw [Rename.rnValue_of_numeric hn]
    rw [this]
    exact List.mem_map_of_mem hkv

/-- C18-R2 in plain terms, the operand texts renamed by `txt` as well -/
theorem C18_R2_full_text (ρ txt : Str → Str) (ss : List Stmt) (h : RenOK ρ ss) (ht : TxtOK ρ txt ss) :
    (back (ss.map (Rename.renameStmt (textRen ρ txt)))).kind = (back ss).kind ∧
    ∀ a, back ss = .ok a →
      ∃ a', back (ss.map (Rename.renameStmt (textRen ρ txt))) = .ok a' ∧ SameButNames ρ a a' ∧
        a'.name = a.name.map txt := by
  have hb := C18_R2_back_text ρ txt ss h ht
  refine ⟨by rw [hb]; cases back ss <;> rfl, ?_⟩
  intro a ha
  rw [ha] at hb
  exact ⟨_, hb, sameButNames_rnAssembly ρ txt ha, rfl⟩

/-- C18-R2 in plain terms. For a renaming `ρ` that satisfies `RenOK` on the statements `ss`, the FCB / FDB lists of `ss`
holding literals only (`NoPendingLists`; lists with symbols: `C18_R2_full_text`):
the renamed program has the same kind of outcome; when `ss` assembles to `a`, the renamed statements assemble to an
`a'` with (`SameButNames`) the same number of statements and, statement by statement, the same code package but for the
names left in the operand field (`s'.pkg.additional = rnV ρ s.pkg.additional`; equal packages when there are none),
hence the same op code, post byte, size, ADDRESS and BYTES; the image and the origin are the same; the symbol table has
the renamed keys and the values `rnV ρ v` — the same numbers. -/
theorem C18_R2_full (ρ : Str → Str) (ss : List Stmt) (h : RenOK ρ ss) (hl : NoPendingLists ss) :
    (back (ss.map (renameStmt ρ))).kind = (back ss).kind ∧
    ∀ a, back ss = .ok a →
      ∃ a', back (ss.map (renameStmt ρ)) = .ok a' ∧ SameButNames ρ a a' ∧ a'.name = a.name := by
  obtain ⟨h1, h2⟩ := C18_R2_full_text ρ id ss h (txtOK_id ρ hl)
  refine ⟨h1, ?_⟩
  intro a ha
  obtain ⟨a', h3, h4, h5⟩ := h2 a ha
  refine ⟨a', h3, h4, ?_⟩
  rw [h5]; cases a.name <;> rfl

theorem SameButNames.symtab_numeric {ρ : Str → Str} {a a' : Assembly} (h : SameButNames ρ a a')
    (hnum : ∀ kv ∈ a.symtab, kv.2.isNumeric = true) : a'.symtab = a.symtab.map (fun kv => (ρ kv.1, kv.2)) := by
  rw [h.2.2.2.2.1]
  apply List.map_congr_left
  intro kv hkv
  show (ρ kv.1, Rename.rnValue (symRen ρ) kv.2) = (ρ kv.1, kv.2)
  rw [Rename.rnValue_of_numeric (hnum kv hkv)]

/-- when the symbol table of `a` holds numbers only (labels, EQUs that could be evaluated), the renamed table is the old
one with renamed keys -/
theorem C18_R2_symtab (ρ : Str → Str) (ss : List Stmt) (h : RenOK ρ ss) (hl : NoPendingLists ss) (a : Assembly)
    (ha : back ss = .ok a)
    (hnum : ∀ kv ∈ a.symtab, kv.2.isNumeric = true) :
    ∃ a', back (ss.map (renameStmt ρ)) = .ok a' ∧ a'.symtab = a.symtab.map (fun kv => (ρ kv.1, kv.2)) := by
  obtain ⟨a', ha', hs, _⟩ := (C18_R2_full ρ ss h hl).2 a ha
  exact ⟨a', ha', hs.symtab_numeric hnum⟩

/-- `C18_R2_back` for source programs whose expanded statement lists (`front`) are renamings of each other; that they are
is a hypothesis -/
theorem C18_R2_assemble (ρ : Str → Str) (fs : Files) (la lb : List Str) (pa : List Stmt)
    (hfa : front fs la = .ok pa) (hfb : front fs lb = .ok (pa.map (renameStmt ρ))) (h : RenOK ρ pa)
    (hl : NoPendingLists pa) :
    assemble fs lb = (assemble fs la).map (Rename.rnAssembly (symRen ρ)) := by
  rw [assemble_eq, assemble_eq, hfa, hfb]
  exact C18_R2_back ρ pa h hl

def injOnB (f : Str → Str) (N : List Str) : Bool := N.all (fun x => N.all (fun y => f x != f y || x == y))

def goodNameB (x y : Str) : Bool := Rename.isSymName y && (isABD x || !isABD y)

def leftOKb (ρ : Str → Str) (s : Stmt) : Bool :=
  match s.operand.left with
  | .text l => !s.row.isStringDefine && Rename.SimpleLeft l && (Rename.leftNames l).all (fun x => goodNameB x (ρ x))
  | _ => true

/-- every statement that reaches the list pass with a byte / word list satisfies `p` -/
def listsAllB (ss : List Stmt) (p : Stmt → Bool) : Bool :=
  match Rename.preLists ss with
  | none => true
  | some x => x.all (fun s => !Rename.isList s.pkg.additional || p s)

theorem listsAllB_spec {ss : List Stmt} {p : Stmt → Bool} (h : listsAllB ss p = true) :
    ∀ x, Rename.preLists ss = some x → ∀ s ∈ x, Rename.isList s.pkg.additional = true → p s = true := by
  intro x hx s hs hl
  unfold listsAllB at h
  rw [hx] at h
  have := List.all_eq_true.mp h s hs
  rw [hl] at this
  simpa using this

def noPendingListsB (ss : List Stmt) : Bool := listsAllB ss (fun s => Rename.litElems s.operand.text)

theorem noPendingLists_of_check {ss : List Stmt} (h : noPendingListsB ss = true) : NoPendingLists ss :=
  listsAllB_spec h

def elemSimpleB (ρ : Str → Str) (e : Str) : Bool :=
  !Rename.pendingAny e ||
    (!isABD e && Rename.SimpleLeft e && (Rename.leftNames e).all (fun y => goodNameB y (ρ y)))

theorem goodName_of_check {x y : Str} (hg : goodNameB x y = true) : Rename.GoodName x y := by
  simp only [goodNameB, Bool.and_eq_true, Bool.or_eq_true, Bool.not_eq_true'] at hg
  refine ⟨hg.1, ?_⟩
  intro hx0
  rcases hg.2 with h | h
  · rw [hx0] at h; cases h
  · exact h

theorem elemSimple_of_check {ρ : Str → Str} {e : Str} (h : elemSimpleB ρ e = true) : Rename.ElemSimple ρ e := by
  intro hp
  simp only [elemSimpleB, hp, Bool.not_true, Bool.false_or, Bool.and_eq_true, Bool.not_eq_true',
    List.all_eq_true] at h
  exact ⟨h.1.1, h.1.2, fun y hy => goodName_of_check (h.2 y hy)⟩

def listsSimpleB (ρ : Str → Str) (ss : List Stmt) : Bool :=
  listsAllB ss (fun s => (listElems s.operand.text).all (elemSimpleB ρ))

theorem listsSimple_of_check {ρ : Str → Str} {ss : List Stmt} (h : listsSimpleB ρ ss = true) : ListsSimple ρ ss :=
  fun x hx s hs hl e he => elemSimple_of_check (List.all_eq_true.mp (listsAllB_spec h x hx s hs hl) e he)

def renOKb (ρ : Str → Str) (ss : List Stmt) : Bool :=
  injOnB ρ (allNames ss) && ss.all (fun s => (s.label.isEmpty || !(ρ s.label).isEmpty) && leftOKb ρ s) &&
    listsSimpleB ρ ss

theorem renOK_of_check {ρ : Str → Str} {ss : List Stmt} (h : renOKb ρ ss = true) : RenOK ρ ss := by
  simp only [renOKb, Bool.and_eq_true, List.all_eq_true] at h
  obtain ⟨⟨h1, h2⟩, h4⟩ := h
  refine ⟨?_, ?_, ?_, listsSimple_of_check h4⟩
  · intro x hx y hy he
    have := h1
    simp only [injOnB, List.all_eq_true, Bool.or_eq_true, bne_iff_ne, beq_iff_eq] at this
    rcases this x hx y hy with h | h
    · exact absurd he h
    · exact h
  · intro s hs hl hc
    have := (h2 s hs).1
    rw [hc] at this
    simp only [List.isEmpty_nil, Bool.not_true, Bool.or_false] at this
    cases hs' : s.label with
    | nil => exact hl hs'
    | cons c t => rw [hs'] at this; cases this
  · intro s hs l hl
    have := (h2 s hs).2
    simp only [leftOKb, hl, Bool.and_eq_true, Bool.not_eq_true', List.all_eq_true] at this
    refine ⟨this.1.1, this.1.2, ?_⟩
    intro x hx
    exact goodName_of_check (this.2 x hx)

/-! That parsing a renamed source line gives the renamed statement, with the operand TEXT renamed as well, is not proved in
general (see "Not covered" in the head of this file). For two concrete statement lists it can be checked:
`renamedTextB ρ pa pb` is a sufficient Boolean test of the side conditions (`renOKb`)
and of `pb` being `pa` renamed, the operand texts of `pb` being read off as a function of those of `pa`. -/

deriving instance DecidableEq for Value
deriving instance DecidableEq for Side
deriving instance DecidableEq for Operand
deriving instance DecidableEq for Pkg
deriving instance DecidableEq for Stmt
/-- a finite map as a function (the identity elsewhere) -/
def tableFn (t : List (Str × Str)) (x : Str) : Str := match t.find? (·.1 == x) with | some p => p.2 | none => x

/-- the operand texts of `pb` as a function of the operand texts of `pa` -/
def txtOf (pa pb : List Stmt) : Str → Str :=
  tableFn ((pa.zip pb).flatMap (fun p => [(p.1.operand.text, p.2.operand.text), (p.1.origText, p.2.origText)]))

/-- `pb` is `pa` with labels, symbols and operand texts renamed, and `ρ` satisfies the side conditions on `pa` -/
def renamedTextB (ρ : Str → Str) (pa pb : List Stmt) : Bool :=
  renOKb ρ pa && decide (pb = pa.map (Rename.renameStmt (textRen ρ (txtOf pa pb)))) &&
    pa.all (fun s => s.operand.kind != .special || txtOf pa pb s.operand.text == s.operand.text) &&
    listsAllB pa (fun s => listElems (txtOf pa pb s.operand.text)
      == (listElems s.operand.text).map (Rename.renameElemText ρ))

theorem renamedTextB_spec {ρ : Str → Str} {pa pb : List Stmt} (h : renamedTextB ρ pa pb = true) :
    RenOK ρ pa ∧ pb = pa.map (Rename.renameStmt (textRen ρ (txtOf pa pb))) ∧ TxtOK ρ (txtOf pa pb) pa := by
  simp only [renamedTextB, Bool.and_eq_true, decide_eq_true_eq, List.all_eq_true, Bool.or_eq_true, bne_iff_ne,
    beq_iff_eq] at h
  obtain ⟨⟨⟨h1, h2⟩, h3⟩, h5⟩ := h
  refine ⟨renOK_of_check h1, h2, fun s hs hk => (h3 s hs).resolve_left (fun hn => hn hk), fun x hx s hs hl => ?_⟩
  simpa using listsAllB_spec h5 x hx s hs hl

/-- C18-R2 for two statement lists that pass the check (e.g. the parsed forms of a source and of its textual renaming) -/
theorem C18_R2_text_check (ρ : Str → Str) (pa pb : List Stmt) (h : renamedTextB ρ pa pb = true) :
    (back pb).kind = (back pa).kind ∧ ∀ a, back pa = .ok a → ∃ b, back pb = .ok b ∧ SameButNames ρ a b := by
  obtain ⟨hr, h2, ht⟩ := renamedTextB_spec h
  obtain ⟨k1, k2⟩ := C18_R2_full_text ρ (txtOf pa pb) pa hr ht
  rw [← h2] at k1 k2
  refine ⟨k1, ?_⟩
  intro a ha
  obtain ⟨b, hb, hs, _⟩ := k2 a ha
  exact ⟨b, hb, hs⟩

/-! The witnesses.  A sample source `la` is evaluated by `checkProgramF`; that its renaming `lb` parses to the renamed
statements, with the side conditions, by `renamedTextB` on the two parsed forms (`parsedOf`). -/

/-- forget the texts that only the listing shows -/
def eraseText (s : Stmt) : Stmt := { s with origText := [], operand := { s.operand with text := [] } }

def parsedOf (ls : List Str) : List Stmt := match parseLines ls with | .ok p => p | _ => []

/-- `parsedOf` with the parser of Lemmas/ParseEval.lean, for evaluation -/
def parsedOfF (ls : List Str) : List Stmt := match parseLinesF ls with | .ok p => p | _ => []

theorem parsedOf_eq : parsedOf = parsedOfF := funext fun ls => by rw [parsedOf, parsedOfF, parseLines_eq]

/-- a source that parses without INCLUDE: `parsedOf` is its parsed form, and it is assembled from that -/
theorem frontOKF_parsedOf {ls : List Str} (h : frontOKF ls = true) :
    parseLines ls = .ok (parsedOf ls) ∧ ∀ fs, assemble fs ls = back (parsedOf ls) := by
  obtain ⟨p, hp, ha⟩ := frontOKF_sound h
  unfold parsedOf
  rw [hp]
  exact ⟨rfl, ha⟩

theorem checkProgramF_parts {ls : List Str} {check : Assembly → Bool} (h : checkProgramF ls check = true) :
    parseLines ls = .ok (parsedOf ls) ∧ ∃ A, back (parsedOf ls) = .ok A ∧ check A = true := by
  obtain ⟨hp, ha⟩ := frontOKF_parsedOf (checkProgramF_front h)
  obtain ⟨A, hA, hc⟩ := checkProgramF_sound h []
  exact ⟨hp, A, (ha []).symm.trans hA, hc⟩

theorem backs_of_checks {ρ : Str → Str} {la lb : List Str} {check : Assembly → Bool}
    (ha : checkProgramF la check = true) (hr : renamedTextB ρ (parsedOf la) (parsedOf lb) = true) :
    RenOK ρ (parsedOf la) ∧ ∃ A B, back (parsedOf la) = .ok A ∧ check A = true ∧ back (parsedOf lb) = .ok B ∧
      SameButNames ρ A B := by
  obtain ⟨_, A, hA, hc⟩ := checkProgramF_parts ha
  obtain ⟨B, hB, hs⟩ := (C18_R2_text_check ρ _ _ hr).2 A hA
  exact ⟨(renamedTextB_spec hr).1, A, B, hA, hc, hB, hs⟩

theorem eraseText_renameStmt (ρ txt : Str → Str) (s : Stmt) :
    eraseText (Rename.renameStmt (textRen ρ txt) s) = eraseText (renameStmt ρ s) := by
  have hl : Rename.rnSide (textRen ρ txt) s.operand.left = Rename.rnSide (symRen ρ) s.operand.left := by
    cases s.operand.left <;> simp only [Rename.rnSide, rnValue_textRen] <;> rfl
  simp only [eraseText, renameStmt, Rename.renameStmt, Rename.rnOperand, rnValue_textRen, hl]
  rfl

/-- two lists that pass the check: `pb` is `pa.map (renameStmt ρ)` up to the texts that only the listing shows -/
theorem parsed_of_renamedText {ρ : Str → Str} {pa pb : List Stmt} (h : renamedTextB ρ pa pb = true) :
    pb.map eraseText = (pa.map (renameStmt ρ)).map eraseText := by
  conv => lhs; rw [(renamedTextB_spec h).2.1]
  simp only [List.map_map]
  exact List.map_congr_left (fun s _ => eraseText_renameStmt ρ _ s)

/-- the witness program: labels in immediate, indexed-offset (`L,X`, `L+1,Y`), PCR (forward and backward), `[L,X]`, `[L]`,
extended, branch (short and long) positions, in data directives and EQUs -/
def progRA : List Str := [
  "        ORG $3000\n",
  "START   LDX #TABLE\n",
  "LOOP    LDA TABLE,X\n",
  "        LDB TABLE+1,Y\n",
  "        LEAX DATA,PCR\n",
  "        LEAY LOOP,PCR\n",
  "        LDA [PTR,X]\n",
  "        LDA [PTR]\n",
  "        STA COUNT\n",
  "        LDA #SIZE\n",
  "        ADDA #SIZE+1\n",
  "        LDA B,X\n",
  "        BNE LOOP\n",
  "        LBRA DONE\n",
  "        JMP START\n",
  "DONE    RTS\n",
  "COUNT   FCB 0\n",
  "TABLE   FDB START\n",
  "PTR     FDB TABLE+2\n",
  "DATA    FCB SIZE\n",
  "SIZE    EQU 4\n",
  "LAST    EQU DATA-START\n"].map String.toList

/-- the same program with every label renamed: names with `_` and `@`, and names that look like registers -/
def progRB : List Str := [
  "        ORG $3000\n",
  "ST_1    LDX #AB\n",
  "LOOP@   LDA AB,X\n",
  "        LDB AB+1,Y\n",
  "        LEAX DA,PCR\n",
  "        LEAY LOOP@,PCR\n",
  "        LDA [P@2,X]\n",
  "        LDA [P@2]\n",
  "        STA XY\n",
  "        LDA #PCR\n",
  "        ADDA #PCR+1\n",
  "        LDA B,X\n",
  "        BNE LOOP@\n",
  "        LBRA D_ONE\n",
  "        JMP ST_1\n",
  "D_ONE   RTS\n",
  "XY      FCB 0\n",
  "AB      FDB ST_1\n",
  "P@2     FDB AB+2\n",
  "DA      FCB PCR\n",
  "PCR     EQU 4\n",
  "_Z      EQU DA-ST_1\n"].map String.toList

def renW : List (Str × Str) :=
  [("START", "ST_1"), ("LOOP", "LOOP@"), ("DONE", "D_ONE"), ("COUNT", "XY"), ("TABLE", "AB"), ("PTR", "P@2"),
   ("DATA", "DA"), ("SIZE", "PCR"), ("LAST", "_Z")].map (fun p => (p.1.toList, p.2.toList))

/-- the renaming of the witness: the identity on every other string -/
def ρW (x : Str) : Str := match renW.find? (·.1 == x) with | some p => p.2 | none => x

def imageW : Bytes :=
  [142, 48, 44, 166, 137, 48, 44, 230, 169, 48, 45, 48, 140, 34, 49, 140, 242, 166, 153, 48, 46, 166, 159, 48, 46,
   183, 48, 43, 134, 4, 139, 5, 166, 133, 38, 223, 22, 0, 3, 126, 48, 0, 57, 0, 48, 0, 48, 46, 4]

def symtabW : SymTab :=
  [("START".toList, .numeric 12288 none .extended false), ("LOOP".toList, .numeric 12291 none .extended false),
   ("DONE".toList, .numeric 12330 none .extended false), ("COUNT".toList, .numeric 12331 none .extended false),
   ("TABLE".toList, .numeric 12332 none .extended false), ("PTR".toList, .numeric 12334 none .extended false),
   ("DATA".toList, .numeric 12336 none .extended false), ("SIZE".toList, .numeric 4 (some 4) .extended false),
   ("LAST".toList, .numeric 48 (some 4) .extended false)]

/- The derived `DecidableEq Stmt` casts along each equation of two fields (`h ▸ ·`), which the kernel checks by unfolding
both fields once more: the comparison `decide (pb = …)` of `renamedTextB` is evaluated with the derived `BEq` instead
(`Bool.beq_eq_decide_eq`).  The instances stand below every definition and statement that compares such values, so that
none of them elaborates to the derived `BEq`; the evaluations below rewrite to it explicitly. -/
deriving instance BEq, ReflBEq, LawfulBEq for Value, Side, Operand, Pkg, Stmt

/-- everything that is evaluated about the witness, in one pass (each line is parsed once). The first line: the source
assembles, to `imageW` and `symtabW`. The second: the renamed source parses and has no INCLUDE; it is not assembled
here: that it assembles, and to what, is what `C18_R2_text_check` says. The third: the parsed renamed source is the
parsed source renamed, and the side conditions hold. The last: no statement reaches the list pass as a
byte / word list with a symbol or an expression in it (`FDB START`, `FDB TABLE+2` are single values, not lists). -/
theorem progR_eval :
    checkProgramF progRA (fun a => decide (a.image = some imageW ∧ a.symtab = symtabW)) = true ∧
    frontOKF progRB = true ∧
    renamedTextB ρW (parsedOf progRA) (parsedOf progRB) = true ∧
    noPendingListsB (parsedOf progRA) = true := by
  rw [renamedTextB, ← Bool.beq_eq_decide_eq, parsedOf_eq]
  decide +kernel

/-- the textual renaming of the witness passes the check of `C18_R2_text_check`: the THEOREM applies to the two parsed
sources -/
theorem progR_renamedText : renamedTextB ρW (parsedOf progRA) (parsedOf progRB) = true := progR_eval.2.2.1

/-- the witness at the level of `back`: both texts parse, the second parses to the renaming of the first (up to the texts
that only the listing shows, `eraseText`), `RenOK` holds, both assemble to the same image, the second symbol table is the
first with renamed keys, and this is what `C18_R2_full` says about the renamed statements -/
theorem C18_R2_witness :
    ∃ A B, parseLines progRA = .ok (parsedOf progRA) ∧ parseLines progRB = .ok (parsedOf progRB) ∧
      (parsedOf progRB).map eraseText = ((parsedOf progRA).map (renameStmt ρW)).map eraseText ∧
      RenOK ρW (parsedOf progRA) ∧
      back (parsedOf progRA) = .ok A ∧ back (parsedOf progRB) = .ok B ∧
      A.image = some imageW ∧ B.image = A.image ∧ A.symtab = symtabW ∧
      B.symtab = A.symtab.map (fun kv => (ρW kv.1, kv.2)) ∧
      ∃ A', back ((parsedOf progRA).map (renameStmt ρW)) = .ok A' ∧ A'.image = B.image ∧ A'.symtab = B.symtab := by
  obtain ⟨cA, cB, hren, hnp⟩ := progR_eval
  obtain ⟨hr, A, B, hA, hc, hB, hs⟩ := backs_of_checks cA hren
  have hc := of_decide_eq_true hc
  have hnum : ∀ kv ∈ A.symtab, kv.2.isNumeric = true := by rw [hc.2]; decide
  obtain ⟨A', hA', hs', _⟩ := (C18_R2_full ρW _ hr (noPendingLists_of_check hnp)).2 A hA
  exact ⟨A, B, (checkProgramF_parts cA).1, (frontOKF_parsedOf cB).1, parsed_of_renamedText hren, hr, hA, hB, hc.1,
    hs.2.2.1, hc.2, hs.symtab_numeric hnum, A', hA', by rw [hs'.2.2.1, hs.2.2.1],
    by rw [hs'.symtab_numeric hnum, hs.symtab_numeric hnum]⟩

/-- the witness at the level of source texts -/
theorem C18_R2_witness_assemble (fs : Files) :
    ∃ A B, assemble fs progRA = .ok A ∧ assemble fs progRB = .ok B ∧ A.image = some imageW ∧ B.image = A.image ∧
      B.symtab = A.symtab.map (fun kv => (ρW kv.1, kv.2)) := by
  obtain ⟨cA, cB, hren, _⟩ := progR_eval
  obtain ⟨_, A, B, hA, hc, hB, hs⟩ := backs_of_checks cA hren
  have hc := of_decide_eq_true hc
  exact ⟨A, B, by rw [(frontOKF_parsedOf (checkProgramF_front cA)).2 fs, hA], by rw [(frontOKF_parsedOf cB).2 fs, hB],
    hc.1, hs.2.2.1, hs.symtab_numeric (by rw [hc.2]; decide)⟩

/-! The lists of this program are lists of literals: two statements reach the list pass as lists (`progLA_lists`), and
`C18_R2_text_check` applies to the parsed source and its textual renaming. -/

def progLA : List Str := [
  "        ORG $3000\n",
  "START   LDX #TAB\n",
  "        JMP START\n",
  "TAB     FCB 1,2,$FF\n",
  "WORDS   FDB 10,$1234\n"].map String.toList

def progLB : List Str := [
  "        ORG $3000\n",
  "GO      LDX #T_1\n",
  "        JMP GO\n",
  "T_1     FCB 1,2,$FF\n",
  "W@      FDB 10,$1234\n"].map String.toList

def renL : List (Str × Str) :=
  [("START", "GO"), ("TAB", "T_1"), ("WORDS", "W@")].map (fun p => (p.1.toList, p.2.toList))

def ρL (x : Str) : Str := match renL.find? (·.1 == x) with | some p => p.2 | none => x

def imageL : Bytes := [142, 48, 6, 126, 48, 0, 1, 2, 255, 0, 10, 18, 52]

theorem progL_eval :
    checkProgramF progLA (fun a => decide (a.image = some imageL)) = true ∧
    renamedTextB ρL (parsedOf progLA) (parsedOf progLB) = true ∧
    (match Rename.preLists (parsedOf progLA) with
      | some x => (x.filter (fun s => Rename.isList s.pkg.additional)).length
      | none => 0) = 2 := by
  rw [renamedTextB, ← Bool.beq_eq_decide_eq, parsedOf_eq]
  decide +kernel

/-- two statements of the witness reach the list pass as byte / word lists -/
theorem progLA_lists : (match Rename.preLists (parsedOf progLA) with
    | some x => (x.filter (fun s => Rename.isList s.pkg.additional)).length
    | none => 0) = 2 := progL_eval.2.2

/-- C18-R2 on a program with literal FCB / FDB lists: `RenOK` holds, and the parsed renamed source assembles to the same
image -/
theorem C18_R2_witness_lists :
    RenOK ρL (parsedOf progLA) ∧
    ∃ A B, back (parsedOf progLA) = .ok A ∧ back (parsedOf progLB) = .ok B ∧ SameButNames ρL A B ∧
      A.image = some imageL ∧ B.image = some imageL := by
  obtain ⟨hr, A, B, hA, hc, hB, hs⟩ := backs_of_checks progL_eval.1 progL_eval.2.1
  have hc := of_decide_eq_true hc
  exact ⟨hr, A, B, hA, hB, hs, hc, by rw [hs.2.2.1, hc]⟩

/-! `T FDB L1,L2,T,L1+1`: the elements of the list are labels and a label expression; they are evaluated from the operand
TEXT, which the textual renaming renames element by element. The test `noPendingListsB` is `false`, `RenOK` (with
`ListsSimple`) and the check of `C18_R2_text_check` hold: the theorem applies. -/

def progJA : List Str := [
  "        ORG $1000\n",
  "T       FDB L1,L2,T,L1+1\n",
  "L1      NOP\n",
  "L2      RTS\n"].map String.toList

def progJB : List Str := [
  "        ORG $1000\n",
  "TBL     FDB ST_1,AB,TBL,ST_1+1\n",
  "ST_1    NOP\n",
  "AB      RTS\n"].map String.toList

def renJ : List (Str × Str) :=
  [("T", "TBL"), ("L1", "ST_1"), ("L2", "AB")].map (fun p => (p.1.toList, p.2.toList))

def ρJ (x : Str) : Str := match renJ.find? (·.1 == x) with | some p => p.2 | none => x

def imageJ : Bytes := [16, 8, 16, 9, 16, 0, 16, 9, 18, 57]

def symtabJ : SymTab :=
  [("T".toList, .numeric 4096 none .extended false), ("L1".toList, .numeric 4104 none .extended false),
   ("L2".toList, .numeric 4105 none .extended false)]

theorem progJ_eval :
    checkProgramF progJA (fun a => decide (a.image = some imageJ ∧ a.symtab = symtabJ)) = true ∧
    renamedTextB ρJ (parsedOf progJA) (parsedOf progJB) = true ∧
    noPendingListsB (parsedOf progJA) = false ∧
    (match Rename.preLists (parsedOf progJA) with
      | some x => (x.filter (fun s => Rename.isList s.pkg.additional)).map
          (fun s => (listElems s.operand.text).map (fun e => (Rename.pendingAny e, Rename.renameElemText ρJ e)))
      | none => []) = [[(true, "ST_1".toList), (true, "AB".toList), (true, "TBL".toList), (true, "ST_1+1".toList)]] := by
  rw [renamedTextB, ← Bool.beq_eq_decide_eq, parsedOf_eq]
  decide +kernel

theorem progJA_check : checkProgramF progJA (fun a => decide (a.image = some imageJ ∧ a.symtab = symtabJ)) = true :=
  progJ_eval.1

/-- the parsed renamed source is the parsed source renamed, the texts of the lists element by element; the side
conditions hold -/
theorem progJ_renamedText : renamedTextB ρJ (parsedOf progJA) (parsedOf progJB) = true := progJ_eval.2.1

/-- the test for lists of literals is `false` of the witness -/
theorem progJA_pending : noPendingListsB (parsedOf progJA) = false := progJ_eval.2.2.1

/-- the elements of the list that the list pass evaluates, renamed -/
theorem progJA_elems : (match Rename.preLists (parsedOf progJA) with
    | some x => (x.filter (fun s => Rename.isList s.pkg.additional)).map
        (fun s => (listElems s.operand.text).map (fun e => (Rename.pendingAny e, Rename.renameElemText ρJ e)))
    | none => []) = [[(true, "ST_1".toList), (true, "AB".toList), (true, "TBL".toList), (true, "ST_1+1".toList)]] :=
  progJ_eval.2.2.2

/-- C18-R2 on a program with a jump table: the side conditions (with `ListsSimple`) hold, the renamed source assembles
to the same image, the symbol table is the renamed one -/
theorem C18_R2_witness_jumptable :
    RenOK ρJ (parsedOf progJA) ∧
    ∃ A B, back (parsedOf progJA) = .ok A ∧ back (parsedOf progJB) = .ok B ∧ SameButNames ρJ A B ∧
      A.image = some imageJ ∧ B.image = A.image ∧ A.symtab = symtabJ ∧
      B.symtab = A.symtab.map (fun kv => (ρJ kv.1, kv.2)) := by
  obtain ⟨hr, A, B, hA, hc, hB, hs⟩ := backs_of_checks progJA_check progJ_renamedText
  have hc := of_decide_eq_true hc
  exact ⟨hr, A, B, hA, hB, hs, hc.1, hs.2.2.1, hc.2, hs.symtab_numeric (by rw [hc.2]; decide)⟩

/-! `C18_R2_Statement` (Props/C18.lean) is too loose: `RenamedStmt ρ s t` relates label, row, operand kind, value, left
and right part, but NOT the operand text — and the register lists of PSHS / PULS / EXG / TFR are read from the text
(`translateSpecial`). With `ρ` the identity, `PSHS A` and `PSHS B` are "renamings" of each other and have different post
bytes. `C18_R2_full` (with `renameStmt`, which keeps the operand text, or `C18_R2_full_text` with `TxtOK`) is the repaired
statement. -/

instance (ρ : Str → Str) (s t : Stmt) : Decidable (RenamedStmt ρ s t) := by
  unfold RenamedStmt; infer_instance

def r2cexA : List Str := [" PSHS A\n".toList]
def r2cexB : List Str := [" PSHS B\n".toList]

/-- both assemble, to different post bytes; the parsed statements are related by `RenamedStmt id`, have no label and
are no INCLUDE -/
theorem r2cex_eval :
    checkProgramF r2cexA (fun a => decide (a.image = some [0x34, 0x02])) = true ∧
    checkProgramF r2cexB (fun a => decide (a.image = some [0x34, 0x04])) = true ∧
    ((parsedOf r2cexA).zip (parsedOf r2cexB)).all (fun p => decide (RenamedStmt id p.1 p.2)) = true ∧
    (parsedOf r2cexA).length = (parsedOf r2cexB).length ∧
    (parsedOf r2cexA).all (fun s => !s.row.isInclude && s.label.isEmpty) = true := by
  rw [parsedOf_eq]
  decide +kernel

/-- counterexample: `PSHS A` / `PSHS B` with the identity renaming -/
theorem C18_R2_Statement_false : ¬ C18_R2_Statement := by
  intro h
  obtain ⟨cA, cB, h1, h2, h3⟩ := r2cex_eval
  obtain ⟨A, hA, cA'⟩ := checkProgramF_sound cA []
  obtain ⟨B, hB, cB'⟩ := checkProgramF_sound cB []
  simp only [List.all_eq_true, Bool.and_eq_true, Bool.not_eq_true', List.isEmpty_iff] at h3
  have := (h id r2cexA r2cexB _ _ A B (checkProgramF_parts cA).1 (checkProgramF_parts cB).1 (fun s hs => (h3 s hs).1) h2
    (fun i s t hs ht => of_decide_eq_true (List.all_eq_true.mp h1 (s, t)
      (List.mem_of_getElem? (List.getElem?_zip_eq_some.mpr ⟨hs, ht⟩))))
    (fun x y hxy => hxy) (fun x _ => rfl) (fun s hs hl => absurd (h3 s hs).2 hl) hA hB).1
  rw [of_decide_eq_true cA', of_decide_eq_true cB'] at this
  exact absurd this (by decide)

#print axioms C18_R2_back
#print axioms C18_R2_full
#print axioms C18_R2_symtab
#print axioms C18_R2_assemble
#print axioms RenOK.of_uniform
#print axioms renOK_of_check
#print axioms C18_R2_text_check
#print axioms progR_renamedText
#print axioms C18_R2_witness
#print axioms C18_R2_witness_assemble
#print axioms C18_R2_witness_lists
#print axioms C18_R2_back_text
#print axioms C18_R2_full_text
#print axioms RenOK.of_noPending
#print axioms C18_R2_witness_jumptable
#print axioms progJA_pending
#print axioms progJA_elems
#print axioms progLA_lists
#print axioms C18_R2_Statement_false

end CoCo.Props
