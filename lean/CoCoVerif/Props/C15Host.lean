/-
Props/C15Host.lean — the last clause of C15 at the level of the host file system:
"a file that needs more granules than are free, or arrives when no slot is free, fails with an error
AND THE HOST FILE IS LEFT AS IT WAS."

Props/C15.lean proves the accounting on images (`Dsk.addFile`). Here the same is said one layer up, in the
VirtualFile / command line model (Model/VirtualFile.lean): `storeTo` (open; add; save), `asmMain`, `utilMain`.
The witnesses at the end (69 one-byte files; a full disk of 68 files on the host and one more file; through both
tools) evaluate no image: every disk fact comes from the accounting theorems.
-/
import CoCoVerif.Lemmas.VFHist
import CoCoVerif.Lemmas.VFUtil
import CoCoVerif.Props.C10
import CoCoVerif.Props.C11
import CoCoVerif.Props.C15

namespace CoCo.Props
open CoCo CoCo.VF

/-- **characterisation, sufficient direction**: valid files that need more than 68
granules in all, or more than 72 files: `Dsk.write` is a diagnostic -/
theorem write_disk_full (order : List Nat) (fs : List CFile) (hc : CompleteOrder order)
    (hv : ∀ f ∈ fs, ValidDFile f) (h : 68 < (fs.map needs).sum ∨ 72 < fs.length) :
    Dsk.write order fs = .diag := by
  rcases Dsk.write_cases hc hv with ⟨_, _, _⟩ | ⟨_, hd, _⟩
  · omega
  · exact hd

/-- **characterisation, both directions**: for valid files the write is a diagnostic exactly when the files
overflow the disk, it succeeds exactly when they do not, and there is no third outcome -/
theorem write_disk_full_iff (order : List Nat) (fs : List CFile) (hc : CompleteOrder order)
    (hv : ∀ f ∈ fs, ValidDFile f) :
    (Dsk.write order fs = .diag ↔ (68 < (fs.map needs).sum ∨ 72 < fs.length)) ∧
    ((∃ img, Dsk.write order fs = .ok img) ↔ ((fs.map needs).sum ≤ 68 ∧ fs.length ≤ 72)) ∧
    ((∃ img, Dsk.write order fs = .ok img) ∨ Dsk.write order fs = .diag) := by
  rcases Dsk.write_cases hc hv with ⟨hg, hs, img, hok⟩ | ⟨hover, hd, _⟩
  · exact ⟨⟨fun h => (by rw [hok] at h; cases h), fun h => (by omega)⟩,
      ⟨fun _ => ⟨hg, hs⟩, fun _ => ⟨img, hok⟩⟩, Or.inl ⟨img, hok⟩⟩
  · exact ⟨⟨fun _ => hover, fun _ => hd⟩,
      ⟨fun ⟨img, hok⟩ => (by rw [hd] at hok; cases hok), fun h => (by omega)⟩, Or.inr hd⟩

/-- the diagnostic is raised at a definite file: the files before it were stored on an image on which it needs
more granules than are free, or no slot is free — the hypothesis of the last clause of `C15_Statement` -/
theorem write_disk_full_point (order : List Nat) (fs : List CFile) (hc : CompleteOrder order)
    (hv : ∀ f ∈ fs, ValidDFile f) (hd : Dsk.write order fs = .diag) :
    ∃ pre f post img, fs = pre ++ f :: post ∧ Dsk.write order pre = .ok img ∧
      (Spec.DiskBasic.freeGranules img < needs f ∨ Spec.DiskBasic.freeSlots img = 0) ∧
      Dsk.addFile order img f = .diag := by
  rcases Dsk.write_cases hc hv with ⟨_, _, img, hok⟩ | ⟨_, _, h⟩
  · rw [hok] at hd; cases hd
  · exact h

/-- remark: every file takes at least one granule and there are 72 slots for 68 granules, so on an image the tool
wrote at least four directory slots are always free: the "no slot free" refusal is never the first to strike -/
theorem write_slots_free (order : List Nat) (fs : List CFile) (img : Bytes) (ho : ValidOrder order)
    (hv : ∀ f ∈ fs, ValidDFile f) (hw : Dsk.write order fs = .ok img) :
    Spec.DiskBasic.freeGranules img + 4 ≤ Spec.DiskBasic.freeSlots img := by
  have h1 := (Dsk.Holds.write ho hv hw).space
  have h2 := Dsk.length_le_sum_needs fs
  omega

/-- the disk target opens, and its files followed by the new ones do not fit:
`storeTo` is a diagnostic (VirtualFileValidationError) — and a diagnostic carries no new file system -/
theorem storeTo_disk_full (fs : FS) (p : Path) (v : VFile) (newFiles : List CFile) (append : Bool)
    (ho : openVF fs p (some .disk) = .ok v)
    (hw : Dsk.write Gen.granuleFillOrder (v.files ++ newFiles) = .diag) :
    storeTo fs p .disk newFiles append = .diag := by
  rw [storeTo_eq newFiles append ho]
  simp only [buildImage, hw]

/-- the same for any failure of the disk writer (e.g. a file above 65535 bytes: an uncaught exception of the
library, caught by both tools): no file system comes back -/
theorem storeTo_disk_not_ok (fs : FS) (p : Path) (v : VFile) (newFiles : List CFile) (append : Bool)
    (ho : openVF fs p (some .disk) = .ok v)
    (hw : ∀ img, Dsk.write Gen.granuleFillOrder (v.files ++ newFiles) ≠ .ok img) :
    ∀ fs', storeTo fs p .disk newFiles append ≠ .ok fs' :=
  storeTo_build_not_ok ho hw

/-- with the characterisation: the files (old and new, valid) need more than 68 granules or are more than 72 -/
theorem storeTo_disk_overflow (fs : FS) (p : Path) (v : VFile) (newFiles : List CFile) (append : Bool)
    (ho : openVF fs p (some .disk) = .ok v) (hv : ∀ f ∈ v.files ++ newFiles, ValidDFile f)
    (h : 68 < ((v.files ++ newFiles).map needs).sum ∨ 72 < (v.files ++ newFiles).length) :
    storeTo fs p .disk newFiles append = .diag :=
  storeTo_disk_full fs p v newFiles append ho (write_disk_full _ _ completeOrder_default hv h)

/-- the host is untouched when the disk is full (explicit form of "`.diag` carries no file system") -/
theorem storeTo_disk_full_host (fs : FS) (p : Path) (v : VFile) (newFiles : List CFile) (append : Bool)
    (ho : openVF fs p (some .disk) = .ok v)
    (hw : Dsk.write Gen.granuleFillOrder (v.files ++ newFiles) = .diag) :
    hostAfter fs (storeTo fs p .disk newFiles append) = fs := by
  rw [storeTo_disk_full fs p v newFiles append ho hw]
  rfl

/-- a disk image the tool wrote from `done` has no room for `newFiles` as well: writing the files listed from it
followed by the new ones is the diagnostic -/
theorem write_listed_full {done newFiles : List CFile} {img : Bytes}
    (hwd : Dsk.write Gen.granuleFillOrder done = .ok img) (hok : DskOK done) (hvn : ∀ f ∈ newFiles, ValidDFile f)
    (hfull : Spec.DiskBasic.freeGranules img < (newFiles.map needs).sum ∨
             Spec.DiskBasic.freeSlots img < newFiles.length) :
    Dsk.write Gen.granuleFillOrder (done.map Dsk.norm ++ newFiles) = .diag := by
  have hcnt := (Dsk.Holds.write validOrder_default hok.1 hwd).space
  rw [write_norm_append_dsk _ _ _ hok.2]
  apply write_disk_full _ _ completeOrder_default (List.forall_mem_append.mpr ⟨hok.1, hvn⟩)
  rw [List.map_append, List.sum_append, List.length_append]
  omega

/-- **C15, last clause, on the host**: `p` holds a disk image the tool wrote from `done`, with `F` free granules;
the new files need more than `F` granules (or are more than the free slots): the save is refused with a diagnostic,
whatever the append flag, and the host file system — in particular the image at `p` — is as it was -/
theorem storeTo_disk_full_written (fs : FS) (p : Path) (done newFiles : List CFile) (img : Bytes) (append : Bool)
    (hg : fs.get? p = some img) (hwd : Dsk.write Gen.granuleFillOrder done = .ok img)
    (hok : DskOK done) (hvn : ∀ f ∈ newFiles, ValidDFile f)
    (hfull : Spec.DiskBasic.freeGranules img < (newFiles.map needs).sum ∨
             Spec.DiskBasic.freeSlots img < newFiles.length) :
    storeTo fs p .disk newFiles append = .diag ∧
    hostAfter fs (storeTo fs p .disk newFiles append) = fs := by
  have hd := storeTo_disk_full fs p _ newFiles append (openVF_written fs p done img hg hwd hok.1)
    (write_listed_full hwd hok hvn hfull)
  exact ⟨hd, by rw [hd]; rfl⟩

/-- a successful `storeTo` changes no path but its target -/
theorem storeTo_frame_ok (fs fs' : FS) (p : Path) (k : Kind) (files : List CFile) (append : Bool)
    (h : storeTo fs p k files append = .ok fs') : ∀ q, q ≠ p → fs'.get? q = fs.get? q :=
  (storeTo_ok h).1

/-- whatever the outcome, no path but the target changes; and without success nothing at all is written -/
theorem storeTo_frame (fs : FS) (p : Path) (k : Kind) (files : List CFile) (append : Bool) :
    (∀ q, q ≠ p → (hostAfter fs (storeTo fs p k files append)).get? q = fs.get? q) ∧
    ((∀ fs', storeTo fs p k files append ≠ .ok fs') → hostAfter fs (storeTo fs p k files append) = fs) := by
  refine ⟨fun q hq => ?_, hostAfter_not_ok⟩
  cases hs : storeTo fs p k files append with
  | ok fs' => exact (storeTo_ok hs).1 q hq
  | diag => rfl
  | internal => rfl
  | diverged => rfl

/-- an existing target is left as it was unless append was asked for (= `C10_no_append`) -/
theorem storeTo_existing_no_append (fs : FS) (p : Path) (k : Kind) (files : List CFile) (old : Bytes)
    (hold : fs.get? p = some old) : hostAfter fs (storeTo fs p k files false) = fs :=
  hostAfter_not_ok (fun fs' h => C10_no_append fs p k files old hold ⟨fs', h⟩)

/-- **`asmMain` with a disk target the writer refuses** (general form). The program assembles, has a name (else the
disk step is not even tried), `--to_dsk p` with `p` not also the binary or cassette target; `p` opens as a disk (or
does not exist) and the writer does not accept its files followed by the new one. Then: the tool prints
"Unable to save …" for the disk (`refused` ends in `.disk`), goes on, EXITS WITH STATUS 0, and the result is in
every other respect the result of the same run without `--to_dsk`; `p` is as it was. -/
theorem asmMain_disk_refused (fs : FS) (incl : Asm.Files) (lines : List (List Char)) (args : AsmArgs)
    (a : Asm.Assembly) (cf : CFile) (p : Path) (v : VFile)
    (ha : Asm.assemble incl lines = .ok a) (hc : cocoOfAssembly a args.name = some cf) (hname : cf.name ≠ [])
    (hd : args.toDsk = some p) (hb : args.toBin ≠ some p) (hcas : args.toCas ≠ some p)
    (ho : openVF fs p (some .disk) = .ok v)
    (hw : ∀ img, Dsk.write Gen.granuleFillOrder (v.files ++ [cf]) ≠ .ok img) :
    let r := asmMain fs incl lines args
    let r0 := asmMain fs incl lines { args with toDsk := none }
    r.exit = 0 ∧ r.refused = r0.refused ++ [.disk] ∧ r.fs = r0.fs ∧ r.fs.get? p = fs.get? p := by
  intro r r0
  have hne := name_isEmpty_false hname
  let s1 := asmStep cf args.append (fs, []) args.toBin .binary
  let s2 := asmStep cf args.append s1 args.toCas .cassette
  have hr0 : r0 = { exit := 0, fs := s2.1, refused := s2.2 } := by
    show asmMain fs incl lines { args with toDsk := none } = _
    rw [asmMain_ok (args := { args with toDsk := none }) ha hc]
    simp only [hne, Bool.and_false, Bool.false_eq_true, if_false, asmStep_none]
    rfl
  have hget : s2.1.get? p = fs.get? p := by
    have h0 : r0.fs.get? p = fs.get? p := asmMain_frame fs incl lines { args with toDsk := none } p hb hcas nofun
    rwa [hr0] at h0
  have ho2 : openVF s2.1 p (some .disk) = .ok v := by rw [openVF_congr _ hget]; exact ho
  have hstep : asmStep cf args.append s2 (some p) .disk = (s2.1, s2.2 ++ [.disk]) :=
    asmStep_refused cf args.append s2 p .disk (storeTo_disk_not_ok s2.1 p v [cf] args.append ho2 hw)
  have hr : r = { exit := 0, fs := s2.1, refused := s2.2 ++ [.disk] } := by
    show asmMain fs incl lines args = _
    rw [asmMain_ok ha hc]
    simp only [hne, Bool.and_false, Bool.false_eq_true, if_false, hd]
    rw [hstep]
  rw [hr, hr0]
  exact ⟨rfl, rfl, rfl, hget⟩

/-- the disk at `p` cannot hold the assembled file as well (`Dsk.write … = .diag`):
exit status 0, `.disk` is listed in `refused`, and the host file at `p` is as it was; the other targets are
served as if `--to_dsk` had not been given -/
theorem asmMain_disk_full (fs : FS) (incl : Asm.Files) (lines : List (List Char)) (args : AsmArgs)
    (a : Asm.Assembly) (cf : CFile) (p : Path) (v : VFile)
    (ha : Asm.assemble incl lines = .ok a) (hc : cocoOfAssembly a args.name = some cf) (hname : cf.name ≠ [])
    (hd : args.toDsk = some p) (hb : args.toBin ≠ some p) (hcas : args.toCas ≠ some p)
    (ho : openVF fs p (some .disk) = .ok v)
    (hw : Dsk.write Gen.granuleFillOrder (v.files ++ [cf]) = .diag) :
    let r := asmMain fs incl lines args
    r.exit = 0 ∧ .disk ∈ r.refused ∧ r.fs.get? p = fs.get? p ∧
    r.refused = (asmMain fs incl lines { args with toDsk := none }).refused ++ [.disk] ∧
    r.fs = (asmMain fs incl lines { args with toDsk := none }).fs := by
  intro r
  obtain ⟨h1, h2, h3, h4⟩ := asmMain_disk_refused fs incl lines args a cf p v ha hc hname hd hb hcas ho
    (fun img h => by rw [hw] at h; cases h)
  refine ⟨h1, ?_, h4, h2, h3⟩
  show Kind.disk ∈ (asmMain fs incl lines args).refused
  rw [h2]
  simp

/-- `--to_dsk` alone: the whole host file system is as it was -/
theorem asmMain_disk_full_only (fs : FS) (incl : Asm.Files) (lines : List (List Char)) (args : AsmArgs)
    (a : Asm.Assembly) (cf : CFile) (p : Path) (v : VFile)
    (ha : Asm.assemble incl lines = .ok a) (hc : cocoOfAssembly a args.name = some cf) (hname : cf.name ≠ [])
    (hd : args.toDsk = some p) (hb : args.toBin = none) (hcas : args.toCas = none)
    (ho : openVF fs p (some .disk) = .ok v)
    (hw : Dsk.write Gen.granuleFillOrder (v.files ++ [cf]) = .diag) :
    let r := asmMain fs incl lines args
    r.exit = 0 ∧ r.refused = [.disk] ∧ r.fs = fs := by
  intro r
  obtain ⟨h1, h2, h3, _⟩ := asmMain_disk_refused fs incl lines args a cf p v ha hc hname hd (by rw [hb]; nofun)
    (by rw [hcas]; nofun) ho (fun img h => by rw [hw] at h; cases h)
  have h0 : asmMain fs incl lines { args with toDsk := none } = { exit := 0, fs := fs, refused := [] } := by
    rw [asmMain_ok (args := { args with toDsk := none }) ha hc]
    simp [hb, hcas, asmStep_none]
  rw [h0] at h2 h3
  exact ⟨h1, h2, h3⟩

/-- `--to_dsk p` (no `--to_cas`) when the disk at `p` cannot hold the selected files as
well: the conversion fails, the chain stops there (`--to_bin` is not attempted), exit status 1, and the host file
system is as it was -/
theorem utilMain_disk_full (fs : FS) (args : UtilArgs) (src v : VFile) (p : Path)
    (hs : openVF fs args.host none = .ok src) (hc : args.toCas = none) (hd : args.toDsk = some p)
    (ho : openVF fs p (some .disk) = .ok v)
    (hw : Dsk.write Gen.granuleFillOrder (v.files ++ src.files.filter (selected args.files)) = .diag) :
    utilMain fs args = { exit := 1, fs := fs } := by
  have hst := storeTo_disk_full fs p v _ args.append ho hw
  rw [utilMain_dsk_only p hs hc hd (Or.inr (by rw [hst]; rfl)), hst]
  rfl

/-- … field by field -/
theorem utilMain_disk_full' (fs : FS) (args : UtilArgs) (src v : VFile) (p : Path)
    (hs : openVF fs args.host none = .ok src) (hc : args.toCas = none) (hd : args.toDsk = some p)
    (ho : openVF fs p (some .disk) = .ok v)
    (hw : Dsk.write Gen.granuleFillOrder (v.files ++ src.files.filter (selected args.files)) = .diag) :
    (utilMain fs args).exit = 1 ∧ (utilMain fs args).fs = fs ∧ (utilMain fs args).refused = [] := by
  rw [utilMain_disk_full fs args src v p hs hc hd ho hw]
  exact ⟨rfl, rfl, rfl⟩

/-- with `--to_cas c` before it (`c ≠ p`): the cassette step keeps its effect ("a failing step leaves the effects
of the earlier steps in place"), the disk step fails, exit status 1, and the disk at `p` — like every path but
`c` — is as it was -/
theorem utilMain_disk_full_after_cas (fs : FS) (args : UtilArgs) (src v : VFile) (c p : Path)
    (hs : openVF fs args.host none = .ok src) (hc : args.toCas = some c) (hne : p ≠ c) (hd : args.toDsk = some p)
    (ho : openVF fs p (some .disk) = .ok v)
    (hw : Dsk.write Gen.granuleFillOrder (v.files ++ src.files.filter (selected args.files)) = .diag) :
    let r := utilMain fs args
    r.exit = 1 ∧
    r.fs = hostAfter fs (storeTo fs c .cassette (src.files.filter (selected args.files)) args.append) ∧
    r.fs.get? p = fs.get? p ∧ (∀ q, q ≠ c → r.fs.get? q = fs.get? q) := by
  intro r
  have hr : r = utilMain fs args := rfl
  rw [utilMain_open hs] at hr
  simp only [hc, hd] at hr
  have hframe := (storeTo_frame fs c .cassette (src.files.filter (selected args.files)) args.append).1
  cases hst : storeTo fs c .cassette (src.files.filter (selected args.files)) args.append with
  | ok fs1 =>
    have hget : fs1.get? p = fs.get? p := (storeTo_ok hst).1 p hne
    have ho1 : openVF fs1 p (some .disk) = .ok v := by rw [openVF_congr _ hget]; exact ho
    have hd1 := storeTo_disk_full fs1 p v _ args.append ho1 hw
    simp only [utilConv, hst, hd1, utilBin_not_ok _ _ _ .diag _ rfl] at hr
    rw [hr]
    rw [hst] at hframe
    exact ⟨rfl, rfl, hframe p hne, hframe⟩
  | diag =>
    simp only [utilConv, hst, utilBin_not_ok _ _ _ .diag _ rfl] at hr
    rw [hr]
    exact ⟨rfl, rfl, rfl, fun _ _ => rfl⟩
  | internal =>
    simp only [utilConv, hst, utilBin_not_ok _ _ _ .internal _ rfl] at hr
    rw [hr]
    exact ⟨rfl, rfl, rfl, fun _ _ => rfl⟩
  | diverged =>
    simp only [utilConv, hst, utilBin_not_ok _ _ _ .diverged _ rfl] at hr
    rw [hr]
    exact ⟨rfl, rfl, rfl, fun _ _ => rfl⟩

/-- a one-byte machine language file `A.BIN`: stored stream of 11 bytes, one granule -/
def oneByte : CFile :=
  { name := [65], ext := [66, 73, 78], ftype := 2, dtype := 0, gaps := 0, load := 0, exec := 0, data := [0] }

theorem oneByte_valid : ValidDFile oneByte := by simp [ValidDFile, oneByte]

theorem oneByte_noSpace : NoSpace oneByte := by simp [NoSpace, oneByte]

theorem oneByte_needs : needs oneByte = 1 := by decide

def copies (n : Nat) : List CFile := List.replicate n oneByte

theorem copies_valid (n : Nat) : ∀ f ∈ copies n, ValidDFile f := by
  intro f hf
  rw [(List.mem_replicate.mp hf).2]
  exact oneByte_valid

theorem copies_ok (n : Nat) : DskOK (copies n) := by
  refine ⟨copies_valid n, ?_⟩
  intro f hf
  rw [(List.mem_replicate.mp hf).2]
  exact oneByte_noSpace

theorem copies_needs (n : Nat) : ((copies n).map needs).sum = n := by
  simp [copies, oneByte_needs]

/-- **69 one-byte files need 69 granules > 68**: the write is a diagnostic — from the accounting theorem,
not by evaluation -/
theorem fs69_diag : Dsk.write Gen.granuleFillOrder (copies 69) = .diag :=
  write_disk_full _ _ completeOrder_default (copies_valid 69) (Or.inl (by rw [copies_needs]; omega))

/-- … it is raised at the 69th file, on an image with no free granule (and four free slots) -/
theorem fs69_point : ∃ img, Dsk.write Gen.granuleFillOrder (copies 68) = .ok img ∧
    Spec.DiskBasic.freeGranules img = 0 ∧ Spec.DiskBasic.freeSlots img = 4 ∧
    Dsk.addFile Gen.granuleFillOrder img oneByte = .diag := by
  obtain ⟨img, hw⟩ := Dsk.write_fits completeOrder_default (copies_valid 68)
    (by show ((copies 68).map needs).sum ≤ 68; rw [copies_needs]; omega) (by simp [copies])
  have hcnt := (Dsk.Holds.write validOrder_default (copies_valid 68) hw).space
  rw [copies_needs] at hcnt
  have hlen : (copies 68).length = 68 := by simp [copies]
  rw [hlen] at hcnt
  have hg : Spec.DiskBasic.freeGranules img = 0 := by omega
  refine ⟨img, hw, hg, by omega, ?_⟩
  apply (C15_full.2 _ (copies 68) img oneByte completeOrder_default (copies_valid 68) oneByte_valid hw).2
  left
  rw [hg, oneByte_needs]
  omega

/-- a fresh target and 69 files: refused, for every host file system -/
theorem witness_fresh (fs : FS) (p : Path) (append : Bool) (hf : fs.get? p = none) :
    storeTo fs p .disk (copies 69) append = .diag ∧ hostAfter fs (storeTo fs p .disk (copies 69) append) = fs := by
  have hd := storeTo_disk_full fs p _ (copies 69) append (openVF_fresh (some .disk) hf) (by simpa using fs69_diag)
  exact ⟨hd, by rw [hd]; rfl⟩

/-- **a full disk on the host** (68 files, no free granule) **and one more file**: refused, and the host file
system — the full disk included — is as it was. For every host file system holding that image at `p`. -/
theorem witness_full_disk : ∃ img, Dsk.write Gen.granuleFillOrder (copies 68) = .ok img ∧
    ∀ (fs : FS) (p : Path) (append : Bool), fs.get? p = some img →
      storeTo fs p .disk [oneByte] append = .diag ∧
      hostAfter fs (storeTo fs p .disk [oneByte] append) = fs := by
  obtain ⟨img, hw, hg, _, _⟩ := fs69_point
  refine ⟨img, hw, fun fs p append hget => ?_⟩
  apply storeTo_disk_full_written fs p (copies 68) [oneByte] img append hget hw (copies_ok 68)
  · intro f hf
    rw [List.mem_singleton.mp hf]
    exact oneByte_valid
  · left
    rw [hg]
    simp [oneByte_needs]

/-- the same through `assembler.main`: the demo program of C11 (`NAM hello`, three bytes), `--to_dsk p --append`
on the full disk: exit status 0, the refusal of the disk is reported, nothing is written -/
theorem witness_asmMain : ∃ img, Dsk.write Gen.granuleFillOrder (copies 68) = .ok img ∧
    ∀ (fs : FS) (p : Path) (append : Bool), fs.get? p = some img →
      let r := asmMain fs [] demoSrc { toDsk := some p, append := append }
      r.exit = 0 ∧ r.refused = [.disk] ∧ r.fs = fs := by
  obtain ⟨img, hw, hg, _, _⟩ := fs69_point
  refine ⟨img, hw, fun fs p append hget => ?_⟩
  obtain ⟨a, ha, hi, horg, hn⟩ := demo_accepted
  have hc := coco_of_image (nm := none) hi
  have hnm : (asmFile a none [0x86, 0x01, 0x39]).name ≠ [] := asmFile_name_ne (by rw [hn]; decide)
  have hvalid : ValidDFile (asmFile a none [0x86, 0x01, 0x39]) :=
    asmFile_dvalid (by rw [hn]; unfold AsciiStr; decide) (by decide) (by omega) (by decide)
  have hwd := write_listed_full (newFiles := [asmFile a none [0x86, 0x01, 0x39]]) hw (copies_ok 68)
    (fun f hf => by rw [List.mem_singleton.mp hf]; exact hvalid)
    (Or.inl (by
      have := Dsk.needs_pos (asmFile a none [0x86, 0x01, 0x39])
      rw [hg]; simp only [List.map_cons, List.map_nil, List.sum_cons, List.sum_nil]; omega))
  exact asmMain_disk_full_only fs [] demoSrc { toDsk := some p, append := append } a _ p _ ha hc hnm rfl rfl rfl
    (openVF_written fs p (copies 68) img hget hw (copies_valid 68)) hwd

/-- … and through `file_util.main`: source a full disk at `h`, `--to_dsk p` where `p` holds a full disk too
(`h = p` allowed): exit status 1, nothing is written -/
theorem witness_utilMain : ∃ img, Dsk.write Gen.granuleFillOrder (copies 68) = .ok img ∧
    ∀ (fs : FS) (h p : Path) (append : Bool), fs.get? h = some img → fs.get? p = some img →
      utilMain fs { host := h, toDsk := some p, append := append } = { exit := 1, fs := fs } := by
  obtain ⟨img, hw, _, hslots, _⟩ := fs69_point
  refine ⟨img, hw, fun fs h p append hh hp => ?_⟩
  have hsn := sniff_written_disk validOrder_default (copies_valid 68) hw
  have hs := openVF_sniffed hh hsn
  have ho := openVF_written fs p (copies 68) img hp hw (copies_valid 68)
  apply utilMain_disk_full fs { host := h, toDsk := some p, append := append } _ _ p hs rfl rfl ho
  show Dsk.write Gen.granuleFillOrder ((copies 68).map Dsk.norm ++
    ((copies 68).map Dsk.norm).filter (selected none)) = .diag
  rw [filter_selected_none]
  refine write_listed_full hw (copies_ok 68) ?_ (Or.inr (by rw [hslots]; simp [copies]))
  intro f hf
  obtain ⟨g, hg', rfl⟩ := List.mem_map.mp hf
  rw [(List.mem_replicate.mp hg').2]
  simp [ValidDFile, Dsk.norm, oneByte, Dsk.padUpper, Dsk.upper, Dsk.kindOf]

end CoCo.Props

#print axioms CoCo.Props.write_disk_full
#print axioms CoCo.Props.write_disk_full_iff
#print axioms CoCo.Props.write_disk_full_point
#print axioms CoCo.Props.write_slots_free
#print axioms CoCo.Props.storeTo_disk_full
#print axioms CoCo.Props.storeTo_disk_not_ok
#print axioms CoCo.Props.storeTo_disk_overflow
#print axioms CoCo.Props.storeTo_disk_full_host
#print axioms CoCo.Props.storeTo_disk_full_written
#print axioms CoCo.Props.storeTo_frame_ok
#print axioms CoCo.Props.storeTo_frame
#print axioms CoCo.Props.storeTo_existing_no_append
#print axioms CoCo.Props.asmMain_disk_refused
#print axioms CoCo.Props.asmMain_disk_full
#print axioms CoCo.Props.asmMain_disk_full_only
#print axioms CoCo.Props.utilMain_disk_full
#print axioms CoCo.Props.utilMain_disk_full'
#print axioms CoCo.Props.utilMain_disk_full_after_cas
#print axioms CoCo.Props.fs69_diag
#print axioms CoCo.Props.fs69_point
#print axioms CoCo.Props.witness_fresh
#print axioms CoCo.Props.witness_full_disk
#print axioms CoCo.Props.witness_asmMain
#print axioms CoCo.Props.witness_utilMain
