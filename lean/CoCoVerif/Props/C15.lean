/-
Props/C15.lean — space accounting is exact on every image reachable from the blank one.
-/
import CoCoVerif.Lemmas.DiskHolds

namespace CoCo.Props
open CoCo CoCo.Dsk

/-- The written image holds `fs`, so what is free on it is what `fs` has left; `add_file` appends `f` when that is
enough for `f` and refuses otherwise (`Holds.addFile`); the image afterwards holds `fs ++ [f]`. -/
theorem C15_full : C15_Statement := by
  refine ⟨Holds.blank.space_nil, ?_⟩
  intro order fs img f hc hvs hv hres
  have h := Holds.write hc.1 hvs hres
  have hsp := h.space
  rcases h.addFile hc.1 hv with ⟨img', hok, h', hother⟩ | ⟨hd, hfull⟩
  · have hsp' := h'.space
    simp only [List.map_append, List.sum_append, List.length_append, List.map_cons, List.map_nil, List.sum_cons,
      List.sum_nil, List.length_cons, List.length_nil] at hsp'
    exact ⟨fun _ => ⟨img', hok, by omega, by omega, hother⟩, fun hf => by omega⟩
  · refine ⟨fun hfit => ?_, fun _ => hd⟩
    rcases hfull with h72 | hshort
    · omega
    · have := hshort hc.2; omega

end CoCo.Props
