/-
C18-R1 (relocation), from the parsed program to the assembly.  `pa`, `pb` are the parsed statement lists of two INCLUDE-free
programs that differ only in the numeric operand of their ORG statements, every one moved by `D` (`PW (OrgRel D P) pa pb`);
the walk over the `Stages` of the two runs is Lemmas/RelocStages.lean.  First: an ORG line `lab ORG $hhhh` in the layout of
`orgLine` parses to `orgStmt`.
-/
import CoCoVerif.Lemmas.CreateLit
import CoCoVerif.Lemmas.RelocStages
import CoCoVerif.Props.C18
import CoCoVerif.Props.C18Reloc

namespace CoCo.Asm
open CoCo

theorem findRow_org : findRow "ORG".toList = some orgRowR := by
  rw [findRow_eq]
  decide +kernel

/-- the statement `lab ORG $hhhh` parses to -/
def orgStmt (lab : Str) (n : Nat) : Stmt :=
  { label := lab, mnemonic := "ORG".toList, row := orgRowR,
    operand := { kind := .pseudo, text := '$' :: fmtHex 4 n, value := .numeric n (some 4) .extended false },
    origText := '$' :: fmtHex 4 n, comment := [] }

theorem scanLine_org {lab : Str} {n : Nat} (hl : lab.all isLabelCh = true) (hn : n < 65536) :
    scanLine (Props.orgLine lab n) = .asm lab "ORG".toList ('$' :: fmtHex 4 n) [] := by
  have hwf : Props.LineParts.WF
      { lab := lab, w1 := [' '], mn := "ORG".toList, w2 := [' '], ops := '$' :: fmtHex 4 n, w3 := [], semis := [], c := [] } := by
    constructor
    · exact hl
    · dsimp only; decide
    · dsimp only; decide
    · show ('$' :: fmtHex 4 n).all isOperandCh = true
      rw [List.all_cons, fmtHex4_operandCh hn]; decide
    · dsimp only; decide
    · dsimp only; decide
    · dsimp only; decide
    · dsimp only; decide
    · dsimp only; decide
    · dsimp only; decide
    · dsimp only; decide
    · dsimp only; decide
    · right; right; dsimp only; decide
  have := Props.scanLine_render hwf
  have e : Props.orgLine lab n = Props.LineParts.render
      { lab := lab, w1 := [' '], mn := "ORG".toList, w2 := [' '], ops := '$' :: fmtHex 4 n, w3 := [], semis := [], c := [] } := by
    simp [Props.orgLine, Props.LineParts.render]
  rw [e]; exact this

theorem parseLine_org {lab : Str} {n : Nat} (hl : lab.all isLabelCh = true) (hn : n < 65536) :
    parseLine (Props.orgLine lab n) = .ok (some (orgStmt lab n)) :=
  parseLine_eq_some.2 ⟨_, _, _, _, _, _, _, scanLine_org hl hn, findRow_org, lineField_plain rfl, createOperand_org hn, rfl⟩

theorem parseLine_notOrg {l : Str} {s : Stmt} (h : parseLine l = .ok (some s)) (ho : s.row.isOrigin = false) :
    (s.row.mnemonic == "ORG") = false := by
  have := table_isOrigin _ (parseLine_parsed h).1
  rw [ho] at this
  simpa using this

end CoCo.Asm

namespace CoCo.Props
open CoCo CoCo.Asm
open CoCo

/-- C18-R1 for parsed programs, with no side condition on the ORG values (`P` is arbitrary): if both programs assemble, they have
the same number of statements and every statement address of the second is the address of the first plus `D` -/
theorem C18_R1_parsed {fs : Files} {la lb : List Str} {pa pb : List Stmt} {D : Nat} {P : Nat → Prop} {A B : Assembly}
    (hpa : parseLines la = .ok pa) (hpb : parseLines lb = .ok pb) (hrel : PW (OrgRel D P) pa pb)
    (hinc : ∀ s ∈ pa, s.row.isInclude = false)
    (hhead : ∃ s0 r0, pa = s0 :: r0 ∧ s0.row.mnemonic = "ORG")
    (hA : assemble fs la = .ok A) (hB : assemble fs lb = .ok B) :
    A.stmts.length = B.stmts.length ∧
    ∀ (i : Nat) (s t : Stmt) (n : Nat), A.stmts[i]? = some s → B.stmts[i]? = some t →
      s.pkg.address.int? = some n → t.pkg.address.int? = some (n + D) := by
  obtain ⟨stA⟩ := assemble_stages hA
  obtain ⟨stB⟩ := assemble_stages hB
  obtain ⟨h3, _, hb, _⟩ := reloc_ss3 hpa hpb hrel hinc hhead stA stB
  obtain ⟨as, has, hshift⟩ := assignAddrs_reloc_bwd D _ _ 0 _ (h3.mono (fun _ _ => OrgRelT.orgShift)) hb
  rw [stA.haddr] at has
  cases has
  have fA := fixAllL_pw stA.hfix
  have fB := fixAllL_pw stB.hfix
  refine ⟨by rw [fA.1, ← hshift.1, fB.1], ?_⟩
  intro i s t n hs ht hn
  obtain ⟨s4, hs4, v, rfl⟩ := fA.get' hs
  obtain ⟨t4, ht4, w, rfl⟩ := fB.get' ht
  obtain ⟨_, a, h1, h2⟩ := hshift.2 i s4 t4 hs4 ht4
  simp only [addrNat] at h1 h2
  dsimp only at hn ⊢
  rw [h1] at hn; cases hn
  exact h2

/-! Any origin, moves across `$100` included.  The ORG bound is `OrgOkAny D n`: `n + D < $10000`.  The layouts are related
at int level (`AddrShiftAny`: numbers `D` apart inside the 64K space, any rendering); statement by statement the operand
field and the bytes are identical (`Unmoved`, with `ListsConst`) or a 16-bit field moves by `D` (`Moved`); the final symbol
table entry by entry with `EquRelAny` (a label's values are related at int level: `IntAddr`).  `RefFitted s4` — the
statement is not one of the directives `fit_operand_width` skips — which the statement-level theorems ask of the `Moved`
statements, holds of every statement of an accepted program (`stages_refFitted`), so it does not appear here. -/

/-- C18-R1 for parsed programs at any origin, the final symbol table entry by entry (the last conjunct of
`C18_R1_parsed_code_any`): a label's value moves by `D` as a number (`IntAddr`; the rendering — hence the printed form
`$F0` / `$01F0` — may differ across `$100`), an EQU that is not defined by a label expression stays, an EQU defined by a
label expression moves like that expression. -/
theorem C18_R1_parsed_equ_any {fs : Files} {la lb : List Str} {pa pb : List Stmt} {D : Nat} {A B : Assembly}
    (hpa : parseLines la = .ok pa) (hpb : parseLines lb = .ok pb) (hrel : PW (OrgRel D (OrgOkAny D)) pa pb)
    (hinc : ∀ s ∈ pa, s.row.isInclude = false)
    (hhead : ∃ s0 r0, pa = s0 :: r0 ∧ s0.row.mnemonic = "ORG")
    (stA : Stages fs la A) (stB : Stages fs lb B) :
    ∀ (j : Nat) (k : Str) (v : Value), stA.t[j]? = some (k, v) →
      ∃ x x', A.symtab[j]? = some (k, x) ∧ B.symtab[j]? = some (k, x') ∧ EquRelAny D stA.ss4 stA.t v x x' := by
  obtain ⟨ht, hshift, hfinal⟩ := reloc_layout_any hpa hpb hrel hinc hhead stA stB
  intro j k v hj
  have hB := stB.heval
  rw [ht] at hB
  exact symtab_reloc_entry_any (hshift.mono (fun _ _ => AddrShiftAny.toI)) (fixAllL_sameAddr stA.hfix)
    (fixAllL_sameAddr stB.hfix) hfinal stA.heval hB stA.hfinal stB.hfinal hj

/-- C18-R1 for parsed programs at ANY origin (every ORG value `n` with `n + D < $10000`): the symbol tables before
address assignment coincide; every address moves by `D` (as a number inside the 64K space: `AddrShiftAny`); statement
by statement the operand field (after `fix_addresses; fit_operand_width`) is identical (`Unmoved`, with `ListsConst`) or moved
by `D` (`Moved`: a label reference in a 16-bit field), and so are the emitted bytes; the final symbol tables are related entry
by entry by `EquRelAny` (a label's value moves by `D` as a number, an EQU moves like its defining expression). -/
theorem C18_R1_parsed_code_any {fs : Files} {la lb : List Str} {pa pb : List Stmt} {D : Nat} {A B : Assembly}
    (hpa : parseLines la = .ok pa) (hpb : parseLines lb = .ok pb) (hrel : PW (OrgRel D (OrgOkAny D)) pa pb)
    (hinc : ∀ s ∈ pa, s.row.isInclude = false)
    (hhead : ∃ s0 r0, pa = s0 :: r0 ∧ s0.row.mnemonic = "ORG")
    (stA : Stages fs la A) (stB : Stages fs lb B) :
    stB.t = stA.t ∧ PW (AddrShiftAny D) stA.ss4 stB.ss4 ∧ PW (AddrShiftAny D) A.stmts B.stmts ∧
    (∀ (i : Nat) (s4 t t' : Stmt), stA.ss4[i]? = some s4 → A.stmts[i]? = some t → B.stmts[i]? = some t' →
      (Unmoved D stA.ss4 s4 → ListsConst stA.t s4 → t'.pkg.additional = t.pkg.additional ∧ stmtBytes t' = stmtBytes t) ∧
      (Moved D stA.ss4 s4 → t'.pkg.additional = shiftV D t.pkg.additional ∧
        ∀ bs, stmtBytes t = some bs →
          ∃ pre x, t.pkg.additional.int? = some x ∧ x + D < 65536 ∧ bs = pre ++ [x / 256, x % 256] ∧
            stmtBytes t' = some (pre ++ [(x + D) / 256, (x + D) % 256]))) ∧
    (∀ (j : Nat) (k : Str) (v : Value), stA.t[j]? = some (k, v) →
      ∃ x x', A.symtab[j]? = some (k, x) ∧ B.symtab[j]? = some (k, x') ∧ EquRelAny D stA.ss4 stA.t v x x') := by
  obtain ⟨ht, hshift, hfinal⟩ := reloc_layout_any hpa hpb hrel hinc hhead stA stB
  have hshiftI : PW (AddrShiftI D) stA.ss4 stB.ss4 := hshift.mono (fun _ _ => AddrShiftAny.toI)
  refine ⟨ht, hshift, hfinal, fun i s4 t t' hs4 ht ht' => ⟨fun hc hlc => ?_, fun hc => ?_⟩,
    C18_R1_parsed_equ_any hpa hpb hrel hinc hhead stA stB⟩
  · obtain ⟨s4', u, u', x5, x5', _, _, _, _, _, hfu, hfu', hlu, hlu', he | ⟨rfl, rfl, hin, _⟩⟩ :=
      reloc_pair hpa hpb hrel hinc stA stB hs4 ht ht'
    · obtain ⟨e, _⟩ := reloc_bytes_unmoved' hshiftI he hc hfu hfu'
      have e2 := reloc_list_unmoved (u' := u') (by rw [e]; rfl)
        (fixFit_listsConst (addrOf_numeric_any hshift) hfu hlc) hlu hlu'
      rw [e2]
      exact ⟨rfl, stmtBytes_setAddress _ _⟩
    · -- two ORG statements, untouched all the way: the operand field and the code do not look at what differs
      have eadd : t'.pkg.additional = t.pkg.additional := by rw [hin]; simp
      refine ⟨eadd, ?_⟩
      unfold stmtBytes
      rw [eadd, show t'.pkg.opCode = t.pkg.opCode by rw [hin]; simp,
        show t'.pkg.postByte = t.pkg.postByte by rw [hin]; simp]
  · have hfit : RefFitted s4 := stages_refFitted stA hs4
    obtain ⟨s4', he, hfu, hfu', e⟩ := reloc_pair_field hpa hpb hrel hinc stA stB hs4 ht ht' hc.not_numeric
      (fun _ he => reloc_fixFit_moved_any' hshift he hc hfit)
      (fun u hu => by
        obtain ⟨a, hh, m, e1, _⟩ := fixFit_moved_wide_any hshift i hc hfit hu
        have hnu : u.pkg.additional.isNumeric = true := by rw [e1]; rfl
        exact ⟨hnu, shiftV_numeric' hnu⟩)
    exact ⟨by rw [e]; rfl, fun bs hbs => (reloc_bytes_moved_any' hshift he hc hfit hfu hfu' hbs).2⟩

/-- C18-R1 for parsed programs at any origin, the third class: a statement `label + N` / `label - N` (SIGNED `N`) in a
four-digit field — as the operand, or as constant offset of a pointer register — (`MovedMod`: no bound but
acceptance in both layouts) has its operand field, and the last two bytes of its code, moved by `D` MODULO `$10000`; the
bytes before are identical.  Hypotheses as in `C18_R1_parsed_code_any`. -/
theorem C18_R1_parsed_code_mod_any {fs : Files} {la lb : List Str} {pa pb : List Stmt} {D : Nat} {A B : Assembly}
    (hpa : parseLines la = .ok pa) (hpb : parseLines lb = .ok pb) (hrel : PW (OrgRel D (OrgOkAny D)) pa pb)
    (hinc : ∀ s ∈ pa, s.row.isInclude = false)
    (hhead : ∃ s0 r0, pa = s0 :: r0 ∧ s0.row.mnemonic = "ORG")
    (stA : Stages fs la A) (stB : Stages fs lb B) :
    ∀ (i : Nat) (s4 t t' : Stmt), stA.ss4[i]? = some s4 → A.stmts[i]? = some t → B.stmts[i]? = some t' →
      MovedMod D stA.ss4 s4 → t'.pkg.additional = shiftVmod D t.pkg.additional ∧
        ∀ bs, stmtBytes t = some bs →
          ∃ pre x, t.pkg.additional.int? = some x ∧ x < 65536 ∧ bs = pre ++ [x / 256, x % 256] ∧
            stmtBytes t' = some (pre ++ [(x + D) % 65536 / 256, (x + D) % 65536 % 256]) := by
  intro i s4 t t' hs4 ht ht' hc
  have hI : PW (AddrShiftI D) stA.ss4 stB.ss4 :=
    (reloc_layout_any hpa hpb hrel hinc hhead stA stB).2.1.mono (fun _ _ => AddrShiftAny.toI)
  obtain ⟨x, _, e1, _⟩ := fixFit_movedMod_aux hI i hc
  obtain ⟨s4', he, hfu, hfu', e⟩ := reloc_pair_field hpa hpb hrel hinc stA stB hs4 ht ht' hc.not_numeric
    (fun _ he => reloc_fixFit_movedMod' hI he hc)
    (fun u hu => by rw [e1] at hu; cases hu; exact ⟨rfl, rfl⟩)
  exact ⟨by rw [e]; rfl, fun bs hbs => (reloc_bytes_movedMod' hI he hc hfu hfu' hbs).2⟩

/-- C18-R1 for parsed programs at any origin, the fourth class: a statement `number - label`
(`FDB 5-L`, `LDX #$4000-L`) in a four-digit field (`MovedNeg`) has its operand field, and the last two bytes of its code,
moved by MINUS `D` modulo `$10000`; the bytes before are identical.  Hypotheses as in `C18_R1_parsed_code_any`. -/
theorem C18_R1_parsed_code_neg_any {fs : Files} {la lb : List Str} {pa pb : List Stmt} {D : Nat} {A B : Assembly}
    (hpa : parseLines la = .ok pa) (hpb : parseLines lb = .ok pb) (hrel : PW (OrgRel D (OrgOkAny D)) pa pb)
    (hinc : ∀ s ∈ pa, s.row.isInclude = false)
    (hhead : ∃ s0 r0, pa = s0 :: r0 ∧ s0.row.mnemonic = "ORG")
    (stA : Stages fs la A) (stB : Stages fs lb B) :
    ∀ (i : Nat) (s4 t t' : Stmt), stA.ss4[i]? = some s4 → A.stmts[i]? = some t → B.stmts[i]? = some t' →
      MovedNeg stA.ss4 s4 → t'.pkg.additional = shiftVneg D t.pkg.additional ∧
        ∀ bs, stmtBytes t = some bs →
          ∃ pre x y, t.pkg.additional.int? = some x ∧ x < 65536 ∧ y < 65536 ∧ (y + D) % 65536 = x ∧
            bs = pre ++ [x / 256, x % 256] ∧ stmtBytes t' = some (pre ++ [y / 256, y % 256]) := by
  intro i s4 t t' hs4 ht ht' hc
  have hI : PW (AddrShiftI D) stA.ss4 stB.ss4 :=
    (reloc_layout_any hpa hpb hrel hinc hhead stA stB).2.1.mono (fun _ _ => AddrShiftAny.toI)
  obtain ⟨x, _, e1, _⟩ := fixFit_movedNeg_aux (D := D) hI i hc
  obtain ⟨s4', he, hfu, hfu', e⟩ := reloc_pair_field hpa hpb hrel hinc stA stB hs4 ht ht' hc.not_numeric
    (fun _ he => reloc_fixFit_movedNeg' hI he hc)
    (fun u hu => by rw [e1] at hu; cases hu; exact ⟨rfl, rfl⟩)
  exact ⟨by rw [e]; rfl, fun bs hbs => (reloc_bytes_movedNeg' hI he hc hfu hfu' hbs).2⟩

/-- for an accepted program the four classes of `reloc_fixAll_neg` are the four classes of `reloc_fixAll_any`
(`CoveredAny`): `RefFitted` comes for free -/
theorem coveredAny_of_stages {fs : Files} {lines : List Str} {A : Assembly} {D : Nat} (st : Stages fs lines A)
    {i : Nat} {s : Stmt} (hs : st.ss4[i]? = some s)
    (hc : Unmoved D st.ss4 s ∨ Moved D st.ss4 s ∨ MovedMod D st.ss4 s ∨ MovedNeg st.ss4 s) :
    CoveredAny D st.ss4 s := by
  rcases hc with hc | hc | hc | hc
  · exact .inl hc
  · exact .inr (.inl ⟨hc, stages_refFitted st hs⟩)
  · exact .inr (.inr (.inl hc))
  · exact .inr (.inr (.inr hc))

def OrgOk (D : Nat) (n : Nat) : Prop := 256 ≤ n ∧ n + D < 65536

theorem OrgOk.any {D n : Nat} (h : OrgOk D n) : OrgOkAny D n := h.2

/-- C18-R1 for parsed programs, value level.  With every ORG at `$100` or above and `n + D < $10000`:
the symbol tables before address assignment coincide; every address VALUE moves by `D` keeping its
rendering; statement by statement the operand field (after `fix_addresses; fit_operand_width`) is identical
(`Unmoved`, with `ListsConst`) or moved by `D` (`Moved`: a label reference in a 16-bit field), and so are the emitted
bytes; in the final symbol table labels move by `D` and EQU values stay — EXCEPT an EQU defined by a label expression
(`T EQU L+1`), which is listed with its value; the last conjunct is about the entries with `EquConst` (labels,
EQUs of numbers, EQUs defined by expressions of constants), `C18_R1_parsed_equ` is the finer statement about all
entries. -/
theorem C18_R1_parsed_code {fs : Files} {la lb : List Str} {pa pb : List Stmt} {D : Nat} {A B : Assembly}
    (hpa : parseLines la = .ok pa) (hpb : parseLines lb = .ok pb) (hrel : PW (OrgRel D (OrgOk D)) pa pb)
    (hinc : ∀ s ∈ pa, s.row.isInclude = false)
    (hhead : ∃ s0 r0, pa = s0 :: r0 ∧ s0.row.mnemonic = "ORG")
    (stA : Stages fs la A) (stB : Stages fs lb B) :
    stB.t = stA.t ∧ PW (AddrShift D) stA.ss4 stB.ss4 ∧ PW (AddrShift D) A.stmts B.stmts ∧
    (∀ (i : Nat) (s4 t t' : Stmt), stA.ss4[i]? = some s4 → A.stmts[i]? = some t → B.stmts[i]? = some t' →
      (Unmoved D stA.ss4 s4 → ListsConst stA.t s4 → t'.pkg.additional = t.pkg.additional ∧ stmtBytes t' = stmtBytes t) ∧
      (Moved D stA.ss4 s4 → t'.pkg.additional = shiftV D t.pkg.additional ∧
        ∀ bs, stmtBytes t = some bs →
          ∃ pre x, t.pkg.additional.int? = some x ∧ x + D < 65536 ∧ bs = pre ++ [x / 256, x % 256] ∧
            stmtBytes t' = some (pre ++ [(x + D) / 256, (x + D) % 256]))) ∧
    (∀ (j : Nat) (k : Str) (v : Value), stA.t[j]? = some (k, v) → EquConst stA.t v →
      ∃ kw, A.symtab[j]? = some kw ∧
        B.symtab[j]? = some (kw.1, if v.isAddress then shiftV D kw.2 else kw.2)) := by
  obtain ⟨h3, ⟨x0, y0, n0, e3, hpre⟩, hb, hbounds⟩ := reloc_ss3 hpa hpb hrel hinc hhead stA stB
  have hshift : PW (AddrShift D) stA.ss4 stB.ss4 :=
    assignAddrs_reloc_wide D _ _ 0 _ _ (h3.mono (fun _ _ => OrgRelT.orgShift)) (OrgRelT.all_orgWide h3)
      (.inr ⟨x0, y0, n0, some 4, .extended, false, e3, hpre⟩) hbounds stA.haddr hb
  -- operand fields and bytes, and the sizes of the final statements, do not depend on how an address is rendered
  obtain ⟨ht, _, hany, hstmt, _⟩ :=
    C18_R1_parsed_code_any hpa hpb (hrel.mono (fun _ _ => OrgRel.mono (fun _ => OrgOk.any))) hinc hhead stA stB
  have sA := fixAllL_sameAddr stA.hfix
  have sB := fixAllL_sameAddr stB.hfix
  have hfinal : PW (AddrShift D) A.stmts B.stmts := by
    refine ⟨hany.1, fun i t t' ht ht' => ⟨(hany.2 i t t' ht ht').1, ?_⟩⟩
    obtain ⟨s4, hs4, e⟩ := sA.get' ht
    obtain ⟨s4', hs4', e'⟩ := sB.get' ht'
    rw [e, e']
    exact (hshift.2 i s4 s4' hs4 hs4').2
  refine ⟨ht, hshift, hfinal, hstmt, ?_⟩
  intro j k v hj hc
  have hB := stB.heval
  rw [ht] at hB
  obtain ⟨x, x', hx, hx', hrel⟩ := symtab_reloc_entry (hshift.mono (fun _ _ => AddrShift.toI)) sA sB
    hfinal stA.heval hB stA.hfinal stB.hfinal hj
  refine ⟨(k, x), hx, ?_⟩
  rw [hx']
  by_cases ha : v.isAddress = true
  · rw [if_pos ha, hrel.1 ha]
  · rw [if_neg ha, hrel.2.1 ⟨by simpa using ha, hc⟩]

/-- the third class (`MovedMod`) under the hypotheses of `C18_R1_parsed_code` -/
theorem C18_R1_parsed_code_mod {fs : Files} {la lb : List Str} {pa pb : List Stmt} {D : Nat} {A B : Assembly}
    (hpa : parseLines la = .ok pa) (hpb : parseLines lb = .ok pb) (hrel : PW (OrgRel D (OrgOk D)) pa pb)
    (hinc : ∀ s ∈ pa, s.row.isInclude = false)
    (hhead : ∃ s0 r0, pa = s0 :: r0 ∧ s0.row.mnemonic = "ORG")
    (stA : Stages fs la A) (stB : Stages fs lb B) :
    ∀ (i : Nat) (s4 t t' : Stmt), stA.ss4[i]? = some s4 → A.stmts[i]? = some t → B.stmts[i]? = some t' →
      MovedMod D stA.ss4 s4 → t'.pkg.additional = shiftVmod D t.pkg.additional ∧
        ∀ bs, stmtBytes t = some bs →
          ∃ pre x, t.pkg.additional.int? = some x ∧ x < 65536 ∧ bs = pre ++ [x / 256, x % 256] ∧
            stmtBytes t' = some (pre ++ [(x + D) % 65536 / 256, (x + D) % 65536 % 256]) :=
  C18_R1_parsed_code_mod_any hpa hpb (hrel.mono (fun _ _ => OrgRel.mono (fun _ => OrgOk.any))) hinc hhead stA stB

/-- the fourth class (`MovedNeg`) under the hypotheses of `C18_R1_parsed_code` -/
theorem C18_R1_parsed_code_neg {fs : Files} {la lb : List Str} {pa pb : List Stmt} {D : Nat} {A B : Assembly}
    (hpa : parseLines la = .ok pa) (hpb : parseLines lb = .ok pb) (hrel : PW (OrgRel D (OrgOk D)) pa pb)
    (hinc : ∀ s ∈ pa, s.row.isInclude = false)
    (hhead : ∃ s0 r0, pa = s0 :: r0 ∧ s0.row.mnemonic = "ORG")
    (stA : Stages fs la A) (stB : Stages fs lb B) :
    ∀ (i : Nat) (s4 t t' : Stmt), stA.ss4[i]? = some s4 → A.stmts[i]? = some t → B.stmts[i]? = some t' →
      MovedNeg stA.ss4 s4 → t'.pkg.additional = shiftVneg D t.pkg.additional ∧
        ∀ bs, stmtBytes t = some bs →
          ∃ pre x y, t.pkg.additional.int? = some x ∧ x < 65536 ∧ y < 65536 ∧ (y + D) % 65536 = x ∧
            bs = pre ++ [x / 256, x % 256] ∧ stmtBytes t' = some (pre ++ [y / 256, y % 256]) :=
  C18_R1_parsed_code_neg_any hpa hpb (hrel.mono (fun _ _ => OrgRel.mono (fun _ => OrgOk.any))) hinc hhead stA stB

/-- C18-R1 for parsed programs, value level, the final symbol table entry by entry (an EQU defined by an
expression is listed with its VALUE).  Hypotheses as in `C18_R1_parsed_code`.  Entry `j` of the table built from the
labels, defined as `v`, has the same key in both final tables, and its values `x` (original) and `x'` (relocated) are
related by `EquRel`: a label moves by `D`; an EQU that is not defined by a label expression stays; `T EQU L+1` /
`T EQU L-2` (`NumExpr`) moves by `D`, `T EQU L+N` accepted in both layouts (`ModExpr`) by `D` modulo `$10000`,
`LEN EQU END-START` (`DiffExpr`) stays, `T EQU $4000-L` (`NegExpr`) moves by MINUS `D` modulo `$10000`. -/
theorem C18_R1_parsed_equ {fs : Files} {la lb : List Str} {pa pb : List Stmt} {D : Nat} {A B : Assembly}
    (hpa : parseLines la = .ok pa) (hpb : parseLines lb = .ok pb) (hrel : PW (OrgRel D (OrgOk D)) pa pb)
    (hinc : ∀ s ∈ pa, s.row.isInclude = false)
    (hhead : ∃ s0 r0, pa = s0 :: r0 ∧ s0.row.mnemonic = "ORG")
    (stA : Stages fs la A) (stB : Stages fs lb B) :
    ∀ (j : Nat) (k : Str) (v : Value), stA.t[j]? = some (k, v) →
      ∃ x x', A.symtab[j]? = some (k, x) ∧ B.symtab[j]? = some (k, x') ∧ EquRel D stA.ss4 stA.t v x x' := by
  obtain ⟨ht, hshift, hfinal, _, _⟩ := C18_R1_parsed_code hpa hpb hrel hinc hhead stA stB
  intro j k v hj
  have hB := stB.heval
  rw [ht] at hB
  exact symtab_reloc_entry (hshift.mono (fun _ _ => AddrShift.toI)) (fixAllL_sameAddr stA.hfix)
    (fixAllL_sameAddr stB.hfix) hfinal stA.heval hB stA.hfinal stB.hfinal hj

end CoCo.Props
