/-
Props/TapeDefs.lean — the statements of the cassette properties C06, C14 (no proofs here).
-/
import CoCoVerif.Model.Cassette
import CoCoVerif.Spec.Tape

namespace CoCo.Props
open CoCo CoCo.Cas CoCo.Spec.Tape

/-- the tape-level view of a stored file -/
def toTape (f : CFile) : Spec.Tape.File :=
  { name := padName f.name, ftype := f.ftype, dtype := f.dtype, gap := 0,
    load := f.load, exec := f.exec, data := f.data }

/-- inputs the writer is specified for: every field fits its width -/
def ValidFile (f : CFile) : Prop :=
  (∀ c ∈ f.name, c < 256) ∧ f.ftype < 256 ∧ f.dtype < 256 ∧ f.load < 65536 ∧ f.exec < 65536 ∧
  (∀ b ∈ f.data, b < 256)

/-- C14 at full strength: for every list of files the image is a well-formed tape stream holding
exactly those files (framing, lengths, checksums, 15-byte name-file payload, ≤255-byte data blocks,
EOF block), and consists of bytes. -/
def C14_Statement : Prop :=
  ∀ fs : List CFile, (∀ f ∈ fs, ValidFile f) →
    WellFormed (fs.map toTape) (Cas.write fs) ∧ (∀ b ∈ Cas.write fs, b < 256)

/-- what listing returns for a file found on a tape -/
def ofTape (t : Spec.Tape.File) : CFile :=
  { name := t.name, ext := if t.ftype = 0x02 then [66, 73, 78] else [66, 65, 83],
    ftype := t.ftype, dtype := t.dtype, gaps := t.gap, load := t.load, exec := t.exec, data := t.data }

/-- names are ASCII (the reader UTF-8-decodes the 8 name bytes) -/
def AsciiName (n : List Nat) : Prop := ∀ c ∈ n, c < 128

/-- **Known finding E1** (the repository's test `test_read_file_empty_when_no_data` expects it): a file with
empty data ends the listing. `K_C06_emptyData` is the exclusion predicate. -/
def K_C06_emptyData (data : Bytes) : Bool := data.isEmpty

/-- C06 at full strength. (a) write-then-list returns the files; (b) listing any well-formed tape
stream returns exactly the files it contains. -/
def C06_Statement : Prop :=
  (∀ fs : List CFile, (∀ f ∈ fs, AsciiName f.name) →
      Cas.list (Cas.write fs) = .ok (fs.map Cas.norm)) ∧
  (∀ (ts : List Spec.Tape.File) (bytes : Bytes), WellFormed ts bytes → (∀ t ∈ ts, AsciiName t.name) →
      Cas.list bytes = .ok (ts.map ofTape))

end CoCo.Props
