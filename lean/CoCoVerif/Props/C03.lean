/-
Props/C03.lean — branch displacements and PC-relative offsets.

`fix_addresses` computes a displacement as a SUM OF SIZES of the statements between the branch and its
target; the CPU adds the displacement to the address of the next instruction.  The two agree when no ORG
lies between the branch and the target, and in an accepted program none does (fix f9c374f: no ORG after the first
label or byte; `Stages.disp_eq`).
-/
import CoCoVerif.Lemmas.ParseEval
import CoCoVerif.Lemmas.PcrWidthFix

namespace CoCo.Props
open CoCo CoCo.Asm
open CoCo.Spec.MC6809 (sext)

/-- what the statement at index `i` (a branch to the statement of index `b`) must look like: the stored field,
sign-extended, added to the address of the next instruction, gives the address of the target -/
def BranchField (s t : Stmt) : Prop :=
  ∃ x y, addrNat s = some x ∧ addrNat t = some y ∧
    (s.row.isShortBranch = true →
      ∃ d8, d8 < 256 ∧ s.pkg.additional = branchValue true d8 ∧ (y : Int) = x + s.pkg.size + sext d8 8) ∧
    (s.row.isShortBranch = false →
      ∃ d16, d16 < 65536 ∧ s.pkg.additional = branchValue false d16 ∧
        ((y : Int) - (x + s.pkg.size)) % 65536 = d16)

/-- the stored PC-relative offset of statement `s` (index `i`) whose operand names statement `t`: `fix_addresses`
computes the value `v`, `fit_operand_width` renders it at the width of the field (`fitWidth_numeric`: a negative 8-bit
offset as its two's complement byte) -/
def PcrField (s t : Stmt) : Prop :=
  ∃ x y v, addrNat s = some x ∧ addrNat t = some y ∧
    numericOfInt (pcrJump s y x) (some s.pcrHint) .none = .ok v ∧ fitWidth (withAdditional s v) = .ok s ∧
    (s.pcrHint = 2 → -128 ≤ pcrJump s y x ∧ pcrJump s y x ≤ 127)

/-- C03 at full strength: every branch of an accepted program whose operand is a label carries the
displacement the CPU needs; every PCR operand whose offset is a plain label (`label,PCR`) carries
`target − (address + size)` in a field wide enough.
(A PCR operand with a label is recognised by its post byte choices, `choices ≠ []`: `needsRes` alone does not single it
out, the label offset of a pointer register — `LDA TABLE,X`, fix 831a353 — has it too and carries the ADDRESS, see
`C03_label_offset` in Props/C03Width.) -/
def C03_Statement : Prop :=
  ∀ (fs : Files) (lines : List Str) (a : Assembly), assemble fs lines = .ok a →
    (∀ (i b : Nat) (m : Mode) (s t : Stmt), a.stmts[i]? = some s → s.operand.kind = .relative →
        s.operand.value = .address b m → a.stmts[b]? = some t → BranchField s t) ∧
    (∀ (i b : Nat) (m : Mode) (s t : Stmt), a.stmts[i]? = some s → s.pkg.choices ≠ [] →
        s.operand.left = .val (.address b m) → a.stmts[b]? = some t → PcrField s t)

/-- `fix_addresses` on a relative statement: a diagnostic exactly for a short branch out of range or
(after fix 145359a) for any branch whose distance does not fit the 16-bit field -/
theorem C03_diag_iff {ss : List Stmt} {i b : Nat} {s : Stmt} (hk : s.operand.kind = .relative)
    (hb : s.pkg.additional.int? = some b) :
    fixOne ss i s = .diag ↔
      (s.row.isShortBranch = true ∧ (if b ≤ i then sumSize ss b (i + 1) > 128 else sumSize ss (i + 1) b > 127)) ∨
      (if b ≤ i then sumSize ss b (i + 1) > 65535 else sumSize ss (i + 1) b > 65535) :=
  fixOne_relative_diag_iff hk hb

/-- (after fix 145359a) no internal error on a relative statement whose own size is counted -/
theorem C03_no_internal {ss : List Stmt} {i b : Nat} {s : Stmt} (hk : s.operand.kind = .relative)
    (hb : s.pkg.additional.int? = some b)
    (hpos : s.row.isShortBranch = false → b ≤ i → 1 ≤ sumSize ss b (i + 1)) :
    fixOne ss i s ≠ .internal :=
  fixOne_relative hk ▸ (fixBranch_meets i s fun _ => ⟨b, hb, hpos⟩).ne_internal

/-- in range: the stored byte, sign-extended, is `−Σ size(b..i)` (backward) or `Σ size(i+1..b−1)` (forward);
long branches store the same quantity modulo 65536 in a 16-bit field -/
theorem C03_field {ss : List Stmt} {i b : Nat} {s : Stmt} (hk : s.operand.kind = .relative)
    (hb : s.pkg.additional.int? = some b) :
    (s.row.isShortBranch = true → b ≤ i → 1 ≤ sumSize ss b (i + 1) → sumSize ss b (i + 1) ≤ 128 →
      fixOne ss i s = .ok (withAdditional s (branchValue true (256 - sumSize ss b (i + 1)))) ∧
      256 - sumSize ss b (i + 1) < 256 ∧
      sext (256 - sumSize ss b (i + 1)) 8 = -(sumSize ss b (i + 1) : Int)) ∧
    (s.row.isShortBranch = true → ¬ b ≤ i → sumSize ss (i + 1) b ≤ 127 →
      fixOne ss i s = .ok (withAdditional s (branchValue true (sumSize ss (i + 1) b))) ∧
      sext (sumSize ss (i + 1) b) 8 = (sumSize ss (i + 1) b : Int)) ∧
    (s.row.isShortBranch = false → b ≤ i → 1 ≤ sumSize ss b (i + 1) → sumSize ss b (i + 1) ≤ 65535 →
      fixOne ss i s = .ok (withAdditional s (branchValue false (65536 - sumSize ss b (i + 1)))) ∧
      65536 - sumSize ss b (i + 1) < 65536 ∧
      sext (65536 - sumSize ss b (i + 1)) 16 % 65536 = (-(sumSize ss b (i + 1) : Int)) % 65536) ∧
    (s.row.isShortBranch = false → ¬ b ≤ i → sumSize ss (i + 1) b ≤ 65535 →
      fixOne ss i s = .ok (withAdditional s (branchValue false (sumSize ss (i + 1) b))) ∧
      sext (sumSize ss (i + 1) b) 16 % 65536 = (sumSize ss (i + 1) b : Int) % 65536) :=
  ⟨fun h1 h2 h3 h4 => fixOne_short_backward hk hb h1 h2 h3 h4,
   fun h1 h2 h3 => fixOne_short_forward hk hb h1 h2 h3,
   fun h1 h2 h3 h4 => fixOne_long_backward hk hb h1 h2 h3 h4,
   fun h1 h2 h3 => fixOne_long_forward hk hb h1 h2 h3⟩

/-- `translate` of a relative operand whose resolved value is not a label (a number, an expression) raises (fix 06f4653):
the statement is never accepted -/
theorem C03_branch_nonlabel_rejected {o : Operand} {row : Gen.InstrRow} (hk : o.kind = .relative)
    (hv : o.value.isAddress = false) : ∀ p, translateOperand o row ≠ .ok p := by
  intro p h
  have := (translate_relative h hk).2.1
  rw [hv] at this
  cases this

/-- `BRA 5` and `LBRA $1000` are diagnostics -/
theorem C03_branch_number_diag (fs : Files) :
    assemble fs ([" BRA 5\n"].map String.toList) = .diag ∧
    assemble fs ([" LBRA $1000\n"].map String.toList) = .diag :=
  evaluated (by decide +kernel)

/-- every relative statement of an accepted program names a label -/
theorem C03_branch_is_label {fs : Files} {lines : List Str} {a : Assembly} (h : assemble fs lines = .ok a)
    {i : Nat} {s : Stmt} (hs : a.stmts[i]? = some s) (hk : s.operand.kind = .relative) :
    ∃ b m, s.operand.value = .address b m := by
  obtain ⟨st⟩ := assemble_stages h
  obtain ⟨_, _, pre⟩ := st.branch_pre hs hk
  have haddr := pre.isAddr
  cases hv : s.operand.value with
  | address b m => exact ⟨b, m, rfl⟩
  | _ => rw [hv] at haddr; cases haddr

/-- **C03, branch clause, at full strength**: every branch of an accepted program whose operand is a label carries the
displacement the CPU needs — no hypothesis on ORGs, none on the size of the branch statement.  The branch emits bytes
and its target carries an address label, so no ORG lies between them (`Stages.disp_eq`).  (A distance that does not
fit the field is a diagnostic: fix 145359a.) -/
theorem C03_branch_full {fs : Files} {lines : List Str} {a : Assembly} (h : assemble fs lines = .ok a)
    {i b : Nat} {m : Mode} {s t : Stmt} (hs : a.stmts[i]? = some s) (hk : s.operand.kind = .relative)
    (hv : s.operand.value = .address b m) (ht : a.stmts[b]? = some t) : BranchField s t := by
  obtain ⟨st⟩ := assemble_stages h
  obtain ⟨s4, s1, ⟨hs4, hfix, hfit, _, hsame, hadd, _, hrowmem, hbr, hopc, hpb, hsz4⟩⟩ := st.branch_pre hs hk
  obtain ⟨x, hx⟩ := st.chained.isSome hs
  obtain ⟨y, hy⟩ := st.chained.isSome ht
  obtain ⟨t', ht', hlab, hpd⟩ := st.relative_target hs hk hv
  obtain rfl : t' = t := Option.some.inj (ht'.symm.trans ht)
  have hsz := st.relative_size_pos hs hk
  have hk4 : s4.operand.kind = .relative := by obtain ⟨v, rfl⟩ := hsame; exact hk
  have hb4 : s4.pkg.additional.int? = some b := by rw [hadd, hv]; rfl
  have hrow : s.row = s4.row := by obtain ⟨v, rfl⟩ := hsame; rfl
  have hsum : ∀ lo hi, sumSize st.ss4 lo hi = sumSize a.stmts lo hi := fun lo hi => (st.sumSize_final lo hi).2
  -- the displacement counted in sizes is the distance between the addresses
  have hdisp : branchDisp st.ss4 i b = (y : Int) - (x + s.pkg.size) :=
    (branchDisp_congr hsum i b).trans
      (st.disp_eq hs ht (Stmt.lays_iff.2 (.inl hsz)) (Stmt.lays_iff.2 (.inr ⟨hlab, hpd⟩)) hx hy)
  have hpos : b ≤ i → 1 ≤ sumSize st.ss4 b (i + 1) := fun hbi => by rw [hsum, sumSize_succ hbi hs]; omega
  obtain ⟨n, rfl, hn, hshort, hlong⟩ := fixOne_relative_ok hk4 hb4 hpos hfix
  -- `fitWidth` leaves the field `fixOne` stored as it is
  have hfield : s.pkg.additional = branchValue s4.row.isShortBranch n := by
    rw [branch_fit hrowmem hbr hopc hpb hsz4 hn] at hfit
    cases hfit
    rfl
  rw [← hrow] at hfield hn hshort hlong
  refine ⟨x, y, hx, hy, fun hsb => ?_, fun hsb => ?_⟩
  · rw [hsb] at hfield hn
    exact ⟨n, hn, hfield, by rw [hshort hsb, hdisp]; omega⟩
  · rw [hsb] at hfield hn
    exact ⟨n, hn, hfield, by rw [hlong hsb, hdisp]⟩

/-- `C03_branch_full` under the side conditions "no ORG between the branch and its target" and "a branch statement of
non-zero size", which hold in every accepted program (`C03_no_org_between_branch`, `Stages.relative_size_pos`) -/
theorem C03_branch {fs : Files} {lines : List Str} {a : Assembly} (h : assemble fs lines = .ok a)
    {i b : Nat} {m : Mode} {s t : Stmt} (hs : a.stmts[i]? = some s) (hk : s.operand.kind = .relative)
    (hv : s.operand.value = .address b m) (ht : a.stmts[b]? = some t)
    (hno : ∀ j u, min b i < j → j ≤ max b i → a.stmts[j]? = some u → u.row.mnemonic ≠ "ORG")
    (hsz : 0 < s.pkg.size) :
    BranchField s t :=
  C03_branch_full h hs hk hv ht

/-- the branch field is what `get_binary_array` emits last for the statement: one byte for a short branch,
two bytes (high byte first) for a long branch -/
theorem C03_bytes {s : Stmt} {bs : Bytes} (h : stmtBytes s = some bs) :
    (∀ d8, d8 < 256 → s.pkg.additional = branchValue true d8 → ∃ pre, bs = pre ++ [d8]) ∧
    (∀ d16, d16 < 65536 → s.pkg.additional = branchValue false d16 → ∃ pre, bs = pre ++ [d16 / 256, d16 % 256]) := by
  constructor
  · intro d hd ha
    exact stmtBytes_suffix h (by rw [ha]; exact emit8 d hd)
  · intro d hd ha
    exact stmtBytes_suffix h (by rw [ha]; exact emit16 d hd)

/-- `fix_addresses` on a PCR statement (`needsRes`), at the level of `fixOne`: the stored value is
`numericOfInt jump (some pcrHint)` with `jump = target − own address − own size` as a signed 16-bit distance (fix ec1693d), reduced mod 65536 for the
16-bit form; `target` is what `fixRel` computes (for a plain label: the address of the statement it names) -/
theorem C03_pcr_fixOne {ss : List Stmt} {i : Nat} {s s' : Stmt} (hk : (s.operand.kind == .relative) = false)
    (hv1 : s.operand.value.isAddrExpr = false) (hv2 : s.operand.value.isAddress = false)
    (hv3 : s.operand.value ≠ .pyNone) (hn : s.pkg.needsRes = true) (hc : s.pkg.choices.isEmpty = false)
    (h : fixOne ss i s = .ok s') :
    ∃ target start v, fixRel ss s = .ok target ∧ addrIntOf ss i = some start ∧
      numericOfInt (pcrJump s target start) (some s.pcrHint) .none = .ok v ∧ s' = withAdditional s v ∧
      pcrJump s target start =
        (let d : Int := ((target : Int) - start - s.pkg.size + 0x8000) % 0x10000 - 0x8000   -- signed distance mod 65536
         if s.pcrHint = 4 then d % 65536 else d) := by
  obtain ⟨r, start, v, h1, h2, h3, h4, _⟩ := fixOne_pcr_in ⟨ne_of_beq_false hk, hv3, hv1, hv2⟩ hn hc h
  exact ⟨r, start, v, h1, h2, h3, h4, rfl⟩

/-- the same for an accepted program, in terms of the statement list `ss4` that enters `fix_addresses`
(equal to `a.stmts` except for `pkg.additional`): a PCR statement whose offset is the plain label of
statement `t` ends up with `numericOfInt (address t − own address − own size)`.  (Of the conditions on `s4` only the
post byte choices and the two on `additional` are used; the others hold of every statement with post byte choices,
`Stages.pcr_pre`.) -/
theorem C03_pcr {fs : Files} {lines : List Str} {a : Assembly} (h : assemble fs lines = .ok a) :
    ∃ ss4 : List Stmt, PW SameButAdditional ss4 a.stmts ∧
      ∀ (i t : Nat) (s4 s : Stmt), ss4[i]? = some s4 → a.stmts[i]? = some s →
        s4.pkg.needsRes = true → s4.pkg.choices.isEmpty = false → (s4.operand.kind == .relative) = false → s4.operand.value.isAddrExpr = false →
        s4.operand.value.isAddress = false → s4.operand.value ≠ .pyNone →
        s4.pkg.additional.isAddrExpr = false → s4.pkg.additional.int? = some t →
        ∃ u x y v, a.stmts[t]? = some u ∧ addrNat s = some x ∧ addrNat u = some y ∧
          numericOfInt (pcrJump s y x) (some s.pcrHint) .none = .ok v ∧ fitWidth (withAdditional s v) = .ok s := by
  obtain ⟨st⟩ := assemble_stages h
  refine ⟨st.ss4, fixAllL_pw st.hfix, fun i t s4 s hs4 hs _ hc _ _ _ _ he ht => ?_⟩
  obtain ⟨w, rfl⟩ := (fixAllL_pw st.hfix).2 i s4 s hs4 hs
  obtain ⟨s3, pre⟩ := st.pcr_pre_at hs4 hs (List.isEmpty_eq_false_iff.1 hc)
  obtain ⟨target, htgt, x, v, hx, hnum, hfit, _⟩ := st.pcr_field hs pre
  -- the target of a plain label is the address of the statement it names
  obtain ⟨u, hu, hy⟩ := st.addrIntOf4_some (fixRel_target_plain he ((relIndex_plain he).trans ht) htgt)
  exact ⟨u, x, target, v, hu, hx, hy, hnum, hfit⟩

/-- a branch over an ORG -/
def C03_orgWitness : List Str := ["START BRA END\n", " ORG $100\n", "END NOP\n"].map String.toList

/-- a branch over an ORG would get a displacement computed from sizes (stored byte 0, needed 254: finding B1); since
fix f9c374f an ORG after the first label or byte is a diagnostic, so no accepted program has an ORG between a branch
and its target -/
theorem C03_branch_org_counterexample_fixed (fs : Files) : assemble fs C03_orgWitness = .diag :=
  diagProgramF_sound (by decide +kernel) fs

/-- What this file proves of C03. (1) `fix_addresses` reports a diagnostic exactly for short branches out of range
and (fix 145359a) for distances that do not fit 16 bits;
(2) in range, the stored field encodes the sum of sizes, as a sign-extended byte or modulo 65536;
(3) for an accepted program without an ORG between branch and target, field + next instruction address =
target address; (4) PCR statements store `target − address − size` (`fixOne`; `fitWidth` then renders the value at the
width of the field).
The width invariant (the 8-bit PCR form is only chosen for offsets in −128..127) is proved in `Props/C03Width.lean`
(`C03_pcr8_width`, `C03_pcr_label`, `C03_pcr_clause`; the fixes aafdc4b, 8dc2b21, 0293787, 95bb240, ec1693d, abbd512 of
/repo concern it); the hypotheses of (3) hold in every accepted program (`C03_branch_full`). -/
theorem C03_partial :
    (∀ (ss : List Stmt) (i b : Nat) (s : Stmt), s.operand.kind = .relative → s.pkg.additional.int? = some b →
      (fixOne ss i s = .diag ↔
        (s.row.isShortBranch = true ∧ (if b ≤ i then sumSize ss b (i + 1) > 128 else sumSize ss (i + 1) b > 127)) ∨
        (if b ≤ i then sumSize ss b (i + 1) > 65535 else sumSize ss (i + 1) b > 65535))) ∧
    (∀ (fs : Files) (lines : List Str) (a : Assembly), assemble fs lines = .ok a →
      ∀ (i b : Nat) (m : Mode) (s t : Stmt), a.stmts[i]? = some s → s.operand.kind = .relative →
        s.operand.value = .address b m → a.stmts[b]? = some t →
        (∀ j u, min b i < j → j ≤ max b i → a.stmts[j]? = some u → u.row.mnemonic ≠ "ORG") →
        0 < s.pkg.size →
        BranchField s t) ∧
    (∀ (ss : List Stmt) (i : Nat) (s s' : Stmt), (s.operand.kind == .relative) = false →
      s.operand.value.isAddrExpr = false → s.operand.value.isAddress = false → s.operand.value ≠ .pyNone →
      s.pkg.needsRes = true → s.pkg.choices.isEmpty = false → fixOne ss i s = .ok s' →
      ∃ target start v, fixRel ss s = .ok target ∧ addrIntOf ss i = some start ∧
        numericOfInt (pcrJump s target start) (some s.pcrHint) .none = .ok v ∧ s' = withAdditional s v) :=
  ⟨fun _ _ _ _ hk hb => C03_diag_iff hk hb,
   fun _ _ _ h _ _ _ _ _ hs hk hv ht _ _ => C03_branch_full h hs hk hv ht,
   fun _ _ _ _ hk h1 h2 h3 hn hc h =>
    let ⟨r, start, v, q1, q2, q3, q4, _⟩ := C03_pcr_fixOne hk h1 h2 h3 hn hc h
    ⟨r, start, v, q1, q2, q3, q4⟩⟩

/-- a backward and a forward short branch and a long branch, no ORG in between: the hypotheses of
`C03_branch` are satisfiable -/
def C03_example : List Str :=
  ["LOOP NOP\n", " BRA LOOP\n", " BNE DONE\n", " LBRA LOOP\n", "DONE RTS\n"].map String.toList

private def exampleCheck (a : Assembly) : Bool :=
  match a.stmts[1]?, a.stmts[2]?, a.stmts[3]? with
  | some s1, some s2, some s3 =>
    s1.operand.kind == .relative && s2.operand.kind == .relative && s3.operand.kind == .relative &&
    (match s1.operand.value, s2.operand.value, s3.operand.value with
     | .address 0 _, .address 4 _, .address 0 _ => true | _, _, _ => false) &&
    s1.pkg.size == 2 && s2.pkg.size == 2 && s3.pkg.size == 3 &&
    a.stmts.all (fun u => u.row.mnemonic != "ORG") &&
    (match s1.pkg.additional, s2.pkg.additional, s3.pkg.additional with
     | .numeric 0xFD _ _ _, .numeric 3 _ _ _, .numeric 0xFFF8 _ _ _ => true | _, _, _ => false)
  | _, _, _ => false

example : ∃ a, assemble [] C03_example = .ok a ∧ exampleCheck a = true :=
  checkProgramF_sound (by decide +kernel) []

end CoCo.Props
