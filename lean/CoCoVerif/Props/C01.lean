/-
Props/C01.lean — the instruction table agrees with the MC6809 datasheet (i), and every operand class
is encoded so that the datasheet decoder reads back the same operation and operand (ii).
Statements, main theorems, finding witnesses and non-vacuity examples; helpers are in Lemmas/Encode*.lean.

`Encodes o r x` (Lemmas/EncodeDecode.lean): `translateOperand o r = .ok pkg`, every statement carrying row,
operand and `pkg` passes `fitWidth` (`Statement.fit_operand_width`) and then emits `bytes`,
`bytes.length = pkg.size`, and `decode bytes = some (⟨opOf r.mnemonic, x⟩, bytes.length)`.
-/
import CoCoVerif.Lemmas.EncodeIndexed
import CoCoVerif.Lemmas.EncodeLabel
import CoCoVerif.Lemmas.EncodeWitness

namespace CoCo.Props
open CoCo CoCo.Asm CoCo.Spec.MC6809
open CoCo.Gen (InstrRow)

/-- every non-pseudo row: each opcode cell is in the datasheet map under the row's operation (modulo the
datasheet's synonyms), in an addressing mode of that column, and the size column is opcode length plus
operand length; an empty cell has size 0 -/
theorem table_matches_datasheet : ∀ r ∈ Gen.instructions, rowOk r = true := by decide +kernel

/-- every opcode of the datasheet map occurs in some cell of the table -/
theorem map_covered : ∀ e ∈ opcodeMap, reachable e.1 = true := by decide +kernel

def imm16Flag (r : InstrRow) : Bool :=
  match r.imm with
  | some c => (match lookup c with | some (_, .imm16) => r.is16Bit | _ => true)
  | none => true

theorem imm16Flag_all : ∀ r ∈ Gen.instructions, imm16Flag r = true := by decide +kernel

/-- a row whose immediate form takes a 16-bit operand carries the `is_16_bit` flag -/
theorem imm16_rows_flagged : ∀ r ∈ Gen.instructions,
    (∃ c op, r.imm = some c ∧ lookup c = some (op, .imm16)) → r.is16Bit = true := by
  intro r hr ⟨c, op, hc, hl⟩
  have := imm16Flag_all r hr
  simpa [imm16Flag, hc, hl] using this

/-- and conversely the flag is only set on such rows -/
theorem flagged_rows_imm16 : ∀ r ∈ Gen.instructions, r.is16Bit = true →
    ∃ c, r.imm = some c ∧ lookup c = some (opOf r.mnemonic, .imm16) := by
  decide +kernel

section cells
variable {r : InstrRow} (hr : r ∈ Gen.instructions) (hp : r.isPseudo = false)
include hr hp

theorem row_cells :
    cellOk r.mnemonic r.inh r.inhSz [.inh] = true ∧ cellOk r.mnemonic r.imm r.immSz [.imm8, .imm16, .pair, .list] = true ∧
    cellOk r.mnemonic r.dir r.dirSz [.dir] = true ∧ cellOk r.mnemonic r.ind r.indSz [.idx] = true ∧
    cellOk r.mnemonic r.ext r.extSz [.ext] = true ∧ cellOk r.mnemonic r.rel r.relSz [.rel8, .rel16] = true := by
  have h := table_matches_datasheet r hr
  simp only [rowOk, hp, Bool.false_or, Bool.and_eq_true] at h
  obtain ⟨⟨⟨⟨⟨h1, h2⟩, h3⟩, h4⟩, h5⟩, h6⟩ := h
  exact ⟨h1, h2, h3, h4, h5, h6⟩

theorem cell_inh {c : Nat} (hc : r.inh = some c) :
    lookup c = some (opOf r.mnemonic, .inh) ∧ r.inhSz = opcodeLen c :=
  cellOk_single (hc ▸ (row_cells hr hp).1)

theorem cell_imm {c : Nat} {op : String} {am : AM} (hc : r.imm = some c) (hl : lookup c = some (op, am)) :
    lookup c = some (opOf r.mnemonic, am) ∧ r.immSz = opcodeLen c + operandLen am := by
  have h := (row_cells hr hp).2.1
  rw [hc] at h
  obtain ⟨am', h1, _, h3⟩ := cellOk_some h
  rw [hl] at h1
  simp only [Option.some.injEq, Prod.mk.injEq] at h1
  obtain ⟨rfl, rfl⟩ := h1
  exact ⟨hl, h3⟩

theorem cell_dir {c : Nat} (hc : r.dir = some c) :
    lookup c = some (opOf r.mnemonic, .dir) ∧ r.dirSz = opcodeLen c + 1 :=
  cellOk_single (hc ▸ (row_cells hr hp).2.2.1)

theorem cell_ind {c : Nat} (hc : r.ind = some c) :
    lookup c = some (opOf r.mnemonic, .idx) ∧ r.indSz = opcodeLen c + 1 :=
  cellOk_single (hc ▸ (row_cells hr hp).2.2.2.1)

theorem cell_ext {c : Nat} (hc : r.ext = some c) :
    lookup c = some (opOf r.mnemonic, .ext) ∧ r.extSz = opcodeLen c + 2 :=
  cellOk_single (hc ▸ (row_cells hr hp).2.2.2.2.1)

end cells

/-- a register-operand row (PSHS … TFR) has only an immediate cell, and that cell is a register-pair or
register-list opcode -/
def specialRowOk (r : InstrRow) : Bool :=
  !r.isSpecial ||
  (r.dir.isNone && r.ind.isNone && r.ext.isNone &&
   match r.imm with
   | some c => (match lookup c with | some (_, .pair) => true | some (_, .list) => true | _ => false)
   | none => true)

theorem special_rows : ∀ r ∈ Gen.instructions, specialRowOk r = true := by decide +kernel

section notSpecial
variable {r : InstrRow} (hr : r ∈ Gen.instructions)
include hr

theorem notSpecial_of_dir {c : Nat} (hc : r.dir = some c) : r.isSpecial = false := by
  have h := special_rows r hr
  cases hs : r.isSpecial <;> simp_all [specialRowOk]

theorem notSpecial_of_ind {c : Nat} (hc : r.ind = some c) : r.isSpecial = false := by
  have h := special_rows r hr
  cases hs : r.isSpecial <;> simp_all [specialRowOk]

theorem notSpecial_of_ext {c : Nat} (hc : r.ext = some c) : r.isSpecial = false := by
  have h := special_rows r hr
  cases hs : r.isSpecial <;> simp_all [specialRowOk]

theorem notSpecial_of_imm {c : Nat} {op : String} {am : AM} (hc : r.imm = some c) (hl : lookup c = some (op, am))
    (ham : am = .imm8 ∨ am = .imm16) : r.isSpecial = false := by
  have h := special_rows r hr
  cases hs : r.isSpecial
  · rfl
  · rcases ham with rfl | rfl <;> simp_all [specialRowOk]

end notSpecial

theorem idxCell {r : InstrRow} (hr : r ∈ Gen.instructions) (hp : r.isPseudo = false) {c : Nat} (hc : r.ind = some c) :
    IdxCell r c :=
  ⟨hc, (cell_ind hr hp hc).1, (cell_ind hr hp hc).2, hp, notSpecial_of_ind hr hc⟩

/-- the four stack instructions: their immediate cell is a register-list opcode of two bytes in all -/
def pshRowOk (r : InstrRow) : Bool :=
  !r.isPseudo && !(r.mnemonic == "EXG" || r.mnemonic == "TFR") &&
  match r.imm with
  | some c => decide (lookup c = some (opOf r.mnemonic, .list)) && r.immSz == opcodeLen c + 1
  | none => false

def isStackMn (mn : String) : Bool := mn == "PSHS" || mn == "PSHU" || mn == "PULS" || mn == "PULU"

theorem psh_rows : ∀ r ∈ Gen.instructions, isStackMn r.mnemonic = true → pshRowOk r = true := by decide +kernel

/-- signed value of a NumericValue -/
def signedVal (i : Nat) (neg : Bool) : Int := if neg then -(i : Int) else i

/-- two's complement representation in `bits` bits -/
def twos (z : Int) (bits : Nat) : Nat := (z % ((2 ^ bits : Nat) : Int)).toNat

/-- the accumulator names of `A,R B,R D,R` with the datasheet's post-byte codes -/
def accNames : List (Str × Nat) := [(['A'], 6), (['B'], 5), (['D'], 11)]

/-- the operand is inside brackets but is not `[address]`, `[label expression]` or `[number]` -/
def Bracketed (o : Asm.Operand) : Prop :=
  o.kind = .extIndirect ∧ o.value.isAddress = false ∧ o.value.isAddrExpr = false ∧ o.value.isNumeric = false

/-- `PSHU / PULU` (bit 6 of the post byte then means S) -/
def isUStack (mn : String) : Bool := mn == "PSHU" || mn == "PULU"

/-- INTENDED meaning: which datasheet operand a resolved operand of row `r` stands for — every class,
every value that fits the field, regardless of how the value was written (size hints play no role).  A numeric
offset from the program counter (`n,PCR`) takes the 8-bit form when it lies in −128..127 and was not
spelt in extended mode (`$0005,PCR`, or any non-negative literal on an `is_16_bit` row), the 16-bit form otherwise. -/
inductive Intends (r : InstrRow) : Asm.Operand → Spec.MC6809.Operand → Prop
  | inherent {o : Asm.Operand} {c : Nat} : o.kind = .inherent → r.inh = some c → Intends r o .none
  | imm8 {o : Asm.Operand} {c : Nat} {op : String} {i : Nat} {h : Option Nat} {m : Mode} {neg : Bool} : o.kind = .immediate → r.imm = some c → lookup c = some (op, .imm8) →
      o.value = .numeric i h m neg → -128 ≤ signedVal i neg → signedVal i neg ≤ 255 → Intends r o (.imm 8 (twos (signedVal i neg) 8))
  | imm16 {o : Asm.Operand} {c : Nat} {op : String} {i : Nat} {h : Option Nat} {m : Mode} {neg : Bool} : o.kind = .immediate → r.imm = some c → lookup c = some (op, .imm16) →
      o.value = .numeric i h m neg → -32768 ≤ signedVal i neg → signedVal i neg ≤ 65535 →
      Intends r o (.imm 16 (twos (signedVal i neg) 16))
  | direct {o : Asm.Operand} {c : Nat} {v : Nat} {h : Option Nat} {m : Mode} : o.kind = .direct → r.dir = some c → o.value = .numeric v h m false → v < 256 →
      Intends r o (.dir v)
  | extended {o : Asm.Operand} {c : Nat} {v : Nat} {h : Option Nat} {m : Mode} : o.kind = .extended → r.ext = some c → o.value = .numeric v h m false → v < 65536 →
      Intends r o (.ext v)
  | extInd {o : Asm.Operand} {c : Nat} {v : Nat} {h : Option Nat} {m : Mode} : o.kind = .extIndirect → r.ind = some c → o.value = .numeric v h m false → v < 65536 →
      Intends r o (.idx (.extInd v))
  | zero {o : Asm.Operand} {c : Nat} {k : Nat} : o.kind = .indexed → r.ind = some c → o.left = .text [] → k < 4 → o.right = some (regName k) →
      Intends r o (.idx (.off k 0 false 0))
  | inc1 {o : Asm.Operand} {c : Nat} {k : Nat} : o.kind = .indexed → r.ind = some c → o.left = .text [] → k < 4 →
      o.right = some (regName k ++ ['+']) → Intends r o (.idx (.inc1 k))
  | inc2 {o : Asm.Operand} {c : Nat} {k : Nat} : o.kind = .indexed → r.ind = some c → o.left = .text [] → k < 4 →
      o.right = some (regName k ++ ['+', '+']) → Intends r o (.idx (.inc2 k false))
  | dec1 {o : Asm.Operand} {c : Nat} {k : Nat} : o.kind = .indexed → r.ind = some c → o.left = .text [] → k < 4 →
      o.right = some ('-' :: regName k) → Intends r o (.idx (.dec1 k))
  | dec2 {o : Asm.Operand} {c : Nat} {k : Nat} : o.kind = .indexed → r.ind = some c → o.left = .text [] → k < 4 →
      o.right = some ('-' :: '-' :: regName k) → Intends r o (.idx (.dec2 k false))
  | indZero {o : Asm.Operand} {c : Nat} {k : Nat} : Bracketed o → r.ind = some c → o.left = .text [] → k < 4 → o.right = some (regName k) →
      Intends r o (.idx (.off k 0 true 0))
  | indInc2 {o : Asm.Operand} {c : Nat} {k : Nat} : Bracketed o → r.ind = some c → o.left = .text [] → k < 4 →
      o.right = some (regName k ++ ['+', '+']) → Intends r o (.idx (.inc2 k true))
  | indDec2 {o : Asm.Operand} {c : Nat} {k : Nat} : Bracketed o → r.ind = some c → o.left = .text [] → k < 4 →
      o.right = some ('-' :: '-' :: regName k) → Intends r o (.idx (.dec2 k true))
  | acc {o : Asm.Operand} {c : Nat} {k : Nat} {l : Str} {a : Nat} : o.kind = .indexed → r.ind = some c → (l, a) ∈ accNames → o.left = .text l → k < 4 →
      o.right = some (regName k) → Intends r o (.idx (.acc a k false))
  | indAcc {o : Asm.Operand} {c : Nat} {k : Nat} {l : Str} {a : Nat} : Bracketed o → r.ind = some c → (l, a) ∈ accNames → o.left = .text l → k < 4 →
      o.right = some (regName k) → Intends r o (.idx (.acc a k true))
  | off5 {o : Asm.Operand} {c : Nat} {k : Nat} {i : Nat} {h : Option Nat} {m : Mode} {neg : Bool} : o.kind = .indexed → r.ind = some c → o.left = .val (.numeric i h m neg) → i ≠ 0 →
      k < 4 → o.right = some (regName k) → -16 ≤ signedVal i neg → signedVal i neg ≤ 15 →
      Intends r o (.idx (.off k (signedVal i neg) false 5))
  | off8 {o : Asm.Operand} {c : Nat} {k : Nat} {i : Nat} {h : Option Nat} {m : Mode} {neg : Bool} : o.kind = .indexed → r.ind = some c → o.left = .val (.numeric i h m neg) →
      k < 4 → o.right = some (regName k) → ¬ (-16 ≤ signedVal i neg ∧ signedVal i neg ≤ 15) →
      -128 ≤ signedVal i neg → signedVal i neg ≤ 127 → Intends r o (.idx (.off k (signedVal i neg) false 8))
  | off16 {o : Asm.Operand} {c : Nat} {k : Nat} {i : Nat} {h : Option Nat} {m : Mode} {neg : Bool} : o.kind = .indexed → r.ind = some c → o.left = .val (.numeric i h m neg) →
      k < 4 → o.right = some (regName k) → ¬ (-128 ≤ signedVal i neg ∧ signedVal i neg ≤ 127) →
      -32768 ≤ signedVal i neg → signedVal i neg ≤ 65535 →
      Intends r o (.idx (.off k (sext (twos (signedVal i neg) 16) 16) false 16))
  | indOff8 {o : Asm.Operand} {c : Nat} {k : Nat} {i : Nat} {h : Option Nat} {m : Mode} {neg : Bool} : Bracketed o → r.ind = some c → o.left = .val (.numeric i h m neg) → i ≠ 0 →
      k < 4 → o.right = some (regName k) → -128 ≤ signedVal i neg → signedVal i neg ≤ 127 →
      Intends r o (.idx (.off k (signedVal i neg) true 8))
  | indOff16 {o : Asm.Operand} {c : Nat} {k : Nat} {i : Nat} {h : Option Nat} {m : Mode} {neg : Bool} : Bracketed o → r.ind = some c → o.left = .val (.numeric i h m neg) →
      k < 4 → o.right = some (regName k) → ¬ (-128 ≤ signedVal i neg ∧ signedVal i neg ≤ 127) →
      -32768 ≤ signedVal i neg → signedVal i neg ≤ 65535 →
      Intends r o (.idx (.off k (sext (twos (signedVal i neg) 16) 16) true 16))
  | pcr8 {o : Asm.Operand} {c : Nat} {i : Nat} {h : Option Nat} {m : Mode} {neg : Bool} : o.kind = .indexed → r.ind = some c → o.left = .val (.numeric i h m neg) →
      o.right = some (str "PCR") → m ≠ .extended → -128 ≤ signedVal i neg → signedVal i neg ≤ 127 →
      Intends r o (.idx (.pcr (signedVal i neg) false 8))
  | pcr16 {o : Asm.Operand} {c : Nat} {i : Nat} {h : Option Nat} {m : Mode} {neg : Bool} : o.kind = .indexed → r.ind = some c → o.left = .val (.numeric i h m neg) →
      o.right = some (str "PCR") → (m = .extended ∨ ¬ (-128 ≤ signedVal i neg ∧ signedVal i neg ≤ 127)) →
      -32768 ≤ signedVal i neg → signedVal i neg ≤ 65535 →
      Intends r o (.idx (.pcr (sext (twos (signedVal i neg) 16) 16) false 16))
  | indPcr8 {o : Asm.Operand} {c : Nat} {i : Nat} {h : Option Nat} {m : Mode} {neg : Bool} : Bracketed o → r.ind = some c → o.left = .val (.numeric i h m neg) →
      o.right = some (str "PCR") → m ≠ .extended → -128 ≤ signedVal i neg → signedVal i neg ≤ 127 →
      Intends r o (.idx (.pcr (signedVal i neg) true 8))
  | indPcr16 {o : Asm.Operand} {c : Nat} {i : Nat} {h : Option Nat} {m : Mode} {neg : Bool} : Bracketed o → r.ind = some c → o.left = .val (.numeric i h m neg) →
      o.right = some (str "PCR") → (m = .extended ∨ ¬ (-128 ≤ signedVal i neg ∧ signedVal i neg ≤ 127)) →
      -32768 ≤ signedVal i neg → signedVal i neg ≤ 65535 →
      Intends r o (.idx (.pcr (sext (twos (signedVal i neg) 16) 16) true 16))
  | pair {o : Asm.Operand} {a : String} {b : String} : (r.mnemonic = "TFR" ∨ r.mnemonic = "EXG") → o.kind = .special → a ∈ Gen.registers →
      b ∈ Gen.registers → dsPairOk a b = true → o.text = a.toList ++ ',' :: b.toList →
      Intends r o (.pair (dsPairCode a) (dsPairCode b))
  | list {o : Asm.Operand} {regs : List Str} : isStackMn r.mnemonic = true → o.kind = .special → regs ≠ [] →
      (∀ x ∈ regs, (dsBit (isUStack r.mnemonic) x).isSome) → o.text = joinWith ',' regs →
      Intends r o (.list (dsMask (isUStack r.mnemonic) regs))

/-- C01 (ii) at full strength: every operand is encoded as the datasheet operand it stands for -/
def C01_Statement : Prop :=
  ∀ r ∈ Gen.instructions, r.isPseudo = false → ∀ o x, Intends r o x → Encodes o r x

/-- `Intends` spelt out by sign, with the two's complement written as a subtraction: the form C12 and the text front
end (C01Text) use.  Nothing is re-interpreted on the way: `region_sub_intends`. -/
inductive Region (r : InstrRow) : Asm.Operand → Spec.MC6809.Operand → Prop
  | inherent {o : Asm.Operand} {c : Nat} : o.kind = .inherent → r.inh = some c → Region r o .none
  | imm8 {o : Asm.Operand} {c : Nat} {op : String} {v : Nat} {h : Option Nat} {m : Mode} : o.kind = .immediate → r.imm = some c → lookup c = some (op, .imm8) →
      o.value = .numeric v h m false → v < 256 → Region r o (.imm 8 v)
  | imm8neg {o : Asm.Operand} {c : Nat} {op : String} {i : Nat} {h : Option Nat} {m : Mode} : o.kind = .immediate → r.imm = some c → lookup c = some (op, .imm8) →
      o.value = .numeric i h m true → 1 ≤ i → i ≤ 128 → Region r o (.imm 8 (256 - i))
  | imm16 {o : Asm.Operand} {c : Nat} {op : String} {v : Nat} {h : Option Nat} {m : Mode} : o.kind = .immediate → r.imm = some c → lookup c = some (op, .imm16) →
      o.value = .numeric v h m false → v < 65536 → Region r o (.imm 16 v)
  | imm16neg {o : Asm.Operand} {c : Nat} {op : String} {i : Nat} {h : Option Nat} {m : Mode} : o.kind = .immediate → r.imm = some c → lookup c = some (op, .imm16) →
      o.value = .numeric i h m true → 1 ≤ i → i ≤ 32768 → Region r o (.imm 16 (65536 - i))
  | direct {o : Asm.Operand} {c : Nat} {v : Nat} {h : Option Nat} {m : Mode} : o.kind = .direct → r.dir = some c → o.value = .numeric v h m false → v < 256 →
      Region r o (.dir v)
  | extended {o : Asm.Operand} {c : Nat} {v : Nat} {h : Option Nat} {m : Mode} : o.kind = .extended → r.ext = some c → o.value = .numeric v h m false → v < 65536 →
      Region r o (.ext v)
  | extInd {o : Asm.Operand} {c : Nat} {v : Nat} {h : Option Nat} {m : Mode} : o.kind = .extIndirect → r.ind = some c → o.value = .numeric v h m false → v < 65536 →
      Region r o (.idx (.extInd v))
  | zero {o : Asm.Operand} {c : Nat} {k : Nat} : o.kind = .indexed → r.ind = some c → o.left = .text [] → k < 4 → o.right = some (regName k) →
      Region r o (.idx (.off k 0 false 0))
  | inc1 {o : Asm.Operand} {c : Nat} {k : Nat} : o.kind = .indexed → r.ind = some c → o.left = .text [] → k < 4 →
      o.right = some (regName k ++ ['+']) → Region r o (.idx (.inc1 k))
  | inc2 {o : Asm.Operand} {c : Nat} {k : Nat} : o.kind = .indexed → r.ind = some c → o.left = .text [] → k < 4 →
      o.right = some (regName k ++ ['+', '+']) → Region r o (.idx (.inc2 k false))
  | dec1 {o : Asm.Operand} {c : Nat} {k : Nat} : o.kind = .indexed → r.ind = some c → o.left = .text [] → k < 4 →
      o.right = some ('-' :: regName k) → Region r o (.idx (.dec1 k))
  | dec2 {o : Asm.Operand} {c : Nat} {k : Nat} : o.kind = .indexed → r.ind = some c → o.left = .text [] → k < 4 →
      o.right = some ('-' :: '-' :: regName k) → Region r o (.idx (.dec2 k false))
  | indZero {o : Asm.Operand} {c : Nat} {k : Nat} : Bracketed o → r.ind = some c → o.left = .text [] → k < 4 → o.right = some (regName k) →
      Region r o (.idx (.off k 0 true 0))
  | indInc2 {o : Asm.Operand} {c : Nat} {k : Nat} : Bracketed o → r.ind = some c → o.left = .text [] → k < 4 →
      o.right = some (regName k ++ ['+', '+']) → Region r o (.idx (.inc2 k true))
  | indDec2 {o : Asm.Operand} {c : Nat} {k : Nat} : Bracketed o → r.ind = some c → o.left = .text [] → k < 4 →
      o.right = some ('-' :: '-' :: regName k) → Region r o (.idx (.dec2 k true))
  | acc {o : Asm.Operand} {c : Nat} {k : Nat} {l : Str} {a : Nat} : o.kind = .indexed → r.ind = some c → (l, a) ∈ accNames → o.left = .text l → k < 4 →
      o.right = some (regName k) → Region r o (.idx (.acc a k false))
  | indAcc {o : Asm.Operand} {c : Nat} {k : Nat} {l : Str} {a : Nat} : Bracketed o → r.ind = some c → (l, a) ∈ accNames → o.left = .text l → k < 4 →
      o.right = some (regName k) → Region r o (.idx (.acc a k true))
  | off5pos {o : Asm.Operand} {c : Nat} {k : Nat} {i : Nat} {h : Option Nat} {m : Mode} : o.kind = .indexed → r.ind = some c → o.left = .val (.numeric i h m false) →
      1 ≤ i → i ≤ 15 → k < 4 → o.right = some (regName k) → Region r o (.idx (.off k i false 5))
  | off5neg {o : Asm.Operand} {c : Nat} {k : Nat} {i : Nat} {h : Option Nat} {m : Mode} : o.kind = .indexed → r.ind = some c → o.left = .val (.numeric i h m true) →
      1 ≤ i → i ≤ 16 → k < 4 → o.right = some (regName k) → Region r o (.idx (.off k (-(i : Int)) false 5))
  | off8pos {o : Asm.Operand} {c : Nat} {k : Nat} {i : Nat} {h : Option Nat} {m : Mode} : o.kind = .indexed → r.ind = some c → o.left = .val (.numeric i h m false) →
      16 ≤ i → i ≤ 127 → k < 4 → o.right = some (regName k) → Region r o (.idx (.off k i false 8))
  | off8neg {o : Asm.Operand} {c : Nat} {k : Nat} {i : Nat} {h : Option Nat} {m : Mode} : o.kind = .indexed → r.ind = some c → o.left = .val (.numeric i h m true) →
      17 ≤ i → i ≤ 128 → k < 4 → o.right = some (regName k) → Region r o (.idx (.off k (-(i : Int)) false 8))
  | off16pos {o : Asm.Operand} {c : Nat} {k : Nat} {i : Nat} {h : Option Nat} {m : Mode} : o.kind = .indexed → r.ind = some c → o.left = .val (.numeric i h m false) →
      128 ≤ i → i < 65536 → k < 4 → o.right = some (regName k) →
      Region r o (.idx (.off k (sext i 16) false 16))
  | off16neg {o : Asm.Operand} {c : Nat} {k : Nat} {i : Nat} {h : Option Nat} {m : Mode} : o.kind = .indexed → r.ind = some c → o.left = .val (.numeric i h m true) →
      129 ≤ i → i ≤ 32768 → k < 4 → o.right = some (regName k) → Region r o (.idx (.off k (-(i : Int)) false 16))
  | indOff8pos {o : Asm.Operand} {c : Nat} {k : Nat} {i : Nat} {h : Option Nat} {m : Mode} : Bracketed o → r.ind = some c → o.left = .val (.numeric i h m false) →
      1 ≤ i → i ≤ 127 → k < 4 → o.right = some (regName k) → Region r o (.idx (.off k i true 8))
  | indOff8neg {o : Asm.Operand} {c : Nat} {k : Nat} {i : Nat} {h : Option Nat} {m : Mode} : Bracketed o → r.ind = some c → o.left = .val (.numeric i h m true) →
      1 ≤ i → i ≤ 128 → k < 4 → o.right = some (regName k) → Region r o (.idx (.off k (-(i : Int)) true 8))
  | indOff16pos {o : Asm.Operand} {c : Nat} {k : Nat} {i : Nat} {h : Option Nat} {m : Mode} : Bracketed o → r.ind = some c → o.left = .val (.numeric i h m false) →
      128 ≤ i → i < 65536 → k < 4 → o.right = some (regName k) →
      Region r o (.idx (.off k (sext i 16) true 16))
  | indOff16neg {o : Asm.Operand} {c : Nat} {k : Nat} {i : Nat} {h : Option Nat} {m : Mode} : Bracketed o → r.ind = some c → o.left = .val (.numeric i h m true) →
      129 ≤ i → i ≤ 32768 → k < 4 → o.right = some (regName k) → Region r o (.idx (.off k (-(i : Int)) true 16))
  | pcr8 {o : Asm.Operand} {c : Nat} {i : Nat} {h : Option Nat} {m : Mode} {neg : Bool} : o.kind = .indexed → r.ind = some c → o.left = .val (.numeric i h m neg) →
      o.right = some (str "PCR") → m ≠ .extended → -128 ≤ signedVal i neg → signedVal i neg ≤ 127 →
      Region r o (.idx (.pcr (signedVal i neg) false 8))
  | pcr16 {o : Asm.Operand} {c : Nat} {i : Nat} {h : Option Nat} {m : Mode} {neg : Bool} : o.kind = .indexed → r.ind = some c → o.left = .val (.numeric i h m neg) →
      o.right = some (str "PCR") → (m = .extended ∨ ¬ (-128 ≤ signedVal i neg ∧ signedVal i neg ≤ 127)) →
      -32768 ≤ signedVal i neg → signedVal i neg ≤ 65535 →
      Region r o (.idx (.pcr (sext (twos (signedVal i neg) 16) 16) false 16))
  | indPcr8 {o : Asm.Operand} {c : Nat} {i : Nat} {h : Option Nat} {m : Mode} {neg : Bool} : Bracketed o → r.ind = some c → o.left = .val (.numeric i h m neg) →
      o.right = some (str "PCR") → m ≠ .extended → -128 ≤ signedVal i neg → signedVal i neg ≤ 127 →
      Region r o (.idx (.pcr (signedVal i neg) true 8))
  | indPcr16 {o : Asm.Operand} {c : Nat} {i : Nat} {h : Option Nat} {m : Mode} {neg : Bool} : Bracketed o → r.ind = some c → o.left = .val (.numeric i h m neg) →
      o.right = some (str "PCR") → (m = .extended ∨ ¬ (-128 ≤ signedVal i neg ∧ signedVal i neg ≤ 127)) →
      -32768 ≤ signedVal i neg → signedVal i neg ≤ 65535 →
      Region r o (.idx (.pcr (sext (twos (signedVal i neg) 16) 16) true 16))
  | pair {o : Asm.Operand} {a : String} {b : String} : (r.mnemonic = "TFR" ∨ r.mnemonic = "EXG") → o.kind = .special → a ∈ Gen.registers →
      b ∈ Gen.registers → dsPairOk a b = true → o.text = a.toList ++ ',' :: b.toList →
      Region r o (.pair (dsPairCode a) (dsPairCode b))
  | list {o : Asm.Operand} {regs : List Str} : isStackMn r.mnemonic = true → o.kind = .special → regs ≠ [] →
      (∀ x ∈ regs, (dsBit (isUStack r.mnemonic) x).isSome) → o.text = joinWith ',' regs →
      Region r o (.list (dsMask (isUStack r.mnemonic) regs))

theorem is4Bit_iff (i : Nat) (neg : Bool) : is4Bit i neg = true ↔ (-16 ≤ signedVal i neg ∧ signedVal i neg ≤ 15) := by
  cases neg <;> simp [is4Bit, signedVal] <;> omega

theorem is8Bit_iff (i : Nat) (neg : Bool) : is8Bit i neg = true ↔ (-128 ≤ signedVal i neg ∧ signedVal i neg ≤ 127) := by
  cases neg <;> simp [is8Bit, signedVal] <;> omega

theorem fitsByte_iff (i : Nat) (neg : Bool) :
    fitsByte i neg = true ↔ (-128 ≤ signedVal i neg ∧ signedVal i neg ≤ 255) :=
  Asm.fitsByte_iff i neg

theorem fitsWord_iff (i : Nat) (neg : Bool) :
    fitsWord i neg = true ↔ (-32768 ≤ signedVal i neg ∧ signedVal i neg ≤ 65535) :=
  Asm.fitsWord_iff i neg

theorem twos8_field {i : Nat} {neg : Bool} (h1 : -128 ≤ signedVal i neg) (h2 : signedVal i neg ≤ 255) :
    twos (signedVal i neg) 8 = byteField i neg ∧ fitsByte i neg = true := by
  refine ⟨?_, (fitsByte_iff i neg).mpr ⟨h1, h2⟩⟩
  cases neg <;> simp only [twos, signedVal, byteField, if_true, Bool.false_eq_true, if_false] at h1 h2 ⊢ <;> omega

theorem twos16_field {i : Nat} {neg : Bool} (h1 : -32768 ≤ signedVal i neg) (h2 : signedVal i neg ≤ 65535) :
    twos (signedVal i neg) 16 = wordField i neg ∧ fitsWord i neg = true := by
  refine ⟨?_, (fitsWord_iff i neg).mpr ⟨h1, h2⟩⟩
  cases neg <;> simp only [twos, signedVal, wordField, if_true, Bool.false_eq_true, if_false] at h1 h2 ⊢ <;> omega

theorem twos8_neg {i : Nat} (h1 : 1 ≤ i) (h2 : i ≤ 128) : twos (signedVal i true) 8 = 256 - i := by
  simp only [twos, signedVal, if_true]
  omega
theorem twos16_neg {i : Nat} (h1 : 1 ≤ i) (h2 : i ≤ 32768) : twos (signedVal i true) 16 = 65536 - i := by
  simp only [twos, signedVal, if_true]
  omega
theorem twos8_pos {v : Nat} (h : v < 256) : twos (signedVal v false) 8 = v := by
  simp only [twos, signedVal, Bool.false_eq_true, if_false]
  omega
theorem twos16_pos {v : Nat} (h : v < 65536) : twos (signedVal v false) 16 = v := by
  simp only [twos, signedVal, Bool.false_eq_true, if_false]
  omega

theorem accNames_code : ∀ e ∈ accNames, e.1 ∈ [['A'], ['B'], ['D']] ∧ accCode e.1 = e.2 := by decide

theorem region_sub_intends {r : InstrRow} {o : Asm.Operand} {x : Spec.MC6809.Operand} (h : Region r o x) :
    Intends r o x := by
  cases h with
  | inherent hk hc => exact .inherent hk hc
  | imm8 hk hc hl hv h8 =>
    have := Intends.imm8 (r := r) hk hc hl hv (by simp [signedVal] <;> omega) (by simp [signedVal] <;> omega)
    rwa [twos8_pos h8] at this
  | imm8neg hk hc hl hv h1 h2 =>
    have := Intends.imm8 (r := r) hk hc hl hv (by simp [signedVal] <;> omega) (by simp [signedVal] <;> omega)
    rwa [twos8_neg h1 h2] at this
  | imm16 hk hc hl hv h16 =>
    have := Intends.imm16 (r := r) hk hc hl hv (by simp [signedVal] <;> omega) (by simp [signedVal] <;> omega)
    rwa [twos16_pos h16] at this
  | imm16neg hk hc hl hv h1 h2 =>
    have := Intends.imm16 (r := r) hk hc hl hv (by simp [signedVal] <;> omega) (by simp [signedVal] <;> omega)
    rwa [twos16_neg h1 h2] at this
  | direct hk hc hv h8 => exact .direct hk hc hv h8
  | extended hk hc hv h16 => exact .extended hk hc hv h16
  | extInd hk hc hv h16 => exact .extInd hk hc hv h16
  | zero hk hc hle hk4 hrr => exact .zero hk hc hle hk4 hrr
  | inc1 hk hc hle hk4 hrr => exact .inc1 hk hc hle hk4 hrr
  | inc2 hk hc hle hk4 hrr => exact .inc2 hk hc hle hk4 hrr
  | dec1 hk hc hle hk4 hrr => exact .dec1 hk hc hle hk4 hrr
  | dec2 hk hc hle hk4 hrr => exact .dec2 hk hc hle hk4 hrr
  | indZero hb hc hle hk4 hrr => exact .indZero hb hc hle hk4 hrr
  | indInc2 hb hc hle hk4 hrr => exact .indInc2 hb hc hle hk4 hrr
  | indDec2 hb hc hle hk4 hrr => exact .indDec2 hb hc hle hk4 hrr
  | acc hk hc hla hl hk4 hrr => exact .acc hk hc hla hl hk4 hrr
  | indAcc hb hc hla hl hk4 hrr => exact .indAcc hb hc hla hl hk4 hrr
  | off5pos hk hc hle h1 h2 hk4 hrr =>
    have := Intends.off5 (r := r) hk hc hle (by omega) hk4 hrr (by simp [signedVal] <;> omega) (by simp [signedVal] <;> omega)
    simpa [signedVal] using this
  | off5neg hk hc hle h1 h2 hk4 hrr =>
    have := Intends.off5 (r := r) hk hc hle (by omega) hk4 hrr (by simp [signedVal] <;> omega) (by simp [signedVal] <;> omega)
    simpa [signedVal] using this
  | off8pos hk hc hle h1 h2 hk4 hrr =>
    have := Intends.off8 (r := r) hk hc hle hk4 hrr (by simp [signedVal] <;> omega) (by simp [signedVal] <;> omega)
      (by simp [signedVal] <;> omega)
    simpa [signedVal] using this
  | off8neg hk hc hle h1 h2 hk4 hrr =>
    have := Intends.off8 (r := r) hk hc hle hk4 hrr (by simp [signedVal] <;> omega) (by simp [signedVal] <;> omega)
      (by simp [signedVal] <;> omega)
    simpa [signedVal] using this
  | off16pos hk hc hle h1 h2 hk4 hrr =>
    have := Intends.off16 (r := r) hk hc hle hk4 hrr (by simp [signedVal] <;> omega) (by simp [signedVal] <;> omega)
      (by simp [signedVal] <;> omega)
    rwa [twos16_pos h2] at this
  | off16neg hk hc hle h1 h2 hk4 hrr =>
    have := Intends.off16 (r := r) hk hc hle hk4 hrr (by simp [signedVal] <;> omega) (by simp [signedVal] <;> omega)
      (by simp [signedVal] <;> omega)
    rwa [twos16_neg (by omega) h2, sext16_neg (by omega) h2] at this
  | indOff8pos hb hc hle h1 h2 hk4 hrr =>
    have := Intends.indOff8 (r := r) hb hc hle (by omega) hk4 hrr (by simp [signedVal] <;> omega) (by simp [signedVal] <;> omega)
    simpa [signedVal] using this
  | indOff8neg hb hc hle h1 h2 hk4 hrr =>
    have := Intends.indOff8 (r := r) hb hc hle (by omega) hk4 hrr (by simp [signedVal] <;> omega) (by simp [signedVal] <;> omega)
    simpa [signedVal] using this
  | indOff16pos hb hc hle h1 h2 hk4 hrr =>
    have := Intends.indOff16 (r := r) hb hc hle hk4 hrr (by simp [signedVal] <;> omega) (by simp [signedVal] <;> omega)
      (by simp [signedVal] <;> omega)
    rwa [twos16_pos h2] at this
  | indOff16neg hb hc hle h1 h2 hk4 hrr =>
    have := Intends.indOff16 (r := r) hb hc hle hk4 hrr (by simp [signedVal] <;> omega) (by simp [signedVal] <;> omega)
      (by simp [signedVal] <;> omega)
    rwa [twos16_neg (by omega) h2, sext16_neg (by omega) h2] at this
  | pcr8 hk hc hle hrr hm h1 h2 => exact .pcr8 hk hc hle hrr hm h1 h2
  | pcr16 hk hc hle hrr hm h1 h2 => exact .pcr16 hk hc hle hrr hm h1 h2
  | indPcr8 hb hc hle hrr hm h1 h2 => exact .indPcr8 hb hc hle hrr hm h1 h2
  | indPcr16 hb hc hle hrr hm h1 h2 => exact .indPcr16 hb hc hle hrr hm h1 h2
  | pair hm hk ha hb hok ht => exact .pair hm hk ha hb hok ht
  | list hm hk hne hreg ht => exact .list hm hk hne hreg ht

section regions
variable {r : InstrRow} (hr : r ∈ Gen.instructions) (hp : r.isPseudo = false)
include hr hp

theorem C01_inherent {o : Asm.Operand} {c : Nat} (hk : o.kind = .inherent) (hc : r.inh = some c) : Encodes o r .none :=
  enc_inherent hk hc (cell_inh hr hp hc).1 (cell_inh hr hp hc).2

theorem C01_direct {o : Asm.Operand} {c v : Nat} {h : Option Nat} {m : Mode} (hk : o.kind = .direct) (hc : r.dir = some c)
    (hv : o.value = .numeric v h m false) (hv8 : v < 256) : Encodes o r (.dir v) :=
  enc_direct hp (notSpecial_of_dir hr hc) hk hc (cell_dir hr hp hc).1 (cell_dir hr hp hc).2 hv hv8

theorem C01_extended {o : Asm.Operand} {c v : Nat} {h : Option Nat} {m : Mode} (hk : o.kind = .extended)
    (hc : r.ext = some c) (hv : o.value = .numeric v h m false) (hv16 : v < 65536) :
    Encodes o r (.ext v) :=
  enc_ext_field hp (notSpecial_of_ext hr hc) hk hc (cell_ext hr hp hc).1 (cell_ext hr hp hc).2 hv (fitsWord_pos hv16)

/-- `[address]`: every address 0..65535 whatever its size hint, always two address bytes -/
theorem C01_extIndirect {o : Asm.Operand} {c v : Nat} {h : Option Nat} {m : Mode} (hk : o.kind = .extIndirect)
    (hc : r.ind = some c) (hv : o.value = .numeric v h m false) (hv16 : v < 65536) :
    Encodes o r (.idx (.extInd v)) :=
  enc_extInd (idxCell hr hp hc) hk hv hv16

/-- `,R  ,R+  ,R++  ,-R  ,--R` for R = X, Y, U, S (k = 0, 1, 2, 3) -/
theorem C01_indexed_noOffset {o : Asm.Operand} {c k : Nat} (hk : o.kind = .indexed) (hc : r.ind = some c)
    (hle : o.left = .text []) (hk4 : k < 4) :
    (o.right = some (regName k) → Encodes o r (.idx (.off k 0 false 0))) ∧
    (o.right = some (regName k ++ ['+']) → Encodes o r (.idx (.inc1 k))) ∧
    (o.right = some (regName k ++ ['+', '+']) → Encodes o r (.idx (.inc2 k false))) ∧
    (o.right = some ('-' :: regName k) → Encodes o r (.idx (.dec1 k))) ∧
    (o.right = some ('-' :: '-' :: regName k) → Encodes o r (.idx (.dec2 k false))) :=
  have hI := idxCell hr hp hc
  ⟨fun hrr => enc_noOff hI hk hle hrr (noOff_zero k hk4),
   fun hrr => enc_noOff hI hk hle hrr (noOff_inc1 k hk4),
   fun hrr => enc_noOff hI hk hle hrr (noOff_inc2 k hk4),
   fun hrr => enc_noOff hI hk hle hrr (noOff_dec1 k hk4),
   fun hrr => enc_noOff hI hk hle hrr (noOff_dec2 k hk4)⟩

/-- `[,R]  [,R++]  [,--R]`; `[,R+]` and `[,-R]` are rejected -/
theorem C01_indirect_noOffset {o : Asm.Operand} {c k : Nat} (hb : Bracketed o) (hc : r.ind = some c)
    (hle : o.left = .text []) (hk4 : k < 4) :
    (o.right = some (regName k) → Encodes o r (.idx (.off k 0 true 0))) ∧
    (o.right = some (regName k ++ ['+', '+']) → Encodes o r (.idx (.inc2 k true))) ∧
    (o.right = some ('-' :: '-' :: regName k) → Encodes o r (.idx (.dec2 k true))) ∧
    (o.right = some (regName k ++ ['+']) ∨ o.right = some ('-' :: regName k) →
      translateOperand o r = .error .operandType) :=
  have hI := idxCell hr hp hc
  ⟨fun hrr => enc_indNoOff hI hb hle hrr (indNoOff_zero k hk4),
   fun hrr => enc_indNoOff hI hb hle hrr (indNoOff_inc2 k hk4),
   fun hrr => enc_indNoOff hI hb hle hrr (indNoOff_dec2 k hk4),
   fun hrr => hrr.elim (fun hrr => rej_indBad hI hb hle hrr (indBad_inc1 k hk4))
     (fun hrr => rej_indBad hI hb hle hrr (indBad_dec1 k hk4))⟩

/-- `A,R  B,R  D,R` and `[A,R]  [B,R]  [D,R]` -/
theorem C01_accumulator {o : Asm.Operand} {c k a : Nat} {l : Str} (hc : r.ind = some c) (hla : (l, a) ∈ accNames)
    (hl : o.left = .text l) (hk4 : k < 4) (hrr : o.right = some (regName k)) :
    (o.kind = .indexed → Encodes o r (.idx (.acc a k false))) ∧
    (Bracketed o → Encodes o r (.idx (.acc a k true))) := by
  have hI := idxCell hr hp hc
  obtain ⟨hl3, rfl⟩ : l ∈ [['A'], ['B'], ['D']] ∧ accCode l = a := accNames_code _ hla
  exact ⟨fun hk => enc_acc hI false hk hl hl3 hk4 hrr, fun hb => enc_acc hI true hb hl hl3 hk4 hrr⟩

omit hp in
/-- TFR / EXG, all 100 register pairs: accepted exactly when the datasheet accepts the pair (same width),
and then the post byte carries the datasheet's register codes -/
theorem C01_tfr_exg {o : Asm.Operand} {a b : String} (hm : r.mnemonic = "TFR" ∨ r.mnemonic = "EXG")
    (hk : o.kind = .special) (ha : a ∈ Gen.registers) (hb : b ∈ Gen.registers)
    (ht : o.text = a.toList ++ ',' :: b.toList) :
    (dsPairOk a b = true → Encodes o r (.pair (dsPairCode a) (dsPairCode b))) ∧
    (dsPairOk a b = false → ∃ e, translateOperand o r = .error e) := by
  have hchk := tfr_exg_check r hr hm a ha b hb
  have hcongr : translateOperand o r = translateOperand (pairOperand a b) r := by
    simp only [translateOperand, hk, pairOperand]
    exact translateSpecial_text _ _ _ (by simpa [pairOperand] using ht)
  constructor
  · intro hok
    rw [hok] at hchk
    exact encodes_congr hcongr (encodes_of_check (by simpa using hchk))
  · intro hno
    rw [hno] at hchk
    simp only [Bool.false_eq_true, if_false] at hchk
    rw [hcongr]
    cases hx : translateOperand (pairOperand a b) r with
    | error e => exact ⟨e, rfl⟩
    | ok p => rw [hx] at hchk; simp [isErr] at hchk

omit hr hp in
/-- the model reads the stack off the mnemonic the way `isUStack` does -/
theorem stackMn_own {mn : String} (hm : isStackMn mn = true) : (mn == "PSHS" || mn == "PULS") = !isUStack mn := by
  simp only [isStackMn, Bool.or_eq_true, beq_iff_eq] at hm
  rcases hm with ((rfl | rfl) | rfl) | rfl <;> decide

omit hp in
/-- PSHS / PULS / PSHU / PULU with a list of registers the datasheet allows for that instruction (the other stack
pointer included: `PSHU S` is `36 40`): the post byte is the OR of the datasheet bits -/
theorem C01_push_pull {o : Asm.Operand} {regs : List Str} (hm : isStackMn r.mnemonic = true)
    (hk : o.kind = .special) (hne : regs ≠ [])
    (hreg : ∀ x ∈ regs, (dsBit (isUStack r.mnemonic) x).isSome) (ht : o.text = joinWith ',' regs) :
    Encodes o r (.list (dsMask (isUStack r.mnemonic) regs)) := by
  have hrow := psh_rows r hr hm
  simp only [pshRowOk, Bool.and_eq_true, Bool.not_eq_true'] at hrow
  obtain ⟨⟨_, h2⟩, h3⟩ := hrow
  split at h3
  · rename_i c hc
    simp only [Bool.and_eq_true, decide_eq_true_eq, beq_iff_eq] at h3
    exact enc_psh _ hk (by simpa [isStackMn] using hm) (stackMn_own hm) h2 hc h3.1 h3.2 ht hne hreg
  · exact absurd h3 (by simp)

omit hr hp in
/-- ... and a list that names the instruction's own stack pointer, or anything that is no register, is REJECTED
(`PSHS S`, `PULU A,U`, `PSHS Q`) -/
theorem C01_push_pull_rejected {r : InstrRow} {o : Asm.Operand} (hm : isStackMn r.mnemonic = true) (hk : o.kind = .special)
    (hbad : ∃ x ∈ splitOn ',' o.text, dsBit (isUStack r.mnemonic) x = none) :
    translateOperand o r = .error .operandType := by
  obtain ⟨x, hx, hb⟩ := hbad
  simp only [translateOperand, hk]
  exact translateSpecial_psh_reject _ (by simpa [isStackMn] using hm) (stackMn_own hm) ⟨x, hx, dsBit_none hb⟩

/-- numeric `n,PCR` and `[n,PCR]`: an offset from the program counter, 8-bit form when −128 ≤ n ≤ 127
and the literal is not in extended mode (`LDA 5,PCR` is `A6 8C 05`), 16-bit form otherwise (`LDA 128,PCR` is
`A6 8D 00 80`, `LDX 5,PCR` is `AE 8D 00 05`) -/
theorem C01_pcr {o : Asm.Operand} {c i : Nat} {h : Option Nat} {m : Mode} {neg : Bool} (ind : Bool)
    (hk : if ind then Bracketed o else o.kind = .indexed) (hc : r.ind = some c)
    (hle : o.left = .val (.numeric i h m neg)) (hrr : o.right = some (str "PCR")) :
    (m ≠ .extended → -128 ≤ signedVal i neg → signedVal i neg ≤ 127 →
      Encodes o r (.idx (.pcr (signedVal i neg) ind 8))) ∧
    ((m = .extended ∨ ¬ (-128 ≤ signedVal i neg ∧ signedVal i neg ≤ 127)) → -32768 ≤ signedVal i neg →
      signedVal i neg ≤ 65535 → Encodes o r (.idx (.pcr (sext (twos (signedVal i neg) 16) 16) ind 16))) := by
  have hI := idxCell hr hp hc
  have hk' : IdxOperand ind o := by cases ind <;> exact hk
  have hd : decide (ind = true) = ind := by cases ind <;> rfl
  have hw : pcrWide i m neg = true ↔ (m = .extended ∨ ¬ (-128 ≤ signedVal i neg ∧ signedVal i neg ≤ 127)) := by
    rw [← is8Bit_iff]
    simp [pcrWide]
  constructor
  · intro hm h1 h2
    have := enc_pcr8 ind hI hk' hle hrr
      (by rw [← Bool.not_eq_true, hw]; exact fun h => h.elim hm (fun h => h ⟨h1, h2⟩))
    rwa [hd] at this
  · intro hm h1 h2
    have := enc_pcr16 ind hI hk' hle hrr (hw.mpr hm) (twos16_field h1 h2).2
    rwa [hd, ← (twos16_field h1 h2).1] at this

/-- **C01 (ii) for the whole intended relation**: every operand of every class, every value that fits its field,
whatever the spelling, is encoded as the datasheet operand it stands for -/
theorem C01_intends {o : Asm.Operand} {x : Spec.MC6809.Operand} (h : Intends r o x) : Encodes o r x := by
  cases h with
  | inherent hk hc => exact C01_inherent hr hp hk hc
  | imm8 hk hc hl hv h1 h2 =>
    obtain ⟨e, hf⟩ := twos8_field h1 h2
    rw [e]
    exact enc_imm8_field hp (notSpecial_of_imm hr hc hl (Or.inl rfl)) hk hc (cell_imm hr hp hc hl).1
      (cell_imm hr hp hc hl).2 hv hf
  | imm16 hk hc hl hv h1 h2 =>
    obtain ⟨e, hf⟩ := twos16_field h1 h2
    rw [e]
    exact enc_imm16_field hp (notSpecial_of_imm hr hc hl (Or.inr rfl)) hk hc (cell_imm hr hp hc hl).1
      (cell_imm hr hp hc hl).2 hv hf
  | direct hk hc hv h8 => exact C01_direct hr hp hk hc hv h8
  | extended hk hc hv h16 => exact C01_extended hr hp hk hc hv h16
  | extInd hk hc hv h16 => exact C01_extIndirect hr hp hk hc hv h16
  | zero hk hc hle hk4 hrr => exact (C01_indexed_noOffset hr hp hk hc hle hk4).1 hrr
  | inc1 hk hc hle hk4 hrr => exact (C01_indexed_noOffset hr hp hk hc hle hk4).2.1 hrr
  | inc2 hk hc hle hk4 hrr => exact (C01_indexed_noOffset hr hp hk hc hle hk4).2.2.1 hrr
  | dec1 hk hc hle hk4 hrr => exact (C01_indexed_noOffset hr hp hk hc hle hk4).2.2.2.1 hrr
  | dec2 hk hc hle hk4 hrr => exact (C01_indexed_noOffset hr hp hk hc hle hk4).2.2.2.2 hrr
  | indZero hb hc hle hk4 hrr => exact (C01_indirect_noOffset hr hp hb hc hle hk4).1 hrr
  | indInc2 hb hc hle hk4 hrr => exact (C01_indirect_noOffset hr hp hb hc hle hk4).2.1 hrr
  | indDec2 hb hc hle hk4 hrr => exact (C01_indirect_noOffset hr hp hb hc hle hk4).2.2.1 hrr
  | acc hk hc hla hl hk4 hrr => exact (C01_accumulator hr hp hc hla hl hk4 hrr).1 hk
  | indAcc hb hc hla hl hk4 hrr => exact (C01_accumulator hr hp hc hla hl hk4 hrr).2 hb
  | off5 hk hc hle hi hk4 hrr h1 h2 =>
    exact enc_off5 (idxCell hr hp hc) hk hle hi ((is4Bit_iff _ _).mpr ⟨h1, h2⟩) hk4 hrr
  | off8 hk hc hle hk4 hrr hn h1 h2 =>
    exact enc_off8 (idxCell hr hp hc) false hk hle (by rintro rfl; exact hn (by cases ‹Bool› <;> decide))
      (.inr (by rw [← Bool.not_eq_true, is4Bit_iff]; exact hn)) ((is8Bit_iff _ _).mpr ⟨h1, h2⟩) hk4 hrr
  | off16 hk hc hle hk4 hrr hn h1 h2 =>
    rw [(twos16_field h1 h2).1]
    exact enc_off16 (idxCell hr hp hc) false hk hle (by rw [← Bool.not_eq_true, is8Bit_iff]; exact hn)
      (twos16_field h1 h2).2 hk4 hrr
  | indOff8 hb hc hle hi hk4 hrr h1 h2 =>
    exact enc_off8 (idxCell hr hp hc) true hb hle hi (.inl rfl) ((is8Bit_iff _ _).mpr ⟨h1, h2⟩) hk4 hrr
  | indOff16 hb hc hle hk4 hrr hn h1 h2 =>
    rw [(twos16_field h1 h2).1]
    exact enc_off16 (idxCell hr hp hc) true hb hle (by rw [← Bool.not_eq_true, is8Bit_iff]; exact hn)
      (twos16_field h1 h2).2 hk4 hrr
  | pcr8 hk hc hle hrr hm h1 h2 => exact (C01_pcr hr hp false hk hc hle hrr).1 hm h1 h2
  | pcr16 hk hc hle hrr hm h1 h2 => exact (C01_pcr hr hp false hk hc hle hrr).2 hm h1 h2
  | indPcr8 hb hc hle hrr hm h1 h2 => exact (C01_pcr hr hp true hb hc hle hrr).1 hm h1 h2
  | indPcr16 hb hc hle hrr hm h1 h2 => exact (C01_pcr hr hp true hb hc hle hrr).2 hm h1 h2
  | pair hm hk ha hb hok ht => exact (C01_tfr_exg hr hm hk ha hb ht).1 hok
  | list hm hk hne hreg ht => exact C01_push_pull hr hm hk hne hreg ht

/-- C01 (ii) on `Region`, the intended relation spelt out by sign -/
theorem C01_partial {o : Asm.Operand} {x : Spec.MC6809.Operand} (h : Region r o x) : Encodes o r x :=
  C01_intends hr hp (region_sub_intends h)

/-- **C01 (ii) on what `fixAll` really does**: for a label-free operand of the region, the step of `fixAll`
(`fix_addresses`, then `fit_operand_width`) on ANY statement carrying row, operand and package, at any position of
any program, yields the bytes the datasheet decoder reads back as the intended operand -/
theorem C01_partial_emitted {o : Asm.Operand} {x : Spec.MC6809.Operand} (h : Region r o x) (hlf : LabelFree o) :
    ∃ pkg bytes, translateOperand o r = .ok pkg ∧
      (∀ (ss : List Stmt) (i : Nat) (s : Stmt), s.row = r → s.operand = o → s.pkg = pkg →
        ∃ s', (match fixOne ss i s with | .ok s1 => fitWidth s1 | o => o) = .ok s' ∧ stmtBytes s' = some bytes) ∧
      bytes.length = pkg.size ∧ decode bytes = some (⟨opOf r.mnemonic, x⟩, bytes.length) :=
  (C01_partial hr hp h).through_fix hlf

/-- 8-bit immediate: every value 0..255, whatever its spelling / size hint -/
theorem C01_imm8 {o : Asm.Operand} {c v : Nat} {op : String} {h : Option Nat} {m : Mode}
    (hk : o.kind = .immediate) (hc : r.imm = some c) (hl : lookup c = some (op, .imm8))
    (hv : o.value = .numeric v h m false) (hv8 : v < 256) : Encodes o r (.imm 8 v) :=
  C01_partial hr hp (.imm8 hk hc hl hv hv8)

/-- 8-bit immediate: every value −128..−1 -/
theorem C01_imm8_neg {o : Asm.Operand} {c i : Nat} {op : String} {h : Option Nat} {m : Mode}
    (hk : o.kind = .immediate) (hc : r.imm = some c) (hl : lookup c = some (op, .imm8))
    (hv : o.value = .numeric i h m true) (h1 : 1 ≤ i) (h2 : i ≤ 128) :
    Encodes o r (.imm 8 (256 - i)) :=
  C01_partial hr hp (.imm8neg hk hc hl hv h1 h2)

/-- 16-bit immediate: every value 0..65535, whatever its size hint (`LDX #$10` is `8E 00 10`) -/
theorem C01_imm16 {o : Asm.Operand} {c v : Nat} {op : String} {h : Option Nat} {m : Mode}
    (hk : o.kind = .immediate) (hc : r.imm = some c) (hl : lookup c = some (op, .imm16))
    (hv : o.value = .numeric v h m false) (hv16 : v < 65536) : Encodes o r (.imm 16 v) :=
  C01_partial hr hp (.imm16 hk hc hl hv hv16)

/-- 16-bit immediate: every value −32768..−1 (`LDX #-1` is `8E FF FF`) -/
theorem C01_imm16_neg {o : Asm.Operand} {c i : Nat} {op : String} {h : Option Nat} {m : Mode}
    (hk : o.kind = .immediate) (hc : r.imm = some c) (hl : lookup c = some (op, .imm16))
    (hv : o.value = .numeric i h m true) (h1 : 1 ≤ i) (h2 : i ≤ 32768) :
    Encodes o r (.imm 16 (65536 - i)) :=
  C01_partial hr hp (.imm16neg hk hc hl hv h1 h2)

/-- `n,R` and `-n,R`: 5-bit offsets need NO additional byte; 8-bit offsets one, 16-bit offsets two, of either
sign and whatever the size hint of the literal (`LDD 100,X` is `EC 88 64`, `LDA -17,X` is `A6 88 EF`) -/
theorem C01_offset {o : Asm.Operand} {c k i : Nat} {h : Option Nat} {m : Mode} (hk : o.kind = .indexed)
    (hc : r.ind = some c) (hk4 : k < 4) (hrr : o.right = some (regName k)) :
    (o.left = .val (.numeric i h m false) → 1 ≤ i → i ≤ 15 → Encodes o r (.idx (.off k i false 5))) ∧
    (o.left = .val (.numeric i h m true) → 1 ≤ i → i ≤ 16 → Encodes o r (.idx (.off k (-(i : Int)) false 5))) ∧
    (o.left = .val (.numeric i h m false) → 16 ≤ i → i ≤ 127 → Encodes o r (.idx (.off k i false 8))) ∧
    (o.left = .val (.numeric i h m true) → 17 ≤ i → i ≤ 128 → Encodes o r (.idx (.off k (-(i : Int)) false 8))) ∧
    (o.left = .val (.numeric i h m false) → 128 ≤ i → i < 65536 → Encodes o r (.idx (.off k (sext i 16) false 16))) ∧
    (o.left = .val (.numeric i h m true) → 129 ≤ i → i ≤ 32768 → Encodes o r (.idx (.off k (-(i : Int)) false 16))) :=
  ⟨fun hle h1 h2 => C01_partial hr hp (.off5pos hk hc hle h1 h2 hk4 hrr),
   fun hle h1 h2 => C01_partial hr hp (.off5neg hk hc hle h1 h2 hk4 hrr),
   fun hle h1 h2 => C01_partial hr hp (.off8pos hk hc hle h1 h2 hk4 hrr),
   fun hle h1 h2 => C01_partial hr hp (.off8neg hk hc hle h1 h2 hk4 hrr),
   fun hle h1 h2 => C01_partial hr hp (.off16pos hk hc hle h1 h2 hk4 hrr),
   fun hle h1 h2 => C01_partial hr hp (.off16neg hk hc hle h1 h2 hk4 hrr)⟩

/-- `[n,R]` and `[-n,R]`: 8-bit and 16-bit offsets of either sign (there is no 5-bit indirect form) -/
theorem C01_indirect_offset {o : Asm.Operand} {c k i : Nat} {h : Option Nat} {m : Mode} (hb : Bracketed o)
    (hc : r.ind = some c) (hk4 : k < 4) (hrr : o.right = some (regName k)) :
    (o.left = .val (.numeric i h m false) → 1 ≤ i → i ≤ 127 → Encodes o r (.idx (.off k i true 8))) ∧
    (o.left = .val (.numeric i h m true) → 1 ≤ i → i ≤ 128 → Encodes o r (.idx (.off k (-(i : Int)) true 8))) ∧
    (o.left = .val (.numeric i h m false) → 128 ≤ i → i < 65536 → Encodes o r (.idx (.off k (sext i 16) true 16))) ∧
    (o.left = .val (.numeric i h m true) → 129 ≤ i → i ≤ 32768 → Encodes o r (.idx (.off k (-(i : Int)) true 16))) :=
  ⟨fun hle h1 h2 => C01_partial hr hp (.indOff8pos hb hc hle h1 h2 hk4 hrr),
   fun hle h1 h2 => C01_partial hr hp (.indOff8neg hb hc hle h1 h2 hk4 hrr),
   fun hle h1 h2 => C01_partial hr hp (.indOff16pos hb hc hle h1 h2 hk4 hrr),
   fun hle h1 h2 => C01_partial hr hp (.indOff16neg hb hc hle h1 h2 hk4 hrr)⟩

end regions

/-- an operand whose value is a number is label-free (unless it is a branch operand) -/
theorem labelFree_of_numeric {o : Asm.Operand} {i : Nat} {h : Option Nat} {m : Mode} {n : Bool}
    (hk : o.kind ≠ .relative) (hv : o.value = .numeric i h m n) : LabelFree o :=
  ⟨hk, by rw [hv]; simp, by rw [hv]; rfl, by rw [hv]; rfl⟩

/-- an operand whose value is the `left,right` pair the parser builds for indexed operands is label-free -/
theorem labelFree_of_leftRight {o : Asm.Operand} {l rr : Str} {m : Mode}
    (hk : o.kind ≠ .relative) (hv : o.value = .leftRight l rr m) : LabelFree o :=
  ⟨hk, by rw [hv]; simp, by rw [hv]; rfl, by rw [hv]; rfl⟩

theorem C01_full : C01_Statement := fun _ hr hp _ _ h => C01_intends hr hp h

/-- and on what `fixAll` really does, for label-free operands -/
theorem C01_full_emitted {r : InstrRow} (hr : r ∈ Gen.instructions) (hp : r.isPseudo = false) {o : Asm.Operand}
    {x : Spec.MC6809.Operand} (h : Intends r o x) (hlf : LabelFree o) :
    ∃ pkg bytes, translateOperand o r = .ok pkg ∧
      (∀ (ss : List Stmt) (i : Nat) (s : Stmt), s.row = r → s.operand = o → s.pkg = pkg →
        ∃ s', (match fixOne ss i s with | .ok s1 => fitWidth s1 | o => o) = .ok s' ∧ stmtBytes s' = some bytes) ∧
      bytes.length = pkg.size ∧ decode bytes = some (⟨opOf r.mnemonic, x⟩, bytes.length) :=
  (C01_intends hr hp h).through_fix hlf

/-! ## the findings A3–A10 of DESIGN.md, on the source statements that showed them, after the fixes

`asmOne mn operand` runs `createOperand`, `resolveOperand` (empty symbol table), `translateOperand`, `fitWidth`
and the byte emission of one source statement and returns `(pkg.size, bytes)`; `none` = rejected. -/

/-- A3 (four bytes for an announced size of 3): `LDD 100,X` on an `is_16_bit` row, the offset is fitted to the one byte
the 8-bit form has -/
theorem C01_finding_16bit_row_offset_fixed : asmOne "LDD" "100,X" = some (3, [0xEC, 0x88, 0x64]) := evaluated (by decide +kernel)

/-- A4 (announced size 2): `LDA -17,X` announces the 3 bytes it emits -/
theorem C01_finding_neg8_offset_fixed : asmOne "LDA" "-17,X" = some (3, [0xA6, 0x88, 0xEF]) := evaluated (by decide +kernel)

/-- A4 (announced size 2): `LDA -200,X` announces 4 bytes -/
theorem C01_finding_neg16_offset_fixed : asmOne "LDA" "-200,X" = some (4, [0xA6, 0x89, 0xFF, 0x38]) := evaluated (by decide +kernel)

/-- A4 (announced size 2): `LDA [-5,X]` announces 3 bytes -/
theorem C01_finding_indirect_neg_offset_fixed : asmOne "LDA" "[-5,X]" = some (3, [0xA6, 0x98, 0xFB]) := evaluated (by decide +kernel)

/-- A5 (accepted, 3 bytes for an announced size of 2): `LDA #256` is rejected -/
theorem C01_finding_imm8_256_fixed : asmOne "LDA" "#256" = none := evaluated (by decide +kernel)

/-- A5 (assembled to `86 FF`): `LDA #-200` is rejected -/
theorem C01_finding_imm8_neg_wide_fixed : asmOne "LDA" "#-200" = none := evaluated (by decide +kernel)

/-- A6 (one address byte, undecodable): `LDA [$10]` has two address
bytes and reads back as `[$0010]` -/
theorem C01_finding_extInd_hint2_fixed :
    asmOne "LDA" "[$10]" = some (4, [0xA6, 0x9F, 0x00, 0x10]) ∧
    asmDecode "LDA" "[$10]" = some (⟨"LDA", .idx (.extInd 0x10)⟩, 4) := evaluated (by decide +kernel)

/-- A7 (assembled to `96 10 00`): `LDA <$1000` is rejected -/
theorem C01_finding_explicit_direct_wide_fixed : asmOne "LDA" "<$1000" = none := evaluated (by decide +kernel)

/-- A10 (post byte 0 for both): bit $40 is the OTHER stack pointer, so
`PSHU S` is `36 40` and `PSHS U` is `34 40`; an instruction cannot stack its own pointer: `PSHS S`, `PSHU U` are
rejected -/
theorem C01_finding_push_S_fixed :
    asmOne "PSHU" "S" = some (2, [0x36, 0x40]) ∧ asmOne "PSHS" "S" = none ∧
    asmOne "PSHS" "U" = some (2, [0x34, 0x40]) ∧ asmOne "PSHU" "U" = none := evaluated (by decide +kernel)

/-- A9: a number before `,PCR` is the offset from the PC itself -/
theorem C01_finding_numeric_pcr_fixed :
    asmOne "LDA" "5,PCR" = some (3, [0xA6, 0x8C, 0x05]) ∧ asmOne "LDA" "0,PCR" = some (3, [0xA6, 0x8C, 0x00]) ∧
    asmOne "LDA" "128,PCR" = some (4, [0xA6, 0x8D, 0x00, 0x80]) ∧ asmOne "LDA" "-129,PCR" = some (4, [0xA6, 0x8D, 0xFF, 0x7F]) ∧
    asmOne "LDX" "5,PCR" = some (4, [0xAE, 0x8D, 0x00, 0x05]) ∧ asmOne "LDX" "-5,PCR" = some (3, [0xAE, 0x8C, 0xFB]) ∧
    asmOne "LDA" "[-200,PCR]" = some (4, [0xA6, 0x9D, 0xFF, 0x38]) ∧
    asmDecode "LDA" "5,PCR" = some (⟨"LDA", .idx (.pcr 5 false 8)⟩, 3) ∧
    asmDecode "LDA" "[-200,PCR]" = some (⟨"LDA", .idx (.pcr (-200) true 16)⟩, 4) := evaluated (by decide +kernel)

/-- A4 in general (one byte more than announced): for EVERY
indexed row, register and magnitude 17..128 the statement is encoded, `size` included -/
theorem C01_finding_neg8_offset_general_fixed {r : InstrRow} (hr : r ∈ Gen.instructions) (hp : r.isPseudo = false)
    {o : Asm.Operand} {c k i : Nat} {h : Option Nat} {m : Mode} (hk : o.kind = .indexed) (hc : r.ind = some c)
    (hle : o.left = .val (.numeric i h m true)) (h1 : 17 ≤ i) (h2 : i ≤ 128) (hk4 : k < 4)
    (hrr : o.right = some (regName k)) : Encodes o r (.idx (.off k (-(i : Int)) false 8)) :=
  (C01_offset hr hp hk hc hk4 hrr).2.2.2.1 hle h1 h2

/-- the operand `createOperand` / `resolveOperand` build for `LDD 100,X` -/
def lddOffset : Asm.Operand :=
  { kind := .indexed, text := str "100,X", value := .leftRight (str "100") (str "X") .extended,
    left := .val (.numeric 100 (some 4) .extended false), right := some ['X'] }

theorem lddOffset_row : ∃ r ∈ Gen.instructions, r.mnemonic = "LDD" ∧ r.isPseudo = false ∧ r.ind = some 0xEC ∧
    sizeAndBytes lddOffset r = some (3, [0xEC, 0x88, 0x64]) := by decide +kernel

theorem lddOffset_row_fixed : ∃ r ∈ Gen.instructions, r.isPseudo = false ∧ r.ind = some 0xEC ∧
    sizeAndBytes lddOffset r = some (3, [0xEC, 0x88, 0x64]) :=
  let ⟨r, hr, _, hp, hc, hs⟩ := lddOffset_row
  ⟨r, hr, hp, hc, hs⟩

/-- the operand `createOperand` builds for `PSHU S` -/
def pshuS : Asm.Operand := { kind := .special, text := str "S", value := .none }

theorem pshuS_row_fixed : ∃ r ∈ Gen.instructions, r.isPseudo = false ∧ r.mnemonic = "PSHU" ∧
    sizeAndBytes pshuS r = some (2, [0x36, 0x40]) ∧ decode [0x36, 0x40] = some (⟨"PSHU", .list 0x40⟩, 2) := by
  decide +kernel

/-- A10 as an instance of `C01_full`: `PSHU S` stands for the register list `$40` (bit 6 is the other stack pointer) and
is encoded as that list -/
theorem C01_Statement_false_fixed : ∃ r ∈ Gen.instructions, r.mnemonic = "PSHU" ∧
    Intends r pshuS (.list 0x40) ∧ Encodes pshuS r (.list 0x40) := by
  obtain ⟨r, hr, hp, hm, _, _⟩ := pshuS_row_fixed
  have hi : Intends r pshuS (.list (dsMask (isUStack r.mnemonic) [str "S"])) :=
    Intends.list (r := r) (o := pshuS) (regs := [str "S"]) (by rw [hm]; decide) rfl (by simp)
      (by intro x hx; simp only [List.mem_singleton] at hx; subst hx; rw [hm]; decide) rfl
  have hmask : dsMask (isUStack r.mnemonic) [str "S"] = 0x40 := by rw [hm]; decide
  rw [hmask] at hi
  exact ⟨r, hr, hm, hi, C01_full r hr hp _ _ hi⟩

/-! ## non-vacuity: source statements inside the proved region, end to end -/

/-- what the front end builds: kind, register text, and the numeric left-hand side (magnitude, hint, sign) -/
structure Shape where
  kind : OpKind
  right : Option Str
  int : Nat
  hint : Option Nat
  neg : Bool
deriving DecidableEq, Repr

def shape (mn operand : String) : Option Shape :=
  match asmOperand mn operand with
  | some (_, o) => (match o.left with | .val (.numeric i h _ n) => some ⟨o.kind, o.right, i, h, n⟩ | _ => none)
  | none => none

instance {mn operand : String} {v : Option Shape} :
    Evaluable (shape mn operand = v)
      (decide ((match asmOperandF mn operand with
                | some (_, o) => (match o.left with | .val (.numeric i h _ n) => some ⟨o.kind, o.right, i, h, n⟩ | _ => none)
                | none => none) = v)) :=
  ⟨fun h => by rw [shape, asmOperand_eq]; exact of_decide_eq_true h⟩

example : shape "LDA" "5,X" = some ⟨.indexed, some ['X'], 5, some 2, false⟩ := evaluated (by decide +kernel)
example : shape "LDA" "100,Y" = some ⟨.indexed, some ['Y'], 100, some 2, false⟩ := evaluated (by decide +kernel)
example : shape "LDA" "[5,X]" = some ⟨.extIndirect, some ['X'], 5, some 2, false⟩ := evaluated (by decide +kernel)
example : shape "LDD" "100,X" = some ⟨.indexed, some ['X'], 100, some 4, false⟩ := evaluated (by decide +kernel)
example : shape "LDA" "-17,X" = some ⟨.indexed, some ['X'], 17, none, true⟩ := evaluated (by decide +kernel)

example : asmDecode "NOP" "" = some (⟨"NOP", .none⟩, 1) := evaluated (by decide +kernel)
example : asmDecode "SWI2" "" = some (⟨"SWI2", .none⟩, 2) := evaluated (by decide +kernel)
example : asmDecode "LDA" "#$7F" = some (⟨"LDA", .imm 8 0x7F⟩, 2) := evaluated (by decide +kernel)
example : asmDecode "LDA" "#-1" = some (⟨"LDA", .imm 8 0xFF⟩, 2) := evaluated (by decide +kernel)
example : asmDecode "LDA" "#-128" = some (⟨"LDA", .imm 8 0x80⟩, 2) := evaluated (by decide +kernel)
example : asmDecode "LDX" "#$1234" = some (⟨"LDX", .imm 16 0x1234⟩, 3) := evaluated (by decide +kernel)
example : asmDecode "LDX" "#-1" = some (⟨"LDX", .imm 16 0xFFFF⟩, 3) := evaluated (by decide +kernel)
example : asmDecode "LDA" "$10" = some (⟨"LDA", .dir 0x10⟩, 2) := evaluated (by decide +kernel)
example : asmDecode "LDA" ">$10" = some (⟨"LDA", .ext 0x10⟩, 3) := evaluated (by decide +kernel)
example : asmDecode "LSL" "$1000" = some (⟨"ASL", .ext 0x1000⟩, 3) := evaluated (by decide +kernel)
example : asmDecode "LDA" "[$1000]" = some (⟨"LDA", .idx (.extInd 0x1000)⟩, 4) := evaluated (by decide +kernel)
example : asmDecode "LDA" ",X+" = some (⟨"LDA", .idx (.inc1 0)⟩, 2) := evaluated (by decide +kernel)
example : asmDecode "LDA" "[,--S]" = some (⟨"LDA", .idx (.dec2 3 true)⟩, 2) := evaluated (by decide +kernel)
example : asmOne "LDA" "[,X+]" = none := evaluated (by decide +kernel)
example : asmDecode "LDA" "D,U" = some (⟨"LDA", .idx (.acc 11 2 false)⟩, 2) := evaluated (by decide +kernel)
example : asmDecode "LDA" "5,X" = some (⟨"LDA", .idx (.off 0 5 false 5)⟩, 2) := evaluated (by decide +kernel)
example : asmDecode "LDA" "-16,Y" = some (⟨"LDA", .idx (.off 1 (-16) false 5)⟩, 2) := evaluated (by decide +kernel)
example : asmDecode "LDA" "100,X" = some (⟨"LDA", .idx (.off 0 100 false 8)⟩, 3) := evaluated (by decide +kernel)
example : asmDecode "LDD" "100,X" = some (⟨"LDD", .idx (.off 0 100 false 8)⟩, 3) :=
  (asmDecode_of_asmOne C01_finding_16bit_row_offset_fixed).trans (by decide +kernel)
example : asmDecode "LDA" "-17,X" = some (⟨"LDA", .idx (.off 0 (-17) false 8)⟩, 3) :=
  (asmDecode_of_asmOne C01_finding_neg8_offset_fixed).trans (by decide +kernel)
example : asmDecode "LDA" "-200,X" = some (⟨"LDA", .idx (.off 0 (-200) false 16)⟩, 4) :=
  (asmDecode_of_asmOne C01_finding_neg16_offset_fixed).trans (by decide +kernel)
example : asmDecode "LDA" "[-5,X]" = some (⟨"LDA", .idx (.off 0 (-5) true 8)⟩, 3) :=
  (asmDecode_of_asmOne C01_finding_indirect_neg_offset_fixed).trans (by decide +kernel)
example : asmDecode "LDA" "1000,Y" = some (⟨"LDA", .idx (.off 1 1000 false 16)⟩, 4) := evaluated (by decide +kernel)
example : asmDecode "CMPS" "[300,U]" = some (⟨"CMPS", .idx (.off 2 300 true 16)⟩, 5) := evaluated (by decide +kernel)
example : asmDecode "TFR" "A,B" = some (⟨"TFR", .pair 8 9⟩, 2) := evaluated (by decide +kernel)
example : asmOne "TFR" "A,X" = none := evaluated (by decide +kernel)
example : asmDecode "PSHS" "A,B,X,U" = some (⟨"PSHS", .list 0x56⟩, 2) := evaluated (by decide +kernel)

/-- an instance of `C01_partial` on a concrete row and operand (`LDA 100,X`) -/
example : ∃ r ∈ Gen.instructions, r.mnemonic = "LDA" ∧
    ∀ o : Asm.Operand, o.kind = .indexed → o.left = .val (.numeric 100 (some 2) .direct false) →
      o.right = some ['X'] → Encodes o r (.idx (.off 0 100 false 8)) := by
  have hrow : ∃ r ∈ Gen.instructions, r.mnemonic = "LDA" ∧ r.isPseudo = false ∧ r.ind = some 0xA6 := by
    decide +kernel
  obtain ⟨r, hr, hm, hp, hc⟩ := hrow
  exact ⟨r, hr, hm, fun o hk hl hrr =>
    C01_partial hr hp (.off8pos (k := 0) (i := 100) hk hc hl (by decide) (by decide) (by decide) hrr)⟩

/-- an instance on the operand of `LDD 100,X` (size hint 4 on an 8-bit offset) -/
example : ∃ r ∈ Gen.instructions, r.mnemonic = "LDD" ∧ Encodes lddOffset r (.idx (.off 0 100 false 8)) := by
  obtain ⟨r, hr, hm, hp, hc, _⟩ := lddOffset_row
  exact ⟨r, hr, hm, C01_partial hr hp (.off8pos (k := 0) (i := 100) rfl hc rfl (by decide) (by decide) (by decide) rfl)⟩

/-- `C01_partial_emitted` on `LDD 100,X`: the hypotheses are met -/
example : ∃ r ∈ Gen.instructions, r.mnemonic = "LDD" ∧ ∃ pkg bytes, translateOperand lddOffset r = .ok pkg ∧
    (∀ (ss : List Stmt) (i : Nat) (s : Stmt), s.row = r → s.operand = lddOffset → s.pkg = pkg →
      ∃ s', (match fixOne ss i s with | .ok s1 => fitWidth s1 | o => o) = .ok s' ∧ stmtBytes s' = some bytes) ∧
    bytes.length = pkg.size ∧ decode bytes = some (⟨opOf r.mnemonic, .idx (.off 0 100 false 8)⟩, bytes.length) := by
  obtain ⟨r, hr, hm, hp, hc, _⟩ := lddOffset_row
  exact ⟨r, hr, hm, C01_partial_emitted hr hp
    (.off8pos (k := 0) (i := 100) rfl hc rfl (by decide) (by decide) (by decide) rfl)
    (labelFree_of_leftRight (by decide) rfl)⟩

/-- `C01_intends` on the operand of `LDX #-1` (a negative value with size hint 4 in a 16-bit field): the
intended operand is `$FFFF`, and that is what is encoded -/
example : ∃ r ∈ Gen.instructions, r.mnemonic = "LDX" ∧
    Encodes { kind := .immediate, text := str "#-1", value := .numeric 1 (some 4) .immediate true } r
      (.imm 16 (twos (signedVal 1 true) 16)) ∧ twos (signedVal 1 true) 16 = 0xFFFF := by
  have hrow : ∃ r ∈ Gen.instructions, r.mnemonic = "LDX" ∧ r.isPseudo = false ∧ r.imm = some 0x8E ∧
      lookup 0x8E = some ("LDX", .imm16) := by decide +kernel
  obtain ⟨r, hr, hm, hp, hc, hl⟩ := hrow
  refine ⟨r, hr, hm, ?_, by decide⟩
  exact C01_intends hr hp (Intends.imm16 (h := some 4) (m := .immediate) rfl hc hl rfl (by decide) (by decide))

/-! ### a label as the constant offset of a pointer register

`Intends` speaks about NUMERIC operands, whose bytes are final after `translate` and `fit_operand_width`.  A label
offset (`LDA TABLE,X`, `LDB TBL+1,Y`, `LDD [TBL,U]`) is completed by the address pass in between, so its theorem is
stated on the `fixAll` step (`fixFit` = `fixOne` then `fitWidth`) instead of `Encodes`. -/

/-- **label offsets**: for an index operand whose left part is a label or a label expression (`LabelLeft`) and whose
register is X, Y, U or S, bracketed (`ind = true`) or not, `translate` returns the 16-bit offset form — size
`indSz + 2`, fixed (`maxSize` the same, no `choices`), waiting for the address (`needsRes`) — and for every statement
list `ss` in which the label (expression) stands for the address `a < 65536` (`LabelTarget`), the `fixAll` step turns
every statement carrying this package into op code, post byte and the two bytes of `a`, which the datasheet decoder
reads back, in full, as the row's operation on `a,R` / `[a,R]` with a 16-bit offset -/
theorem C01_label_offset {r : InstrRow} (hr : r ∈ Gen.instructions) (hp : r.isPseudo = false) {o : Asm.Operand}
    {c k : Nat} {left l : Value} {lt rt : Str} {vm : Mode} (ind : Bool)
    (hk : o.kind = if ind then .extIndirect else .indexed) (hv : o.value = .leftRight lt rt vm)
    (hc : r.ind = some c) (hl : o.left = .val left) (hll : LabelLeft left l) (hk4 : k < 4)
    (hrr : o.right = some (regName k)) :
    ∃ pkg, translateOperand o r = .ok pkg ∧ pkg.size = r.indSz + 2 ∧ pkg.maxSize = r.indSz + 2 ∧
      pkg.needsRes = true ∧ pkg.choices = [] ∧ pkg.additional = l ∧
      ∀ (ss : List Stmt) (i a : Nat) (s : Stmt) (av : Value), s.row = r → s.operand = o →
        s.pkg = { pkg with address := av } → LabelTarget ss l a → a < 65536 →
        ∃ s' bytes, fixFit ss i s = .ok s' ∧ stmtBytes s' = some bytes ∧ bytes.length = pkg.size ∧
          bytes = opcodeBytes c ++ [128 + 32 * k + (if ind then 25 else 9), a / 256, a % 256] ∧
          decode bytes = some (⟨opOf r.mnemonic, .idx (.off k (sext a 16) (ind = true) 16)⟩, bytes.length) := by
  have hcell := cell_ind hr hp hc
  have hsp := notSpecial_of_ind hr hc
  have hlt := cell_lt hcell.1
  have hq : (if ind then 25 else 9) = 9 ∨ (if ind then 25 else 9) = 25 := by cases ind <;> simp
  have hpb : idxRaw ind (regName k) ||| ((if ind then 0x90 else 0x80) + 0x09) =
      128 + 32 * k + (if ind then 25 else 9) := by
    rw [idxRaw_regName ind hk4 (by decide)]
    cases ind <;> rfl
  have hk' : IdxOperand ind o := by
    cases ind
    · exact hk
    · exact ⟨hk, by rw [hv]; rfl, by rw [hv]; rfl, by rw [hv]; rfl⟩
  have ht := translateOperand_val (idxCell hr hp hc) hl (idxNoOffset_label hl hll) hrr (regName_valid k) hk'
  rw [translateOffset_label hc hlt (regName_plain k hk4) hll (by rw [hpb]; cases ind <;> simp <;> omega), hpb] at ht
  refine ⟨_, ht, rfl, rfl, rfl, rfl, rfl, ?_⟩
  intro ss i a s av hrow hop hpkg htar ha
  subst hrow hop
  have hidx : s.operand.kind = .indexed ∨ s.operand.kind = .extIndirect := by
    cases ind
    · exact Or.inl (by simpa using hk)
    · exact Or.inr (by simpa using hk)
  obtain ⟨s', bytes, h1, h2, h3, h4, h5⟩ := fixFit_label (ss := ss) (i := i) (s := s) (c := c) (k := k)
    (q := if ind then 25 else 9) (a := a) hp hsp hcell.1 hidx (by rw [hv]; simp) (by rw [hv]; rfl) (by rw [hv]; rfl)
    (by rw [hpkg]) (by rw [hpkg]) hk4 hq (by rw [hpkg]; simp [hcell.2]) (by rw [hpkg]) (by rw [hpkg])
    (by rw [hpkg]; exact htar) ha
  refine ⟨s', bytes, h1, h2, by rw [h4, hpkg], h3, ?_⟩
  rw [h5]
  cases ind <;> simp

/-- the case of a plain label: `L,R` with `L` the label of statement `j`, which lies at address `a` -/
theorem C01_label_offset_label {r : InstrRow} (hr : r ∈ Gen.instructions) (hp : r.isPseudo = false) {o : Asm.Operand}
    {c k j : Nat} {m : Mode} {lt rt : Str} {vm : Mode} (ind : Bool)
    (hk : o.kind = if ind then .extIndirect else .indexed) (hv : o.value = .leftRight lt rt vm)
    (hc : r.ind = some c) (hl : o.left = .val (.address j m)) (hj : j < 65536) (hk4 : k < 4)
    (hrr : o.right = some (regName k)) :
    ∃ pkg, translateOperand o r = .ok pkg ∧ pkg.size = r.indSz + 2 ∧ pkg.needsRes = true ∧ pkg.choices = [] ∧
      ∀ (ss : List Stmt) (i a : Nat) (s : Stmt) (av : Value), s.row = r → s.operand = o →
        s.pkg = { pkg with address := av } → addrIntOf ss j = some a → a < 65536 →
        ∃ s' bytes, fixFit ss i s = .ok s' ∧ stmtBytes s' = some bytes ∧ bytes.length = pkg.size ∧
          decode bytes = some (⟨opOf r.mnemonic, .idx (.off k (sext a 16) (ind = true) 16)⟩, bytes.length) := by
  obtain ⟨l, hn⟩ := numV_ok (a := j) (by omega)
  obtain ⟨h', m', rfl, _⟩ := numV_eq hn
  obtain ⟨pkg, h1, h2, _, h3, h4, h5, h6⟩ := C01_label_offset hr hp ind hk hv hc hl (.label hn) hk4 hrr
  refine ⟨pkg, h1, h2, h3, h4, ?_⟩
  intro ss i a s av hrow hop hpkg hadr ha
  obtain ⟨s', bytes, g1, g2, g3, _, g5⟩ := h6 ss i a s av hrow hop hpkg (.label hadr) ha
  exact ⟨s', bytes, g1, g2, g3, g5⟩

/-- what the front end builds (`createOperand`, then `resolveOperand` against `t`) for an index operand with a LABEL on
the left: kind, the label's statement number, the register text — provided the value is a `left,right` pair -/
def builtLabelIdx (r : InstrRow) (text : Str) (t : SymTab) : Option (OpKind × Nat × Option Str) :=
  match createOperand text r with
  | .ok o0 =>
    (match resolveOperand o0 r t with
     | .ok o => (match o.value, o.left with
                 | .leftRight _ _ _, .val (.address j _) => some (o.kind, j, o.right)
                 | _, _ => none)
     | .error _ => none)
  | .error _ => none

theorem builtLabelIdx_spec {r : InstrRow} {text : Str} {t : SymTab} {k : OpKind} {j : Nat} {right : Option Str}
    (h : builtLabelIdx r text t = some (k, j, right)) :
    ∃ o0 o lt rt vm m, createOperand text r = .ok o0 ∧ resolveOperand o0 r t = .ok o ∧ o.kind = k ∧
      o.value = .leftRight lt rt vm ∧ o.left = .val (.address j m) ∧ o.right = right := by
  unfold builtLabelIdx at h
  cases h1 : createOperand text r with
  | error e => rw [h1] at h; cases h
  | ok o0 =>
    rw [h1] at h
    dsimp only at h
    cases h2 : resolveOperand o0 r t with
    | error e => rw [h2] at h; cases h
    | ok o =>
      rw [h2] at h
      dsimp only at h
      split at h
      · rename_i lt rt vm j' m hv hl
        simp only [Option.some.injEq, Prod.mk.injEq] at h
        obtain ⟨rfl, rfl, rfl⟩ := h
        exact ⟨o0, o, lt, rt, vm, m, rfl, h2, rfl, hv, hl, rfl⟩
      · cases h

/-- non-vacuity: the operands the front end builds for `LDA T,X` and `LDD [T,U]` when `T` labels statement 0 meet the
hypotheses of `C01_label_offset_label`; with `T` at address `$1234` the statements are `A6 89 12 34` = `LDA $1234,X`
and `EC D9 12 34` = `LDD [$1234,U]` -/
example : ∀ p ∈ [("LDA", "T,X", false, 0, [0xA6, 0x89, 0x12, 0x34]), ("LDD", "[T,U]", true, 2, [0xEC, 0xD9, 0x12, 0x34])],
    ∃ r ∈ Gen.instructions, r.mnemonic = p.1 ∧ ∃ o0 o,
    createOperand p.2.1.toList r = .ok o0 ∧ resolveOperand o0 r [("T".toList, .address 0 .none)] = .ok o ∧
    ∃ pkg, translateOperand o r = .ok pkg ∧ pkg.size = 4 ∧
      ∀ (ss : List Stmt) (i : Nat) (s : Stmt) (av : Value), s.row = r → s.operand = o →
        s.pkg = { pkg with address := av } → addrIntOf ss 0 = some 0x1234 →
        ∃ s', fixFit ss i s = .ok s' ∧ stmtBytes s' = some p.2.2.2.2 ∧
          decode p.2.2.2.2 = some (⟨p.1, .idx (.off p.2.2.2.1 0x1234 (p.2.2.1 = true) 16)⟩, 4) := by
  have hrows : ∀ p ∈ [("LDA", "T,X", false, 0, [0xA6, 0x89, 0x12, 0x34]), ("LDD", "[T,U]", true, 2, [0xEC, 0xD9, 0x12, 0x34])],
      ∃ r ∈ Gen.instructions, r.mnemonic = p.1 ∧ r.isPseudo = false ∧ r.indSz = 2 ∧ p.2.2.2.1 < 4 ∧
        (∃ c, r.ind = some c ∧ opcodeBytes c ++ [128 + 32 * p.2.2.2.1 + (if p.2.2.1 then 25 else 9), 0x12, 0x34] = p.2.2.2.2) ∧
        builtLabelIdx r p.2.1.toList [("T".toList, .address 0 .none)] =
          some (if p.2.2.1 then .extIndirect else .indexed, 0, some (regName p.2.2.2.1)) ∧
        decode p.2.2.2.2 = some (⟨p.1, .idx (.off p.2.2.2.1 0x1234 (p.2.2.1 = true) 16)⟩, 4) := by
    decide +kernel
  intro p hp
  obtain ⟨r, hr, hm, hps, hsz, hk4, ⟨c, hc, hbytes⟩, hb, hdec⟩ := hrows p hp
  obtain ⟨o0, o, lt, rt, vm, m, hcr, hres, hk, hv, hl, hrr⟩ := builtLabelIdx_spec hb
  refine ⟨r, hr, hm, o0, o, hcr, hres, ?_⟩
  obtain ⟨pkg, h1, h2, _, _, _, _, h6⟩ := C01_label_offset (k := p.2.2.2.1) hr hps p.2.2.1 hk hv hc hl
    (.label (numV_byte (v := 0) (by decide))) hk4 hrr
  refine ⟨pkg, h1, by rw [h2, hsz], ?_⟩
  intro ss i s av hrow hop hpkg hadr
  obtain ⟨s', bytes, g1, g2, _, g4, _⟩ := h6 ss i 0x1234 s av hrow hop hpkg (.label hadr) (by decide)
  have hb' : bytes = p.2.2.2.2 := by rw [g4, ← hbytes]
  subst hb'
  exact ⟨s', g1, g2, hdec⟩

/-- whole-program witnesses: a label, a label expression, and a bracketed label as constant
offsets (`TABLE` at 1: `A6 89 00 01`, `E6 A9 00 02`, `EC D9 00 01`); `[L+1]` is an indirect ADDRESS (`6E 9F 10 02`);
label expressions as offsets after an ORG (`T` at `$1000`: `T-1,S` = `A7 E9 0F FF`, `T*2,X` = `30 89 20 00`,
`[T+1,Y]` = `A6 B9 10 01`) next to a label before PCR, which stays PC-relative (`[T,PCR]` = `A6 9C F0`) -/
theorem C01_label_offset_programs (fs : Files) :
    (∃ a, assemble fs [" NOP\n".toList, "TABLE FCB 1,2,3\n".toList, " LDA TABLE,X\n".toList, " LDB TABLE+1,Y\n".toList,
        " LDD [TABLE,U]\n".toList] = .ok a ∧
      a.image = some [0x12, 0x01, 0x02, 0x03, 0xA6, 0x89, 0x00, 0x01, 0xE6, 0xA9, 0x00, 0x02, 0xEC, 0xD9, 0x00, 0x01]) ∧
    (∃ a, assemble fs [" ORG $1000\n".toList, " NOP\n".toList, "L FDB $2000\n".toList, " JMP [L+1]\n".toList,
        " JMP [L]\n".toList] = .ok a ∧
      a.image = some [0x12, 0x20, 0x00, 0x6E, 0x9F, 0x10, 0x02, 0x6E, 0x9F, 0x10, 0x01]) ∧
    (∃ a, assemble fs [" ORG $1000\n".toList, "T FCB 1\n".toList, " STA T-1,S\n".toList, " LEAX T*2,X\n".toList,
        " LDA [T+1,Y]\n".toList, " LDA [T,PCR]\n".toList] = .ok a ∧
      a.image = some [0x01, 0xA7, 0xE9, 0x0F, 0xFF, 0x30, 0x89, 0x20, 0x00, 0xA6, 0xB9, 0x10, 0x01, 0xA6, 0x9C, 0xF0]) :=
  evaluated (by decide +kernel)

/-- ... and the accumulator offsets with auto increment / decrement are diagnostics -/
theorem C01_acc_autoincrement_programs (fs : Files) :
    assemble fs [" LDA A,X+\n".toList] = .diag ∧ assemble fs [" LDA B,-X\n".toList] = .diag ∧
    assemble fs [" LDA [D,--Y]\n".toList] = .diag :=
  evaluated (by decide +kernel)

end CoCo.Props

section axioms
open CoCo.Props
#print axioms C01_partial
#print axioms C01_partial_emitted
#print axioms C01_intends
#print axioms C01_full
#print axioms C01_full_emitted
#print axioms C01_Statement_false_fixed
#print axioms C01_push_pull_rejected
#print axioms region_sub_intends
#print axioms C01_label_offset
#print axioms C01_label_offset_label
#print axioms C01_label_offset_programs
end axioms
