/-
Props/C06.lean — write-then-list on cassettes returns the files written (up to `norm`), and the reader lists
the files of every well-formed tape stream: both for ASCII names and under the exclusion E1 (`K_C06_emptyData`: a
file without data ends the listing). Without the exclusion the statement fails on the model (`C06_Statement_false`).
-/
import CoCoVerif.Lemmas.Cassette

namespace CoCo.Props
open CoCo CoCo.Cas CoCo.Spec.Tape

/-- (b) under the exclusion of E1: **the reader is complete for every well-formed tape stream** whose
files all have ASCII names (`AsciiName`: the reader UTF-8-decodes the name bytes) and data
(`K_C06_emptyData = false`) — any leader lengths, any gaps, any payload bytes (markers included). -/
theorem C06_reader_partial (ts : List Spec.Tape.File) (bytes : Bytes) (h : WellFormed ts bytes)
    (hn : ∀ t ∈ ts, AsciiName t.name) (hK : ∀ t ∈ ts, K_C06_emptyData t.data = false) :
    Cas.list bytes = .ok (ts.map ofTape) := by
  rw [list_wellFormed ts bytes h hn, takeWhile_all (fun t ht => by simpa [K_C06_emptyData] using hK t ht)]

/-- (a) under the exclusion of E1: write-then-list is the identity up to `norm`, for every list of files with
ASCII names that all have data, every data length and content. `hv` is not needed: `list_write` holds for any
field values. -/
theorem C06_roundtrip_partial (fs : List CFile) (hn : ∀ f ∈ fs, AsciiName f.name)
    (hv : ∀ f ∈ fs, ValidFile f) (hK : ∀ f ∈ fs, K_C06_emptyData f.data = false) :
    Cas.list (Cas.write fs) = .ok (fs.map Cas.norm) := by
  rw [list_write fs hn, takeWhile_all (fun f hf => by simpa [K_C06_emptyData] using hK f hf)]

/-- **C06_partial** = (a) ∧ (b) with the single exclusion `K_C06_emptyData`. -/
theorem C06_partial :
    (∀ fs : List CFile, (∀ f ∈ fs, AsciiName f.name) → (∀ f ∈ fs, ValidFile f) →
        (∀ f ∈ fs, K_C06_emptyData f.data = false) → Cas.list (Cas.write fs) = .ok (fs.map Cas.norm)) ∧
    (∀ (ts : List Spec.Tape.File) (bytes : Bytes), WellFormed ts bytes → (∀ t ∈ ts, AsciiName t.name) →
        (∀ t ∈ ts, K_C06_emptyData t.data = false) → Cas.list bytes = .ok (ts.map ofTape)) :=
  ⟨C06_roundtrip_partial, C06_reader_partial⟩

/-- the witness of E1: one file with no data -/
def e1File : CFile :=
  { name := [69], ext := [], ftype := 2, dtype := 0, gaps := 0, load := 0, exec := 0, data := [] }

theorem e1File_ascii : ∀ f ∈ [e1File], AsciiName f.name := by
  intro f hf c hc
  rw [List.mem_singleton.mp hf] at hc
  rw [List.mem_singleton.mp hc]
  decide

/-- **finding E1 as a theorem**: on the model of the current code the full statement is false. -/
theorem C06_finding_E1 : Cas.list (Cas.write [e1File]) = .ok [] :=
  list_write_E1 e1File [] e1File_ascii rfl

theorem C06_Statement_false : ¬ C06_Statement := by
  intro h
  have h1 := h.1 [e1File] e1File_ascii
  rw [C06_finding_E1] at h1
  simp at h1

/-- non-vacuity of the partial theorem's hypotheses -/
example : (∀ f ∈ [{ e1File with data := [0x55, 0x3C, 0x00] }], AsciiName f.name) ∧
          (∀ f ∈ [{ e1File with data := [0x55, 0x3C, 0x00] }], ValidFile f) ∧
          (∀ f ∈ [{ e1File with data := [0x55, 0x3C, 0x00] }], K_C06_emptyData f.data = false) := by
  refine ⟨?_, ?_, ?_⟩ <;> intro f hf <;> simp at hf <;> subst hf <;> simp [AsciiName, ValidFile, K_C06_emptyData, e1File]

end CoCo.Props
