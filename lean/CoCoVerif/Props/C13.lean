/-
Props/C13.lean — every input is either accepted or rejected with a documented diagnostic: `C13_full`.

An outcome `internal` stands for an exception other than ParseError / TranslationError escaping `Program.process`.
`assemble` never ends in it (`assemble_never_internal`: the invariant of Lemmas/NoInt*.lean through the back end, and
the INCLUDE nesting budget `includeFuel fs` = number of files + 1 is never exhausted because a file that is being included
is rejected, `expand_includeFuel_ne_internal`, Lemmas/FrontInclude.lean) and never diverges (`assemble_not_diverged`).
The conditional forms (`C13_of_expand_ne_internal`, `C13_no_include`, ...) are instances of `C13_full`; `C13_partial` lists
the parts one by one.
Regression witnesses for the repairs of /repo that this property led to: an INCLUDE of a missing file (Props/C19.lean
`include_missing_diag`); a program that runs past address 65535 (fix 0addc5e, `C13_formerWitness_diag`); more than 65536
statements with a PCR offset `X-FAR`, `X` neither a number nor an address (fix 9045646, `C13_witness_diag`); more than 64
nested INCLUDE files (Python's RecursionError, reported as a diagnostic by the code itself, `C13_deepWitness_fixed`).
-/
import CoCoVerif.Lemmas.NoIntHuge
import CoCoVerif.Props.C19

namespace CoCo.Props
open CoCo CoCo.Asm

/-- C13 at full strength: assembly of any input, with any host files, ends in an accepted program (`.ok`) or in a
documented diagnostic (`.diag`): never in an exception of another kind (`internal`), never without end (`diverged`). -/
def C13_Statement : Prop :=
  ∀ (fs : Files) (lines : List Str), (∃ a, assemble fs lines = .ok a) ∨ assemble fs lines = .diag

/-- the `while not all_sizes_fixed()` loop of `Program.translate` terminates: as many passes as there are
statements of undecided size (`unfixed`) suffice -/
theorem pcrLoop_not_diverged_of_fuel (fuel : Nat) (ss : List Stmt) (h : unfixed ss ≤ fuel) :
    pcrLoop fuel ss ≠ .diverged := Asm.pcrLoop_not_diverged_of_fuel fuel ss h

theorem pcrLoop_not_diverged (ss : List Stmt) : pcrLoop (ss.length + 1) ss ≠ .diverged :=
  Asm.pcrLoop_not_diverged ss

theorem assemble_not_diverged (fs : Files) (lines : List Str) : assemble fs lines ≠ .diverged :=
  Asm.assemble_not_diverged fs lines

/-- `Statement.__init__` raises nothing but ParseError -/
theorem parseLine_no_internal (l : Str) : parseLine l ≠ .internal ∧ parseLine l ≠ .diverged := by
  rcases parseLine_ok_or_diag l with ⟨r, h⟩ | h <;> rw [h] <;> simp

theorem parseLines_no_internal (ls : List Str) : parseLines ls ≠ .internal ∧ parseLines ls ≠ .diverged := by
  rcases parseLines_ok_or_diag ls with ⟨r, h⟩ | h <;> rw [h] <;> simp

/-- fix 0addc5e: the second NOP would sit at address 65536; a diagnostic ("outside the 64K address space") -/
def C13_formerWitness : List Str := [" ORG $FFFF\n", " NOP\n", " NOP\n"].map String.toList

theorem C13_formerWitness_diag (fs : Files) : assemble fs C13_formerWitness = .diag :=
  evaluated (by decide +kernel)

/-- a chain of 65 nested INCLUDE files (`fsDeep` of Props/C19.lean) -/
def C13_deepWitness : List Str := [deepLine 63] ++ []

/-- with the nesting budget `includeFuel fsDeep` = 70 the 64 files below the program are expanded; the program is the
single `NOP` of the innermost file and is accepted, with image `12` -/
theorem C13_deepWitness_fixed :
    ∃ a, assemble fsDeep C13_deepWitness = .ok a ∧ a.stmts.map stmtBytes = [some [0x12]] := by
  obtain ⟨a, ha, hc⟩ := checkProgramF_sound (lines := [nopLine] ++ [])
    (check := fun a => a.stmts.map stmtBytes == [some [0x12]]) (by decide +kernel) fsDeep
  exact ⟨a, by rw [C13_deepWitness, deep63_fixed, ha], by simpa using hc⟩

/-- fix 9045646: `X` is a symbol that is neither a number nor an address, so `X-FAR` stays an address expression, which
`calculate_address_offset` reports as unresolved.  (Taking the STATEMENT INDEX of `FAR`, 70000, for the constant made
`NumericValue(70000 − 0 − 3, size_hint=2)` raise a ValueTypeError that nothing caught.) -/
def C13_witness : List Str := List.replicate 70000 hugeOrg ++ [hugeFar, hugeX]

theorem C13_witness_diag' (fs : Files) : assemble fs C13_witness = .diag := huge_diag fs 70000 rfl

theorem C13_witness_diag : assemble [] C13_witness = .diag := C13_witness_diag' []

theorem C13_witness_length : C13_witness.length = 70002 := by
  unfold C13_witness; rw [List.length_append, List.length_replicate]; rfl

/-- the chain of files being included holds no file twice and only files that exist, so its length is at most that of `fs`
(Lemmas/FrontInclude.lean `expand_ne_internal_of_fuel`) -/
theorem expand_never_internal (fs : Files) (parsed : List Stmt) :
    expand fs (includeFuel fs) [] parsed ≠ .internal := expand_includeFuel_ne_internal fs parsed

theorem expand_budget_irrelevant (fs : Files) (m : Nat) (parsed : List Stmt) (h : includeFuel fs ≤ m) :
    expand fs m [] parsed = expand fs (includeFuel fs) [] parsed := expand_fuel_irrelevant fs m parsed h

/-- `Program.process` never ends in an exception other than ParseError / TranslationError: parsing and INCLUDE expansion
end in statements or in a diagnostic, and so does every later stage on statements that came out of the parser, however
many there are (`back_ne_internal`) -/
theorem assemble_never_internal (fs : Files) (lines : List Str) : assemble fs lines ≠ .internal := by
  rw [assemble_eq]
  refine Outcome.bind_ne_internal ?_ fun ss0 h => ?_
  · rw [front_eq]
    exact Outcome.bind_ne_internal (parseLines_no_internal lines).1 fun _ _ => expand_never_internal fs _
  · obtain ⟨parsed, hp, he⟩ := front_eq_ok.1 h
    exact back_ne_internal (expand_parsed hp he)

/-- the hypothesis is never met -/
theorem assemble_internal_only_from_expand_fuel (fs : Files) (lines : List Str)
    (h : assemble fs lines = .internal) :
    ∃ parsed, parseLines lines = .ok parsed ∧ expand fs (includeFuel fs) [] parsed = .internal :=
  absurd h (assemble_never_internal fs lines)

theorem assemble_internal_of_expand (fs : Files) (lines : List Str) (parsed : List Stmt)
    (hp : parseLines lines = .ok parsed) (he : expand fs (includeFuel fs) [] parsed = .internal) :
    assemble fs lines = .internal :=
  front_internal ((front_of_parse_ok hp).trans he)

/-- both sides are false: `assemble_never_internal`, `expand_never_internal` -/
theorem assemble_internal_iff_expand (fs : Files) (lines : List Str) :
    assemble fs lines = .internal ↔
      ∃ parsed, parseLines lines = .ok parsed ∧ expand fs (includeFuel fs) [] parsed = .internal :=
  ⟨assemble_internal_only_from_expand_fuel fs lines,
   fun ⟨parsed, hp, he⟩ => assemble_internal_of_expand fs lines parsed hp he⟩

theorem C13_full : C13_Statement := fun fs lines =>
  Outcome.ok_or_diag (assemble_never_internal fs lines) (assemble_not_diverged fs lines)

/-- weaker than `assemble_internal_only_from_expand_fuel` (the second disjunct never occurs) -/
theorem assemble_internal_only_from_expand (fs : Files) (lines : List Str)
    (h : assemble fs lines = .internal) :
    ∃ parsed, parseLines lines = .ok parsed ∧
      (expand fs (includeFuel fs) [] parsed = .internal ∨
        ∃ ss0, expand fs (includeFuel fs) [] parsed = .ok ss0 ∧ 65536 < ss0.length) :=
  absurd h (assemble_never_internal fs lines)

/-! Instances of `C13_full`: none of the hypotheses below is needed. -/

theorem C13_of_expand_ne_internal (fs : Files) (lines : List Str) (parsed : List Stmt)
    (_hp : parseLines lines = .ok parsed) (_he : expand fs (includeFuel fs) [] parsed ≠ .internal) :
    (∃ a, assemble fs lines = .ok a) ∨ assemble fs lines = .diag :=
  C13_full fs lines

theorem C13_of_expand_ok (fs : Files) (lines : List Str) (parsed ss0 : List Stmt)
    (_hp : parseLines lines = .ok parsed) (_he : expand fs (includeFuel fs) [] parsed = .ok ss0) :
    (∃ a, assemble fs lines = .ok a) ∨ assemble fs lines = .diag :=
  C13_full fs lines

theorem C13_of_expand_ok' (fs : Files) (lines : List Str) (parsed ss0 : List Stmt)
    (hp : parseLines lines = .ok parsed) (he : expand fs (includeFuel fs) [] parsed = .ok ss0) (_hN : ss0.length ≤ 65536) :
    (∃ a, assemble fs lines = .ok a) ∨ assemble fs lines = .diag :=
  C13_of_expand_ok fs lines parsed ss0 hp he

theorem C13_no_include (fs : Files) (lines : List Str) (parsed : List Stmt)
    (_hp : parseLines lines = .ok parsed) (_hni : parsed.all (fun s => !s.row.isInclude) = true) :
    (∃ a, assemble fs lines = .ok a) ∨ assemble fs lines = .diag :=
  C13_full fs lines

theorem parseLines_length_le : ∀ (ls : List Str) (r : List Stmt), parseLines ls = .ok r → r.length ≤ ls.length := by
  intro ls
  induction ls with
  | nil => intro r h; simp [parseLines] at h; subst h; simp
  | cons l rest ih =>
    intro r h
    unfold parseLines at h
    split at h
    · have := ih r h; simp only [List.length_cons]; omega
    · cases hr : parseLines rest with
      | ok r2 =>
        rw [hr] at h; simp only [Outcome.ok.injEq] at h; subst h
        have := ih r2 hr; simp only [List.length_cons]; omega
      | _ => rw [hr] at h; cases h
    · cases h
    · cases h
    · cases h

theorem C13_short_program (fs : Files) (lines : List Str) (parsed : List Stmt)
    (hp : parseLines lines = .ok parsed) (hni : parsed.all (fun s => !s.row.isInclude) = true)
    (_hN : lines.length ≤ 65536) :
    (∃ a, assemble fs lines = .ok a) ∨ assemble fs lines = .diag :=
  C13_no_include fs lines parsed hp hni

/-! ### register validation, signed arithmetic, the 8-bit PCR range check

Every branch is covered by the general theorems above: the register checks of
`translateSpecial` / `translateIndexed` / `translateExtIndirect` raise `operandType` (a diagnostic), the signed
expression arithmetic (`Int.tdiv`, products and sums of negative numbers) goes through `numericOfStr` /
`numericOfInt`, which have no internal outcome (a negative number of ANY magnitude is a value; `fit_operand_width`
rejects it later with a diagnostic), division by zero is `.error .other` (a diagnostic), and the range check of
`fix_addresses` is a diagnostic.  The programs below exercise each of these branches; all were replayed on /repo with
the same outcome. -/

private def prog (ls : List String) : List Str := ls.map String.toList

private def imagesAre (bs : List (Option Bytes)) (a : Assembly) : Bool := a.stmts.map stmtBytes == bs

/-- an instruction stacking its own pointer, an unknown register, an
unknown index register (plain and indirect), `PCR` without an offset or with an accumulator offset -/
theorem C13_b2_register_diag (fs : Files) :
    assemble fs (prog [" PSHS S\n"]) = .diag ∧ assemble fs (prog [" PSHU U,A\n"]) = .diag ∧
    assemble fs (prog [" PULS Q\n"]) = .diag ∧ assemble fs (prog [" LDA 1,Q\n"]) = .diag ∧
    assemble fs (prog [" LDA ,W\n"]) = .diag ∧ assemble fs (prog [" LDA [1,Q]\n"]) = .diag ∧
    assemble fs (prog [" LEAX ,PCR\n"]) = .diag ∧ assemble fs (prog [" LEAX A,PCR\n"]) = .diag ∧
    assemble fs (prog [" LDA [D,PCR]\n"]) = .diag :=
  evaluated (by decide +kernel)

/-- ... and what the checks let through: the OTHER stack pointer, `0,PCR` (an offset of 0 from the PC, not the
no-offset form), a numeric `n,PCR` outside −128..127 in the 16-bit form -/
theorem C13_b2_register_ok :
    (∃ a, assemble [] (prog [" PSHS U,A\n"]) = .ok a ∧ imagesAre [some [0x34, 0x42]] a = true) ∧
    (∃ a, assemble [] (prog [" LEAX 0,PCR\n", " LDA [0,PCR]\n"]) = .ok a ∧
      imagesAre [some [0x30, 0x8C, 0x00], some [0xA6, 0x9C, 0x00]] a = true) ∧
    (∃ a, assemble [] (prog [" LEAX 200,PCR\n", " LEAX -129,PCR\n"]) = .ok a ∧
      imagesAre [some [0x30, 0x8D, 0x00, 0xC8], some [0x30, 0x8D, 0xFF, 0x7F]] a = true) :=
  evaluated (by decide +kernel)

/-- division by zero (numbers, and a label by a number), a product `label * constant` above 65535 (`label * negative`
is reduced modulo 65536 and accepted, see `C13_b2_signed_ok`), a negative EQU in a one-byte field, ORG of a negative number,
and the 8-bit PCR range check are diagnostics -/
theorem C13_b2_signed_diag (fs : Files) :
    assemble fs (prog ["N EQU 0\n", " LDX #5/N\n"]) = .diag ∧
    assemble fs (prog ["N EQU 0\n", "L LDX #L/N\n"]) = .diag ∧
    assemble fs (prog ["N EQU 300\n", " ORG $1000\n", "L LDX #L*N\n"]) = .diag ∧
    assemble fs (prog ["N EQU -200\n", " FDB N\n", " FCB N\n"]) = .diag ∧
    assemble fs (prog ["S EQU -5\n", " ORG S\n", " NOP\n"]) = .diag ∧
    assemble fs (prog ["S LEAX T,PCR\n", " ORG $CB\n", "T NOP\n"]) = .diag :=
  evaluated (by decide +kernel)

/-- ... and the accepted ones: `N/M`, `M/N` (truncation toward zero: `−7/2 = −3`, `2/−7 = 0`), `N*N`, `N−M` on numbers;
`label / negative`, `label * negative` in a 16-bit field (two's complement); a negative value as an extended operand
(never direct, even with `<`); `label * negative` as an immediate and as a PCR target (the product −1228800 is
reduced modulo 65536 by `calculate_address_offset`, the target is `$4000` — no internal error, whatever one thinks of
the operand) -/
theorem C13_b2_signed_ok :
    (∃ a, assemble [] (prog ["N EQU -7\n", "M EQU 2\n", " LDX #N/M\n", " LDX #M/N\n", " LDX #N*N\n", " LDX #N-M\n"])
        = .ok a ∧
      imagesAre [some [], some [], some [0x8E, 0xFF, 0xFD], some [0x8E, 0x00, 0x00], some [0x8E, 0x00, 0x31],
        some [0x8E, 0xFF, 0xF7]] a = true) ∧
    (∃ a, assemble [] (prog ["N EQU -2\n", " ORG $100\n", "L LDX #L/N\n", " LDX #L*N\n"]) = .ok a ∧
      imagesAre [some [], some [], some [0x8E, 0xFF, 0x80], some [0x8E, 0xFE, 0x00]] a = true) ∧
    (∃ a, assemble [] (prog ["N EQU -5\n", " LDA N\n", " LDA <N\n"]) = .ok a ∧
      imagesAre [some [], some [0xB6, 0xFF, 0xFB], some [0xB6, 0xFF, 0xFB]] a = true) ∧
    (∃ a, assemble [] (prog ["N EQU -300\n", " ORG $1000\n", "L LEAX L*N,PCR\n"]) = .ok a ∧
      imagesAre [some [], some [], some [0x30, 0x8D, 0x2F, 0xFC]] a = true) ∧
    (∃ a, assemble [] (prog ["N EQU -300\n", " ORG $1000\n", "L LDX #L*N\n"]) = .ok a ∧
      imagesAre [some [], some [], some [0x8E, 0x40, 0x00]] a = true) :=
  evaluated (by decide +kernel)

/-! ### label offsets of a pointer register, `calculate_address_offset`, `A,X+`

The invariant that covers these branches: `StmtOK.addl` (whatever `fix_addresses` has to resolve — with post byte
choices, the PCR forms, or without, a label offset — is a label index below the number of statements or a good
label expression) and `addrOffset_good` (the result of `calculate_address_offset` is a 16-bit magnitude again, so
`numericOfInt target (some 4)` of that branch of `fixOne` cannot fail).  The programs below exercise every such branch; all
were replayed on /repo with the same outcome and the same bytes. -/

/-- a label as constant offset of a pointer register (16-bit offset form, post byte `$x9`): the label defined BEFORE
(`T`) and AFTER (`V`) its use, plain, with a constant, indirect, and the extended indirect `[label+1]`; an EQU symbol is
a number, not a label (5-bit form) -/
theorem C13_b3_label_offset_ok :
    (∃ a, assemble [] (prog ["T FCB 1\n", " LDA T,X\n", " LDB T+1,Y\n", " LDD [T,U]\n", " LDA [T+1]\n", " LDA V,S\n",
        " LDX [V-1,X]\n", "V FCB 2\n"]) = .ok a ∧
      imagesAre [some [0x01], some [0xA6, 0x89, 0x00, 0x00], some [0xE6, 0xA9, 0x00, 0x01], some [0xEC, 0xD9, 0x00, 0x00],
        some [0xA6, 0x9F, 0x00, 0x01], some [0xA6, 0xE9, 0x00, 0x19], some [0xAE, 0x99, 0x00, 0x18], some [0x02]] a = true) ∧
    (∃ a, assemble [] (prog [" LDA T,X\n", "T EQU 5\n"]) = .ok a ∧ imagesAre [some [0xA6, 0x05], some []] a = true) :=
  evaluated (by decide +kernel)

/-- left `op` right in the written order: `5-L` is 5 minus the address (reduced modulo 65536), `$4000/L` divides BY the
address, `0/L` is 0, `3*L` as a label offset; `5-L` as a PCR target.
A PCR operand `number - label` always takes the 16-bit form (`exprForces`, third disjunct), so `LEAX 5-L,PCR` is
`30 8D FF DC` (target `$FFF5`, from `$0019`). -/
theorem C13_b3_order_ok_fixed :
    (∃ a, assemble [] (prog [" ORG $10\n", "L FDB 5-L\n", " LDX #$4000/L\n", " LEAX 5-L,PCR\n"]) = .ok a ∧
      imagesAre [some [], some [0xFF, 0xF5], some [0x8E, 0x04, 0x00], some [0x30, 0x8D, 0xFF, 0xDC]] a = true) ∧
    (∃ a, assemble [] (prog [" ORG $10\n", "L LDX #0/L\n", " LDA 3*L,X\n"]) = .ok a ∧
      imagesAre [some [], some [0x8E, 0x00, 0x00], some [0xA6, 0x89, 0x00, 0x30]] a = true) :=
  evaluated (by decide +kernel)

/-- division of a label by zero (immediate and as a label offset), a label
offset above 65535 (product, and an address beyond the 64K space), an accumulator offset with auto increment or
decrement (plain and indirect) -/
theorem C13_b3_diag (fs : Files) :
    assemble fs (prog ["L LDX #L/0\n"]) = .diag ∧
    assemble fs (prog [" ORG 5\n", "L LDA L/0,X\n"]) = .diag ∧
    assemble fs (prog ["N EQU 300\n", " ORG $1000\n", "L LDA L*N,X\n"]) = .diag ∧
    assemble fs (prog [" ORG $FFFE\n", " NOP\n", "T NOP\n", " LDA T+1,X\n"]) = .diag ∧
    assemble fs (prog [" LDA A,X+\n"]) = .diag ∧ assemble fs (prog [" LDA B,-X\n"]) = .diag ∧
    assemble fs (prog [" LDA [D,--Y]\n"]) = .diag :=
  evaluated (by decide +kernel)

/-! ### EQUs defined by expressions (`resolveF`, `evalSyms`), the ORG rule (`orgOK`)

`resolveF_good` (the invariant goes through every level of a chain of EQU
expressions; running out of fuel — a definition cycle, Python's RecursionError — is `.error .other`, a diagnostic),
`evalSyms_good` (an EQU expression is evaluated on the final addresses by `calculate_address_offset`, whose operands are
table entries — labels of existing statements — or numbers: `addrOffset_good`), and `orgOK` is a Boolean check whose
failure is a diagnostic.  The programs below exercise these branches. -/

/-- a definition cycle met by an operand (`resolve_symbols`) and met only by the
symbol table pass (`evalSyms`); an EQU expression that divides a label by zero, that exceeds 65535, that names an
undefined symbol; an ORG after the first byte -/
theorem C13_b4_diag (fs : Files) :
    assemble fs (prog ["A EQU B+1\n", "B EQU A+1\n", " LDA #A\n"]) = .diag ∧
    assemble fs (prog ["A EQU B+1\n", "B EQU A+1\n", " NOP\n"]) = .diag ∧
    assemble fs (prog ["X EQU L/0\n", "L NOP\n"]) = .diag ∧
    assemble fs (prog ["X EQU L*L\n", " ORG $1000\n", "L NOP\n"]) = .diag ∧
    assemble fs (prog ["X EQU Q+1\n", " NOP\n"]) = .diag ∧
    assemble fs (prog [" NOP\n", " ORG $10\n"]) = .diag :=
  evaluated (by decide +kernel)

/-- ... and accepted ones: an EQU of constants used as an operand (`N*3`), an EQU of a label expression below zero
(`0-L` at address 5: reduced modulo 65536, listed as `$FFFB`), an ORG after an EQU (which lays nothing out) -/
theorem C13_b4_ok :
    (∃ a, assemble [] (prog ["N EQU 2\n", "X EQU N*3\n", " LDA #X\n"]) = .ok a ∧
      (imagesAre [some [], some [], some [0x86, 0x06]] a &&
        symtabLines a.symtab == some (prog ["$0002 N", "$0006 X"])) = true) ∧
    (∃ a, assemble [] (prog ["X EQU 0-L\n", " ORG 5\n", "L NOP\n"]) = .ok a ∧
      (imagesAre [some [], some [], some [0x12]] a &&
        symtabLines a.symtab == some (prog ["$FFFB X", "$05   L"])) = true) ∧
    (∃ a, assemble [] (prog ["L EQU 5\n", " ORG $10\n", " NOP\n"]) = .ok a ∧
      (imagesAre [some [], some [], some [0x12]] a && symtabLines a.symtab == some (prog ["$0005 L"])) = true) :=
  evaluated (by decide +kernel)

/-! ### symbols, expressions and labels inside FCB / FDB lists (`fixAllL`, `evalLists`)

The pass over the lists (`evalLists`) resolves an element against the
symbol table and looks a label up in the statements after `fix_addresses`; every label of the table points at an existing
statement whose address is a 16-bit number (`fixAllL_good`, Lemmas/NoIntFix.lean), so the pass ends in a
list of statements or in a diagnostic. -/

/-- list elements that cannot be evaluated: an undefined symbol, a division by zero, a label whose
address does not fit the byte of an FCB -/
theorem C13_b8_list_diag (fs : Files) :
    assemble fs (prog [" FCB 1,UNDEF\n"]) = .diag ∧
    assemble fs (prog [" FDB 5/Z,1\n", "Z EQU 0\n"]) = .diag ∧
    assemble fs (prog [" ORG $100\n", "L NOP\n", " FCB 1,L\n"]) = .diag :=
  evaluated (by decide +kernel)

/-- a jump table: `T FDB L1,L2` with the labels defined after it assembles, each element the address of its label -/
theorem C13_b8_list_ok :
    ∃ a, assemble [] (prog ["T FDB L1,L2\n", "L1 NOP\n", "L2 RTS\n"]) = .ok a ∧
      imagesAre [some [0x00, 0x04, 0x00, 0x05], some [0x12], some [0x39]] a = true :=
  evaluated (by decide +kernel)

/-- The parts of C13, one by one (`C13_full` is the full statement).  (1)-(4): the PCR loop and the
whole assembly never run out of fuel, and parsing fails only with a diagnostic.  (5): an internal error comes from the
nesting budget of INCLUDE and from nothing else (and that budget is never exhausted: `expand_never_internal`, so both
sides of (5) are false).  (6): C13 itself whenever the INCLUDE expansion does not run out of that budget (always). -/
theorem C13_partial :
    (∀ ss : List Stmt, pcrLoop (ss.length + 1) ss ≠ .diverged) ∧
    (∀ fs lines, assemble fs lines ≠ .diverged) ∧
    (∀ l, parseLine l ≠ .internal ∧ parseLine l ≠ .diverged) ∧
    (∀ ls, parseLines ls ≠ .internal ∧ parseLines ls ≠ .diverged) ∧
    (∀ fs lines, assemble fs lines = .internal ↔
      ∃ parsed, parseLines lines = .ok parsed ∧ expand fs (includeFuel fs) [] parsed = .internal) ∧
    (∀ fs lines parsed, parseLines lines = .ok parsed → expand fs (includeFuel fs) [] parsed ≠ .internal →
      (∃ a, assemble fs lines = .ok a) ∨ assemble fs lines = .diag) :=
  ⟨pcrLoop_not_diverged, assemble_not_diverged, parseLine_no_internal, parseLines_no_internal,
   assemble_internal_iff_expand, C13_of_expand_ne_internal⟩

end CoCo.Props
