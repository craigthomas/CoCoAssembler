/-
Props/C09.lean — adding or appending never disturbs stored files: what the sniffer says about tool-written
images, and histories of append-saves to one cassette / disk target. Proved under the exclusions E1 and G1 and for
disk names without blanks or NULs (`C09_partial`); without the exclusions the statement fails on the model
(`C09_Statement_false`).
-/
import CoCoVerif.Lemmas.VFHist
import CoCoVerif.Props.C06

namespace CoCo.Props
open CoCo CoCo.VF

/-- **Known finding G1**: a cassette of at least the disk image size is handed to the disk reader first; the
exclusion predicate of the cassette sniffing theorem. -/
def K_C09_bigCassette (buf : Bytes) : Bool := decide (buf.length ≥ 161280)

/-- the history theorem's conclusion: the run succeeds, only `path` changes, and listing the final content with
`lst` returns every stored file (up to `nrm`) in the order stored -/
def HistOK (k : Kind) (path : Path) (fs : FS) (batches : List (List CFile))
    (lst : Bytes → Outcome (List CFile)) (nrm : CFile → CFile) : Prop :=
  ∃ fs' img, runHist k path fs batches = .ok fs' ∧ (∀ q, q ≠ path → fs'.get? q = fs.get? q) ∧
    fs'.get? path = some img ∧ lst img = .ok (batches.flatten.map nrm)

/-- **C09** at full strength: (1) tool-written disk images are sniffed as disks holding their files,
(2) tool-written cassettes are sniffed as cassettes holding their files, (3)/(4) every history of append-saves
to a fresh cassette / disk target (within capacity) ends with an image listing all files in order. -/
def C09_Statement : Prop :=
  (∀ (order : List Nat) (fs : List CFile) (img : Bytes),
     ValidOrder order → (∀ f ∈ fs, ValidDFile f) → Dsk.write order fs = .ok img →
       sniff img = .ok (fs.map Dsk.norm, .disk)) ∧
  (∀ fs : List CFile, (∀ f ∈ fs, AsciiName f.name) → (∀ f ∈ fs, ValidFile f) →
       sniff (Cas.write fs) = .ok (fs.map Cas.norm, .cassette)) ∧
  (∀ (path : Path) (fs : FS) (batches : List (List CFile)), fs.get? path = none → batches ≠ [] →
     (∀ b ∈ batches, ∀ f ∈ b, AsciiName f.name ∧ ValidFile f) →
       HistOK .cassette path fs batches Cas.list Cas.norm) ∧
  (∀ (path : Path) (fs : FS) (batches : List (List CFile)) (img : Bytes), fs.get? path = none → batches ≠ [] →
     (∀ b ∈ batches, ∀ f ∈ b, ValidDFile f) →
     Dsk.write Gen.granuleFillOrder batches.flatten = .ok img →
       HistOK .disk path fs batches Dsk.list Dsk.norm)

/-- `sniff_written_cassette` (Lemmas/VFCas) with the exclusion predicate spelled out -/
theorem sniff_written_cassette_K (fs : List CFile) (hn : ∀ f ∈ fs, AsciiName f.name)
    (hv : ∀ f ∈ fs, ValidFile f) (hK : ∀ f ∈ fs, K_C06_emptyData f.data = false)
    (hG : K_C09_bigCassette (Cas.write fs) = false) :
    sniff (Cas.write fs) = .ok (fs.map Cas.norm, .cassette) :=
  sniff_written_cassette fs hn hv hK (by simpa [K_C09_bigCassette] using hG)

theorem CasOK_flatten {batches : List (List CFile)} (h : ∀ b ∈ batches, CasOK b) : CasOK batches.flatten :=
  CasOK_iff.mpr (List.forall_mem_flatten.mpr (fun b hb => CasOK_iff.mp (h b hb)))

/-- **cassette histories**: batches appended one after the other to a fresh target. Every intermediate image is
re-opened (sniffed, listed) and rewritten; the final content is byte for byte the cassette written from all
files in the order given, and listing it returns every file, unchanged up to `Cas.norm`, new ones last.
Exclusions: E1 on every file, G1 on every intermediate image (the final one may be of any size). -/
theorem hist_cassette (path : Path) (fs : FS) (batches : List (List CFile))
    (hfresh : fs.get? path = none) (hne : batches ≠ [])
    (hok : ∀ b ∈ batches, CasOK b)
    (hlen : ∀ i, i < batches.length → (Cas.write (batches.take i).flatten).length < 161280) :
    ∃ fs', runHist .cassette path fs batches = .ok fs' ∧
      (∀ q, q ≠ path → fs'.get? q = fs.get? q) ∧
      fs'.get? path = some (Cas.write batches.flatten) ∧
      Cas.list (Cas.write batches.flatten) = .ok (batches.flatten.map Cas.norm) := by
  cases batches with
  | nil => exact absurd rfl hne
  | cons b rest =>
    obtain ⟨fs', hr, hfr, hget⟩ := runHist_fresh reopens_cas path fs b rest _ hfresh
      (fun i hi => by
        rw [← take_succ_flatten]
        exact ⟨CasOK_flatten (fun x hx => hok x (List.mem_of_mem_take hx)), hlen (i + 1) (by simp; omega)⟩)
      rfl
    obtain ⟨h1, h2, h3⟩ := CasOK_flatten hok
    exact ⟨fs', hr, hfr, hget, C06_roundtrip_partial _ h1 h2 h3⟩

/-- on the empty host file system -/
theorem hist_cassette_empty_fs (path : Path) (batches : List (List CFile)) (hne : batches ≠ [])
    (hok : ∀ b ∈ batches, CasOK b)
    (hlen : ∀ i, i < batches.length → (Cas.write (batches.take i).flatten).length < 161280) :
    ∃ fs', runHist .cassette path [] batches = .ok fs' ∧
      fs'.get? path = some (Cas.write batches.flatten) ∧
      Cas.list (Cas.write batches.flatten) = .ok (batches.flatten.map Cas.norm) := by
  obtain ⟨fs', h1, _, h3, h4⟩ := hist_cassette path [] batches rfl hne hok hlen
  exact ⟨fs', h1, h3, h4⟩

theorem DskOK_flatten {batches : List (List CFile)} (h : ∀ b ∈ batches, DskOK b) : DskOK batches.flatten :=
  DskOK_iff.mpr (List.forall_mem_flatten.mpr (fun b hb => DskOK_iff.mp (h b hb)))

/-- **disk histories** (default fill order): as for cassettes; "within capacity" is the success of the write of
all files (which implies the success of every intermediate write). Every batch is `DskOK`: `ValidDFile` files
with `NoSpace` names (no blank, no NUL: the listing drops the blanks of a name, padding or not). -/
theorem hist_disk (path : Path) (fs : FS) (batches : List (List CFile)) (img : Bytes)
    (hfresh : fs.get? path = none) (hne : batches ≠ [])
    (hok : ∀ b ∈ batches, DskOK b)
    (hw : Dsk.write Gen.granuleFillOrder batches.flatten = .ok img) :
    ∃ fs', runHist .disk path fs batches = .ok fs' ∧
      (∀ q, q ≠ path → fs'.get? q = fs.get? q) ∧
      fs'.get? path = some img ∧
      Dsk.list img = .ok (batches.flatten.map Dsk.norm) ∧
      Spec.DiskBasic.Fsck img := by
  cases batches with
  | nil => exact absurd rfl hne
  | cons b rest =>
    obtain ⟨fs', hr, hfr, hget⟩ := runHist_fresh reopens_dsk path fs b rest img hfresh
      (fun i hi => by
        rw [← take_succ_flatten]
        exact DskOK_flatten (fun x hx => hok x (List.mem_of_mem_take hx)))
      hw
    have h := Dsk.Holds.write validOrder_default (DskOK_flatten hok).1 hw
    exact ⟨fs', hr, hfr, hget, h.list, h.fsck.1⟩

/-- single step on a disk target that holds a tool-written image -/
theorem step_disk (fs : FS) (path : Path) (done batch : List CFile) (img img' : Bytes)
    (hg : fs.get? path = some img) (hwd : Dsk.write Gen.granuleFillOrder done = .ok img)
    (hok : DskOK done) (hw : Dsk.write Gen.granuleFillOrder (done ++ batch) = .ok img') :
    storeTo fs path .disk batch true = .ok (fs.set path img') :=
  reopens_dsk.storeTo hg hok hwd hw

/-- **C09_partial**: the four parts of `C09_Statement` under the exclusions E1 (`K_C06_emptyData`), G1
(`K_C09_bigCassette`, on the sniffed images only) and the `NoSpace` hypothesis of the disk history. -/
theorem C09_partial :
    (∀ (order : List Nat) (fs : List CFile) (img : Bytes),
       ValidOrder order → (∀ f ∈ fs, ValidDFile f) → Dsk.write order fs = .ok img →
         sniff img = .ok (fs.map Dsk.norm, .disk)) ∧
    (∀ fs : List CFile, (∀ f ∈ fs, AsciiName f.name) → (∀ f ∈ fs, ValidFile f) →
       (∀ f ∈ fs, K_C06_emptyData f.data = false) → K_C09_bigCassette (Cas.write fs) = false →
         sniff (Cas.write fs) = .ok (fs.map Cas.norm, .cassette)) ∧
    (∀ (path : Path) (fs : FS) (batches : List (List CFile)), fs.get? path = none → batches ≠ [] →
       (∀ b ∈ batches, ∀ f ∈ b, AsciiName f.name ∧ ValidFile f) →
       (∀ b ∈ batches, ∀ f ∈ b, K_C06_emptyData f.data = false) →
       (∀ i, i < batches.length → K_C09_bigCassette (Cas.write (batches.take i).flatten) = false) →
         HistOK .cassette path fs batches Cas.list Cas.norm) ∧
    (∀ (path : Path) (fs : FS) (batches : List (List CFile)) (img : Bytes), fs.get? path = none → batches ≠ [] →
       (∀ b ∈ batches, ∀ f ∈ b, ValidDFile f) → (∀ b ∈ batches, ∀ f ∈ b, NoSpace f) →
       Dsk.write Gen.granuleFillOrder batches.flatten = .ok img →
         HistOK .disk path fs batches Dsk.list Dsk.norm) := by
  refine ⟨fun _ _ _ ho hv hw => sniff_written_disk ho hv hw, sniff_written_cassette_K, ?_, ?_⟩
  · intro path fs batches hfresh hne hv hK hG
    obtain ⟨fs', h1, h2, h3, h4⟩ := hist_cassette path fs batches hfresh hne
      (fun b hb => ⟨fun f hf => (hv b hb f hf).1, fun f hf => (hv b hb f hf).2, hK b hb⟩)
      (fun i hi => by simpa [K_C09_bigCassette] using hG i hi)
    exact ⟨fs', _, h1, h2, h3, h4⟩
  · intro path fs batches img hfresh hne hv hs hw
    obtain ⟨fs', h1, h2, h3, h4, _⟩ := hist_disk path fs batches img hfresh hne
      (fun b hb => ⟨hv b hb, hs b hb⟩) hw
    exact ⟨fs', img, h1, h2, h3, h4⟩

/-- E1 seen through the sniffer: a cassette holding one file without data lists as no file at all and, not being
empty, is taken for a raw binary -/
theorem C09_finding_E1 : sniff (Cas.write [e1File]) = .ok ([], .binary) :=
  sniff_write [e1File] e1File_ascii (by decide +kernel)

/-- the full statement is false on the model of the current code: part (2) fails on `e1File` -/
theorem C09_Statement_false : ¬ C09_Statement := by
  intro h
  have h2 := h.2.1 [e1File] e1File_ascii
    (by intro f hf; simp at hf; subst hf; simp [ValidFile, e1File])
  rw [C09_finding_E1] at h2
  simp at h2

/- G1 on the model (evaluated with `#eval`, too large for the kernel): with
`mk n := { name := [65], ext := [], ftype := 2, dtype := 0, gaps := 0, load := 0, exec := 0, data := replicate n 0 }`
the cassette `Cas.write [mk 11, mk 65535, mk 65535, mk 65535]` is 203404 bytes long, every file satisfies the
hypotheses of `C06_roundtrip_partial` (and `Cas.list` returns all four), but `sniff` answers `ok ([], disk)`:
all 72 directory probes at 78848 + 32 k fall on payload zeros. -/

/-- a file that meets the hypotheses of both history theorems: they are not vacuous -/
def demoFile : CFile :=
  { name := [72, 73], ext := [66, 73, 78], ftype := 2, dtype := 0, gaps := 0, load := 0x0E00, exec := 0x0E00,
    data := [1, 2, 3] }

example : CasOK [demoFile] := by
  refine ⟨?_, ?_, ?_⟩ <;> intro f hf <;> simp at hf <;> subst hf <;>
    simp [AsciiName, ValidFile, K_C06_emptyData, demoFile]

example : (Cas.write ([[demoFile], [demoFile]].take 1).flatten).length < 161280 := by decide +kernel

example : DskOK [demoFile] := by
  refine ⟨?_, ?_⟩ <;> intro f hf <;> simp at hf <;> subst hf <;> simp [ValidDFile, NoSpace, demoFile]

/-- the disk history theorem is not vacuous: a one-file disk can be written (one granule of 68, one slot of 72) -/
example : ∃ img, Dsk.write Gen.granuleFillOrder [[demoFile]].flatten = .ok img :=
  Dsk.write_fits completeOrder_default (by simp [ValidDFile, demoFile]) (by decide) (by decide)

end CoCo.Props
