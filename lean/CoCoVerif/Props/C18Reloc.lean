/-
C18-R1 (relocation) on statement lists: `ss` enters `assignAddrs`, `ss'` is `ss` with every preset (ORG) address moved by `D`
(`PW (RelocIn D) ss ss'`), `as`, `as'` are the two layouts.  `RelocOut` relates them with the address VALUES rendered alike,
which needs every ORG at `$100` or above (below, `numV a` is a one-byte DIRECT value: finding A11); `RelocOutAny`, at ANY origin, only says
numbers `D` apart inside the 64K space: `fit_operand_width` renders every operand field at the width the instruction form
dictates, so the CODE does not depend on the rendering.  One statement goes through `fixFit` by its class (`Unmoved`, `Moved`,
`MovedMod`, `MovedNeg`).  The primed theorems take `s' = s` with another address: the statement lists of two source TEXTS that
differ in their ORG operands are not of the form `RelocIn`, their ORG statements differ in the operand as well (`OrgRelT`).
-/
import CoCoVerif.Lemmas.RelocAny
import CoCoVerif.Lemmas.RelocFinish
import CoCoVerif.Lemmas.RelocFront
import CoCoVerif.Lemmas.RelocSigned

namespace CoCo.Props
open CoCo CoCo.Asm

def RelocIn (D : Nat) (s s' : Stmt) : Prop :=
  (s.pkg.address = .none ∧ s' = s) ∨
  (∃ o m, s.pkg.address = .numeric o (some 4) m false ∧ s' = s.setAddress (.numeric (o + D) (some 4) m false))

def StartsWithOrg (ss : List Stmt) : Prop :=
  ∃ s0 r0 o m, ss = s0 :: r0 ∧ s0.pkg.address = .numeric o (some 4) m false

def OrgBounds (D : Nat) (ss : List Stmt) : Prop :=
  ∀ s ∈ ss, ∀ o h m n, s.pkg.address = .numeric o h m n → 256 ≤ o ∧ o + D < 65536

def OrgBoundsAny (D : Nat) (ss : List Stmt) : Prop :=
  ∀ s ∈ ss, ∀ o h m n, s.pkg.address = .numeric o h m n → o + D < 65536

def RelocOut (D : Nat) (s s' : Stmt) : Prop :=
  s' = s.setAddress s'.pkg.address ∧ AddrShift D s s'

def RelocOutAny (D : Nat) (s s' : Stmt) : Prop :=
  s' = s.setAddress s'.pkg.address ∧ AddrShiftAny D s s'

/-- the first halves of `FinalRel`, `FinalRelMod`, `FinalRelNeg`, `FinalRelAny` -/
def AddlRel (D : Nat) (t t' : Stmt) : Prop :=
  t' = t.setAddress t'.pkg.address ∨ t' = (t.shiftAdditional D).setAddress t'.pkg.address ∨
    t' = (t.shiftAdditionalMod D).setAddress t'.pkg.address ∨
    t' = (t.shiftAdditionalNeg D).setAddress t'.pkg.address

def FinalRel (D : Nat) (t t' : Stmt) : Prop :=
  (t' = t.setAddress t'.pkg.address ∨ t' = (t.shiftAdditional D).setAddress t'.pkg.address) ∧ AddrShift D t t'

def FinalRelMod (D : Nat) (t t' : Stmt) : Prop :=
  (t' = t.setAddress t'.pkg.address ∨ t' = (t.shiftAdditional D).setAddress t'.pkg.address ∨
    t' = (t.shiftAdditionalMod D).setAddress t'.pkg.address) ∧ AddrShift D t t'

def FinalRelNeg (D : Nat) (t t' : Stmt) : Prop :=
  (t' = t.setAddress t'.pkg.address ∨ t' = (t.shiftAdditional D).setAddress t'.pkg.address ∨
    t' = (t.shiftAdditionalMod D).setAddress t'.pkg.address ∨
    t' = (t.shiftAdditionalNeg D).setAddress t'.pkg.address) ∧ AddrShift D t t'

def FinalRelAny (D : Nat) (t t' : Stmt) : Prop :=
  (t' = t.setAddress t'.pkg.address ∨ t' = (t.shiftAdditional D).setAddress t'.pkg.address ∨
    t' = (t.shiftAdditionalMod D).setAddress t'.pkg.address ∨
    t' = (t.shiftAdditionalNeg D).setAddress t'.pkg.address) ∧ AddrShiftAny D t t'

def CoveredAny (D : Nat) (as : List Stmt) (s : Stmt) : Prop :=
  Unmoved D as s ∨ (Moved D as s ∧ RefFitted s) ∨ MovedMod D as s ∨ MovedNeg as s

/-- `t` is the table built from the labels: an entry that is a statement index there (a label) has its final value moved by
`D`, every other entry (an EQU) keeps it -/
def AsmRel (D : Nat) (t : SymTab) (A B : Assembly) : Prop :=
  PW (FinalRel D) A.stmts B.stmts ∧
  B.symtab = List.zipWith (fun (kv kw : Str × Value) => (kw.1, if kv.2.isAddress then shiftV D kw.2 else kw.2))
    t A.symtab ∧
  B.origin = shiftV D A.origin ∧ B.name = A.name

def AsmRelMod (D : Nat) (t : SymTab) (A B : Assembly) : Prop :=
  PW (FinalRelMod D) A.stmts B.stmts ∧
  B.symtab = List.zipWith (fun (kv kw : Str × Value) => (kw.1, if kv.2.isAddress then shiftV D kw.2 else kw.2))
    t A.symtab ∧
  B.origin = shiftV D A.origin ∧ B.name = A.name

def AsmRelNeg (D : Nat) (t : SymTab) (A B : Assembly) : Prop :=
  PW (FinalRelNeg D) A.stmts B.stmts ∧
  B.symtab = List.zipWith (fun (kv kw : Str × Value) => (kw.1, if kv.2.isAddress then shiftV D kw.2 else kw.2))
    t A.symtab ∧
  B.origin = shiftV D A.origin ∧ B.name = A.name

/-- the final symbol tables `r` (original) and `r'` (relocated), entry by entry along the table `t` built from the labels -/
def SymRel (D : Nat) (as : List Stmt) (t r r' : SymTab) : Prop :=
  ∀ (j : Nat) (k : Str) (v : Value), t[j]? = some (k, v) →
    ∃ x x', r[j]? = some (k, x) ∧ r'[j]? = some (k, x') ∧ EquRel D as t v x x'

def AsmRelEqu (D : Nat) (as : List Stmt) (t : SymTab) (A B : Assembly) : Prop :=
  PW (FinalRelNeg D) A.stmts B.stmts ∧
  A.symtab.length = t.length ∧ B.symtab.length = t.length ∧ SymRel D as t A.symtab B.symtab ∧
  B.origin = shiftV D A.origin ∧ B.name = A.name

def SymRelAny (D : Nat) (as : List Stmt) (t r r' : SymTab) : Prop :=
  ∀ (j : Nat) (k : Str) (v : Value), t[j]? = some (k, v) →
    ∃ x x', r[j]? = some (k, x) ∧ r'[j]? = some (k, x') ∧ EquRelAny D as t v x x'

def AsmRelAny (D : Nat) (as : List Stmt) (t : SymTab) (A B : Assembly) : Prop :=
  PW (FinalRelAny D) A.stmts B.stmts ∧
  A.symtab.length = t.length ∧ B.symtab.length = t.length ∧ SymRelAny D as t A.symtab B.symtab ∧
  OriginAny D A.origin B.origin ∧ B.name = A.name

theorem RelocIn.orgShift {D : Nat} {s s' : Stmt} (h : RelocIn D s s') : OrgShift D s s' := by
  rcases h with ⟨h1, rfl⟩ | ⟨o, m, h1, rfl⟩
  · exact ⟨rfl, .inl ⟨h1, h1⟩⟩
  · exact ⟨rfl, .inr ⟨o, some 4, m, false, h1, rfl⟩⟩

theorem RelocIn.orgWide {D : Nat} {s s' : Stmt} (h : RelocIn D s s') : OrgWide s := by
  rcases h with ⟨h1, _⟩ | ⟨o, m, h1, _⟩
  · exact .inl h1
  · exact .inr ⟨o, m, h1⟩

theorem RelocIn.inert {D : Nat} {s s' : Stmt} (h : RelocIn D s s') : Inert s s' := by
  rcases h with ⟨_, rfl⟩ | ⟨o, m, _, rfl⟩ <;> rfl

theorem RelocIn.setAddress {D : Nat} {s s' : Stmt} (h : RelocIn D s s') (v v' : Value) :
    s'.setAddress v' = (s.setAddress v).setAddress v' := by
  rcases h with ⟨_, rfl⟩ | ⟨o, m, _, rfl⟩ <;> rfl

theorem relocIn_orgWide {D : Nat} {ss ss' : List Stmt} (h : PW (RelocIn D) ss ss') : ∀ s ∈ ss, OrgWide s := by
  intro s hs
  obtain ⟨j, hj⟩ := List.getElem?_of_mem hs
  obtain ⟨s', _, hr⟩ := h.get hj
  exact hr.orgWide

theorem relocIn_head {D : Nat} {s0 : Stmt} {r0 ss' : List Stmt} {o : Nat} {m : Mode}
    (h : PW (RelocIn D) (s0 :: r0) ss') (h0 : s0.pkg.address = .numeric o (some 4) m false) :
    ∃ s0' r0', ss' = s0' :: r0' ∧ s0'.pkg.address = .numeric (o + D) (some 4) m false := by
  obtain ⟨s0', r0', rfl, hr, _⟩ := h.cons_left
  refine ⟨s0', r0', rfl, ?_⟩
  rcases hr with ⟨h1, _⟩ | ⟨o1, m1, h1, rfl⟩
  · rw [h0] at h1; cases h1
  · rw [h0] at h1; cases h1; rfl

/-- the check "an ORG comes before the first label and the first byte", made on the statements that enter `assignAddrs`,
gives the same answer on the relocated program: it looks at rows, labels and sizes only -/
theorem orgOK_relocIn {D : Nat} : ∀ (ss ss' : List Stmt) (laid : Bool), PW (RelocIn D) ss ss' →
    orgOK ss' laid = orgOK ss laid :=
  fun ss ss' laid h => orgOK_inert ss ss' laid (h.mono fun _ _ r => r.inert)

section
variable {D : Nat}

theorem OrgBounds.any {ss : List Stmt} (h : OrgBounds D ss) : OrgBoundsAny D ss :=
  fun s hs o hh m n ha => (h s hs o hh m n ha).2

theorem RelocOut.any {s s' : Stmt} (h : RelocOut D s s') : RelocOutAny D s s' := ⟨h.1, h.2.toAny⟩

theorem FinalRelNeg.any {t t' : Stmt} (h : FinalRelNeg D t t') : FinalRelAny D t t' := ⟨h.1, h.2.toAny⟩

end

section assign
variable {D : Nat} {ss ss' : List Stmt}

theorem reloc_assign_bwd (hin : PW (RelocIn D) ss ss') (h0 : StartsWithOrg ss) {as' : List Stmt}
    (h' : assignAddrs ss' 0 = .ok as') : ∃ as, assignAddrs ss 0 = .ok as ∧ PW (AddrShiftI D) as as' := by
  obtain ⟨s0, r0, o, m, rfl, ha⟩ := h0
  obtain ⟨s0', r0', rfl, ha'⟩ := relocIn_head hin ha
  rw [assignAddrs_head_preset ha' 0 (0 + D)] at h'
  exact assignAddrs_reloc_bwd D _ _ 0 as' (hin.mono (fun _ _ => RelocIn.orgShift)) h'

theorem reloc_assign_fwd (hin : PW (RelocIn D) ss ss') (h0 : StartsWithOrg ss) {as : List Stmt}
    (h : assignAddrs ss 0 = .ok as) (hlt : ∀ s ∈ as, ∀ n, addrNat s = some n → n + D < 65536) :
    ∃ as', assignAddrs ss' 0 = .ok as' ∧ PW (AddrShiftI D) as as' := by
  obtain ⟨s0, r0, o, m, rfl, ha⟩ := h0
  obtain ⟨s0', r0', rfl, ha'⟩ := relocIn_head hin ha
  rw [assignAddrs_head_preset ha' 0 (0 + D)]
  exact assignAddrs_reloc_fwd D _ _ 0 as (hin.mono (fun _ _ => RelocIn.orgShift)) h hlt

/-- `hw` comes from the `assignAddrs_reloc_*` theorem for `A` -/
theorem reloc_assign_rel_of {A : Stmt → Stmt → Prop} (hin : PW (RelocIn D) ss ss') {as as' : List Stmt}
    (h : assignAddrs ss 0 = .ok as) (h' : assignAddrs ss' 0 = .ok as') (hw : PW A as as') :
    PW (fun s s' => s' = s.setAddress s'.pkg.address ∧ A s s') as as' := by
  refine ⟨hw.1, fun j s s' hs hs' => ⟨?_, hw.2 j s s' hs hs'⟩⟩
  obtain ⟨x, hx, v, rfl⟩ := (assignAddrs_pw h).get' hs
  obtain ⟨x', hx', v', rfl⟩ := (assignAddrs_pw h').get' hs'
  exact (hin.2 j x x' hx hx').setAddress v v'

theorem reloc_assign_rel (hin : PW (RelocIn D) ss ss') (h0 : StartsWithOrg ss) (hb : OrgBounds D ss)
    {as as' : List Stmt} (h : assignAddrs ss 0 = .ok as) (h' : assignAddrs ss' 0 = .ok as') :
    PW (RelocOut D) as as' := by
  refine reloc_assign_rel_of hin h h' ?_
  obtain ⟨s0, r0, o, m, rfl, ha⟩ := h0
  obtain ⟨s0', r0', rfl, ha'⟩ := relocIn_head hin ha
  rw [assignAddrs_head_preset ha' 0 (0 + D)] at h'
  exact assignAddrs_reloc_wide D _ _ 0 as as' (hin.mono (fun _ _ => RelocIn.orgShift)) (relocIn_orgWide hin)
    (.inr ⟨s0, r0, o, some 4, m, false, rfl, ha⟩) hb h h'

theorem reloc_assign_rel_any (hin : PW (RelocIn D) ss ss') (h0 : StartsWithOrg ss) (hb : OrgBoundsAny D ss)
    {as as' : List Stmt} (h : assignAddrs ss 0 = .ok as) (h' : assignAddrs ss' 0 = .ok as') :
    PW (RelocOutAny D) as as' := by
  refine reloc_assign_rel_of hin h h' ?_
  obtain ⟨s0, r0, o, m, rfl, ha⟩ := h0
  obtain ⟨s0', r0', rfl, ha'⟩ := relocIn_head hin ha
  rw [assignAddrs_head_preset ha' 0 (0 + D)] at h'
  exact assignAddrs_reloc_any D _ _ 0 as as' (hin.mono (fun _ _ => RelocIn.orgShift)) (relocIn_orgWide hin) hb h h'

/-- acceptance: the relocated program is laid out iff the original one is and no statement address
leaves the 64K space -/
theorem reloc_assign_iff_any (hin : PW (RelocIn D) ss ss') (h0 : StartsWithOrg ss) (hb : OrgBoundsAny D ss) :
    (∃ as', assignAddrs ss' 0 = .ok as') ↔
      ∃ as, assignAddrs ss 0 = .ok as ∧ ∀ s ∈ as, ∀ n, addrNat s = some n → n + D < 65536 := by
  constructor
  · rintro ⟨as', h'⟩
    obtain ⟨as, h, _⟩ := reloc_assign_bwd hin h0 h'
    refine ⟨as, h, fun s hs n hn => ?_⟩
    obtain ⟨j, hj⟩ := List.getElem?_of_mem hs
    obtain ⟨s', _, _, _, hw⟩ := (reloc_assign_rel_any hin h0 hb h h').get hj
    obtain ⟨a, e1, _, hlt⟩ := hw.int
    simp only [addrNat] at hn
    rw [e1] at hn; cases hn
    exact hlt
  · rintro ⟨as, h, hlt⟩
    obtain ⟨as', h', _⟩ := reloc_assign_fwd hin h0 h hlt
    exact ⟨as', h'⟩

theorem reloc_assign_iff (hin : PW (RelocIn D) ss ss') (h0 : StartsWithOrg ss) (hb : OrgBounds D ss) :
    (∃ as', assignAddrs ss' 0 = .ok as') ↔
      ∃ as, assignAddrs ss 0 = .ok as ∧ ∀ s ∈ as, ∀ n, addrNat s = some n → n + D < 65536 :=
  reloc_assign_iff_any hin h0 hb.any

end assign

section fix
variable {D : Nat} {as as' : List Stmt}

theorem RelocOut.addrShift (h : PW (RelocOut D) as as') : PW (AddrShift D) as as' := h.mono (fun _ _ r => r.2)
theorem RelocOut.addrShiftI (h : PW (RelocOut D) as as') : PW (AddrShiftI D) as as' :=
  h.mono (fun _ _ r => r.2.toI)

theorem RelocOutAny.addrShiftAny (h : PW (RelocOutAny D) as as') : PW (AddrShiftAny D) as as' :=
  h.mono (fun _ _ r => r.2)

theorem RelocOutAny.addrShiftI (h : PW (RelocOutAny D) as as') : PW (AddrShiftI D) as as' :=
  h.mono (fun _ _ r => r.2.toI)

theorem fixOne_keeps {ss : List Stmt} {i : Nat} {s t : Stmt} (h : fixOne ss i s = .ok t) :
    ∃ v, t = { s with pkg := { s.pkg with additional := v } } := fixOne_same h

theorem fixFit_keeps {ss : List Stmt} {i : Nat} {s t : Stmt} (h : fixFit ss i s = .ok t) :
    ∃ v, t = { s with pkg := { s.pkg with additional := v } } := fixFit_same h

theorem reloc_fixOne_unmoved' (h : PW (AddrShiftI D) as as') {i : Nat} {s s' : Stmt}
    (he : s' = s.setAddress s'.pkg.address) (hc : Unmoved D as s) :
    fixOne as' i s' = (fixOne as i s).map (·.setAddress s'.pkg.address) :=
  step_setAddress fixOne_setAddress (by rw [fixOne_unmoved h i hc, Outcome.map_id']) he

theorem reloc_fixOne_moved' (h : PW (AddrShift D) as as') {i : Nat} {s s' : Stmt}
    (he : s' = s.setAddress s'.pkg.address) (hc : Moved D as s) :
    fixOne as' i s' = (fixOne as i s).map (fun t => (t.shiftAdditional D).setAddress s'.pkg.address) :=
  step_setAddress fixOne_setAddress (fixOne_moved h i hc) he

theorem reloc_fixOne_unmoved (h : PW (RelocOut D) as as') {i : Nat} {s s' : Stmt}
    (hs : as[i]? = some s) (hs' : as'[i]? = some s') (hc : Unmoved D as s) :
    fixOne as' i s' = (fixOne as i s).map (·.setAddress s'.pkg.address) :=
  reloc_fixOne_unmoved' (RelocOut.addrShiftI h) (h.2 i s s' hs hs').1 hc

theorem reloc_fixOne_moved (h : PW (RelocOut D) as as') {i : Nat} {s s' : Stmt}
    (hs : as[i]? = some s) (hs' : as'[i]? = some s') (hc : Moved D as s) :
    fixOne as' i s' = (fixOne as i s).map (fun t => (t.shiftAdditional D).setAddress s'.pkg.address) :=
  reloc_fixOne_moved' (RelocOut.addrShift h) (h.2 i s s' hs hs').1 hc

theorem reloc_fixFit_unmoved' (h : PW (AddrShiftI D) as as') {i : Nat} {s s' : Stmt}
    (he : s' = s.setAddress s'.pkg.address) (hc : Unmoved D as s) :
    fixFit as' i s' = (fixFit as i s).map (·.setAddress s'.pkg.address) :=
  step_setAddress fixFit_setAddress (fixFit_unmoved_id h i hc) he

theorem reloc_fixFit_moved' (h : PW (AddrShift D) as as') {i : Nat} {s s' : Stmt}
    (he : s' = s.setAddress s'.pkg.address) (hc : Moved D as s) :
    fixFit as' i s' = (fixFit as i s).map (fun t => (t.shiftAdditional D).setAddress s'.pkg.address) :=
  step_setAddress fixFit_setAddress (fixFit_moved h i hc) he

theorem reloc_fixFit_moved_any' (h : PW (AddrShiftAny D) as as') {i : Nat} {s s' : Stmt}
    (he : s' = s.setAddress s'.pkg.address) (hc : Moved D as s) (hfit : RefFitted s) :
    fixFit as' i s' = (fixFit as i s).map (fun t => (t.shiftAdditional D).setAddress s'.pkg.address) :=
  step_setAddress fixFit_setAddress (fixFit_moved_any h i hc hfit) he

theorem reloc_fixFit_movedMod' (h : PW (AddrShiftI D) as as') {i : Nat} {s s' : Stmt}
    (he : s' = s.setAddress s'.pkg.address) (hc : MovedMod D as s) :
    fixFit as' i s' = (fixFit as i s).map (fun t => (t.shiftAdditionalMod D).setAddress s'.pkg.address) :=
  step_setAddress fixFit_setAddress (fixFit_movedMod h i hc) he

theorem reloc_fixFit_movedNeg' (h : PW (AddrShiftI D) as as') {i : Nat} {s s' : Stmt}
    (he : s' = s.setAddress s'.pkg.address) (hc : MovedNeg as s) :
    fixFit as' i s' = (fixFit as i s).map (fun t => (t.shiftAdditionalNeg D).setAddress s'.pkg.address) :=
  step_setAddress fixFit_setAddress (fixFit_movedNeg h i hc) he

theorem reloc_fixFit_unmoved (h : PW (RelocOut D) as as') {i : Nat} {s s' : Stmt}
    (hs : as[i]? = some s) (hs' : as'[i]? = some s') (hc : Unmoved D as s) :
    fixFit as' i s' = (fixFit as i s).map (·.setAddress s'.pkg.address) :=
  reloc_fixFit_unmoved' (RelocOut.addrShiftI h) (h.2 i s s' hs hs').1 hc

theorem reloc_fixFit_moved (h : PW (RelocOut D) as as') {i : Nat} {s s' : Stmt}
    (hs : as[i]? = some s) (hs' : as'[i]? = some s') (hc : Moved D as s) :
    fixFit as' i s' = (fixFit as i s).map (fun t => (t.shiftAdditional D).setAddress s'.pkg.address) :=
  reloc_fixFit_moved' (RelocOut.addrShift h) (h.2 i s s' hs hs').1 hc

theorem reloc_fixFit_movedMod (h : PW (RelocOut D) as as') {i : Nat} {s s' : Stmt}
    (hs : as[i]? = some s) (hs' : as'[i]? = some s') (hc : MovedMod D as s) :
    fixFit as' i s' = (fixFit as i s).map (fun t => (t.shiftAdditionalMod D).setAddress s'.pkg.address) :=
  reloc_fixFit_movedMod' (RelocOut.addrShiftI h) (h.2 i s s' hs hs').1 hc

theorem reloc_fixFit_movedNeg (h : PW (RelocOut D) as as') {i : Nat} {s s' : Stmt}
    (hs : as[i]? = some s) (hs' : as'[i]? = some s') (hc : MovedNeg as s) :
    fixFit as' i s' = (fixFit as i s).map (fun t => (t.shiftAdditionalNeg D).setAddress s'.pkg.address) :=
  reloc_fixFit_movedNeg' (RelocOut.addrShiftI h) (h.2 i s s' hs hs').1 hc

theorem reloc_fixFit_unmoved_any (h : PW (RelocOutAny D) as as') {i : Nat} {s s' : Stmt}
    (hs : as[i]? = some s) (hs' : as'[i]? = some s') (hc : Unmoved D as s) :
    fixFit as' i s' = (fixFit as i s).map (·.setAddress s'.pkg.address) :=
  reloc_fixFit_unmoved' (RelocOutAny.addrShiftI h) (h.2 i s s' hs hs').1 hc

theorem reloc_fixFit_moved_any (h : PW (RelocOutAny D) as as') {i : Nat} {s s' : Stmt}
    (hs : as[i]? = some s) (hs' : as'[i]? = some s') (hc : Moved D as s) (hfit : RefFitted s) :
    fixFit as' i s' = (fixFit as i s).map (fun t => (t.shiftAdditional D).setAddress s'.pkg.address) :=
  reloc_fixFit_moved_any' (RelocOutAny.addrShiftAny h) (h.2 i s s' hs hs').1 hc hfit

theorem reloc_fixFit_movedAbs (h : PW (RelocOut D) as as') {i : Nat} {s s' : Stmt}
    (hs : as[i]? = some s) (hs' : as'[i]? = some s') (hc : MovedAbs D as s) :
    fixFit as' i s' = (fixFit as i s).map (fun t => (t.shiftAdditional D).setAddress s'.pkg.address) :=
  reloc_fixFit_moved h hs hs' (.inr hc)

theorem reloc_fixFit_movedModAbs (h : PW (RelocOut D) as as') {i : Nat} {s s' : Stmt}
    (hs : as[i]? = some s) (hs' : as'[i]? = some s') (hc : MovedModAbs D as s) :
    fixFit as' i s' = (fixFit as i s).map (fun t => (t.shiftAdditionalMod D).setAddress s'.pkg.address) :=
  reloc_fixFit_movedMod h hs hs' (.inr hc)

theorem reloc_bytes_unmoved' (h : PW (AddrShiftI D) as as') {i : Nat} {s s' t t' : Stmt}
    (he : s' = s.setAddress s'.pkg.address) (hc : Unmoved D as s)
    (ht : fixFit as i s = .ok t) (ht' : fixFit as' i s' = .ok t') :
    t' = t.setAddress s'.pkg.address ∧ stmtBytes t' = stmtBytes t := by
  cases Outcome.ok_of_map (reloc_fixFit_unmoved' h he hc) ht ht'
  exact ⟨rfl, rfl⟩

theorem reloc_bytes_moved' (h : PW (AddrShift D) as as') {i : Nat} {s s' t t' : Stmt}
    (he : s' = s.setAddress s'.pkg.address) (hc : Moved D as s)
    (ht : fixFit as i s = .ok t) (ht' : fixFit as' i s' = .ok t') {bs : Bytes} (hb : stmtBytes t = some bs) :
    t' = (t.shiftAdditional D).setAddress s'.pkg.address ∧
    ∃ pre x, t.pkg.additional.int? = some x ∧ x + D < 65536 ∧ bs = pre ++ [x / 256, x % 256] ∧
      stmtBytes t' = some (pre ++ [(x + D) / 256, (x + D) % 256]) :=
  reloc_bytes_wide (reloc_fixFit_moved' h he hc) (fixFit_moved_wide h i hc ht) ht ht' hb

theorem reloc_bytes_moved_any' (h : PW (AddrShiftAny D) as as') {i : Nat} {s s' t t' : Stmt}
    (he : s' = s.setAddress s'.pkg.address) (hc : Moved D as s) (hfit : RefFitted s)
    (ht : fixFit as i s = .ok t) (ht' : fixFit as' i s' = .ok t') {bs : Bytes} (hb : stmtBytes t = some bs) :
    t' = (t.shiftAdditional D).setAddress s'.pkg.address ∧
    ∃ pre x, t.pkg.additional.int? = some x ∧ x + D < 65536 ∧ bs = pre ++ [x / 256, x % 256] ∧
      stmtBytes t' = some (pre ++ [(x + D) / 256, (x + D) % 256]) :=
  reloc_bytes_wide (reloc_fixFit_moved_any' h he hc hfit) (fixFit_moved_wide_any h i hc hfit ht) ht ht' hb

theorem reloc_bytes_movedMod' (h : PW (AddrShiftI D) as as') {i : Nat} {s s' t t' : Stmt}
    (he : s' = s.setAddress s'.pkg.address) (hc : MovedMod D as s)
    (ht : fixFit as i s = .ok t) (ht' : fixFit as' i s' = .ok t') {bs : Bytes} (hb : stmtBytes t = some bs) :
    t' = (t.shiftAdditionalMod D).setAddress s'.pkg.address ∧
    ∃ pre x, t.pkg.additional.int? = some x ∧ x < 65536 ∧ bs = pre ++ [x / 256, x % 256] ∧
      stmtBytes t' = some (pre ++ [(x + D) % 65536 / 256, (x + D) % 65536 % 256]) := by
  obtain ⟨x, hx, e1, _⟩ := fixFit_movedMod_aux h i hc
  obtain ⟨h1, h2, pre, h3, h4⟩ :=
    reloc_bytes_field4 hx (Nat.mod_lt _ (by decide)) (reloc_fixFit_movedMod' h he hc) e1 rfl ht ht' hb
  exact ⟨h1, pre, x, h2, hx, h3, h4⟩

theorem reloc_bytes_movedNeg' (h : PW (AddrShiftI D) as as') {i : Nat} {s s' t t' : Stmt}
    (he : s' = s.setAddress s'.pkg.address) (hc : MovedNeg as s)
    (ht : fixFit as i s = .ok t) (ht' : fixFit as' i s' = .ok t') {bs : Bytes} (hb : stmtBytes t = some bs) :
    t' = (t.shiftAdditionalNeg D).setAddress s'.pkg.address ∧
    ∃ pre x y, t.pkg.additional.int? = some x ∧ x < 65536 ∧ y < 65536 ∧ (y + D) % 65536 = x ∧
      bs = pre ++ [x / 256, x % 256] ∧ stmtBytes t' = some (pre ++ [y / 256, y % 256]) := by
  obtain ⟨x, hx, e1, _⟩ := fixFit_movedNeg_aux h i hc
  obtain ⟨h1, h2, pre, h3, h4⟩ :=
    reloc_bytes_field4 hx (Nat.mod_lt _ (by decide)) (reloc_fixFit_movedNeg' h he hc) e1 rfl ht ht' hb
  exact ⟨h1, pre, x, (x + (65536 - D % 65536)) % 65536, h2, hx, Nat.mod_lt _ (by decide), by omega, h3, h4⟩

theorem reloc_bytes_unmoved (h : PW (RelocOut D) as as') {i : Nat} {s s' t t' : Stmt}
    (hs : as[i]? = some s) (hs' : as'[i]? = some s') (hc : Unmoved D as s)
    (ht : fixFit as i s = .ok t) (ht' : fixFit as' i s' = .ok t') :
    t' = t.setAddress s'.pkg.address ∧ stmtBytes t' = stmtBytes t :=
  reloc_bytes_unmoved' (RelocOut.addrShiftI h) (h.2 i s s' hs hs').1 hc ht ht'

theorem reloc_bytes_moved (h : PW (RelocOut D) as as') {i : Nat} {s s' t t' : Stmt}
    (hs : as[i]? = some s) (hs' : as'[i]? = some s') (hc : Moved D as s)
    (ht : fixFit as i s = .ok t) (ht' : fixFit as' i s' = .ok t') {bs : Bytes} (hb : stmtBytes t = some bs) :
    t' = (t.shiftAdditional D).setAddress s'.pkg.address ∧
    ∃ pre x, t.pkg.additional.int? = some x ∧ x + D < 65536 ∧ bs = pre ++ [x / 256, x % 256] ∧
      stmtBytes t' = some (pre ++ [(x + D) / 256, (x + D) % 256]) :=
  reloc_bytes_moved' (RelocOut.addrShift h) (h.2 i s s' hs hs').1 hc ht ht' hb

theorem reloc_bytes_movedMod (h : PW (RelocOut D) as as') {i : Nat} {s s' t t' : Stmt}
    (hs : as[i]? = some s) (hs' : as'[i]? = some s') (hc : MovedMod D as s)
    (ht : fixFit as i s = .ok t) (ht' : fixFit as' i s' = .ok t') {bs : Bytes} (hb : stmtBytes t = some bs) :
    t' = (t.shiftAdditionalMod D).setAddress s'.pkg.address ∧
    ∃ pre x, t.pkg.additional.int? = some x ∧ x < 65536 ∧ bs = pre ++ [x / 256, x % 256] ∧
      stmtBytes t' = some (pre ++ [(x + D) % 65536 / 256, (x + D) % 65536 % 256]) :=
  reloc_bytes_movedMod' (RelocOut.addrShiftI h) (h.2 i s s' hs hs').1 hc ht ht' hb

/-- the trailing field holds `x` resp. `y = (x - D) mod $10000` -/
theorem reloc_bytes_movedNeg (h : PW (RelocOut D) as as') {i : Nat} {s s' t t' : Stmt}
    (hs : as[i]? = some s) (hs' : as'[i]? = some s') (hc : MovedNeg as s)
    (ht : fixFit as i s = .ok t) (ht' : fixFit as' i s' = .ok t') {bs : Bytes} (hb : stmtBytes t = some bs) :
    t' = (t.shiftAdditionalNeg D).setAddress s'.pkg.address ∧
    ∃ pre x y, t.pkg.additional.int? = some x ∧ x < 65536 ∧ y < 65536 ∧ (y + D) % 65536 = x ∧
      bs = pre ++ [x / 256, x % 256] ∧ stmtBytes t' = some (pre ++ [y / 256, y % 256]) :=
  reloc_bytes_movedNeg' (RelocOut.addrShiftI h) (h.2 i s s' hs hs').1 hc ht ht' hb

theorem reloc_bytes_movedAbs (h : PW (RelocOut D) as as') {i : Nat} {s s' t t' : Stmt}
    (hs : as[i]? = some s) (hs' : as'[i]? = some s') (hc : MovedAbs D as s)
    (ht : fixFit as i s = .ok t) (ht' : fixFit as' i s' = .ok t') {bs : Bytes} (hb : stmtBytes t = some bs) :
    t' = (t.shiftAdditional D).setAddress s'.pkg.address ∧
    ∃ pre x, t.pkg.additional.int? = some x ∧ x + D < 65536 ∧ bs = pre ++ [x / 256, x % 256] ∧
      stmtBytes t' = some (pre ++ [(x + D) / 256, (x + D) % 256]) :=
  reloc_bytes_moved h hs hs' (.inr hc) ht ht' hb

theorem reloc_bytes_movedModAbs (h : PW (RelocOut D) as as') {i : Nat} {s s' t t' : Stmt}
    (hs : as[i]? = some s) (hs' : as'[i]? = some s') (hc : MovedModAbs D as s)
    (ht : fixFit as i s = .ok t) (ht' : fixFit as' i s' = .ok t') {bs : Bytes} (hb : stmtBytes t = some bs) :
    t' = (t.shiftAdditionalMod D).setAddress s'.pkg.address ∧
    ∃ pre x, t.pkg.additional.int? = some x ∧ x < 65536 ∧ bs = pre ++ [x / 256, x % 256] ∧
      stmtBytes t' = some (pre ++ [(x + D) % 65536 / 256, (x + D) % 65536 % 256]) :=
  reloc_bytes_movedMod h hs hs' (.inr hc) ht ht' hb

theorem reloc_bytes_unmoved_any (h : PW (RelocOutAny D) as as') {i : Nat} {s s' t t' : Stmt}
    (hs : as[i]? = some s) (hs' : as'[i]? = some s') (hc : Unmoved D as s)
    (ht : fixFit as i s = .ok t) (ht' : fixFit as' i s' = .ok t') :
    t' = t.setAddress s'.pkg.address ∧ stmtBytes t' = stmtBytes t :=
  reloc_bytes_unmoved' (RelocOutAny.addrShiftI h) (h.2 i s s' hs hs').1 hc ht ht'

theorem reloc_bytes_moved_any (h : PW (RelocOutAny D) as as') {i : Nat} {s s' t t' : Stmt}
    (hs : as[i]? = some s) (hs' : as'[i]? = some s') (hc : Moved D as s) (hfit : RefFitted s)
    (ht : fixFit as i s = .ok t) (ht' : fixFit as' i s' = .ok t') {bs : Bytes} (hb : stmtBytes t = some bs) :
    t' = (t.shiftAdditional D).setAddress s'.pkg.address ∧
    ∃ pre x, t.pkg.additional.int? = some x ∧ x + D < 65536 ∧ bs = pre ++ [x / 256, x % 256] ∧
      stmtBytes t' = some (pre ++ [(x + D) / 256, (x + D) % 256]) :=
  reloc_bytes_moved_any' (RelocOutAny.addrShiftAny h) (h.2 i s s' hs hs').1 hc hfit ht ht' hb

theorem reloc_bytes_movedMod_any (h : PW (RelocOutAny D) as as') {i : Nat} {s s' t t' : Stmt}
    (hs : as[i]? = some s) (hs' : as'[i]? = some s') (hc : MovedMod D as s)
    (ht : fixFit as i s = .ok t) (ht' : fixFit as' i s' = .ok t') {bs : Bytes} (hb : stmtBytes t = some bs) :
    t' = (t.shiftAdditionalMod D).setAddress s'.pkg.address ∧
    ∃ pre x, t.pkg.additional.int? = some x ∧ x < 65536 ∧ bs = pre ++ [x / 256, x % 256] ∧
      stmtBytes t' = some (pre ++ [(x + D) % 65536 / 256, (x + D) % 65536 % 256]) :=
  reloc_bytes_movedMod' (RelocOutAny.addrShiftI h) (h.2 i s s' hs hs').1 hc ht ht' hb

theorem reloc_bytes_movedNeg_any (h : PW (RelocOutAny D) as as') {i : Nat} {s s' t t' : Stmt}
    (hs : as[i]? = some s) (hs' : as'[i]? = some s') (hc : MovedNeg as s)
    (ht : fixFit as i s = .ok t) (ht' : fixFit as' i s' = .ok t') {bs : Bytes} (hb : stmtBytes t = some bs) :
    t' = (t.shiftAdditionalNeg D).setAddress s'.pkg.address ∧
    ∃ pre x y, t.pkg.additional.int? = some x ∧ x < 65536 ∧ y < 65536 ∧ (y + D) % 65536 = x ∧
      bs = pre ++ [x / 256, x % 256] ∧ stmtBytes t' = some (pre ++ [y / 256, y % 256]) :=
  reloc_bytes_movedNeg' (RelocOutAny.addrShiftI h) (h.2 i s s' hs hs').1 hc ht ht' hb

end fix

section whole
variable {D : Nat} {as as' : List Stmt}

theorem reloc_fixAll (h : PW (RelocOut D) as as')
    (hcov : ∀ (i : Nat) (s : Stmt), as[i]? = some s → Unmoved D as s ∨ Moved D as s) :
    OutRel (PW (FinalRel D)) (fixAll as 0 as) (fixAll as' 0 as') :=
  reloc_fixAll_of h fun i s hs => by
    rcases hcov i s hs with hc | hc
    · exact ⟨_, fixFit_unmoved_id (RelocOut.addrShiftI h) i hc, fun _ => rfl, fun _ _ => .inl⟩
    · exact ⟨_, fixFit_moved (RelocOut.addrShift h) i hc, fun _ => rfl, fun _ _ => .inr⟩

theorem reloc_fixAll_mod (h : PW (RelocOut D) as as')
    (hcov : ∀ (i : Nat) (s : Stmt), as[i]? = some s → Unmoved D as s ∨ Moved D as s ∨ MovedMod D as s) :
    OutRel (PW (FinalRelMod D)) (fixAll as 0 as) (fixAll as' 0 as') :=
  reloc_fixAll_of h fun i s hs => by
    rcases hcov i s hs with hc | hc | hc
    · exact ⟨_, fixFit_unmoved_id (RelocOut.addrShiftI h) i hc, fun _ => rfl, fun _ _ => .inl⟩
    · exact ⟨_, fixFit_moved (RelocOut.addrShift h) i hc, fun _ => rfl, fun _ _ e => .inr (.inl e)⟩
    · exact ⟨_, fixFit_movedMod (RelocOut.addrShiftI h) i hc, fun _ => rfl, fun _ _ e => .inr (.inr e)⟩

theorem reloc_fixAll_neg (h : PW (RelocOut D) as as')
    (hcov : ∀ (i : Nat) (s : Stmt), as[i]? = some s →
      Unmoved D as s ∨ Moved D as s ∨ MovedMod D as s ∨ MovedNeg as s) :
    OutRel (PW (FinalRelNeg D)) (fixAll as 0 as) (fixAll as' 0 as') :=
  reloc_fixAll_of h fun i s hs => by
    rcases hcov i s hs with hc | hc | hc | hc
    · exact ⟨_, fixFit_unmoved_id (RelocOut.addrShiftI h) i hc, fun _ => rfl, fun _ _ => .inl⟩
    · exact ⟨_, fixFit_moved (RelocOut.addrShift h) i hc, fun _ => rfl, fun _ _ e => .inr (.inl e)⟩
    · exact ⟨_, fixFit_movedMod (RelocOut.addrShiftI h) i hc, fun _ => rfl, fun _ _ e => .inr (.inr (.inl e))⟩
    · exact ⟨_, fixFit_movedNeg (RelocOut.addrShiftI h) i hc, fun _ => rfl, fun _ _ e => .inr (.inr (.inr e))⟩

theorem reloc_fixAll_any (h : PW (RelocOutAny D) as as')
    (hcov : ∀ (i : Nat) (s : Stmt), as[i]? = some s → CoveredAny D as s) :
    OutRel (PW (FinalRelAny D)) (fixAll as 0 as) (fixAll as' 0 as') :=
  reloc_fixAll_of h fun i s hs => by
    rcases hcov i s hs with hc | ⟨hc, hfit⟩ | hc | hc
    · exact ⟨_, fixFit_unmoved_id (RelocOutAny.addrShiftI h) i hc, fun _ => rfl, fun _ _ => .inl⟩
    · exact ⟨_, fixFit_moved_any (RelocOutAny.addrShiftAny h) i hc hfit, fun _ => rfl, fun _ _ e => .inr (.inl e)⟩
    · exact ⟨_, fixFit_movedMod (RelocOutAny.addrShiftI h) i hc, fun _ => rfl, fun _ _ e => .inr (.inr (.inl e))⟩
    · exact ⟨_, fixFit_movedNeg (RelocOutAny.addrShiftI h) i hc, fun _ => rfl, fun _ _ e => .inr (.inr (.inr e))⟩

theorem FinalRel.toMod {t t' : Stmt} (h : FinalRel D t t') : FinalRelMod D t t' := ⟨h.1.elim .inl (fun h => .inr (.inl h)), h.2⟩

theorem FinalRelMod.toNeg {t t' : Stmt} (h : FinalRelMod D t t') : FinalRelNeg D t t' :=
  ⟨h.1.elim .inl (fun h => .inr (h.elim .inl (fun h => .inr (.inl h)))), h.2⟩

theorem FinalRelNeg.toAddl {t t' : Stmt} (h : FinalRelNeg D t t') : AddlRel D t t' := h.1
theorem FinalRelMod.toAddl {t t' : Stmt} (h : FinalRelMod D t t') : AddlRel D t t' := h.toNeg.1
theorem FinalRel.toAddl {t t' : Stmt} (h : FinalRel D t t') : AddlRel D t t' := h.toMod.toAddl
theorem FinalRelAny.toAddl {t t' : Stmt} (h : FinalRelAny D t t') : AddlRel D t t' := h.1

theorem AddlRel.row {x x' : Stmt} (h : AddlRel D x x') : x'.row = x.row := by
  rcases h with h | h | h | h <;> rw [h] <;> rfl

theorem AddlRel.operand {x x' : Stmt} (h : AddlRel D x x') : x'.operand = x.operand := by
  rcases h with h | h | h | h <;> rw [h] <;> rfl

theorem FinalRelNeg.row_addr {t t' : Stmt} (h : FinalRelNeg D t t') :
    t'.row = t.row ∧ t'.pkg.address = shiftV D t.pkg.address := ⟨h.toAddl.row, h.2.2.shiftV⟩
theorem FinalRelMod.row_addr {t t' : Stmt} (h : FinalRelMod D t t') :
    t'.row = t.row ∧ t'.pkg.address = shiftV D t.pkg.address := h.toNeg.row_addr
theorem FinalRel.row_addr {t t' : Stmt} (h : FinalRel D t t') :
    t'.row = t.row ∧ t'.pkg.address = shiftV D t.pkg.address := h.toMod.row_addr
theorem FinalRelAny.row_addr {t t' : Stmt} (h : FinalRelAny D t t') :
    t'.row = t.row ∧ IntAddr D t.pkg.address t'.pkg.address := ⟨h.toAddl.row, h.2.2⟩

theorem FinalRelNeg.row_operand {t t' : Stmt} (h : FinalRelNeg D t t') :
    t'.row = t.row ∧ t'.operand = t.operand := ⟨h.toAddl.row, h.toAddl.operand⟩
theorem FinalRelMod.row_operand {t t' : Stmt} (h : FinalRelMod D t t') :
    t'.row = t.row ∧ t'.operand = t.operand := h.toNeg.row_operand
theorem FinalRel.row_operand {t t' : Stmt} (h : FinalRel D t t') : t'.row = t.row ∧ t'.operand = t.operand :=
  h.toMod.row_operand
theorem FinalRelAny.row_operand {t t' : Stmt} (h : FinalRelAny D t t') :
    t'.row = t.row ∧ t'.operand = t.operand := ⟨h.toAddl.row, h.toAddl.operand⟩

theorem shiftV_numeric' {v : Value} (h : v.isNumeric = true) : (shiftV D v).isNumeric = true :=
  shiftV_isNumeric D v h
theorem shiftVmod_numeric {v : Value} (h : v.isNumeric = true) : (shiftVmod D v).isNumeric = true :=
  shiftVmod_isNumeric D v h
theorem shiftVneg_numeric {v : Value} (h : v.isNumeric = true) : (shiftVneg D v).isNumeric = true :=
  shiftVneg_isNumeric D v h

theorem AddlRel.list {x x' : Stmt} (h : AddlRel D x x') (hl : x.pkg.additional.isList = true) :
    x'.pkg.additional = x.pkg.additional := by
  rcases h with h | h | h | h <;> generalize x'.pkg.address = a at h <;> subst h
  · rfl
  · exact shiftV_list hl
  · exact shiftVmod_list hl
  · exact shiftVneg_list hl

theorem AddlRel.nonlist {x x' : Stmt} (h : AddlRel D x x') (hl : x.pkg.additional.isList = false) :
    x'.pkg.additional.isList = false := by
  rcases h with h | h | h | h <;> generalize x'.pkg.address = a at h <;> subst h
  · exact hl
  · exact shiftV_nonlist hl
  · exact shiftVmod_nonlist hl
  · exact shiftVneg_nonlist hl

theorem AddlRel.set {x x' : Stmt} (h : AddlRel D x x') (v : Value) :
    ({ x' with pkg := { x'.pkg with additional := v } } : Stmt)
      = ({ x with pkg := { x.pkg with additional := v } } : Stmt).setAddress x'.pkg.address := by
  rcases h with h | h | h | h <;> generalize x'.pkg.address = a at h ⊢ <;> subst h <;> rfl

/-- a relation `F` that says: the operand field is the same or moved in one of the three ways (`AddlRel`), and `A` of
the two statements, where `A` does not look at the operand field.  The list pass either keeps both fields or writes the
same digits into both. -/
theorem listStable_of {F A : Stmt → Stmt → Prop}
    (hA : ∀ x x' v, A x x' → A (withAdditional x v) (withAdditional x' v))
    (toAddl : ∀ {t t'}, F t t' → AddlRel D t t' ∧ A t t')
    (ofSame : ∀ {t t'}, t' = t.setAddress t'.pkg.address → A t t' → F t t') : ListStable F where
  operand h := (toAddl h).1.operand
  list h := (toAddl h).1.list
  nonlist h := (toAddl h).1.nonlist
  set v h _ := ofSame ((toAddl h).1.set v) (hA _ _ v (toAddl h).2)

theorem setAddress_listStable : ListStable (fun x x' : Stmt => x' = x.setAddress x'.pkg.address) :=
  listStable_of (D := 0) (A := fun _ _ => True) (fun _ _ _ _ => trivial) (fun h => ⟨.inl h, trivial⟩) (fun e _ => e)

theorem FinalRel.listStable : ListStable (FinalRel D) :=
  listStable_of (fun _ _ _ h => h) (fun h => ⟨h.toAddl, h.2⟩) (fun e a => ⟨.inl e, a⟩)

theorem FinalRelMod.listStable : ListStable (FinalRelMod D) :=
  listStable_of (fun _ _ _ h => h) (fun h => ⟨h.toAddl, h.2⟩) (fun e a => ⟨.inl e, a⟩)

theorem FinalRelNeg.listStable : ListStable (FinalRelNeg D) :=
  listStable_of (fun _ _ _ h => h) (fun h => ⟨h.toAddl, h.2⟩) (fun e a => ⟨.inl e, a⟩)

theorem FinalRelAny.listStable : ListStable (FinalRelAny D) :=
  listStable_of (fun _ _ _ h => h) (fun h => ⟨h.toAddl, h.2⟩) (fun e a => ⟨.inl e, a⟩)

theorem reloc_list_unmoved {t : SymTab} {fs fs' : List Stmt} {u u' s s' : Stmt} (he : u' = u.setAddress u'.pkg.address)
    (hc : ListsConst t u) (h1 : evalList1 t fs u = .ok s) (h2 : evalList1 t fs' u' = .ok s') :
    s' = s.setAddress s'.pkg.address := by
  have := evalList1_outRel setAddress_listStable t fs fs' he hc
  rw [h1, h2] at this
  exact this.rel

theorem reloc_fixAllL (h : PW (RelocOut D) as as')
    (hcov : ∀ (i : Nat) (s : Stmt), as[i]? = some s → Unmoved D as s ∨ Moved D as s) (t : SymTab)
    (hlist : ∀ (i : Nat) (s : Stmt), as[i]? = some s → ListsConst t s) :
    OutRel (PW (FinalRel D)) (fixAllL t as) (fixAllL t as') :=
  fixAllL_outRel FinalRel.listStable t (reloc_fixAll h hcov)
    (fun _ hf => fixAll_listsConst (addrOf_numeric (RelocOut.addrShift h)) hlist hf)

theorem reloc_fixAllL_mod (h : PW (RelocOut D) as as')
    (hcov : ∀ (i : Nat) (s : Stmt), as[i]? = some s → Unmoved D as s ∨ Moved D as s ∨ MovedMod D as s) (t : SymTab)
    (hlist : ∀ (i : Nat) (s : Stmt), as[i]? = some s → ListsConst t s) :
    OutRel (PW (FinalRelMod D)) (fixAllL t as) (fixAllL t as') :=
  fixAllL_outRel FinalRelMod.listStable t (reloc_fixAll_mod h hcov)
    (fun _ hf => fixAll_listsConst (addrOf_numeric (RelocOut.addrShift h)) hlist hf)

theorem reloc_fixAllL_neg (h : PW (RelocOut D) as as')
    (hcov : ∀ (i : Nat) (s : Stmt), as[i]? = some s →
      Unmoved D as s ∨ Moved D as s ∨ MovedMod D as s ∨ MovedNeg as s) (t : SymTab)
    (hlist : ∀ (i : Nat) (s : Stmt), as[i]? = some s → ListsConst t s) :
    OutRel (PW (FinalRelNeg D)) (fixAllL t as) (fixAllL t as') :=
  fixAllL_outRel FinalRelNeg.listStable t (reloc_fixAll_neg h hcov)
    (fun _ hf => fixAll_listsConst (addrOf_numeric (RelocOut.addrShift h)) hlist hf)

theorem reloc_fixAllL_any (h : PW (RelocOutAny D) as as')
    (hcov : ∀ (i : Nat) (s : Stmt), as[i]? = some s → CoveredAny D as s) (t : SymTab)
    (hlist : ∀ (i : Nat) (s : Stmt), as[i]? = some s → ListsConst t s) :
    OutRel (PW (FinalRelAny D)) (fixAllL t as) (fixAllL t as') :=
  fixAllL_outRel FinalRelAny.listStable t (reloc_fixAll_any h hcov)
    (fun _ hf => fixAll_listsConst (addrOf_numeric_any (RelocOutAny.addrShiftAny h)) hlist hf)

/-- `fixAll`, the list pass, `evalSyms`, `finalSymTab`, origin and name on two layouts `D` apart: the same outcome kind, results
related by `AsmRel` -/
theorem reloc_finish (h : PW (RelocOut D) as as')
    (hcov : ∀ (i : Nat) (s : Stmt), as[i]? = some s → Unmoved D as s ∨ Moved D as s) (t : SymTab)
    (hequ : NoLabelEqu t) (hlist : ∀ (i : Nat) (s : Stmt), as[i]? = some s → ListsConst t s) :
    OutRel (AsmRel D t) (finish t as) (finish t as') :=
  finish_outRel_const (reloc_fixAllL h hcov t hlist) (RelocOut.addrShiftI h) (fun _ _ r => r.row_operand)
    (fun _ _ r => r.2) hequ

/-- read off `AsmRel`: a label's final value moves by `D`, an EQU value does not move -/
theorem reloc_symtab_entry {t : SymTab} {A B : Assembly} (h : AsmRel D t A B)
    (hl : A.symtab.length = t.length) {j : Nat} {k : Str} {v : Value} (hj : t[j]? = some (k, v)) :
    ∃ kw, A.symtab[j]? = some kw ∧ B.symtab[j]? = some (kw.1, if v.isAddress then shiftV D kw.2 else kw.2) := by
  have hjl : j < t.length := lt_of_getElem? hj
  have hjr : j < A.symtab.length := by omega
  refine ⟨A.symtab[j], List.getElem?_eq_getElem hjr, ?_⟩
  rw [h.2.1, List.getElem?_zipWith, hj, List.getElem?_eq_getElem hjr]

theorem reloc_finish_mod (h : PW (RelocOut D) as as')
    (hcov : ∀ (i : Nat) (s : Stmt), as[i]? = some s → Unmoved D as s ∨ Moved D as s ∨ MovedMod D as s) (t : SymTab)
    (hequ : NoLabelEqu t) (hlist : ∀ (i : Nat) (s : Stmt), as[i]? = some s → ListsConst t s) :
    OutRel (AsmRelMod D t) (finish t as) (finish t as') :=
  finish_outRel_const (reloc_fixAllL_mod h hcov t hlist) (RelocOut.addrShiftI h) (fun _ _ r => r.row_operand)
    (fun _ _ r => r.2) hequ

theorem reloc_finish_neg (h : PW (RelocOut D) as as')
    (hcov : ∀ (i : Nat) (s : Stmt), as[i]? = some s →
      Unmoved D as s ∨ Moved D as s ∨ MovedMod D as s ∨ MovedNeg as s) (t : SymTab)
    (hequ : NoLabelEqu t) (hlist : ∀ (i : Nat) (s : Stmt), as[i]? = some s → ListsConst t s) :
    OutRel (AsmRelNeg D t) (finish t as) (finish t as') :=
  finish_outRel_const (reloc_fixAllL_neg h hcov t hlist) (RelocOut.addrShiftI h) (fun _ _ r => r.row_operand)
    (fun _ _ r => r.2) hequ

/-- EQUs defined by a label expression of one of the four expression classes allowed (`EquCovered`) -/
theorem reloc_finish_equ (h : PW (RelocOut D) as as')
    (hcov : ∀ (i : Nat) (s : Stmt), as[i]? = some s →
      Unmoved D as s ∨ Moved D as s ∨ MovedMod D as s ∨ MovedNeg as s) (t : SymTab)
    (hequ : ∀ kv ∈ t, EquCovered D as t kv.2)
    (hlist : ∀ (i : Nat) (s : Stmt), as[i]? = some s → ListsConst t s) :
    OutRel (AsmRelEqu D as t) (finish t as) (finish t as') :=
  (finish_outRel (L := WideAddr D) (reloc_fixAllL_neg h hcov t hlist) (RelocOut.addrShiftI h)
    (fun _ _ r => r.row_operand) (fun _ _ r => r.2.toI) (fun _ _ r => r.2.2) hequ).mono
    fun A B ⟨h1, h2, h3, h4, h5, h6⟩ =>
      ⟨h1, h2, h3, fun j k v hj => by
          obtain ⟨x, x', hx, hx', hr⟩ := h4 j k v hj
          exact ⟨x, x', hx, hx', hr.equRel⟩,
        h5.elim (fun ⟨a, b⟩ => by rw [a, b]; rfl) WideAddr.shiftV, h6⟩

/-- `equCovered_of_noLabelEqu` gives `hequ` for a table without EQUs defined by label expressions -/
theorem reloc_finish_any (h : PW (RelocOutAny D) as as')
    (hcov : ∀ (i : Nat) (s : Stmt), as[i]? = some s → CoveredAny D as s) (t : SymTab)
    (hequ : ∀ kv ∈ t, EquCovered D as t kv.2)
    (hlist : ∀ (i : Nat) (s : Stmt), as[i]? = some s → ListsConst t s) :
    OutRel (AsmRelAny D as t) (finish t as) (finish t as') :=
  finish_outRel (L := IntAddr D) (reloc_fixAllL_any h hcov t hlist) (RelocOutAny.addrShiftI h)
    (fun _ _ r => r.row_operand) (fun _ _ r => r.2.toI) (fun _ _ r => r.2.2) hequ

end whole

/-! `label + N`, `label - N` with a SIGNED constant `N`.

The constant is `signedK k nn` (`-k` when the number carries a minus sign: `A+N` with `N EQU -2` is `A-2`).
`LabelNum as l r op t a k nn`: the operands are the label of statement `t` (address `a` in the layout `as`) and that number,
the label on the left unless `op` is `+`.  Below, `c` stands for `signedK k nn`.  Both operators behave alike: the result
`a ± c` is rejected above `$FFFF`, and a negative one is reduced modulo `$10000` by `calculate_address_offset` itself. -/

section signed
variable {D : Nat} {as as' : List Stmt} {l r : Value} {t a k : Nat} {nn : Bool} {s : Stmt} {m : Mode}

/-- `label + N` (no PCR) in a 16-bit field is in the class `Moved` when its value `a + c` is in `0 .. $FFFF - D` -/
theorem moved_label_plus (h : LabelNum as l r '+' t a k nn)
    (hk : (s.operand.kind == .relative) = false) (hv : s.operand.value = .expr l r '+' m true)
    (hn : s.pkg.needsRes = false) (hf : FieldWide s)
    (h0 : 0 ≤ (a : Int) + signedK k nn) (h1 : (a : Int) + signedK k nn + D ≤ 65535) : Moved D as s :=
  .inl ⟨hk, hn, .inr (by rw [hv]; exact (numExpr_plus_iff h m).mpr (fun _ => by omega)), hf⟩

/-- `label - N` (no PCR) in a 16-bit field is in the class `Moved` when its value `(a - c) mod $10000` is at most
`$FFFF - D` -/
theorem moved_label_minus (h : LabelNum as l r '-' t a k nn)
    (hk : (s.operand.kind == .relative) = false) (hv : s.operand.value = .expr l r '-' m true)
    (hn : s.pkg.needsRes = false) (hf : FieldWide s)
    (h1 : ((a : Int) - signedK k nn) % 65536 + D ≤ 65535) : Moved D as s :=
  .inl ⟨hk, hn, .inr (by rw [hv]; exact (numExpr_minus_iff h m).mpr (fun _ => h1)), hf⟩

/-- `label + N,PCR` / `label - N,PCR` (an indexed operand with post byte choices whose offset is the label
expression) is in the class `Unmoved` under the same arithmetic conditions on the TARGET -/
theorem unmoved_pcr_label_plus (h : LabelNum as l r '+' t a k nn)
    (hk : (s.operand.kind == .relative) = false) (hE : s.operand.value.isAddrExpr = false)
    (hA : s.operand.value.isAddress = false) (hc : s.pkg.choices.isEmpty = false) (hidx : s.isIdx = true)
    (he : s.pkg.additional = .expr l r '+' m true)
    (h0 : 0 ≤ (a : Int) + signedK k nn) (h1 : (a : Int) + signedK k nn + D ≤ 65535) : Unmoved D as s :=
  .inr (.inl ⟨hk, hE, hA, .inr ⟨hc, .inl (.inr (.inr ⟨hidx, by
    rw [he]; exact (numExpr_plus_iff h m).mpr (fun _ => by omega)⟩))⟩⟩)

theorem unmoved_pcr_label_minus (h : LabelNum as l r '-' t a k nn)
    (hk : (s.operand.kind == .relative) = false) (hE : s.operand.value.isAddrExpr = false)
    (hA : s.operand.value.isAddress = false) (hc : s.pkg.choices.isEmpty = false) (hidx : s.isIdx = true)
    (he : s.pkg.additional = .expr l r '-' m true)
    (h1 : ((a : Int) - signedK k nn) % 65536 + D ≤ 65535) : Unmoved D as s :=
  .inr (.inl ⟨hk, hE, hA, .inr ⟨hc, .inl (.inr (.inr ⟨hidx, by
    rw [he]; exact (numExpr_minus_iff h m).mpr (fun _ => h1)⟩))⟩⟩)

/-- `label ± N,PCR` that both layouts accept (`a ± c + D ≤ $FFFF`), whatever the sign of the target: a NEGATIVE target
(`A+N,PCR` with `N EQU -258`, `A` at `$0100`) is reduced modulo `$10000` in both layouts, it moves by `D` modulo `$10000`,
and the displacement — computed modulo `$10000` — is the same: the statement is `Unmoved`
(`reloc_signed_pcr_negative_target_fixed`, Props/C18RelocText.lean) -/
theorem unmoved_pcr_label_mod {op : Char} (h : LabelNum as l r op t a k nn)
    (hk : (s.operand.kind == .relative) = false) (hE : s.operand.value.isAddrExpr = false)
    (hA : s.operand.value.isAddress = false) (hc : s.pkg.choices.isEmpty = false) (hidx : s.isIdx = true)
    (he : s.pkg.additional = .expr l r op m true) (hb : ModBound D op a k nn) : Unmoved D as s :=
  .inr (.inl ⟨hk, hE, hA, .inr ⟨hc, .inr ⟨hidx, l, r, op, m, t, a, k, nn, he, h, hb⟩⟩⟩)

/-- `fix_addresses` on `label + N`, value `z = a + c` in `0 .. $FFFF - D`: the original program
stores `z`, the relocated one `z + D` -/
theorem reloc_fixOne_label_plus (hpw : PW (AddrShiftI D) as as') (h : LabelNum as l r '+' t a k nn) (i : Nat) (v : Value)
    (hk : (s.operand.kind == .relative) = false) (hv : s.operand.value = .expr l r '+' m true)
    (hn : s.pkg.needsRes = false)
    (h0 : 0 ≤ (a : Int) + signedK k nn) (h1 : (a : Int) + signedK k nn + D ≤ 65535) :
    fixOne as i s = .ok (withAdditional s (.numeric ((a : Int) + signedK k nn).toNat (some 4) .extended false)) ∧
    fixOne as' i (s.setAddress v) =
      .ok ((withAdditional s (.numeric (((a : Int) + signedK k nn).toNat + D) (some 4) .extended false)).setAddress v) := by
  refine ⟨fixOne_label_plus h i hk hv hn h0 (by omega), ?_⟩
  rw [fixOne_setAddress, fixOne_label_plus (h.reloc hpw) i hk hv hn (by omega) (by omega)]
  have e : (((a + D : Nat) : Int) + signedK k nn).toNat = ((a : Int) + signedK k nn).toNat + D := by omega
  rw [e]; rfl

/-- `fix_addresses` on `label - N` that the moved layout accepts (`a - c + D ≤ $FFFF`; a difference
above `$FFFF` — possible with a negative `N` — is rejected): the original program stores `z = (a - c) mod $10000`, the
relocated one `(z + D) mod $10000` -/
theorem reloc_fixOne_label_minus (hpw : PW (AddrShiftI D) as as') (h : LabelNum as l r '-' t a k nn) (i : Nat) (v : Value)
    (hk : (s.operand.kind == .relative) = false) (hv : s.operand.value = .expr l r '-' m true)
    (hn : s.pkg.needsRes = false) (h1 : (a : Int) - signedK k nn + D ≤ 65535) :
    fixOne as i s =
      .ok (withAdditional s (.numeric (((a : Int) - signedK k nn) % 65536).toNat (some 4) .extended false)) ∧
    fixOne as' i (s.setAddress v) =
      .ok ((withAdditional s (.numeric (((((a : Int) - signedK k nn) % 65536).toNat + D) % 65536)
        (some 4) .extended false)).setAddress v) := by
  refine ⟨fixOne_label_minus h i hk hv hn (by omega), ?_⟩
  rw [fixOne_setAddress, fixOne_label_minus (h.reloc hpw) i hk hv hn (by omega)]
  have e : ((((a + D : Nat) : Int) - signedK k nn) % 65536).toNat
      = ((((a : Int) - signedK k nn) % 65536).toNat + D) % 65536 := by omega
  rw [e]; rfl

/-- `fix_addresses; fit_operand_width` on `label + N` in a four-digit
field, in both layouts: the statement is accepted iff the value is at most `$FFFF`, and the field holds the value
modulo `$10000` — a value below zero is NOT rejected, `calculate_address_offset` reduces it modulo `$10000` -/
theorem reloc_fixFit_label_plus (hpw : PW (AddrShiftI D) as as') (h : LabelNum as l r '+' t a k nn) (i : Nat) (v : Value)
    (hf : Field4 s)
    (hk : (s.operand.kind == .relative) = false) (hv : s.operand.value = .expr l r '+' m true)
    (hn : s.pkg.needsRes = false) :
    fixFit as i s =
      (if (a : Int) + signedK k nn ≤ 65535 then
        .ok (withAdditional s (.numeric (((a : Int) + signedK k nn) % 65536).toNat (some 4) .extended false))
      else .diag) ∧
    fixFit as' i (s.setAddress v) =
      (if (a : Int) + signedK k nn + D ≤ 65535 then
        .ok ((withAdditional s (.numeric (((a : Int) + signedK k nn + D) % 65536).toNat (some 4) .extended false)).setAddress v)
      else .diag) := by
  refine ⟨fixFit_label_plus h i hf hk hv hn, ?_⟩
  rw [fixFit_setAddress, fixFit_label_plus (h.reloc hpw) i hf hk hv hn]
  have e : ((a + D : Nat) : Int) + signedK k nn = (a : Int) + signedK k nn + D := by omega
  rw [e]
  split <;> rfl

/-- the same for `label - N` -/
theorem reloc_fixFit_label_minus_cases (hpw : PW (AddrShiftI D) as as') (h : LabelNum as l r '-' t a k nn) (i : Nat)
    (v : Value) (hf : Field4 s)
    (hk : (s.operand.kind == .relative) = false) (hv : s.operand.value = .expr l r '-' m true)
    (hn : s.pkg.needsRes = false) :
    fixFit as i s =
      (if (a : Int) - signedK k nn ≤ 65535 then
        .ok (withAdditional s (.numeric (((a : Int) - signedK k nn) % 65536).toNat (some 4) .extended false))
      else .diag) ∧
    fixFit as' i (s.setAddress v) =
      (if (a : Int) - signedK k nn + D ≤ 65535 then
        .ok ((withAdditional s (.numeric (((a : Int) - signedK k nn + D) % 65536).toNat (some 4) .extended false)).setAddress v)
      else .diag) := by
  refine ⟨fixFit_label_minus h i hf hk hv hn, ?_⟩
  rw [fixFit_setAddress, fixFit_label_minus (h.reloc hpw) i hf hk hv hn]
  have e : ((a + D : Nat) : Int) - signedK k nn = (a : Int) - signedK k nn + D := by omega
  rw [e]
  split <;> rfl

/-- both layouts accept `label + N` (value at most `$FFFF - D`): the 16-bit field moves by `D`
MODULO `$10000`.  When the value is not negative this is `+ D` (the class `Moved`); when it is negative and
`a + c + D` is not, the field wraps around (`$FF80` becomes `$0080` for `D = $100`) -/
theorem reloc_fixFit_label_plus_mod (hpw : PW (AddrShiftI D) as as') (h : LabelNum as l r '+' t a k nn) (i : Nat) (v : Value)
    (hf : Field4 s)
    (hk : (s.operand.kind == .relative) = false) (hv : s.operand.value = .expr l r '+' m true)
    (hn : s.pkg.needsRes = false) (h1 : (a : Int) + signedK k nn + D ≤ 65535) :
    ∃ x : Nat, x < 65536 ∧ (x : Int) = ((a : Int) + signedK k nn) % 65536 ∧
      fixFit as i s = .ok (withAdditional s (.numeric x (some 4) .extended false)) ∧
      fixFit as' i (s.setAddress v) =
        .ok ((withAdditional s (.numeric ((x + D) % 65536) (some 4) .extended false)).setAddress v) := by
  have := reloc_fixFit_label_pm_mod (.inl rfl) hpw h i v hf hk hv hn (by rw [pm_plus]; exact h1)
  rwa [pm_plus] at this

/-- both layouts accept `label - N` (value at most `$FFFF - D`): the field moves by `D` modulo
`$10000` -/
theorem reloc_fixFit_label_minus (hpw : PW (AddrShiftI D) as as') (h : LabelNum as l r '-' t a k nn) (i : Nat) (v : Value)
    (hf : Field4 s)
    (hk : (s.operand.kind == .relative) = false) (hv : s.operand.value = .expr l r '-' m true)
    (hn : s.pkg.needsRes = false) (h1 : (a : Int) - signedK k nn + D ≤ 65535) :
    ∃ x : Nat, x < 65536 ∧ (x : Int) = ((a : Int) - signedK k nn) % 65536 ∧
      fixFit as i s = .ok (withAdditional s (.numeric x (some 4) .extended false)) ∧
      fixFit as' i (s.setAddress v) =
        .ok ((withAdditional s (.numeric ((x + D) % 65536) (some 4) .extended false)).setAddress v) := by
  have := reloc_fixFit_label_pm_mod (.inr rfl) hpw h i v hf hk hv hn (by rw [pm_minus]; exact h1)
  rwa [pm_minus] at this

/-- the emitted bytes of a statement whose four-digit field holds `x` resp. `(x + D) mod $10000` (the
two theorems above): the code ends with that 16-bit value, big endian; everything before is identical -/
theorem reloc_bytes_label_mod {x : Nat} (hx : x < 65536) (v : Value) {bs : Bytes}
    (hb : stmtBytes (withAdditional s (.numeric x (some 4) .extended false)) = some bs) :
    ∃ pre, bs = pre ++ [x / 256, x % 256] ∧
      stmtBytes ((withAdditional s (.numeric ((x + D) % 65536) (some 4) .extended false)).setAddress v)
        = some (pre ++ [(x + D) % 65536 / 256, (x + D) % 65536 % 256]) := by
  obtain ⟨pre, e, hall⟩ := stmtBytes_field4 hx hb
  exact ⟨pre, e, by rw [stmtBytes_setAddress]; exact hall _ _ (Nat.mod_lt _ (by decide))⟩

end signed

/-! A label as constant offset of a pointer register: `LDA TABLE,X`, `LDB TBL+1,Y`, `LDD [TBL,U]`.

Such a statement has no label in its operand VALUE; `translate` marks it `needsRes` WITHOUT post byte choices and takes
the 16-bit offset form at once (post byte `$89` / `$99` + register); `additional` holds the statement index of the label
(a plain label) or the label expression.  `fix_addresses` stores the target ADDRESS itself as the offset, so the
16-bit field moves by `D` like an extended operand: the sub-class `MovedAbs` of `Moved` (and `MovedModAbs` of
`MovedMod` when the value is only accepted, not bounded).  `[label+1]` (extended indirect with an address expression) has
the expression as its operand value and no `needsRes`: it is in the sub-class `MovedRef` (`moved_label_plus`). -/

section absolute
variable {D : Nat} {as as' : List Stmt} {l r : Value} {t a k : Nat} {nn : Bool} {s : Stmt} {m : Mode}

/-- a plain label as constant offset (`LDA TABLE,X`, `LDD [TBL,U]`) in a 16-bit offset field is `Moved`, with no
arithmetic condition at all -/
theorem moved_abs_label (hk : (s.operand.kind == .relative) = false) (hE : s.operand.value.isAddrExpr = false)
    (hA : s.operand.value.isAddress = false) (hn : s.pkg.needsRes = true) (hc : s.pkg.choices.isEmpty = true)
    (hp : s.pkg.additional.isAddrExpr = false) (hf : FieldWide s) : Moved D as s :=
  .inr ⟨hk, hE, hA, hn, hc, .inr (.inl hp), hf⟩

/-- `label + N` as constant offset (`LDB TBL+1,Y`) is `Moved` when its value `(a + c) mod $10000`, moved by `D`, is
at most `$FFFF` -/
theorem moved_abs_label_plus (h : LabelNum as l r '+' t a k nn)
    (hk : (s.operand.kind == .relative) = false) (hE : s.operand.value.isAddrExpr = false)
    (hA : s.operand.value.isAddress = false) (hn : s.pkg.needsRes = true) (hc : s.pkg.choices.isEmpty = true)
    (hidx : s.isIdx = true) (he : s.pkg.additional = .expr l r '+' m true) (hf : FieldWide s)
    (h1 : ((a : Int) + signedK k nn) % 65536 + D ≤ 65535) : Moved D as s :=
  .inr ⟨hk, hE, hA, hn, hc, .inr (.inr ⟨hidx, by rw [he]; exact (numExpr_plus_iff h m).mpr (fun _ => h1)⟩), hf⟩

theorem moved_abs_label_minus (h : LabelNum as l r '-' t a k nn)
    (hk : (s.operand.kind == .relative) = false) (hE : s.operand.value.isAddrExpr = false)
    (hA : s.operand.value.isAddress = false) (hn : s.pkg.needsRes = true) (hc : s.pkg.choices.isEmpty = true)
    (hidx : s.isIdx = true) (he : s.pkg.additional = .expr l r '-' m true) (hf : FieldWide s)
    (h1 : ((a : Int) - signedK k nn) % 65536 + D ≤ 65535) : Moved D as s :=
  .inr ⟨hk, hE, hA, hn, hc, .inr (.inr ⟨hidx, by rw [he]; exact (numExpr_minus_iff h m).mpr (fun _ => h1)⟩), hf⟩

/-- `label ± N` as constant offset that both layouts accept is `MovedMod` -/
theorem movedMod_abs_label {op : Char} (h : LabelNum as l r op t a k nn)
    (hk : (s.operand.kind == .relative) = false) (hv : s.operand.value ≠ .pyNone)
    (hE : s.operand.value.isAddrExpr = false)
    (hA : s.operand.value.isAddress = false) (hn : s.pkg.needsRes = true) (hc : s.pkg.choices.isEmpty = true)
    (hidx : s.isIdx = true) (he : s.pkg.additional = .expr l r op m true) (hf : Field4 s)
    (hb : ModBound D op a k nn) : MovedMod D as s :=
  .inr ⟨hk, hv, hE, hA, hn, hc, hidx, hf, l, r, op, m, t, a, k, nn, he, h, hb⟩

/-- `fix_addresses; fit_operand_width` on `LDA TABLE,X` in the two layouts: the
16-bit offset field holds the ADDRESS of the label, `a` resp. `a + D` -/
theorem reloc_fixFit_abs_label (hpw : PW (AddrShiftI D) as as') (i : Nat) (v : Value)
    (hk : (s.operand.kind == .relative) = false) (hv : s.operand.value ≠ .pyNone)
    (hE : s.operand.value.isAddrExpr = false) (hA : s.operand.value.isAddress = false)
    (hn : s.pkg.needsRes = true) (hc : s.pkg.choices.isEmpty = true)
    (hp : s.pkg.additional.isAddrExpr = false) (hi : s.pkg.additional.int? = some t)
    (ha : addrIntOf as t = some a) (hlt : a + D < 65536) (hf : Field4 s) :
    fixFit as i s = .ok (withAdditional s (.numeric a (some 4) .extended false)) ∧
    fixFit as' i (s.setAddress v) =
      .ok ((withAdditional s (.numeric (a + D) (some 4) .extended false)).setAddress v) := by
  refine ⟨fixFit_abs_label i hk hv hE hA hn hc hp hi hf ha (by omega), ?_⟩
  rw [fixFit_setAddress, fixFit_abs_label i hk hv hE hA hn hc hp hi hf (by rw [addrIntOf_reloc hpw, ha]; rfl) hlt]
  rfl

end absolute

def SingleOrgFirst (ss : List Stmt) : Prop :=
  ∃ s0 r0 o m, ss = s0 :: r0 ∧ s0.pkg.address = .numeric o (some 4) m false ∧ ∀ s ∈ r0, s.pkg.address = .none

def relocate (D : Nat) : List Stmt → List Stmt
  | [] => []
  | s0 :: r0 => s0.setAddress (shiftV D s0.pkg.address) :: r0

theorem relocIn_of_singleOrgFirst {D : Nat} {ss : List Stmt} (h : SingleOrgFirst ss) :
    PW (RelocIn D) ss (relocate D ss) ∧ StartsWithOrg ss := by
  obtain ⟨s0, r0, o, m, rfl, ha, hr⟩ := h
  refine ⟨?_, s0, r0, o, m, rfl, ha⟩
  refine .cons (.inr ⟨o, m, ha, by rw [ha]; rfl⟩) ⟨rfl, ?_⟩
  intro j s s' h1 h2
  rw [h1] at h2; cases h2
  exact .inl ⟨hr s (List.mem_of_getElem? h1), rfl⟩

theorem singleOrgFirst_preset {s0 : Stmt} {r0 : List Stmt} {o : Nat} {m : Mode} {P : Nat → Prop}
    (ha : s0.pkg.address = .numeric o (some 4) m false) (hr : ∀ s ∈ r0, s.pkg.address = .none) (hP : P o) :
    ∀ s ∈ s0 :: r0, ∀ o' h' m' n', s.pkg.address = .numeric o' h' m' n' → P o' := by
  intro s hs o' h' m' n' hq
  rcases List.mem_cons.mp hs with rfl | hs
  · rw [ha] at hq; cases hq; exact hP
  · rw [hr s hs] at hq; cases hq

theorem orgBounds_of_singleOrgFirst {D : Nat} {s0 : Stmt} {r0 : List Stmt} {o : Nat} {m : Mode}
    (ha : s0.pkg.address = .numeric o (some 4) m false) (hr : ∀ s ∈ r0, s.pkg.address = .none)
    (h1 : 256 ≤ o) (h2 : o + D < 65536) : OrgBounds D (s0 :: r0) :=
  singleOrgFirst_preset ha hr (P := fun o => 256 ≤ o ∧ o + D < 65536) ⟨h1, h2⟩

theorem orgBoundsAny_of_singleOrgFirst {D : Nat} {s0 : Stmt} {r0 : List Stmt} {o : Nat} {m : Mode}
    (ha : s0.pkg.address = .numeric o (some 4) m false) (hr : ∀ s ∈ r0, s.pkg.address = .none)
    (h2 : o + D < 65536) : OrgBoundsAny D (s0 :: r0) :=
  singleOrgFirst_preset ha hr (P := fun o => o + D < 65536) h2

end CoCo.Props
