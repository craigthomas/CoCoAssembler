/-
Props/C14.lean — every cassette image written from files whose fields fit their widths (`ValidFile`) is a well-formed
CoCo tape stream (`write_wf`, Lemmas/Cassette, exhibits the writer's output as a `WellFormed` derivation, block by
block) and consists of bytes.  Composed with completeness of `Spec.Tape.parse`: the strict tape parser (the harness's
oracle) reads back exactly the files the modelled cassette writer wrote (`parse_written`).
-/
import CoCoVerif.Lemmas.Cassette

namespace CoCo.Props
open CoCo CoCo.Cas CoCo.Spec.Tape

/-- **C14** as stated, no exclusion; its hypothesis is `ValidFile` for every file -/
theorem C14_full : C14_Statement := fun fs hv =>
  ⟨write_wf fs, wellFormed_bytes (write_wf fs) (by
    intro t ht
    obtain ⟨f, hf, rfl⟩ := List.mem_map.mp ht
    exact toTape_ok f (hv f hf))⟩

/-- non-vacuity: a concrete two-file list (one with marker-rich data, one empty) meets the hypotheses -/
example : ∀ f ∈ ([{ name := [65, 66], ext := [], ftype := 2, dtype := 0, gaps := 0, load := 0x3F00, exec := 0x3F00,
                     data := [0x55, 0x3C, 0x00, 0xFF] },
                   { name := [], ext := [], ftype := 0, dtype := 0xFF, gaps := 0, load := 0, exec := 0, data := [] }] : List CFile),
    ValidFile f := by
  intro f hf
  simp only [List.mem_cons, List.not_mem_nil, or_false] at hf
  rcases hf with rfl | rfl <;> simp [ValidFile]

/-- every image written by the model parses back, strictly, to exactly the files written -/
theorem parse_written (fs : List CFile) (hv : ∀ f ∈ fs, ValidFile f) :
    Spec.Tape.parse (Cas.write fs) = some (fs.map toTape) :=
  parse_complete_strong _ _ (C14_full fs hv).1

/-- … and the parser's answer is the only file list the image is a well-formed stream of -/
theorem written_unique (fs : List CFile) (hv : ∀ f ∈ fs, ValidFile f) (fs' : List Spec.Tape.File)
    (h : WellFormed fs' (Cas.write fs)) : fs' = fs.map toTape :=
  wellFormed_unique h (C14_full fs hv).1

end CoCo.Props
