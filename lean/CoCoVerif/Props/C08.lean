/-
Props/C08.lean — every image the tool writes is a structurally valid Disk BASIC filesystem and the
reference reader finds exactly the stored files on it.
-/
import CoCoVerif.Lemmas.DiskHolds

namespace CoCo.Props
open CoCo CoCo.Dsk

theorem C08_full : C08_Statement := fun _ _ _ ho hv hres => (Holds.write ho hv hres).fsck

end CoCo.Props
