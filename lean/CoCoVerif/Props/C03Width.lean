/-
Props/C03Width.lean — C03, the width invariant of PC-relative operands: a `label,PCR` / `label±k,PCR` operand
that the size loop settled on the 8-bit form (`pcrHint = 2`) stores a displacement that fits the 8-bit field.

A PCR operand is recognised by `pkg.choices ≠ []` (not `needsRes`, which the label offset of a pointer register,
`LDA TABLE,X`, has too).  The hypothesis `pcrHint = 2` says "the statement carries the 8-bit post byte"
(`C03_pcr_postbyte`).  Two families: `*_in_range` / `*_field` hold of every accepted program, the distance being the
signed 16-bit one (`sdist16`), in range because `fix_addresses` checks it; `*_width` assume no ORG between statement and
target (`hno`) and give the distance in ℤ without wrap, in range because the size loop bounded it.  No accepted program has
an ORG in between (an ORG after the first label or byte is rejected, `orgOK`); `C03_no_org_between_pcr`
(Props/C03Full.lean) derives `hno` for a plain label.
`number − label,PCR` always takes the 16-bit form (`C03_pcr_minus_label_16bit`), so the `c − label` cases of `Dist8` /
`Target8` never occur under `exprForces = false`; `C03_pcr_expr_field` (either width) is what covers `c − label`.
The witnesses at the end are those of the fixes 0293787, 95bb240, 1477b47, ec1693d, 4696547 of /repo.
-/
import CoCoVerif.Lemmas.PcrWidthPost
import CoCoVerif.Props.C03

namespace CoCo.Props
open CoCo CoCo.Asm

/-- soundness of `determine_pcr_relative_sizes` (the same holds from every intermediate state of the loop:
`pcrLoop_winv`) -/
theorem C03_size_sound {ss1 ss2 fin : List Stmt} {fuel : Nat} (ht : translateAll ss1 = some ss2)
    (h : pcrLoop fuel ss2 = .ok fin) :
    PW (fun s f => s.pkg.size ≤ f.pkg.size ∧ f.pkg.size ≤ s.pkg.maxSize ∧ (s.fixedSize = true → f = s)) ss2 fin :=
  (pcrLoop_width ht h).1

theorem C03_translate_sizes {ss1 ss2 : List Stmt} (ht : translateAll ss1 = some ss2) {j : Nat} {s : Stmt}
    (hs : ss2[j]? = some s) :
    s.pkg.size ≤ s.pkg.maxSize ∧ (s.pkg.choices ≠ [] → s.pkg.maxSize = s.pkg.size + 2) := by
  obtain ⟨s1, _, p, htr, rfl⟩ := (translateAll_pw ht).get' hs
  have hw := (translateOperand_w htr).1
  exact ⟨hw.le, fun hc => (hw.und hc).1⟩

/-- the 8-bit form is produced by `determine` under its distance test only: `force_pcr_16_bit` settles on 16 bits -/
theorem C03_force_is_16 {ss r : List Stmt} (h : forceFirst ss = some r) :
    r = ss ∨ ∃ i s s', ss[i]? = some s ∧ s.fixedSize = false ∧ r = ss.set i s' ∧ s'.pcrHint = 4 := by
  rcases forceFirst_step h with h1 | ⟨i, s, s', _, _, h1, h2, _, h4, h5⟩
  · exact .inl h1.2
  · obtain ⟨_, _, _, _, rfl⟩ := settle_inv h4
    exact .inr ⟨i, s, _, h1, h2, h5, rfl⟩

/-- width of the 8-bit PCR form, under the premise that no ORG lies between statement and target: the distance `d`, taken
in ℤ, lies in −128..127 and is what the field stores.  Stated on the statement list `ss4` that enters `fix_addresses` (the
offset as the size loop saw it is `s4.pkg.additional`; `a.stmts` holds the stored field there) -/
theorem C03_pcr8_width {fs : Files} {lines : List Str} {a : Assembly} (h : assemble fs lines = .ok a) :
    ∃ ss4 : List Stmt, PW SameButAdditional ss4 a.stmts ∧
      ∀ (i : Nat) (s4 s : Stmt), ss4[i]? = some s4 → a.stmts[i]? = some s →
        s.pkg.choices ≠ [] → s.pcrHint = 2 →
        ∃ b, relIndex s4.pkg.additional = some b ∧ exprForces s4.pkg.additional = false ∧
          ∀ t, a.stmts[b]? = some t →
            (∀ j u, min b i < j → j ≤ max b i → a.stmts[j]? = some u → u.row.mnemonic ≠ "ORG") →
            ∃ x y v, ∃ d : Int, addrNat s = some x ∧ addrNat t = some y ∧ -128 ≤ d ∧ d ≤ 127 ∧
              numericOfInt d (some 2) .none = .ok v ∧ fitWidth (withAdditional s v) = .ok s ∧
              s.pkg.additional = .numeric (d % 256).toNat (some 2) .extended false ∧
              Dist8 s4.pkg.additional x y s.pkg.size d := by
  obtain ⟨st⟩ := assemble_stages h
  refine ⟨st.ss4, fixAllL_pw st.hfix, ?_⟩
  intro i s4 s hs4 hs hc hh
  obtain ⟨s3, pre⟩ := st.pcr_pre_at hs4 hs hc
  obtain ⟨hf, b, hb⟩ := st.pcr8_names hh pre
  refine ⟨b, hb, hf, fun t ht hno => ?_⟩
  obtain ⟨x, y, target, v, d, hx, hy, _, _, hlo, hhi, hnum, hfit, hadd, hd⟩ := st.pcr8_at hs hh pre hb ht
  exact ⟨x, y, v, d, hx, hy, hlo, hhi, hnum, hfit, hadd, hd hno⟩

/-- the second clause of `C03_Statement` -/
theorem C03_pcr_label {fs : Files} {lines : List Str} {a : Assembly} (h : assemble fs lines = .ok a)
    {i b : Nat} {m : Mode} {s t : Stmt} (hs : a.stmts[i]? = some s) (hc : s.pkg.choices ≠ [])
    (hl : s.operand.left = .val (.address b m)) (ht : a.stmts[b]? = some t) :
    PcrField s t := by
  obtain ⟨st, s3, s4, pre, hw⟩ := pcr_open h hs hc hl
  obtain ⟨target, htgt, x, v, hx, hnum, hfit, hrange⟩ := st.pcr_field hs pre
  have hy := fixRel_target_plain hw.same.2 hw.same.1 htgt
  rw [st.addrIntOf4 ht] at hy
  exact ⟨x, target, v, hx, hy, hnum, hfit, hrange⟩

theorem C03_pcr_clause {fs : Files} {lines : List Str} {a : Assembly} (h : assemble fs lines = .ok a) :
    ∀ (i b : Nat) (m : Mode) (s t : Stmt), a.stmts[i]? = some s → s.pkg.choices ≠ [] →
      s.operand.left = .val (.address b m) → a.stmts[b]? = some t → PcrField s t :=
  fun _ _ _ _ _ hs hc hl ht => C03_pcr_label h hs hc hl ht

theorem C03_pcr_label_in_range {fs : Files} {lines : List Str} {a : Assembly} (h : assemble fs lines = .ok a)
    {i b : Nat} {m : Mode} {s t : Stmt} (hs : a.stmts[i]? = some s) (hc : s.pkg.choices ≠ [])
    (hh : s.pcrHint = 2) (hl : s.operand.left = .val (.address b m)) (ht : a.stmts[b]? = some t) :
    ∃ x y v, addrNat s = some x ∧ addrNat t = some y ∧
      -128 ≤ sdist16 ((y : Int) - x - s.pkg.size) ∧ sdist16 ((y : Int) - x - s.pkg.size) ≤ 127 ∧
      numericOfInt (sdist16 ((y : Int) - x - s.pkg.size)) (some 2) .none = .ok v ∧
      fitWidth (withAdditional s v) = .ok s ∧
      s.pkg.additional = .numeric (sdist16 ((y : Int) - x - s.pkg.size) % 256).toNat (some 2) .extended false := by
  obtain ⟨st, s3, s4, pre, hw⟩ := pcr_open h hs hc hl
  obtain ⟨x, y, target, v, _, hx, hy, htg, rfl, hlo, hhi, hnum, hfit, hadd, _⟩ := st.pcr8_at hs hh pre hw.same.1 ht
  obtain rfl : target = y := (addl_cases htg).1 hw.same.2
  exact ⟨x, target, v, hx, hy, hlo, hhi, hnum, hfit, hadd⟩

theorem C03_pcr_label_width {fs : Files} {lines : List Str} {a : Assembly} (h : assemble fs lines = .ok a)
    {i b : Nat} {m : Mode} {s t : Stmt} (hs : a.stmts[i]? = some s) (hc : s.pkg.choices ≠ [])
    (hh : s.pcrHint = 2) (hl : s.operand.left = .val (.address b m)) (ht : a.stmts[b]? = some t)
    (hno : ∀ j u, min b i < j → j ≤ max b i → a.stmts[j]? = some u → u.row.mnemonic ≠ "ORG") :
    ∃ x y v, addrNat s = some x ∧ addrNat t = some y ∧
      -128 ≤ (y : Int) - x - s.pkg.size ∧ (y : Int) - x - s.pkg.size ≤ 127 ∧
      numericOfInt ((y : Int) - x - s.pkg.size) (some 2) .none = .ok v ∧ fitWidth (withAdditional s v) = .ok s ∧
      s.pkg.additional = .numeric (((y : Int) - x - s.pkg.size) % 256).toNat (some 2) .extended false := by
  obtain ⟨st, s3, s4, pre, hw⟩ := pcr_open h hs hc hl
  obtain ⟨x, y, target, v, d, hx, hy, _, _, hlo, hhi, hnum, hfit, hadd, hd⟩ := st.pcr8_at hs hh pre hw.same.1 ht
  obtain rfl : d = _ := (addl_cases (hd hno)).1 hw.same.2
  exact ⟨x, y, v, hx, hy, hlo, hhi, hnum, hfit, hadd⟩

/-- `l`, `r` are the two sides of the resolved expression, one of them the label of statement `b` (`relIndex`); the other
side is a number with signed value `c = signedK k nk` (a constant written or defined with a minus sign counts negatively;
the `+` case holds for a negative `c` too, `C03_pcr_plus_negative_fixed`).  The third case, `c − label`, never occurs on the
8-bit form (`C03_pcr_minus_label_16bit`). -/
theorem C03_pcr_expr_width {fs : Files} {lines : List Str} {a : Assembly} (h : assemble fs lines = .ok a)
    {i b : Nat} {l r : Value} {op : Char} {m : Mode} {s t : Stmt} (hs : a.stmts[i]? = some s)
    (hc : s.pkg.choices ≠ []) (hh : s.pcrHint = 2)
    (hl : s.operand.left = .val (.expr l r op m true))
    (hb : (if l.isAddress then l.int? else r.int?) = some b) (ht : a.stmts[b]? = some t)
    (hno : ∀ j u, min b i < j → j ≤ max b i → a.stmts[j]? = some u → u.row.mnemonic ≠ "ORG") :
    ∃ x y k hk mk nk v, ∃ d : Int, addrNat s = some x ∧ addrNat t = some y ∧
      (if l.isAddress then r else l) = .numeric k hk mk nk ∧
      ((op = '+' ∧ d = (y : Int) + signedK k nk - x - s.pkg.size) ∨
       (op = '-' ∧ l.isAddress = true ∧ d = (y : Int) - signedK k nk - x - s.pkg.size) ∨
       (op = '-' ∧ l.isAddress = false ∧ d = sdist16 (signedK k nk - (y : Int) - x - s.pkg.size))) ∧
      -128 ≤ d ∧ d ≤ 127 ∧ numericOfInt d (some 2) .none = .ok v ∧ fitWidth (withAdditional s v) = .ok s ∧
      s.pkg.additional = .numeric (d % 256).toNat (some 2) .extended false := by
  obtain ⟨st, s3, s4, pre, hadd4⟩ := pcr_open h hs hc hl
  obtain ⟨x, y, target, v, d, hx, hy, _, _, hlo, hhi, hnum, hfit, hadd, hd⟩ :=
    st.pcr8_at hs hh pre (hadd4.same.1.trans hb) ht
  obtain ⟨k, hk, mk, nk, hoth, hcase⟩ := (addl_cases (hd hno)).2 l r op m hadd4
  exact ⟨x, y, k, hk, mk, nk, v, d, hx, hy, hoth, hcase, hlo, hhi, hnum, hfit, hadd⟩

theorem C03_pcr_expr_in_range {fs : Files} {lines : List Str} {a : Assembly} (h : assemble fs lines = .ok a)
    {i b : Nat} {l r : Value} {op : Char} {m : Mode} {s t : Stmt} (hs : a.stmts[i]? = some s)
    (hc : s.pkg.choices ≠ []) (hh : s.pcrHint = 2)
    (hl : s.operand.left = .val (.expr l r op m true))
    (hb : (if l.isAddress then l.int? else r.int?) = some b) (ht : a.stmts[b]? = some t) :
    ∃ x y k hk mk nk target v, addrNat s = some x ∧ addrNat t = some y ∧
      (if l.isAddress then r else l) = .numeric k hk mk nk ∧
      ((op = '+' ∧ (target : Int) = ((y : Int) + signedK k nk) % 65536) ∨
       (op = '-' ∧ l.isAddress = true ∧ (target : Int) = ((y : Int) - signedK k nk) % 65536) ∨
       (op = '-' ∧ l.isAddress = false ∧ (target : Int) = (signedK k nk - (y : Int)) % 65536)) ∧
      -128 ≤ sdist16 ((target : Int) - x - s.pkg.size) ∧ sdist16 ((target : Int) - x - s.pkg.size) ≤ 127 ∧
      numericOfInt (sdist16 ((target : Int) - x - s.pkg.size)) (some 2) .none = .ok v ∧
      fitWidth (withAdditional s v) = .ok s ∧
      s.pkg.additional = .numeric (sdist16 ((target : Int) - x - s.pkg.size) % 256).toNat (some 2) .extended false := by
  obtain ⟨st, s3, s4, pre, hadd4⟩ := pcr_open h hs hc hl
  obtain ⟨x, y, target, v, _, hx, hy, htg, rfl, hlo, hhi, hnum, hfit, hadd, _⟩ :=
    st.pcr8_at hs hh pre (hadd4.same.1.trans hb) ht
  obtain ⟨k, hk, mk, nk, hoth, hcase⟩ := (addl_cases htg).2 l r op m hadd4
  exact ⟨x, y, k, hk, mk, nk, target, v, hx, hy, hoth, hcase, hlo, hhi, hnum, hfit, hadd⟩

/-- the PCR clause for every operand shape and both widths -/
theorem C03_pcr_field_target {fs : Files} {lines : List Str} {a : Assembly} (h : assemble fs lines = .ok a) :
    ∃ ss4 : List Stmt, PW SameButAdditional ss4 a.stmts ∧
      ∀ (i : Nat) (s4 s : Stmt), ss4[i]? = some s4 → a.stmts[i]? = some s → s.pkg.choices ≠ [] →
        ∃ target, fixRel ss4 s4 = .ok target ∧ PcrFieldAt s target ∧
          (exprForces s4.pkg.additional = false →
            ∃ b t y, relIndex s4.pkg.additional = some b ∧ a.stmts[b]? = some t ∧ addrNat t = some y ∧
              Target8 s4.pkg.additional y target) := by
  obtain ⟨st⟩ := assemble_stages h
  refine ⟨st.ss4, fixAllL_pw st.hfix, ?_⟩
  intro i s4 s hs4 hs hc
  obtain ⟨s3, pre⟩ := st.pcr_pre_at hs4 hs hc
  obtain ⟨target, htgt, hfield⟩ := st.pcr_field hs pre
  exact ⟨target, htgt, hfield, fun hf => pre.target htgt hf⟩

/-- `label ± c,PCR` and `c − label,PCR`, both widths, in source terms -/
theorem C03_pcr_expr_field {fs : Files} {lines : List Str} {a : Assembly} (h : assemble fs lines = .ok a)
    {i b k : Nat} {l r : Value} {op : Char} {m mk : Mode} {hk : Option Nat} {nk : Bool} {s t : Stmt}
    (hs : a.stmts[i]? = some s) (hc : s.pkg.choices ≠ [])
    (hl : s.operand.left = .val (.expr l r op m true)) (hop : op = '+' ∨ op = '-')
    (hoth : (if l.isAddress then r else l) = .numeric k hk mk nk)
    (hb : (if l.isAddress then l.int? else r.int?) = some b) (ht : a.stmts[b]? = some t) :
    ∃ y target, addrNat t = some y ∧ PcrFieldAt s target ∧
      ((op = '+' ∧ (target : Int) = ((y : Int) + signedK k nk) % 65536) ∨
       (op = '-' ∧ l.isAddress = true ∧ (target : Int) = ((y : Int) - signedK k nk) % 65536) ∨
       (op = '-' ∧ l.isAddress = false ∧ (target : Int) = (signedK k nk - (y : Int)) % 65536)) := by
  obtain ⟨st, s3, s4, pre, hadd4⟩ := pcr_open h hs hc hl
  -- `number - label` is forced to the 16-bit form (`exprForces = true`), so the target is taken from
  -- `fixRel_target_expr_pm`, which needs the shape of the expression only
  obtain ⟨target, htgt, hfield⟩ := st.pcr_field hs pre
  obtain ⟨b', y, hb', hy', hcase⟩ := fixRel_target_expr_pm pre.idx hadd4 (pre.lr _ _ _ _ hadd4) hop hoth htgt
  rw [hadd4] at hb'
  obtain rfl : b = b' := Option.some.inj (hb.symm.trans hb')
  rw [st.addrIntOf4 ht] at hy'
  exact ⟨y, target, hy', hfield, hcase⟩

/-- `number − label,PCR` always takes the 16-bit form (`exprForces`, third disjunct: the operand denotes
`c − address`, nowhere near the label, so the size loop does not estimate it) -/
theorem C03_pcr_minus_label_16bit {fs : Files} {lines : List Str} {a : Assembly} (h : assemble fs lines = .ok a)
    {i : Nat} {l r : Value} {m : Mode} {s : Stmt} (hs : a.stmts[i]? = some s) (hc : s.pkg.choices ≠ [])
    (hl : s.operand.left = .val (.expr l r '-' m true)) (hr : r.isAddress = true) : s.pcrHint = 4 := by
  obtain ⟨st⟩ := assemble_stages h
  obtain ⟨s0, o, p, sz, mx, pb, hint, ad, vf, vw, v, c, rfl⟩ := st.compiled hs
  rcases c.pcr_width hc with ⟨_, _, hf, _⟩ | ⟨h4, _⟩
  · have hadd : p.additional = .expr l r '-' m true :=
      (translateOperand_w c.htr).2 ((translateOperand_w c.htr).1.und hc).2.2.1 _ hl
    rw [hadd] at hf
    have := exprForces_false_minus hf
    rw [hr] at this
    cases this
  · exact h4

/-- C03, second sentence: "a displacement is never emitted in a field too narrow for it" -/
theorem C03_pcr8_in_range {fs : Files} {lines : List Str} {a : Assembly} (h : assemble fs lines = .ok a) :
    ∃ ss4 : List Stmt, PW SameButAdditional ss4 a.stmts ∧
      ∀ (i : Nat) (s4 s : Stmt), ss4[i]? = some s4 → a.stmts[i]? = some s →
        s.pkg.choices ≠ [] → s.pcrHint = 2 →
        ∃ b t x y target v, relIndex s4.pkg.additional = some b ∧ exprForces s4.pkg.additional = false ∧
          a.stmts[b]? = some t ∧ addrNat s = some x ∧ addrNat t = some y ∧ Target8 s4.pkg.additional y target ∧
          -128 ≤ sdist16 ((target : Int) - x - s.pkg.size) ∧ sdist16 ((target : Int) - x - s.pkg.size) ≤ 127 ∧
          numericOfInt (sdist16 ((target : Int) - x - s.pkg.size)) (some 2) .none = .ok v ∧
          fitWidth (withAdditional s v) = .ok s ∧
          s.pkg.additional =
            .numeric (sdist16 ((target : Int) - x - s.pkg.size) % 256).toNat (some 2) .extended false := by
  obtain ⟨st⟩ := assemble_stages h
  refine ⟨st.ss4, fixAllL_pw st.hfix, ?_⟩
  intro i s4 s hs4 hs hc hh
  obtain ⟨s3, pre⟩ := st.pcr_pre_at hs4 hs hc
  have hf := (st.pcr8_names hh pre).1
  obtain ⟨target, x, v, htgt, hx, hlo, hhi, hnum, hfit, hadd⟩ := st.pcr8_any hs hh pre
  rw [pcrDist_eq] at hlo hhi hnum hadd
  obtain ⟨b, t, y, hb, ht, hy, htg⟩ := pre.target htgt hf
  exact ⟨b, t, x, y, target, v, hb, hf, ht, hx, hy, htg, hlo, hhi, hnum, hfit, hadd⟩

/-- the width hint is the emitted post byte: `1xx01100` "8-bit offset from PC", `1xx01101` "16-bit offset from PC" -/
theorem C03_pcr_postbyte {fs : Files} {lines : List Str} {a : Assembly} (h : assemble fs lines = .ok a)
    {i : Nat} {s : Stmt} (hs : a.stmts[i]? = some s) (hc : s.pkg.choices ≠ []) :
    ∃ pb, s.pkg.postByte.int? = some pb ∧
      ((s.pcrHint = 2 ∧ pb % 16 = 12) ∨ (s.pcrHint = 4 ∧ pb % 16 = 13)) := by
  obtain ⟨st⟩ := assemble_stages h
  exact st.pcr_postbyte hs hc

theorem C03_pcr_postbyte8 {fs : Files} {lines : List Str} {a : Assembly} (h : assemble fs lines = .ok a)
    {i pb : Nat} {s : Stmt} (hs : a.stmts[i]? = some s) (hc : s.pkg.choices ≠ [])
    (hpb : s.pkg.postByte.int? = some pb) (h8 : pb % 16 = 12) : s.pcrHint = 2 := by
  obtain ⟨pb', h1, h2⟩ := C03_pcr_postbyte h hs hc
  rw [hpb] at h1
  cases h1
  rcases h2 with ⟨h2, _⟩ | ⟨_, h2⟩
  · exact h2
  · omega

/-- `C03_pcr8_in_range` with the hypothesis on the EMITTED post byte (low nibble `$C`) instead of the width hint -/
theorem C03_pcr8_in_range_postbyte {fs : Files} {lines : List Str} {a : Assembly} (h : assemble fs lines = .ok a) :
    ∃ ss4 : List Stmt, PW SameButAdditional ss4 a.stmts ∧
      ∀ (i pb : Nat) (s4 s : Stmt), ss4[i]? = some s4 → a.stmts[i]? = some s →
        s.pkg.choices ≠ [] → s.pkg.postByte.int? = some pb → pb % 16 = 12 →
        ∃ b t x y target v, relIndex s4.pkg.additional = some b ∧ exprForces s4.pkg.additional = false ∧
          a.stmts[b]? = some t ∧ addrNat s = some x ∧ addrNat t = some y ∧ Target8 s4.pkg.additional y target ∧
          -128 ≤ sdist16 ((target : Int) - x - s.pkg.size) ∧ sdist16 ((target : Int) - x - s.pkg.size) ≤ 127 ∧
          numericOfInt (sdist16 ((target : Int) - x - s.pkg.size)) (some 2) .none = .ok v ∧
          fitWidth (withAdditional s v) = .ok s ∧
          s.pkg.additional =
            .numeric (sdist16 ((target : Int) - x - s.pkg.size) % 256).toNat (some 2) .extended false := by
  obtain ⟨ss4, hpw, hall⟩ := C03_pcr8_in_range h
  exact ⟨ss4, hpw, fun i pb s4 s hs4 hs hc hpb h8 => hall i s4 s hs4 hs hc (C03_pcr_postbyte8 h hs hc hpb h8)⟩

/-- the emitted byte: the last byte of an 8-bit PCR statement is `d mod 256`, `d` as in `C03_pcr8_in_range` -/
theorem C03_pcr8_byte {s : Stmt} {bs : Bytes} {d : Int} (hb : stmtBytes s = some bs)
    (ha : s.pkg.additional = .numeric (d % 256).toNat (some 2) .extended false) :
    ∃ pre, bs = pre ++ [(d % 256).toNat] := by
  have hlt : (d % 256).toNat < 256 := by omega
  exact stmtBytes_suffix hb (by rw [ha]; exact emit8 _ hlt)

/-- `C03_size_sound`, `C03_pcr_label`, `C03_pcr8_width`, `C03_pcr8_in_range` in one statement -/
theorem C03_width_partial :
    (∀ (ss1 ss2 fin : List Stmt) (fuel : Nat), translateAll ss1 = some ss2 → pcrLoop fuel ss2 = .ok fin →
      PW (fun s f => s.pkg.size ≤ f.pkg.size ∧ f.pkg.size ≤ s.pkg.maxSize ∧ (s.fixedSize = true → f = s)) ss2 fin) ∧
    (∀ (fs : Files) (lines : List Str) (a : Assembly), assemble fs lines = .ok a →
      ∀ (i b : Nat) (m : Mode) (s t : Stmt), a.stmts[i]? = some s → s.pkg.choices ≠ [] →
        s.operand.left = .val (.address b m) → a.stmts[b]? = some t →
        PcrField s t) ∧
    (∀ (fs : Files) (lines : List Str) (a : Assembly), assemble fs lines = .ok a →
      ∃ ss4 : List Stmt, PW SameButAdditional ss4 a.stmts ∧
        ∀ (i : Nat) (s4 s : Stmt), ss4[i]? = some s4 → a.stmts[i]? = some s →
          s.pkg.choices ≠ [] → s.pcrHint = 2 →
          ∃ b, relIndex s4.pkg.additional = some b ∧ exprForces s4.pkg.additional = false ∧
            ∀ t, a.stmts[b]? = some t →
              (∀ j u, min b i < j → j ≤ max b i → a.stmts[j]? = some u → u.row.mnemonic ≠ "ORG") →
              ∃ x y v, ∃ d : Int, addrNat s = some x ∧ addrNat t = some y ∧ -128 ≤ d ∧ d ≤ 127 ∧
                numericOfInt d (some 2) .none = .ok v ∧ fitWidth (withAdditional s v) = .ok s ∧
                s.pkg.additional = .numeric (d % 256).toNat (some 2) .extended false ∧
                Dist8 s4.pkg.additional x y s.pkg.size d) ∧
    (∀ (fs : Files) (lines : List Str) (a : Assembly), assemble fs lines = .ok a →
      ∃ ss4 : List Stmt, PW SameButAdditional ss4 a.stmts ∧
        ∀ (i : Nat) (s4 s : Stmt), ss4[i]? = some s4 → a.stmts[i]? = some s →
          s.pkg.choices ≠ [] → s.pcrHint = 2 →
          ∃ b t x y target v, relIndex s4.pkg.additional = some b ∧ exprForces s4.pkg.additional = false ∧
            a.stmts[b]? = some t ∧ addrNat s = some x ∧ addrNat t = some y ∧ Target8 s4.pkg.additional y target ∧
            -128 ≤ sdist16 ((target : Int) - x - s.pkg.size) ∧ sdist16 ((target : Int) - x - s.pkg.size) ≤ 127 ∧
            numericOfInt (sdist16 ((target : Int) - x - s.pkg.size)) (some 2) .none = .ok v ∧
            fitWidth (withAdditional s v) = .ok s ∧
            s.pkg.additional =
              .numeric (sdist16 ((target : Int) - x - s.pkg.size) % 256).toNat (some 2) .extended false) :=
  ⟨fun _ _ _ _ ht h => C03_size_sound ht h,
   fun _ _ _ h _ _ _ _ _ hs hc hl ht => C03_pcr_label h hs hc hl ht,
   fun _ _ _ h => C03_pcr8_width h,
   fun _ _ _ h => C03_pcr8_in_range h⟩

/-- statement `i` is a PCR statement (post byte choices) with the given width hint, size, address and emitted bytes -/
private def pcrIs (a : Assembly) (i hint size addr : Nat) (bytes : Bytes) : Bool :=
  match a.stmts[i]? with
  | some s => !s.pkg.choices.isEmpty && s.pcrHint == hint && s.pkg.size == size && addrNat s == some addr &&
      stmtBytes s == some bytes
  | none => false

private theorem pcrIs_spec {a : Assembly} {i hint size addr : Nat} {bytes : Bytes}
    (h : pcrIs a i hint size addr bytes = true) :
    ∃ s, a.stmts[i]? = some s ∧ s.pkg.choices ≠ [] ∧ s.pcrHint = hint ∧ s.pkg.size = size ∧
      addrNat s = some addr ∧ stmtBytes s = some bytes := by
  unfold pcrIs at h
  split at h
  · rename_i s hs
    simp only [Bool.and_eq_true, beq_iff_eq, Bool.not_eq_true', List.isEmpty_eq_false_iff] at h
    obtain ⟨⟨⟨⟨h1, h2⟩, h3⟩, h4⟩, h5⟩ := h
    exact ⟨s, hs, h1, h2, h3, h4, h5⟩
  · cases h

/-- the bound −128 is attained: `LEAX T,PCR` 125 bytes after `T` takes the 8-bit form with displacement `$80` -/
def C03_tightWitness : List Str := ["T RMB 125\n", " LEAX T,PCR\n"].map String.toList

theorem C03_width_tight :
    ∃ a s, assemble [] C03_tightWitness = .ok a ∧ a.stmts[1]? = some s ∧ s.pkg.choices ≠ [] ∧ s.pcrHint = 2 ∧
      s.pkg.size = 3 ∧ addrNat s = some 125 ∧ stmtBytes s = some [0x30, 0x8C, 0x80] := by
  obtain ⟨a, ha, hc⟩ := checkProgramF_sound (lines := C03_tightWitness)
    (check := fun a => pcrIs a 1 2 3 125 [0x30, 0x8C, 0x80]) (by decide +kernel) []
  obtain ⟨s, h1, h2, h3, h4, h5, h6⟩ := pcrIs_spec hc
  exact ⟨a, s, ha, h1, h2, h3, h4, h5, h6⟩

/-- one byte further the 16-bit form is taken -/
def C03_tightWitness16 : List Str := ["T RMB 126\n", " LEAX T,PCR\n"].map String.toList

theorem C03_width_tight16 :
    ∃ a s, assemble [] C03_tightWitness16 = .ok a ∧ a.stmts[1]? = some s ∧ s.pkg.choices ≠ [] ∧ s.pcrHint = 4 ∧
      s.pkg.size = 4 ∧ addrNat s = some 126 ∧ stmtBytes s = some [0x30, 0x8D, 0xFF, 0x7E] := by
  obtain ⟨a, ha, hc⟩ := checkProgramF_sound (lines := C03_tightWitness16)
    (check := fun a => pcrIs a 1 4 4 126 [0x30, 0x8D, 0xFF, 0x7E]) (by decide +kernel) []
  obtain ⟨s, h1, h2, h3, h4, h5, h6⟩ := pcrIs_spec hc
  exact ⟨a, s, ha, h1, h2, h3, h4, h5, h6⟩

/-- forward reference, `label + k`, `label − k`, and a reference below address zero (`L-100` at address 0:
displacement −103, byte `$99`): the hypotheses of the width theorems are satisfiable -/
def C03_widthExample : List Str :=
  ["L LEAX L-100,PCR\n", " LEAX T,PCR\n", " RMB 100\n", "T NOP\n", " LEAX T+20,PCR\n", " LEAX T-20,PCR\n"].map
    String.toList

theorem C03_width_example :
    ∃ a, assemble [] C03_widthExample = .ok a ∧
      pcrIs a 0 2 3 0 [0x30, 0x8C, 0x99] = true ∧ pcrIs a 1 2 3 3 [0x30, 0x8C, 0x64] = true ∧
      pcrIs a 4 2 3 107 [0x30, 0x8C, 0x10] = true ∧ pcrIs a 5 2 3 110 [0x30, 0x8C, 0xE5] = true ∧
      a.stmts.all (fun u => u.row.mnemonic != "ORG") = true := by
  obtain ⟨a, ha, hc⟩ := checkProgramF_sound (lines := C03_widthExample)
    (check := fun a => pcrIs a 0 2 3 0 [0x30, 0x8C, 0x99] && pcrIs a 1 2 3 3 [0x30, 0x8C, 0x64] &&
      pcrIs a 4 2 3 107 [0x30, 0x8C, 0x10] && pcrIs a 5 2 3 110 [0x30, 0x8C, 0xE5] &&
      a.stmts.all (fun u => u.row.mnemonic != "ORG")) (by decide +kernel) []
  simp only [Bool.and_eq_true] at hc
  obtain ⟨⟨⟨⟨h1, h2⟩, h3⟩, h4⟩, h5⟩ := hc
  exact ⟨a, ha, h1, h2, h3, h4, h5⟩

/-- regression witnesses: ` RMB 125 / L LDY L-125,PCR` (own label, distance −129; the 8-bit form would be
`10 AE 8C FF`) and ` RMB 200 / M NOP / L LEAX L+M,PCR` (label + label, distance 197; `30 8C C5`) take the 16-bit form;
`L LEAX L-100,PCR` at address 0 is in `C03_width_example` -/
def C03_regressionA : List Str := [" RMB 125\n", "L LDY L-125,PCR\n"].map String.toList
def C03_regressionB : List Str := [" RMB 200\n", "M NOP\n", "L LEAX L+M,PCR\n"].map String.toList

theorem C03_width_regressions :
    (∃ a, assemble [] C03_regressionA = .ok a ∧ pcrIs a 1 4 5 125 [0x10, 0xAE, 0x8D, 0xFF, 0x7E] = true) ∧
    (∃ a, assemble [] C03_regressionB = .ok a ∧ pcrIs a 2 4 4 201 [0x30, 0x8D, 0x00, 0xC4] = true) :=
  evaluated (by decide +kernel)

/-! ### an ORG between statement and target (the 8-bit form is range-checked against ADDRESSES) -/

/-- the size loop measures distances in sizes; an ORG between statement and target moves the target.
(The first witness: the target is 4093 bytes away.) -/
def C03_pcrOrgWitness : List Str := ["S LEAX T,PCR\n", " ORG $1000\n", "T NOP\n"].map String.toList

/-- the second witness: with the ORG at `$CB` the target is 200 bytes away; 200 fits one byte as an UNSIGNED number,
so `fit_operand_width` alone lets it pass, and the CPU would read the byte `$C8` as −56 -/
def C03_pcrOrgWitness200 : List Str := ["S LEAX T,PCR\n", " ORG $CB\n", "T NOP\n"].map String.toList

/-- regression witnesses: both are diagnostics ("out of range of the 8-bit offset"), whatever the host files are (the
8-bit form with the bytes `$FF` resp. `$C8` would violate `PcrField`) -/
theorem C03_pcr_org_counterexample_fixed (fs : Files) :
    assemble fs C03_pcrOrgWitness = .diag ∧ assemble fs C03_pcrOrgWitness200 = .diag :=
  evaluated (by decide +kernel)

/-- an ORG between the statement and an in-range target (`T` at `$10`, displacement `$10 − 0 − 3 = $0D`) -/
def C03_pcrOrgExample : List Str := ["S LEAX T,PCR\n", " ORG $10\n", "T NOP\n"].map String.toList

/-- an ORG after the first label / the first byte of the program is rejected (`orgOK`, fix f9c374f: "ORG must come
before the first label and the first byte"); no accepted program has an ORG between a PCR statement and its target (the
statement emits bytes, the target carries a label) -/
theorem C03_pcr_org_example_fixed (fs : Files) : assemble fs C03_pcrOrgExample = .diag :=
  diagProgramF_sound (by decide +kernel) fs

/-! ### `label + N,PCR` with a negative `N` below `−address(label)` -/

/-- `N EQU -5 / L LEAX L+N,PCR` at address 0.  (Taking the `.int`, the MAGNITUDE, of `calculate_address_offset`'s result
`0 + (−5)` would make the target 5 and the byte `$02`.) -/
def C03_plusNegativeWitness : List Str := ["N EQU -5\n", "L LEAX L+N,PCR\n", " LEAX L-5,PCR\n"].map String.toList

/-- `calculate_address_offset` reduces a result below zero modulo 65536 for every operator, so `L+N` with `N = −5` at
address 0 aims at `−5 mod 65536 = $FFFB` and the byte `$F8` (`−5 − 0 − 3`) reaches `L−5`, exactly as `L-5,PCR` does
(`$F5` at address 3); /repo emits the same bytes.  The general statement: `C03_pcr_expr_in_range`,
`C03_pcr_expr_field` (target `≡ address + c (mod 65536)`, whatever the sign of `c`). -/
theorem C03_pcr_plus_negative_fixed :
    ∃ a, assemble [] C03_plusNegativeWitness = .ok a ∧
      pcrIs a 1 2 3 0 [0x30, 0x8C, 0xF8] = true ∧ pcrIs a 2 2 3 3 [0x30, 0x8C, 0xF5] = true :=
  evaluated (by decide +kernel)

/-- the 16-bit offset field of `s` holds the address `target`: `fix_addresses` computes `NumericValue(target,
size_hint=4)`, `fit_operand_width` accepts it, and the final field is `target` at four hex digits -/
def AbsFieldAt (s : Stmt) (target : Nat) : Prop :=
  target ≤ 65535 ∧
  (∃ v, numericOfInt (target : Int) (some 4) .none = .ok v ∧ fitWidth (withAdditional s v) = .ok s) ∧
  s.pkg.additional = .numeric target (some 4) .extended false

private theorem abs_field {fs : Files} {lines : List Str} {a : Assembly} {st : Stages fs lines a} {i : Nat}
    {s s4 : Stmt} (hs : a.stmts[i]? = some s) (hn : s.pkg.needsRes = true) (hc : s.pkg.choices = [])
    (h4 : st.ss4[i]? = some s4) : ∃ target, fixRel st.ss4 s4 = .ok target ∧ AbsFieldAt s target := by
  obtain ⟨s0, o, p, sz, mx, pb, hint, ad, vf, vw, v, c, rfl⟩ := st.compiled hs
  obtain rfl : s4 = _ := Option.some.inj (h4.symm.trans c.h4)
  obtain ⟨target, q1, hle, q2, q3, rfl⟩ := c.abs hn hc
  exact ⟨target, q1, hle, ⟨vf, q2, q3⟩, rfl⟩

/-- a label (expression) as constant offset of a pointer register (`LDA TABLE,X`, `LDB TBL+1,Y`, `LDD [TBL,U]`:
`needsRes` WITHOUT post byte choices).  Not PC-relative: no distance is taken. -/
theorem C03_label_offset_target {fs : Files} {lines : List Str} {a : Assembly} (h : assemble fs lines = .ok a) :
    ∃ ss4 : List Stmt, PW SameButAdditional ss4 a.stmts ∧
      ∀ (i : Nat) (s4 s : Stmt), ss4[i]? = some s4 → a.stmts[i]? = some s →
        s.pkg.needsRes = true → s.pkg.choices = [] →
        ∃ target, fixRel ss4 s4 = .ok target ∧ AbsFieldAt s target ∧
          (exprForces s4.pkg.additional = false →
            ∃ b t y, relIndex s4.pkg.additional = some b ∧ a.stmts[b]? = some t ∧ addrNat t = some y ∧
              Target8 s4.pkg.additional y target) := by
  obtain ⟨st⟩ := assemble_stages h
  refine ⟨st.ss4, fixAllL_pw st.hfix, ?_⟩
  intro i s4 s hs4 hs hn hc
  obtain ⟨s4', pre⟩ := st.abs_pre hs hn hc
  obtain rfl : s4' = s4 := Option.some.inj (pre.h4.symm.trans hs4)
  obtain ⟨target, htgt, hfield⟩ := abs_field hs hn hc hs4
  exact ⟨target, htgt, hfield, fun hf => st.fixRel_target8 pre.idx pre.lr htgt hf⟩

/-- plain label: `LDA T,X` carries the address of `T` in its 16-bit offset field, and the last two bytes emitted are
that address, high byte first -/
theorem C03_label_offset {fs : Files} {lines : List Str} {a : Assembly} (h : assemble fs lines = .ok a)
    {i b : Nat} {m : Mode} {s t : Stmt} (hs : a.stmts[i]? = some s) (hn : s.pkg.needsRes = true)
    (hc : s.pkg.choices = []) (hl : s.operand.left = .val (.address b m)) (ht : a.stmts[b]? = some t) :
    ∃ y, addrNat t = some y ∧ AbsFieldAt s y ∧
      ∀ bs, stmtBytes s = some bs → ∃ pre, bs = pre ++ [y / 256, y % 256] := by
  obtain ⟨st⟩ := assemble_stages h
  obtain ⟨s4, pre⟩ := st.abs_pre hs hn hc
  obtain ⟨target, htgt, hfield⟩ := abs_field hs hn hc pre.h4
  have hop : s.operand = s4.operand := by obtain ⟨w, hw⟩ := pre.rel4; rw [hw]
  have hw : AddlOf (.address b m) s4.pkg.additional := pre.left pre.needs _ (by rw [← hop]; exact hl)
  have hy := fixRel_target_plain hw.same.2 hw.same.1 htgt
  rw [st.addrIntOf4 ht] at hy
  refine ⟨target, hy, hfield, fun bs hbs => ?_⟩
  exact stmtBytes_suffix hbs (by rw [hfield.2.2]; exact emit16 target (by have := hfield.1; omega))

/-- the class of a `needsRes` statement can be read off the emitted post byte: low nibble `9` (16-bit constant offset
from the register) for a label offset — no post byte choices, the size loop never touched it —, `$C` / `$D` for a PCR
operand (`C03_pcr_postbyte`) -/
theorem C03_label_offset_postbyte {fs : Files} {lines : List Str} {a : Assembly} (h : assemble fs lines = .ok a)
    {i : Nat} {s : Stmt} (hs : a.stmts[i]? = some s) (hn : s.pkg.needsRes = true) (hc : s.pkg.choices = []) :
    ∃ pb, s.pkg.postByte.int? = some pb ∧ pb % 16 = 9 := by
  obtain ⟨st⟩ := assemble_stages h
  exact st.abs_postbyte hs hn hc

/-- all operand shapes in one program (`ORG $20`, `N EQU -40`): `L+N,PCR` with a negative `N` (`$D5`: aims at
`$FFF8 = L − 40`), `5-L,PCR` (aims at `$FFE5 = 5 − L`, on the 16-bit form, `FF BE`), `N+L,PCR` (the label on the right of `+`: same
target as `L+N`), on the 8-bit form; and the label offsets `L+N,X` (field `FFF8`), `L,Y` (field `0020`), `[L-1,U]` (field
`001F`): `needsRes` without choices, four bytes. -/
def C03_b3Witness : List Str :=
  [" ORG $20\n", "N EQU -40\n", "L LEAX L+N,PCR\n", " LEAX 5-L,PCR\n", " LDA L+N,X\n", " LDB L,Y\n", " LEAX N+L,PCR\n",
   " LDD [L-1,U]\n"].map String.toList

private def absIs (a : Assembly) (i size addr : Nat) (bytes : Bytes) : Bool :=
  match a.stmts[i]? with
  | some s => s.pkg.needsRes && s.pkg.choices.isEmpty && s.pkg.size == size && addrNat s == some addr &&
      stmtBytes s == some bytes
  | none => false

/-- `number − label,PCR` takes the 16-bit form, `30 8D FF BE` (`$FFE5 − $27`; fix 4696547) -/
theorem C03_b3_example_fixed :
    ∃ a, assemble [] C03_b3Witness = .ok a ∧
      pcrIs a 2 2 3 0x20 [0x30, 0x8C, 0xD5] = true ∧ pcrIs a 3 4 4 0x23 [0x30, 0x8D, 0xFF, 0xBE] = true ∧
      absIs a 4 4 0x27 [0xA6, 0x89, 0xFF, 0xF8] = true ∧ absIs a 5 4 0x2B [0xE6, 0xA9, 0x00, 0x20] = true ∧
      pcrIs a 6 2 3 0x2F [0x30, 0x8C, 0xC6] = true ∧ absIs a 7 4 0x32 [0xEC, 0xD9, 0x00, 0x1F] = true := by
  obtain ⟨a, ha, hc⟩ := checkProgramF_sound (lines := C03_b3Witness)
    (check := fun a => pcrIs a 2 2 3 0x20 [0x30, 0x8C, 0xD5] && pcrIs a 3 4 4 0x23 [0x30, 0x8D, 0xFF, 0xBE] &&
      absIs a 4 4 0x27 [0xA6, 0x89, 0xFF, 0xF8] && absIs a 5 4 0x2B [0xE6, 0xA9, 0x00, 0x20] &&
      pcrIs a 6 2 3 0x2F [0x30, 0x8C, 0xC6] && absIs a 7 4 0x32 [0xEC, 0xD9, 0x00, 0x1F]) (by decide +kernel) []
  simp only [Bool.and_eq_true] at hc
  obtain ⟨⟨⟨⟨⟨h1, h2⟩, h3⟩, h4⟩, h5⟩, h6⟩ := hc
  exact ⟨a, ha, h1, h2, h3, h4, h5, h6⟩

/-! ### `number − label,PCR` is not sized as if it were `label ± number` -/

/-- `A LEAX 5-A,PCR` at `$1000`: the operand denotes `5 − $1000 ≡ $F005`, `$E001` bytes from the end of the statement,
which the 16-bit PCR form encodes.  (Estimating the distance as that of `A ± 5`, `exprExtra = 5`, the size loop would
settle on the 8-bit form and the range check of `fix_addresses` would reject the program; fix 4696547.)  `exprForces`
has the disjunct `op == '-' && r.isAddress`, so `number − label` takes the 16-bit form at once
(`C03_pcr_minus_label_16bit`) and the program is accepted, `30 8D E0 01`; so are `$2000-A` and `2*A`. -/
theorem C03_pcr_reversed_minus_finding_fixed :
    (∃ a, assemble [] ([" ORG $1000\n", "A LEAX 5-A,PCR\n"].map String.toList) = .ok a ∧
      pcrIs a 1 4 4 0x1000 [0x30, 0x8D, 0xE0, 0x01] = true) ∧
    (∃ a, assemble [] ([" ORG $1000\n", "A LEAX $2000-A,PCR\n"].map String.toList) = .ok a ∧
      pcrIs a 1 4 4 0x1000 [0x30, 0x8D, 0xFF, 0xFC] = true) ∧
    (∃ a, assemble [] ([" ORG $1000\n", "A LEAX 2*A,PCR\n"].map String.toList) = .ok a ∧
      pcrIs a 1 4 4 0x1000 [0x30, 0x8D, 0x0F, 0xFC] = true) :=
  evaluated (by decide +kernel)

/-- `C03_pcr_field_target`, `C03_label_offset_target` in one statement -/
theorem C03_width_partial_b3 :
    (∀ (fs : Files) (lines : List Str) (a : Assembly), assemble fs lines = .ok a →
      ∃ ss4 : List Stmt, PW SameButAdditional ss4 a.stmts ∧
        ∀ (i : Nat) (s4 s : Stmt), ss4[i]? = some s4 → a.stmts[i]? = some s → s.pkg.choices ≠ [] →
          ∃ target, fixRel ss4 s4 = .ok target ∧ PcrFieldAt s target ∧
            (exprForces s4.pkg.additional = false →
              ∃ b t y, relIndex s4.pkg.additional = some b ∧ a.stmts[b]? = some t ∧ addrNat t = some y ∧
                Target8 s4.pkg.additional y target)) ∧
    (∀ (fs : Files) (lines : List Str) (a : Assembly), assemble fs lines = .ok a →
      ∃ ss4 : List Stmt, PW SameButAdditional ss4 a.stmts ∧
        ∀ (i : Nat) (s4 s : Stmt), ss4[i]? = some s4 → a.stmts[i]? = some s →
          s.pkg.needsRes = true → s.pkg.choices = [] →
          ∃ target, fixRel ss4 s4 = .ok target ∧ AbsFieldAt s target ∧
            (exprForces s4.pkg.additional = false →
              ∃ b t y, relIndex s4.pkg.additional = some b ∧ a.stmts[b]? = some t ∧ addrNat t = some y ∧
                Target8 s4.pkg.additional y target)) :=
  ⟨fun _ _ _ h => C03_pcr_field_target h, fun _ _ _ h => C03_label_offset_target h⟩

end CoCo.Props
