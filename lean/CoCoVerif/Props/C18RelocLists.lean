/-
C18-R1 (relocation): LABEL elements of FCB / FDB lists (jump tables).  The `reloc_finish*` / `C18_R1_code*` theorems ask for
`ListsConst`: no list element resolves to a label.  A jump table `FDB L1,L2` legitimately changes when the program moves:
every label element moves by `D`, `label ± N` by `D` modulo `$10000`, `label - label` not at all.  `fs`, `fs'` are the
statements `fixAll` gives for the program and for the program moved by `D`, related by `FinalRelAny D`; the list pass runs
against them, and its results are related by `FinalRelL`: a list statement of the moved program holds `movedList`, the digits
of the original program with every label (and `label ± N`) `+ D`.  The whole-program forms with `ListsCovered` in place of
`ListsConst`: Props/C18RelocListsProg.lean.
-/
import CoCoVerif.Lemmas.RelocListProg
import CoCoVerif.Props.C18RelocText

namespace CoCo.Props
open CoCo CoCo.Asm

section
variable {D : Nat} {fs fs' : List Stmt}

theorem FinalRelAny.addrShiftAny (h : PW (FinalRelAny D) fs fs') : PW (AddrShiftAny D) fs fs' :=
  h.mono (fun _ _ r => r.2)

theorem C18_R1_list_label (h : PW (FinalRelAny D) fs fs') {t : SymTab} {x : Str} {v : Value} {j : Nat} {m : Mode}
    {gA : Str} (hv : create 4 x false false true = .ok v) (hr : v.resolve t = .ok (.address j m))
    (hA : evalElem fs t 4 x = .ok gA) :
    ∃ a, addrIntOf fs j = some a ∧ addrIntOf fs' j = some (a + D) ∧ a + D < 65536 ∧ gA = fmtHex 4 a ∧
      evalElem fs' t 4 x = .ok (fmtHex 4 (a + D)) :=
  evalElem_reloc_label_word (FinalRelAny.addrShiftAny h) hv hr hA

/-- a label element of an FCB list: accepted in the moved program while `a + D` has two digits -/
theorem C18_R1_list_label_byte (h : PW (FinalRelAny D) fs fs') {t : SymTab} {x : Str} {v : Value} {j : Nat} {m : Mode}
    {gA : Str} (hv : create 4 x false false true = .ok v) (hr : v.resolve t = .ok (.address j m))
    (hA : evalElem fs t 2 x = .ok gA) :
    ∃ a, addrIntOf fs j = some a ∧ addrIntOf fs' j = some (a + D) ∧ gA = fmtHex 2 a ∧
      (a + D < 256 → evalElem fs' t 2 x = .ok (fmtHex 2 (a + D))) ∧
      (256 ≤ a + D → evalElem fs' t 2 x = .diag) :=
  evalElem_reloc_label_byte (FinalRelAny.addrShiftAny h) hv hr hA

theorem C18_R1_list_modExpr (h : PW (FinalRelAny D) fs fs') {t : SymTab} {x : Str} {v r : Value} {gA : Str}
    (hv : create 4 x false false true = .ok v) (hr : v.resolve t = .ok r) (hc : ModExpr D fs r)
    (hA : evalElem fs t 4 x = .ok gA) :
    ∃ z, z < 65536 ∧ addrOffset fs r = .ok (.numeric z (some 4) .extended false) ∧ gA = fmtHex 4 z ∧
      evalElem fs' t 4 x = .ok (fmtHex 4 ((z + D) % 65536)) := by
  obtain ⟨z, hz, e1, e2, e3⟩ :=
    evalElem_reloc_modExpr ((FinalRelAny.addrShiftAny h).mono (fun _ _ => AddrShiftAny.toI)) (.inr rfl) hv hr hc hA
  refine ⟨z, hz, e1, e2, ?_⟩
  rw [e3, if_pos (by have : (16 : Nat) ^ 4 = 65536 := by decide
                     omega)]

theorem C18_R1_list_diffExpr (h : PW (FinalRelAny D) fs fs') {t : SymTab} (w : Nat) {x : Str} {v r : Value}
    (hv : create 4 x false false true = .ok v) (hr : v.resolve t = .ok r) (hc : DiffExpr r) :
    evalElem fs' t w x = evalElem fs t w x :=
  evalElem_reloc_diffExpr ((FinalRelAny.addrShiftAny h).mono (fun _ _ => AddrShiftAny.toI)) w hv hr hc

theorem C18_R1_list_elems (h : PW (FinalRelAny D) fs fs') {t : SymTab} (xs hs gsA : List Str)
    (hc : ∀ x ∈ xs, pendingAt 4 x = true → ElemCovered D fs t x)
    (hA : evalElems fs t 4 xs hs = .ok gsA) :
    evalElems fs' t 4 xs hs = .ok (movedDigits D fs t 4 xs gsA) :=
  evalElems_reloc (FinalRelAny.addrShiftAny h) (.inr rfl) xs hs gsA hc (fun x _ _ => elemFits_word D fs t x) hA

/-- the digits of an FCB list: as `C18_R1_list_elems`, provided the moved values have two digits -/
theorem C18_R1_list_elems_byte (h : PW (FinalRelAny D) fs fs') {t : SymTab} (xs hs gsA : List Str)
    (hc : ∀ x ∈ xs, pendingAt 2 x = true → ElemCovered D fs t x)
    (hfit : ∀ x ∈ xs, pendingAt 2 x = true → ElemFits D fs t 2 x)
    (hA : evalElems fs t 2 xs hs = .ok gsA) :
    evalElems fs' t 2 xs hs = .ok (movedDigits D fs t 2 xs gsA) :=
  evalElems_reloc (FinalRelAny.addrShiftAny h) (.inl rfl) xs hs gsA hc hfit hA

end

section
variable {D : Nat}

/-- after `fixAllL`, list elements that move allowed: the addresses are numbers `D` apart inside the 64K space; a statement
that is no list is equal up to the address and the operand field, which is the same or moved in one of the three ways
(`AddlRel`, as in `FinalRelAny`); a list statement is equal up to the address and the field, which is `movedList D fs t y` -/
def FinalRelL (D : Nat) (fs : List Stmt) (t : SymTab) (y y' : Stmt) : Prop :=
  ((y.pkg.additional.isList = false ∧ AddlRel D y y') ∨
   (y.pkg.additional.isList = true ∧
     y' = ({ y with pkg := { y.pkg with additional := movedList D fs t y } } : Stmt).setAddress y'.pkg.address)) ∧
  AddrShiftAny D y y'

theorem FinalRelL.nonlist {fs : List Stmt} {t : SymTab} {y y' : Stmt} (h : FinalRelL D fs t y y')
    (hl : y.pkg.additional.isList = false) : FinalRelAny D y y' := by
  obtain ⟨h1 | h1, h2⟩ := h
  · exact ⟨h1.2, h2⟩
  · rw [hl] at h1; cases h1.1

theorem FinalRelL.list {fs : List Stmt} {t : SymTab} {y y' : Stmt} (h : FinalRelL D fs t y y')
    (hl : y.pkg.additional.isList = true) :
    y' = ({ y with pkg := { y.pkg with additional := movedList D fs t y } } : Stmt).setAddress y'.pkg.address ∧
      y'.pkg.additional = movedList D fs t y := by
  obtain ⟨h1 | h1, h2⟩ := h
  · rw [hl] at h1; cases h1.1
  · refine ⟨h1.2, ?_⟩
    generalize y'.pkg.address = a at h1
    rw [h1.2]
    rfl

theorem FinalRelAny.toL {fs : List Stmt} {t : SymTab} {y y' : Stmt} (h : FinalRelAny D y y')
    (hl : y.pkg.additional.isList = false) : FinalRelL D fs t y y' := ⟨.inl ⟨hl, h.1⟩, h.2⟩

theorem FinalRelL.row_operand {fs : List Stmt} {t : SymTab} {y y' : Stmt} (h : FinalRelL D fs t y y') :
    y'.row = y.row ∧ y'.operand = y.operand := by
  obtain ⟨h1, _⟩ := h
  rcases h1 with ⟨_, h1⟩ | ⟨_, h1⟩
  · rcases h1 with h1 | h1 | h1 | h1 <;> rw [h1] <;> exact ⟨rfl, rfl⟩
  · rw [h1]; exact ⟨rfl, rfl⟩

theorem FinalRelL.sameAddr {fs gs : List Stmt} (hs : PW SameAddr fs gs) {t : SymTab} {y y' : Stmt}
    (h : FinalRelL D fs t y y') : FinalRelL D gs t y y' := by
  unfold FinalRelL at h ⊢
  rw [movedList_sameAddr hs]
  exact h

theorem ListStep.finalRelL {fs fs' : List Stmt} {t : SymTab} {y y' : Stmt}
    (h : ListStep (FinalRelAny D) D fs fs' t y y') : FinalRelL D fs t y y' := by
  obtain ⟨x, x', hx, _, hA, _, e⟩ := h
  cases hl : x.pkg.additional.isList with
  | false =>
    obtain ⟨b1, b2⟩ := Value.isList_false hl
    rw [evalList1_keep t fs b1 b2] at hA
    cases hA
    rw [hl] at e
    simp only [Bool.false_eq_true, if_false] at e
    subst e
    exact hx.toL hl
  | true =>
    rw [hl] at e
    simp only [if_true] at e
    obtain ⟨v, hv⟩ := evalList1_same hA
    have h3 : ({ x' with pkg := { x'.pkg with additional := movedList D fs t y } } : Stmt)
        = ({ y with pkg := { y.pkg with additional := movedList D fs t y } } : Stmt).setAddress x'.pkg.address := by
      rw [hv]
      exact AddlRel.set hx.toAddl _
    have ha : y'.pkg.address = x'.pkg.address := by rw [e]
    have hsz : y'.pkg.size = x'.pkg.size := by rw [e]
    refine ⟨.inr ⟨evalList1_isList hA hl, ?_⟩, ?_⟩
    · rw [ha, ← h3]
      exact e
    · obtain ⟨s1, s2⟩ := hx.2
      have hya : y.pkg.address = x.pkg.address := by rw [hv]
      have hys : y.pkg.size = x.pkg.size := by rw [hv]
      exact ⟨by rw [hsz, hys]; exact s1, by rw [ha, hya]; exact s2⟩

/-- a list statement `y` of the original program and the statement `y'` of the moved program: the bytes of `y'` are op code,
post byte (those of `y`) and the bytes of the field `movedList D fs t y` -/
theorem finalRelL_bytes {fs : List Stmt} {t : SymTab} {y y' : Stmt} (h : FinalRelL D fs t y y')
    (hl : y.pkg.additional.isList = true) :
    stmtBytes y' = (do
      let a ← emitValue y.pkg.opCode
      let b ← emitValue y.pkg.postByte
      let c ← emitValue (movedList D fs t y)
      pure (a ++ b ++ c)) := by
  rw [(h.list hl).1, stmtBytes_setAddress]
  rfl

/-- a list statement whose words in the original program are `ns`: the bytes of the statement in the
original program are op code, post byte and the big-endian bytes of `ns`; in the moved program those of `movedWords` — the
words of the original program with every label element (and `label ± N`) `+ D` -/
theorem finalRelL_words {fs : List Stmt} {t : SymTab} {y y' : Stmt} (h : FinalRelL D fs t y y')
    {ns : List Nat} (hns : ∀ n ∈ ns, n < 65536) (hy : y.pkg.additional = .multiWord (ns.map wordHex)) :
    stmtBytes y = (do
      let a ← emitValue y.pkg.opCode
      let b ← emitValue y.pkg.postByte
      pure (a ++ b ++ wordBytes ns)) ∧
    stmtBytes y' = (do
      let a ← emitValue y.pkg.opCode
      let b ← emitValue y.pkg.postByte
      pure (a ++ b ++ wordBytes (movedWords D fs t (listElems y.operand.text) ns))) := by
  have hl : y.pkg.additional.isList = true := by rw [hy]; rfl
  constructor
  · unfold stmtBytes
    rw [hy, emitValue_multiWord ns hns]
    cases emitValue y.pkg.opCode <;> cases emitValue y.pkg.postByte <;> rfl
  · rw [finalRelL_bytes h hl]
    have : movedList D fs t y = .multiWord (movedDigits D fs t 4 (listElems y.operand.text) (ns.map wordHex)) := by
      unfold movedList
      rw [hy]
    rw [this, emitValue_movedWords D fs t _ ns hns]
    cases emitValue y.pkg.opCode <;> cases emitValue y.pkg.postByte <;> rfl

variable {fs fs' : List Stmt}

/-- one statement through the list pass, original and moved program (`x`, `x'`: the statement after `fixAll` in the two
programs; `y`: what the list pass makes of `x`): in the moved program the pass succeeds, and its result is related to `y`
by `FinalRelL` -/
theorem list_stmt_rel (h : PW (FinalRelAny D) fs fs') (t : SymTab) {x x' y : Stmt} (hx : FinalRelAny D x x')
    (hc : ListsCovered D fs t x) (hA : evalList1 t fs x = .ok y) :
    ∃ y', evalList1 t fs' x' = .ok y' ∧ FinalRelL D fs t y y' :=
  let ⟨y', e, s⟩ := evalList1_step FinalRelAny.listStable (FinalRelAny.addrShiftAny h) t hx hc hA
  ⟨y', e, ListStep.finalRelL s⟩

/-- one list statement: in the moved program the list pass succeeds, the field holds the digits `movedList` says, everything
else but the address is as in `y`, and the bytes are op code, post byte and the bytes of that field -/
theorem reloc_list_stmt (h : PW (FinalRelAny D) fs fs') (t : SymTab) {x x' y : Stmt} (hx : FinalRelAny D x x')
    (hl : x.pkg.additional.isList = true) (hc : ListsCovered D fs t x) (hA : evalList1 t fs x = .ok y) :
    ∃ y', evalList1 t fs' x' = .ok y' ∧ y'.pkg.additional = movedList D fs t y ∧
      y' = ({ y with pkg := { y.pkg with additional := movedList D fs t y } } : Stmt).setAddress y'.pkg.address ∧
      stmtBytes y' = (do
        let a ← emitValue y.pkg.opCode
        let b ← emitValue y.pkg.postByte
        let c ← emitValue (movedList D fs t y)
        pure (a ++ b ++ c)) := by
  obtain ⟨y', e, r⟩ := list_stmt_rel h t hx hc hA
  have hyl := evalList1_isList hA hl
  exact ⟨y', e, (r.list hyl).2, (r.list hyl).1, finalRelL_bytes r hyl⟩

/-- a list statement whose words in the original program are `ns`: the bytes of the statement in the
moved program are op code, post byte and the big-endian bytes of `movedWords` — the words of the original program with
every label element (and `label ± N`) `+ D` -/
theorem reloc_list_stmt_words (h : PW (FinalRelAny D) fs fs') (t : SymTab) {x x' y : Stmt} (hx : FinalRelAny D x x')
    (hl : x.pkg.additional.isList = true) (hc : ListsCovered D fs t x) (hA : evalList1 t fs x = .ok y)
    {ns : List Nat} (hns : ∀ n ∈ ns, n < 65536) (hy : y.pkg.additional = .multiWord (ns.map wordHex)) :
    ∃ y', evalList1 t fs' x' = .ok y' ∧
      stmtBytes y = (do
        let a ← emitValue y.pkg.opCode
        let b ← emitValue y.pkg.postByte
        pure (a ++ b ++ wordBytes ns)) ∧
      stmtBytes y' = (do
        let a ← emitValue y.pkg.opCode
        let b ← emitValue y.pkg.postByte
        pure (a ++ b ++ wordBytes (movedWords D fs t (listElems y.operand.text) ns))) := by
  obtain ⟨y', e, r⟩ := list_stmt_rel h t hx hc hA
  exact ⟨y', e, finalRelL_words r hns hy⟩

end

/-- the elements of the jump table `T FDB A,T,K` of `tblA` / `tblB` -/
def tblElems : List Str := listElems "A,T,K".toList

/-- evaluated on `tblA` (origin `$1000`) and `tblB` (origin `$1100`): the statements `fixAll` gives are `$100` apart
(`addrShiftAnyB`), every element of the jump table is a label or a constant (`elemCoveredB`), the list pass of `tblA` gives
the digits `1000 1001 0005`, and `movedDigits` makes `1100 1101 0005` of them -/
def tblTieB : Bool :=
  match stage4F tblA, stage4F tblB, stageTF tblA with
  | some a, some b, some T =>
    (match fixAll a 0 a, fixAll b 0 b with
     | .ok fa, .ok fb =>
       pwB (addrShiftAnyB 0x100) fa fb && tblElems.all (elemCoveredB T) &&
       (match evalElems fa T 4 tblElems [[], [], []] with
        | .ok g => g == ["1000", "1001", "0005"].map String.toList &&
                   movedDigits 0x100 fa T 4 tblElems g == ["1100", "1101", "0005"].map String.toList
        | _ => false)
     | _, _ => false)
  | _, _, _ => false

theorem tblTieB_ok : tblTieB = true := by decide +kernel

/-- the witness `reloc_list_label_witness` as an instance of the general theorem `evalElems_reloc`: the digits of the jump
table `T FDB A,T,K` in `tblB` (`1100 1101 0005`) follow from those in `tblA` (`1000 1001 0005`) -/
theorem tbl_list_tie :
    ∃ a b T fa fb, stage4 tblA = some a ∧ stage4 tblB = some b ∧ stageT tblA = some T ∧
      fixAll a 0 a = .ok fa ∧ fixAll b 0 b = .ok fb ∧
      evalElems fa T 4 tblElems [[], [], []] = .ok (["1000", "1001", "0005"].map String.toList) ∧
      evalElems fb T 4 tblElems [[], [], []] = .ok (["1100", "1101", "0005"].map String.toList) := by
  have h := tblTieB_ok
  unfold tblTieB at h
  split at h
  · rename_i a b T ha hb hT
    split at h
    · rename_i fa fb hfa hfb
      split at h
      · rename_i g hg
        simp only [Bool.and_eq_true, beq_iff_eq] at h
        obtain ⟨⟨h1, h2⟩, h3, h4⟩ := h
        have hpw : PW (AddrShiftAny 0x100) fa fb := pwB_sound (fun _ _ => addrShiftAnyB_sound) fa fb h1
        have hB := evalElems_reloc hpw (.inr rfl) tblElems [[], [], []] g
          (fun x hx _ => elemCoveredB_sound (List.all_eq_true.mp h2 x hx)) (fun x _ _ => elemFits_word 0x100 fa T x) hg
        rw [h4] at hB
        exact ⟨a, b, T, fa, fb, (stage4_fast _).trans ha, (stage4_fast _).trans hb, (stageT_fast _).trans hT, hfa, hfb,
          h3 ▸ hg, hB⟩
      · simp at h
    · cases h
  · cases h

#print axioms CoCo.Asm.evalElem_reloc_label
#print axioms CoCo.Asm.evalElem_reloc_modExpr
#print axioms CoCo.Asm.evalElem_reloc_diffExpr
#print axioms CoCo.Asm.evalElem_reloc
#print axioms CoCo.Asm.evalElems_reloc
#print axioms CoCo.Asm.evalList1_reloc
#print axioms CoCo.Asm.emitValue_movedWords
#print axioms C18_R1_list_label
#print axioms C18_R1_list_label_byte
#print axioms C18_R1_list_modExpr
#print axioms C18_R1_list_diffExpr
#print axioms C18_R1_list_elems
#print axioms C18_R1_list_elems_byte
#print axioms reloc_list_stmt
#print axioms reloc_list_stmt_words
#print axioms tbl_list_tie

end CoCo.Props
