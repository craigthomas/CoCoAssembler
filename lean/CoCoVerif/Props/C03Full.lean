/-
Props/C03Full.lean — C03 at full strength.  The hypothesis "no ORG between the statement and its target", which
`C03_branch` and the width theorems of Props/C03Width.lean carry, is derived here for every accepted program: the
statement itself emits bytes, its target carries an address label (`Stages.relative_target`,
`Stages.left_target`), and after either no ORG is accepted (`Stages.no_org_between`, fix f9c374f).  The branch clause is
`C03_branch_full` (Props/C03.lean); the PCR clause is proved in Props/C03Width.lean (`C03_pcr_label`: its range is the range
check of `fix_addresses`, not the width invariant of the size loop) and is a hypothesis here (`C03_full_of_pcr`); the
closed theorem `C03_full` is in Props/C02C03Final.lean.
-/
import CoCoVerif.Props.C03

namespace CoCo.Props
open CoCo CoCo.Asm

/-- statements `i` and `b` of an accepted program, `i` emitting bytes and `b` carrying an address label: no ORG among
the statements of index `min b i < j ≤ max b i` -/
theorem no_org_between {fs : Files} {lines : List Str} {a : Assembly} (h : assemble fs lines = .ok a)
    {i b : Nat} {s t : Stmt} (hs : a.stmts[i]? = some s) (ht : a.stmts[b]? = some t) (hsz : 0 < s.pkg.size)
    (hl : t.label.isEmpty = false) (hpd : t.row.isPseudoDefine = false) :
    ∀ j u, min b i < j → j ≤ max b i → a.stmts[j]? = some u → u.row.mnemonic ≠ "ORG" := by
  obtain ⟨st⟩ := assemble_stages h
  exact st.no_org_between hs ht (Stmt.lays_iff.2 (.inl hsz)) (Stmt.lays_iff.2 (.inr ⟨hl, hpd⟩))

/-- **no ORG between a branch and its target** (in the form of the hypothesis `hno` of `C03_branch`) -/
theorem C03_no_org_between_branch {fs : Files} {lines : List Str} {a : Assembly} (h : assemble fs lines = .ok a)
    {i b : Nat} {m : Mode} {s : Stmt} (hs : a.stmts[i]? = some s) (hk : s.operand.kind = .relative)
    (hv : s.operand.value = .address b m) :
    ∀ j u, min b i < j → j ≤ max b i → a.stmts[j]? = some u → u.row.mnemonic ≠ "ORG" := by
  obtain ⟨st⟩ := assemble_stages h
  obtain ⟨t, ht, hl, hpd⟩ := st.relative_target hs hk hv
  exact no_org_between h hs ht (st.relative_size_pos hs hk) hl hpd

/-- **no ORG between a `label,PCR` statement and the statement its offset names** (in the form of the hypothesis `hno` of
`C03_pcr_label_width` / `C03_pcr8_width` of `Props/C03Width.lean`) -/
theorem C03_no_org_between_pcr {fs : Files} {lines : List Str} {a : Assembly} (h : assemble fs lines = .ok a)
    {i b : Nat} {m : Mode} {s : Stmt} (hs : a.stmts[i]? = some s) (hc : s.pkg.choices ≠ [])
    (hl : s.operand.left = .val (.address b m)) :
    ∀ j u, min b i < j → j ≤ max b i → a.stmts[j]? = some u → u.row.mnemonic ≠ "ORG" := by
  obtain ⟨st⟩ := assemble_stages h
  obtain ⟨t, ht, hlab, hpd⟩ := st.left_target hs hl
  exact no_org_between h hs ht (st.choices_size_pos hs hc) hlab hpd

theorem C03_branch_target_exists {fs : Files} {lines : List Str} {a : Assembly} (h : assemble fs lines = .ok a)
    {i b : Nat} {m : Mode} {s : Stmt} (hs : a.stmts[i]? = some s) (hk : s.operand.kind = .relative)
    (hv : s.operand.value = .address b m) :
    ∃ t, a.stmts[b]? = some t ∧ t.label.isEmpty = false ∧ t.row.isPseudoDefine = false := by
  obtain ⟨st⟩ := assemble_stages h
  exact st.relative_target hs hk hv

theorem C03_branch_clause {fs : Files} {lines : List Str} {a : Assembly} (h : assemble fs lines = .ok a) :
    ∀ (i b : Nat) (m : Mode) (s t : Stmt), a.stmts[i]? = some s → s.operand.kind = .relative →
      s.operand.value = .address b m → a.stmts[b]? = some t → BranchField s t :=
  fun _ _ _ _ _ hs hk hv ht => C03_branch_full h hs hk hv ht

/-- the PCR clause of `C03_Statement` under the hypothesis "no ORG between the statement and the statement its offset
names" (`Props/C03Width.lean`: `C03_pcr_label` proves `PcrField` without that hypothesis and without the width invariant
of the size loop; `C03_pcr_label_width` / `C03_pcr8_width`, which rest on the invariant, carry it) -/
def C03_PcrClauseNoOrg : Prop :=
  ∀ (fs : Files) (lines : List Str) (a : Assembly), assemble fs lines = .ok a →
    ∀ (i b : Nat) (m : Mode) (s t : Stmt), a.stmts[i]? = some s → s.pkg.choices ≠ [] →
      s.operand.left = .val (.address b m) → a.stmts[b]? = some t →
      (∀ j u, min b i < j → j ≤ max b i → a.stmts[j]? = some u → u.row.mnemonic ≠ "ORG") →
      PcrField s t

/-- **`C03_Statement` from the PCR clause**: the branch clause holds (`C03_branch_full`), and the hypothesis "no ORG
between" of the PCR clause holds in every accepted program (`C03_no_org_between_pcr`) -/
theorem C03_full_of_pcr (H : C03_PcrClauseNoOrg) : C03_Statement := by
  intro fs lines a h
  refine ⟨C03_branch_clause h, ?_⟩
  intro i b m s t hs hc hl ht
  exact H fs lines a h i b m s t hs hc hl ht (C03_no_org_between_pcr h hs hc hl)

/-- `PcrField` without its range clause: for every accepted program and every `label,PCR`
statement `s` whose offset is the plain label of statement `t`, the stored value is `NumericValue(pcrJump, size_hint =
pcrHint)` of the ADDRESSES, and `fit_operand_width` accepts it.  (From `C03_pcr`, with its side conditions taken as
hypotheses on the statement `s4` that enters `fix_addresses`.) -/
theorem C03_pcr_field_of_fixOne {fs : Files} {lines : List Str} {a : Assembly} (h : assemble fs lines = .ok a) :
    ∃ ss4 : List Stmt, PW SameButAdditional ss4 a.stmts ∧
      ∀ (i t : Nat) (s4 s : Stmt), ss4[i]? = some s4 → a.stmts[i]? = some s →
        s4.pkg.needsRes = true → s4.pkg.choices.isEmpty = false → (s4.operand.kind == .relative) = false →
        s4.operand.value.isAddrExpr = false → s4.operand.value.isAddress = false → s4.operand.value ≠ .pyNone →
        s4.pkg.additional.isAddrExpr = false → s4.pkg.additional.int? = some t →
        ∃ u x y v, a.stmts[t]? = some u ∧ addrNat s = some x ∧ addrNat u = some y ∧
          numericOfInt (pcrJump s y x) (some s.pcrHint) .none = .ok v ∧ fitWidth (withAdditional s v) = .ok s :=
  C03_pcr h

/-- `NAM / EQU / ORG $0E00 / code`: an ORG after statements that lay nothing, then a backward short branch, a forward short
branch, a long branch and a `label,PCR` operand: the hypotheses of `C03_branch_full` and `C03_no_org_between_pcr` hold, the
displacements are the ones the CPU needs -/
def C03_fullExample : List Str :=
  [" NAM DEMO\n", "TEN EQU 10\n", " ORG $0E00\n", "LOOP NOP\n", " BRA LOOP\n", " BNE DONE\n", " LBRA LOOP\n",
   " LEAX DONE,PCR\n", "DONE RTS\n"].map String.toList

private def fullCheck (a : Assembly) : Bool :=
  match a.stmts[2]?, a.stmts[4]?, a.stmts[5]?, a.stmts[6]?, a.stmts[7]?, a.stmts[8]? with
  | some o, some s1, some s2, some s3, some s4, some t =>
    o.row.mnemonic == "ORG" &&
    s1.operand.kind == .relative && s2.operand.kind == .relative && s3.operand.kind == .relative &&
    (match s1.operand.value, s2.operand.value, s3.operand.value with
     | .address 3 _, .address 8 _, .address 3 _ => true | _, _, _ => false) &&
    !s4.pkg.choices.isEmpty && (match s4.operand.left with | .val (.address 8 _) => true | _ => false) &&
    addrNat s1 == some 0x0E01 && addrNat t == some 0x0E0B &&
    stmtBytes s1 == some [0x20, 0xFD] && stmtBytes s2 == some [0x26, 0x06] &&
    stmtBytes s3 == some [0x16, 0xFF, 0xF8] && stmtBytes s4 == some [0x30, 0x8C, 0x00]
  | _, _, _, _, _, _ => false

example : ∃ a, assemble [] C03_fullExample = .ok a ∧ fullCheck a = true :=
  checkProgramF_sound (by decide +kernel) []

private def fullCheck2 (a : Assembly) : Bool :=
  match a.stmts[3]?, a.stmts[4]?, a.stmts[5]?, a.stmts[6]?, a.stmts[8]? with
  | some _, some s1, some s2, some s3, some _ =>
    s1.operand.kind == .relative && s2.operand.kind == .relative && s3.operand.kind == .relative &&
    (match s1.operand.value, s2.operand.value, s3.operand.value with
     | .address 3 _, .address 8 _, .address 3 _ => true | _, _, _ => false)
  | _, _, _, _, _ => false

/-- the same program, the theorems applied: the three branches satisfy `BranchField` although the program has an ORG -/
theorem C03_full_example :
    ∃ a s1 s2 s3 l t, assemble [] C03_fullExample = .ok a ∧ a.stmts[4]? = some s1 ∧ a.stmts[5]? = some s2 ∧
      a.stmts[6]? = some s3 ∧ a.stmts[3]? = some l ∧ a.stmts[8]? = some t ∧
      BranchField s1 l ∧ BranchField s2 t ∧ BranchField s3 l := by
  obtain ⟨a, ha, hc⟩ := checkProgramF_sound (lines := C03_fullExample) (check := fullCheck2) (by decide +kernel) []
  unfold fullCheck2 at hc
  split at hc
  · rename_i l s1 s2 s3 t hl h1 h2 h3 ht
    simp only [Bool.and_eq_true, beq_iff_eq] at hc
    obtain ⟨⟨⟨k1, k2⟩, k3⟩, hv⟩ := hc
    split at hv
    · rename_i m1 m2 m3 v1 v2 v3
      exact ⟨a, s1, s2, s3, l, t, ha, h1, h2, h3, hl, ht, C03_branch_full ha h1 k1 v1 hl,
        C03_branch_full ha h2 k2 v2 ht, C03_branch_full ha h3 k3 v3 hl⟩
    · cases hv
  · cases hc

#print axioms no_org_between
#print axioms C03_no_org_between_branch
#print axioms C03_no_org_between_pcr
#print axioms C03_branch_full
#print axioms C03_full_of_pcr
#print axioms C03_full_example

end CoCo.Props
