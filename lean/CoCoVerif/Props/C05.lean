/-
Props/C05.lean — data directives (FCB FDB RMB FCC) emit the bytes they denote, and the directives
without data (EQU ORG SETDP NAM END INCLUDE SET) emit nothing (T4).
Statements, main theorems, witnesses and non-vacuity examples; helpers are in Lemmas/EncodeData.lean (which builds on
Lemmas/FitWidth.lean, Lemmas/HexEmit.lean, Lemmas/SplitOn.lean).

Single FCB / FDB values are fitted to the directive's width by `fitWidth` after the address pass, negatives in two's
complement, misfits refused (fix fb747a5); list elements likewise; RMB and ORG insist on a non-negative number, and
FCB FDB RMB ORG evaluate symbols and expressions (fix 3dd5ba5).  With that the property holds at full strength on the
operand level: `C05_full`.  What remains outside is recorded by the `C05_finding_*` theorems (empty list elements, the
one-character FCC).  Symbols, expressions and labels INSIDE a list are evaluated (fix e6da74c): the last section
(`C05_list_elem_*`, `C05_list_positions`, `C05_program_list_*`).  An FCC string is taken from the line as it was
written (fix d74c37d): `C05_FCC_line_as_written`.
-/
import CoCoVerif.Lemmas.EncodeFccLine
import CoCoVerif.Lemmas.EncodeLists
import CoCoVerif.Lemmas.ParseEval
import CoCoVerif.Lemmas.ResolveGraph

namespace CoCo.Props
open CoCo CoCo.Asm
open CoCo.Gen (InstrRow)

/-- `r` is a package; every statement of row `row` that carries it passes `fitWidth` and then emits exactly
`bytes`; and its `size` field (what the address counter advances by) agrees with the number of bytes emitted -/
def Emits (row : InstrRow) (r : R Pkg) (bytes : Bytes) : Prop :=
  ∃ pkg, r = .ok pkg ∧
    (∀ s : Stmt, s.row = row → s.pkg = pkg → ∃ s', fitWidth s = .ok s' ∧ stmtBytes s' = some bytes) ∧
    bytes.length = pkg.size

/-- `PseudoOperand.translate()` of operand `o` under instruction `row`, then `fit_operand_width`, emits `bytes` -/
def PseudoEmits (o : Operand) (row : InstrRow) (bytes : Bytes) : Prop := Emits row (translatePseudo o row) bytes

/-- operand text `text` under `row` with symbol table `t`: parse (`Operand.create_from_str`), resolve symbols,
translate, fit, emit -/
def LineEmits (text : Str) (row : InstrRow) (bytes : Bytes) (t : SymTab := []) : Prop :=
  ∃ o o', createOperand text row = .ok o ∧ resolveOperand o row t = .ok o' ∧ o'.kind = .pseudo ∧
    Emits row (translateOperand o' row) bytes

/-- the statement is refused: the translation raises, or `fit_operand_width` does ("does not fit") -/
def Rejects (o : Operand) (row : InstrRow) : Prop :=
  (∃ e, translatePseudo o row = .error e) ∨
  (∃ pkg, translatePseudo o row = .ok pkg ∧ ∀ s : Stmt, s.row = row → s.pkg = pkg → fitWidth s = .diag)

/-- from the package level to the statements -/
theorem emits_of_fitPkg {row : InstrRow} {r : R Pkg} {pkg p' : Pkg} {bytes : Bytes} (hr : r = .ok pkg)
    (hf : fitPkg row pkg = .ok p') (hb : pkgBytes p' = some bytes) (hl : bytes.length = pkg.size) :
    Emits row r bytes :=
  ⟨pkg, hr, emitted_iff_fitPkg.mpr ⟨p', hf, hb⟩, hl⟩

theorem Emits.fitPkg {row : InstrRow} {r : R Pkg} {bytes : Bytes} (h : Emits row r bytes) :
    ∃ pkg p', r = .ok pkg ∧ fitPkg row pkg = .ok p' ∧ pkgBytes p' = some bytes ∧ bytes.length = pkg.size := by
  obtain ⟨pkg, hr, hs, hl⟩ := h
  obtain ⟨p', hf, hb⟩ := emitted_iff_fitPkg.mp hs
  exact ⟨pkg, p', hr, hf, hb, hl⟩

theorem Emits.unique {row : InstrRow} {r : R Pkg} {a b : Bytes} (ha : Emits row r a) (hb : Emits row r b) : a = b := by
  obtain ⟨p, p', rfl, hf, hba, _⟩ := ha.fitPkg
  obtain ⟨q, q', hq, hf', hbb, _⟩ := hb.fitPkg
  cases hq
  rw [hf] at hf'
  cases hf'
  rw [hba] at hbb
  exact Option.some.inj hbb

theorem Emits.not_error {row : InstrRow} {e : Exn} {a : Bytes} : ¬ Emits row (.error e : R Pkg) a := by
  rintro ⟨p, hp, _⟩; cases hp

theorem not_rejects_of_emits {o : Operand} {row : InstrRow} {bytes : Bytes} (h : PseudoEmits o row bytes) :
    ¬ Rejects o row := by
  obtain ⟨pkg, p', hr, hf, _, _⟩ := h.fitPkg
  rintro (⟨e, he⟩ | ⟨q, hq, hd⟩)
  · rw [he] at hr; cases hr
  · rw [hq] at hr
    cases hr
    rw [refused_iff_fitPkg.mp hd] at hf
    cases hf

theorem pkgBytes_additional {p : Pkg} (h1 : p.opCode = .none) (h2 : p.postByte = .none) :
    pkgBytes p = emitValue p.additional :=
  stmtBytes_additional { (default : Stmt) with pkg := p } h1 h2

/-- a package with only an `additional` part that `fitWidth` leaves alone (not a number, or a row it skips) -/
theorem emits_additional {row : InstrRow} {r : R Pkg} {a : Value} {n : Nat} {bytes : Bytes}
    (hr : r = .ok { additional := a, size := n, maxSize := n })
    (hf : fitPkg row { additional := a, size := n, maxSize := n } = .ok { additional := a, size := n, maxSize := n })
    (he : emitValue a = some bytes) (hl : bytes.length = n) : Emits row r bytes :=
  emits_of_fitPkg hr hf (by rw [pkgBytes_additional rfl rfl]; exact he) hl

theorem lineEmits_of {text : Str} {row : InstrRow} {o o' : Operand} {bytes : Bytes} {t : SymTab}
    (hc : createOperand text row = .ok o) (hres : resolveOperand o row t = .ok o') (hk : o'.kind = .pseudo)
    (he : PseudoEmits o' row bytes) : LineEmits text row bytes t := by
  refine ⟨o, o', hc, hres, hk, ?_⟩
  simp only [translateOperand, hk]
  exact he

/-- a pseudo operand whose value is neither a symbol nor an expression is left alone by `resolve_symbols` -/
theorem resolveOperand_pseudo_plain {o : Operand} (row : InstrRow) (t : SymTab) (hk : o.kind = .pseudo)
    (hv : o.value ≠ .pyNone) (hs : o.value.isSymbol = false) (he : o.value.isExpression = false) :
    resolveOperand o row t = .ok o :=
  Asm.resolveOperand_pseudo_plain row t hk hv hs he

def fcbRow : InstrRow := ⟨"FCB", none, 0, none, 0, none, 0, none, 0, none, 0, none, 0, true, false, false, false, false, false, false, false, false, false, false, true, false⟩
def fdbRow : InstrRow := ⟨"FDB", none, 0, none, 0, none, 0, none, 0, none, 0, none, 0, true, false, false, false, false, false, false, false, false, false, false, false, true⟩
def rmbRow : InstrRow := ⟨"RMB", none, 0, none, 0, none, 0, none, 0, none, 0, none, 0, true, false, false, false, false, false, false, false, false, false, false, false, false⟩
def fccRow : InstrRow := ⟨"FCC", none, 0, none, 0, none, 0, none, 0, none, 0, none, 0, true, false, true, false, false, false, false, false, false, false, false, false, false⟩
def equRow : InstrRow := ⟨"EQU", none, 0, none, 0, none, 0, none, 0, none, 0, none, 0, true, true, false, false, false, false, false, false, false, false, false, false, false⟩
def orgRow : InstrRow := ⟨"ORG", none, 0, none, 0, none, 0, none, 0, none, 0, none, 0, true, false, false, false, false, false, false, true, false, false, false, false, false⟩

/-- the rows above are the ones in the table generated from `cocoasm/instruction.py` -/
theorem rows_generated :
    findRow (str "FCB") = some fcbRow ∧ findRow (str "FDB") = some fdbRow ∧ findRow (str "RMB") = some rmbRow ∧
    findRow (str "FCC") = some fccRow ∧ findRow (str "EQU") = some equRow ∧ findRow (str "ORG") = some orgRow := by
  rw [findRow_eq]
  decide +kernel

/-- the mnemonics of the pseudo rows of the generated table -/
theorem pseudo_rows_generated :
    (Gen.instructions.filter (·.isPseudo)).map (·.mnemonic) =
      ["END", "ORG", "EQU", "SET", "RMB", "FCB", "FDB", "FCC", "SETDP", "INCLUDE", "NAM"] := by
  decide +kernel

/-- a row of the table is identified by its mnemonic: the three rows whose flags `fitWidth` consults -/
theorem data_rows : ∀ r ∈ Gen.instructions,
    (r.mnemonic = "FCB" → r = fcbRow) ∧ (r.mnemonic = "FDB" → r = fdbRow) ∧ (r.mnemonic = "RMB" → r = rmbRow) := by
  decide +kernel

theorem fit_fcb {n : Nat} {h : Option Nat} {m : Mode} {neg : Bool} :
    fitPkg fcbRow { additional := .numeric n h m neg, size := 1, maxSize := 1 } =
      (match fitNum n neg 2 with
       | .ok v => .ok { additional := v, size := 1, maxSize := 1 }
       | .error _ => .diag) :=
  fitPkg_numeric (a := 0) (b := 0) (d := 2) rfl rfl rfl rfl rfl (Or.inl rfl)

theorem fit_fdb {n : Nat} {h : Option Nat} {m : Mode} {neg : Bool} :
    fitPkg fdbRow { additional := .numeric n h m neg, size := 2, maxSize := 2 } =
      (match fitNum n neg 4 with
       | .ok v => .ok { additional := v, size := 2, maxSize := 2 }
       | .error _ => .diag) :=
  fitPkg_numeric (a := 0) (b := 0) (d := 4) rfl rfl rfl rfl rfl (Or.inr rfl)

section
variable {o : Operand} {row : InstrRow} {w : Nat} (hw : w = 1 ∨ w = 2) (hrow : fitSkipped row = false)
  (ht : translatePseudo o row = .ok { additional := o.value, size := w, maxSize := w }) (hn : o.value.isNumeric = true)
include hw hrow ht hn

omit ht in
/-- a single FCB / FDB value is the byte layout "no op code, no post byte, a field of `w` bytes" -/
theorem single_layout : ByteLayout row { additional := o.value, size := w, maxSize := w } [] [] w :=
  ⟨.none, .none, by simp, .inr ⟨hw, hn, hrow⟩⟩

theorem single_emits {f : Bytes} (hf : fieldBytes w o.value = some f) : PseudoEmits o row f := by
  have hc := (single_layout hw hrow hn).cases
  rw [hf] at hc
  obtain ⟨p', h1, h2⟩ := hc
  exact emits_of_fitPkg ht h1 (by simpa using h2) (fieldBytes_length hf)

theorem single_rejects (hf : fieldBytes w o.value = none) : Rejects o row := by
  have hc := (single_layout hw hrow hn).cases
  rw [hf] at hc
  exact .inr ⟨_, ht, refused_iff_fitPkg.mpr hc⟩

end

/-- **C05, single FCB**: every value −128..255 becomes its one byte, a negative one in two's complement,
whatever the spelling (size hint, mode) of the value -/
theorem C05_FCB_single {o : Operand} {row : InstrRow} {n : Nat} {h : Option Nat} {m : Mode} {neg : Bool}
    (hrow : row ∈ Gen.instructions) (hm : row.mnemonic = "FCB") (hv : o.value = .numeric n h m neg)
    (hf : fitsByte n neg = true) : PseudoEmits o row [byteField n neg] := by
  obtain rfl := (data_rows row hrow).1 hm
  exact single_emits (.inl rfl) rfl (translatePseudo_FCB_single rfl (by rw [hv]; simp) (by rw [hv]; rfl)) (by rw [hv]; rfl)
    (by rw [hv]; exact fieldBytes_byte hf)

/-- **C05, single FCB, out of range**: a value outside −128..255 is REFUSED ("does not fit") -/
theorem C05_FCB_single_rejected {o : Operand} {row : InstrRow} {n : Nat} {h : Option Nat} {m : Mode} {neg : Bool}
    (hrow : row ∈ Gen.instructions) (hm : row.mnemonic = "FCB") (hv : o.value = .numeric n h m neg)
    (hf : fitsByte n neg = false) : Rejects o row := by
  obtain rfl := (data_rows row hrow).1 hm
  exact single_rejects (.inl rfl) rfl (translatePseudo_FCB_single rfl (by rw [hv]; simp) (by rw [hv]; rfl)) (by rw [hv]; rfl)
    (by rw [hv]; simp [fieldBytes, hf])

/-- **C05, single FDB**: every value −32768..65535 becomes its two bytes, high byte first -/
theorem C05_FDB_single {o : Operand} {row : InstrRow} {n : Nat} {h : Option Nat} {m : Mode} {neg : Bool}
    (hrow : row ∈ Gen.instructions) (hm : row.mnemonic = "FDB") (hv : o.value = .numeric n h m neg)
    (hf : fitsWord n neg = true) : PseudoEmits o row [wordField n neg / 256, wordField n neg % 256] := by
  obtain rfl := (data_rows row hrow).2.1 hm
  exact single_emits (.inr rfl) rfl (translatePseudo_FDB_single rfl (by rw [hv]; simp) (by rw [hv]; rfl)) (by rw [hv]; rfl)
    (by rw [hv]; exact fieldBytes_word hf)

/-- **C05, single FDB, out of range**: refused -/
theorem C05_FDB_single_rejected {o : Operand} {row : InstrRow} {n : Nat} {h : Option Nat} {m : Mode} {neg : Bool}
    (hrow : row ∈ Gen.instructions) (hm : row.mnemonic = "FDB") (hv : o.value = .numeric n h m neg)
    (hf : fitsWord n neg = false) : Rejects o row := by
  obtain rfl := (data_rows row hrow).2.1 hm
  exact single_rejects (.inr rfl) rfl (translatePseudo_FDB_single rfl (by rw [hv]; simp) (by rw [hv]; rfl)) (by rw [hv]; rfl)
    (by rw [hv]; simp [fieldBytes, hf])

/-- **C05, multi-value FCB** on the operand level: a list of two-digit hex strings of bytes -/
theorem C05_FCB_multi {o : Operand} {row : InstrRow} {bs : Bytes}
    (hm : row.mnemonic = "FCB") (hv : o.value = .multiByte (bs.map byteHex)) (hb : ∀ b ∈ bs, b < 256) :
    PseudoEmits o row bs := by
  have hbl : o.value.byteLen? = some bs.length := by rw [hv]; exact byteLen_multiByte bs
  have hnm : o.value.isMultiByte = true := by rw [hv]; rfl
  refine emits_additional (translatePseudo_FCB_multi hm hbl hnm) (fitPkg_nonNumeric row (by rw [hv]; rfl)) ?_ rfl
  rw [hv]; exact emitValue_multiByte bs hb

/-- **C05, multi-value FDB** on the operand level: a list of four-digit hex strings of words -/
theorem C05_FDB_multi {o : Operand} {row : InstrRow} {ws : List Nat}
    (hm : row.mnemonic = "FDB") (hv : o.value = .multiWord (ws.map wordHex)) (hw : ∀ w ∈ ws, w < 65536) :
    PseudoEmits o row (wordBytes ws) ∧ (wordBytes ws).length = 2 * ws.length := by
  have hbl : o.value.byteLen? = some (2 * ws.length) := by rw [hv]; exact byteLen_multiWord ws
  have hnm : o.value.isMultiWord = true := by rw [hv]; rfl
  refine ⟨emits_additional (translatePseudo_FDB_multi hm hbl hnm) (fitPkg_nonNumeric row (by rw [hv]; rfl)) ?_
    (wordBytes_length ws), wordBytes_length ws⟩
  rw [hv]; exact emitValue_multiWord ws hw

/-- **C05, `FCB e1,...,en` with SIGNED decimal elements** from the operand text: every element −128..255 becomes its
two's complement byte (`FCB 1,-2` is `01 FE`) -/
theorem C05_FCB_signed_list (lits : List (Bool × Str)) (h2 : 2 ≤ lits.length)
    (hl : ∀ e ∈ lits, IsDecLit e.2 ∧ fitsByte (parseBase 10 e.2) e.1 = true) (t : SymTab := []) :
    LineEmits (joinWith ',' (lits.map sdec)) fcbRow (lits.map (fun e => byteField (parseBase 10 e.2) e.1)) t := by
  have hc := createOperand_multiByte (row := fcbRow) rfl rfl rfl
    (contains_joinWith_of_two ',' (by simpa using h2)) (multi_sdec .byte lits h2 hl)
  refine lineEmits_of hc (resolveOperand_pseudo_plain _ _ rfl (by simp) rfl rfl) rfl (C05_FCB_multi rfl rfl ?_)
  intro v hv
  obtain ⟨e, he, rfl⟩ := List.mem_map.mp hv
  exact byteField_lt (hl e he).2

/-- ... and the line is REFUSED when it is parsed as soon as one element THAT IS A NUMBER TO THE PARSER (`hn`: it has
a minus sign or is below 65536) is outside −128..255 (`FCB 1,300`, `FCB 1,-129`).  An element that is not a literal is
not refused at parse time, and an unsigned run of digits from 65536 on (`FCB 1,70000`) is not a literal to
`Value.create_from_str` but a symbol name (`pendingElem_dec_big`; as in `C05_finding_FDB_70000_fixed`); such a line is
refused when the list is evaluated (the symbol is undefined): `C05_program_list_big_literal`. -/
theorem C05_FCB_signed_list_rejected_fixed (lits : List (Bool × Str)) (h2 : 2 ≤ lits.length)
    (hl : ∀ e ∈ lits, IsDecLit e.2) {e : Bool × Str} (he : e ∈ lits) (hn : e.1 = true ∨ parseBase 10 e.2 < 65536)
    (hf : fitsByte (parseBase 10 e.2) e.1 = false) :
    ∃ err, createOperand (joinWith ',' (lits.map sdec)) fcbRow = .error err := by
  obtain ⟨err, herr⟩ := multi_sdec_reject .byte lits h2 hl he hn hf
  exact ⟨err, createOperand_multiByte_reject (row := fcbRow) rfl rfl
    (contains_joinWith_of_two ',' (by simpa using h2)) herr⟩

/-- **C05, `FDB e1,...,en` with signed decimal elements**: every element −32768..65535 becomes its two's complement
word (`FDB 1,-1` is `00 01 FF FF`) -/
theorem C05_FDB_signed_list (lits : List (Bool × Str)) (h2 : 2 ≤ lits.length)
    (hl : ∀ e ∈ lits, IsDecLit e.2 ∧ fitsWord (parseBase 10 e.2) e.1 = true) (t : SymTab := []) :
    LineEmits (joinWith ',' (lits.map sdec)) fdbRow
      (wordBytes (lits.map (fun e => wordField (parseBase 10 e.2) e.1))) t := by
  have hc := createOperand_multiWord (row := fdbRow) rfl rfl rfl rfl
    (contains_joinWith_of_two ',' (by simpa using h2)) (multi_sdec .word lits h2 hl)
  refine lineEmits_of hc (resolveOperand_pseudo_plain _ _ rfl (by simp) rfl rfl) rfl (C05_FDB_multi rfl rfl ?_).1
  intro v hv
  obtain ⟨e, he, rfl⟩ := List.mem_map.mp hv
  exact wordField_lt (hl e he).2

/-- what is left for FDB are the negatives below −32768 (`FDB 1,-32769`); `FDB 1,70000` is refused when the list is
evaluated -/
theorem C05_FDB_signed_list_rejected_fixed (lits : List (Bool × Str)) (h2 : 2 ≤ lits.length)
    (hl : ∀ e ∈ lits, IsDecLit e.2) {e : Bool × Str} (he : e ∈ lits) (hn : e.1 = true ∨ parseBase 10 e.2 < 65536)
    (hf : fitsWord (parseBase 10 e.2) e.1 = false) :
    ∃ err, createOperand (joinWith ',' (lits.map sdec)) fdbRow = .error err := by
  obtain ⟨err, herr⟩ := multi_sdec_reject .word lits h2 hl he hn hf
  exact ⟨err, createOperand_multiWord_reject (row := fdbRow) rfl rfl rfl
    (contains_joinWith_of_two ',' (by simpa using h2)) herr⟩

/-- **C05, `FCB d1,d2,...,dn`** from the operand text: at least two decimal literals, each below 256,
joined by commas, give exactly those bytes (a signed list without minus signs) -/
theorem C05_FCB_list (lits : List Str) (h2 : 2 ≤ lits.length)
    (hl : ∀ x ∈ lits, IsDecLit x ∧ parseBase 10 x < 256) (t : SymTab := []) :
    LineEmits (joinWith ',' lits) fcbRow (lits.map (parseBase 10)) t := by
  have h := C05_FCB_signed_list (lits.map (Prod.mk false)) (by simpa using h2)
    (fun e he => by
      obtain ⟨x, hx, rfl⟩ := List.mem_map.mp he
      exact ⟨(hl x hx).1, by simpa [fitsByte] using Nat.le_of_lt_succ (hl x hx).2⟩) t
  simpa [Function.comp_def, sdec, byteField] using h

/-- **C05, `FDB d1,d2,...,dn`** from the operand text: decimal literals below 65536 -/
theorem C05_FDB_list (lits : List Str) (h2 : 2 ≤ lits.length)
    (hl : ∀ x ∈ lits, IsDecLit x ∧ parseBase 10 x < 65536) (t : SymTab := []) :
    LineEmits (joinWith ',' lits) fdbRow (wordBytes (lits.map (parseBase 10))) t ∧
    (wordBytes (lits.map (parseBase 10))).length = 2 * lits.length := by
  have h := C05_FDB_signed_list (lits.map (Prod.mk false)) (by simpa using h2)
    (fun e he => by
      obtain ⟨x, hx, rfl⟩ := List.mem_map.mp he
      exact ⟨(hl x hx).1, by simpa [fitsWord] using Nat.le_of_lt_succ (hl x hx).2⟩) t
  exact ⟨by simpa [Function.comp_def, sdec, wordField] using h, by simp [wordBytes_length]⟩

theorem fcb_mem : fcbRow ∈ Gen.instructions := List.mem_of_find?_eq_some rows_generated.1
theorem fdb_mem : fdbRow ∈ Gen.instructions := List.mem_of_find?_eq_some rows_generated.2.1
theorem rmb_mem : rmbRow ∈ Gen.instructions := List.mem_of_find?_eq_some rows_generated.2.2.1

/-- **C05, `FCB d`** from the operand text: one decimal literal below 256 -/
theorem C05_FCB_literal {x : Str} (hx : IsDecLit x) (hv : parseBase 10 x < 256) (t : SymTab := []) :
    LineEmits x fcbRow [parseBase 10 x] t :=
  have hf : fitsByte (parseBase 10 x) false = true := decide_eq_true (Nat.le_of_lt_succ hv)
  lineEmits_of (createOperand_pseudo_dec (row := fcbRow) rfl rfl rfl (by decide) rfl rfl hx (by omega))
    (resolveOperand_pseudo_plain _ _ rfl (by simp) rfl rfl) rfl
    (C05_FCB_single (n := parseBase 10 x) (neg := false) fcb_mem rfl rfl hf)

/-- **C05, `FCB -d`** from the operand text, 1 ≤ d ≤ 128: the two's complement byte (`FCB -1` is `$FF`;
before fix fb747a5 the magnitude `$01` was emitted) -/
theorem C05_FCB_neg_literal {ds : Str} (hx : IsDecLit ds) (h1 : 1 ≤ parseBase 10 ds) (h2 : parseBase 10 ds ≤ 128)
    (t : SymTab := []) : LineEmits ('-' :: ds) fcbRow [256 - parseBase 10 ds] t := by
  rw [← byteField_neg h1 h2]
  exact lineEmits_of (createOperand_pseudo_neg (row := fcbRow) rfl rfl rfl rfl rfl hx (by omega))
    (resolveOperand_pseudo_plain _ _ rfl (by simp) rfl rfl) rfl
    (C05_FCB_single (neg := true) fcb_mem rfl rfl (fitsByte_neg h2))

/-- **C05, `FDB d`** from the operand text: one decimal literal below 65536 -/
theorem C05_FDB_literal {x : Str} (hx : IsDecLit x) (hv : parseBase 10 x < 65536) (t : SymTab := []) :
    LineEmits x fdbRow [parseBase 10 x / 256, parseBase 10 x % 256] t :=
  have hf : fitsWord (parseBase 10 x) false = true := decide_eq_true (Nat.le_of_lt_succ hv)
  lineEmits_of (createOperand_pseudo_dec (row := fdbRow) rfl rfl rfl (by decide) rfl rfl hx hv)
    (resolveOperand_pseudo_plain _ _ rfl (by simp) rfl rfl) rfl
    (C05_FDB_single (n := parseBase 10 x) (neg := false) fdb_mem rfl rfl hf)

/-- **C05, `FDB -d`** from the operand text, 1 ≤ d ≤ 32768: the two's complement word (`FDB -1` is `$FF $FF`) -/
theorem C05_FDB_neg_literal {ds : Str} (hx : IsDecLit ds) (h1 : 1 ≤ parseBase 10 ds) (h2 : parseBase 10 ds ≤ 32768)
    (t : SymTab := []) :
    LineEmits ('-' :: ds) fdbRow [(65536 - parseBase 10 ds) / 256, (65536 - parseBase 10 ds) % 256] t := by
  rw [← wordField_neg h1 h2]
  exact lineEmits_of (createOperand_pseudo_neg (row := fdbRow) rfl rfl rfl rfl rfl hx h2)
    (resolveOperand_pseudo_plain _ _ rfl (by simp) rfl rfl) rfl
    (C05_FDB_single (neg := true) fdb_mem rfl rfl (fitsWord_neg h2))

theorem fit_rmb (p : Pkg) : fitPkg rmbRow p = .ok p := fitPkg_skip p rfl

/-- **C05, RMB**: `n` zero bytes, size `n` (every `n`, including 0) -/
theorem C05_RMB {o : Operand} {row : InstrRow} {n : Nat} {h : Option Nat} {m : Mode}
    (hrow : row ∈ Gen.instructions) (hm : row.mnemonic = "RMB") (hv : o.value = .numeric n h m false) :
    PseudoEmits o row (List.replicate n 0) := by
  have := (data_rows row hrow).2.2 hm
  subst this
  exact emits_additional (translatePseudo_RMB rfl hv) (fit_rmb _) (emit_zeros n _) (by simp)

/-- **C05, RMB of a negative count** (also `-0`): refused, "not a number of bytes to reserve" -/
theorem C05_RMB_neg_rejected {o : Operand} {row : InstrRow} {n : Nat} {h : Option Nat} {m : Mode}
    (hm : row.mnemonic = "RMB") (hv : o.value = .numeric n h m true) : Rejects o row :=
  Or.inl ⟨_, translatePseudo_RMB_neg hm hv⟩

/-- **C05, RMB of something that is not a number** (an undefined value, a string, a label): refused -/
theorem C05_RMB_nonNumeric_rejected {o : Operand} {row : InstrRow} (hm : row.mnemonic = "RMB")
    (hn : o.value.isNumeric = false) : Rejects o row := by
  by_cases hv : o.value = .pyNone
  · exact Or.inl ⟨_, translatePseudo_pyNone o row hv (Or.inr (Or.inr (Or.inl hm)))⟩
  · exact Or.inl ⟨_, translatePseudo_RMB_nonNumeric hm hv hn⟩

/-- **C05, `RMB d`** from the operand text -/
theorem C05_RMB_literal {x : Str} (hx : IsDecLit x) (hv : parseBase 10 x < 65536) (t : SymTab := []) :
    LineEmits x rmbRow (List.replicate (parseBase 10 x) 0) t :=
  lineEmits_of (createOperand_pseudo_dec (row := rmbRow) rfl rfl rfl (by decide) rfl rfl hx hv)
    (resolveOperand_pseudo_plain _ _ rfl (by simp) rfl rfl) rfl (C05_RMB rmb_mem rfl rfl)

/-! ### symbols under FCB / FDB / RMB / ORG (fix 3dd5ba5: evaluated through the symbol table) -/

/-- `resolve_symbols` of a data directive whose operand is the name of an EQU constant: the operand becomes the
constant, rebuilt from its SIGNED value (`NumericValue(symbol.signed())`, fix 74ec239) -/
theorem resolveOperand_pseudo_symbol {o : Operand} {row : InstrRow} {t : SymTab} {name : Str} {mo : Mode}
    {v : Nat} {h : Option Nat} {m : Mode} {neg : Bool} (hk : o.kind = .pseudo)
    (hm : row.mnemonic = "FCB" ∨ row.mnemonic = "FDB" ∨ row.mnemonic = "RMB" ∨ row.mnemonic = "ORG")
    (hv : o.value = .symbol name mo) (ht : t.get? name = some (.numeric v h m neg)) (hlt : v < 65536) :
    resolveOperand o row t =
      .ok { o with value := .numeric v (if v < 256 then some 2 else none) (if v < 256 then .direct else .extended)
                                (neg && decide (0 < v)) } := by
  rw [resolveOperand_pseudo_eq row t hk, if_pos (isDataRow_of hm), hv]
  simp only [Value.isSymbol, Bool.true_or, if_true, resolve_symbol_numeric ht hlt]
  rfl

/-- the same with the sign `s` the constant gets named once -/
theorem resolveOperand_pseudo_symbol_sign {o : Operand} {row : InstrRow} {t : SymTab} {name : Str} {mo : Mode}
    {v : Nat} {h : Option Nat} {m : Mode} {neg : Bool} (hk : o.kind = .pseudo)
    (hm : row.mnemonic = "FCB" ∨ row.mnemonic = "FDB" ∨ row.mnemonic = "RMB" ∨ row.mnemonic = "ORG")
    (hv : o.value = .symbol name mo) (ht : t.get? name = some (.numeric v h m neg)) (hlt : v < 65536)
    {s : Bool} (hs : (neg && decide (0 < v)) = s) :
    resolveOperand o row t =
      .ok { o with value := .numeric v (if v < 256 then some 2 else none) (if v < 256 then .direct else .extended) s } :=
  hs ▸ resolveOperand_pseudo_symbol hk hm hv ht hlt

/-- **C05, `FCB SYM`** with `SYM EQU v`, v < 256: the byte `v` -/
theorem C05_FCB_symbol {o : Operand} {row : InstrRow} {t : SymTab} {name : Str} {mo : Mode} {v : Nat}
    {h : Option Nat} {m : Mode} (hrow : row ∈ Gen.instructions) (hm : row.mnemonic = "FCB")
    (hk : o.kind = .pseudo) (hv : o.value = .symbol name mo) (ht : t.get? name = some (.numeric v h m false))
    (hlt : v < 256) : ∃ o', resolveOperand o row t = .ok o' ∧ o'.kind = .pseudo ∧ PseudoEmits o' row [v] :=
  ⟨_, resolveOperand_pseudo_symbol hk (Or.inl hm) hv ht (by omega), hk,
    C05_FCB_single (neg := false) hrow hm rfl (by simp [fitsByte]; omega)⟩

/-- **C05, `FCB SYM`** with `SYM EQU -v`, 1 ≤ v ≤ 128: the two's complement byte (before fix 74ec239 the magnitude `v`
was emitted) -/
theorem C05_FCB_symbol_neg {o : Operand} {row : InstrRow} {t : SymTab} {name : Str} {mo : Mode} {v : Nat}
    {h : Option Nat} {m : Mode} (hrow : row ∈ Gen.instructions) (hm : row.mnemonic = "FCB")
    (hk : o.kind = .pseudo) (hv : o.value = .symbol name mo) (ht : t.get? name = some (.numeric v h m true))
    (h1 : 1 ≤ v) (h2 : v ≤ 128) :
    ∃ o', resolveOperand o row t = .ok o' ∧ o'.kind = .pseudo ∧ PseudoEmits o' row [256 - v] := by
  rw [← byteField_neg h1 h2]
  exact ⟨_, resolveOperand_pseudo_symbol_sign hk (Or.inl hm) hv ht (by omega) (decide_eq_true h1), hk,
    C05_FCB_single (neg := true) hrow hm rfl (fitsByte_neg h2)⟩

/-- **C05, `FDB SYM`** with `SYM EQU v`: the word `v` -/
theorem C05_FDB_symbol {o : Operand} {row : InstrRow} {t : SymTab} {name : Str} {mo : Mode} {v : Nat}
    {h : Option Nat} {m : Mode} (hrow : row ∈ Gen.instructions) (hm : row.mnemonic = "FDB")
    (hk : o.kind = .pseudo) (hv : o.value = .symbol name mo) (ht : t.get? name = some (.numeric v h m false))
    (hlt : v < 65536) :
    ∃ o', resolveOperand o row t = .ok o' ∧ o'.kind = .pseudo ∧ PseudoEmits o' row [v / 256, v % 256] :=
  ⟨_, resolveOperand_pseudo_symbol hk (Or.inr (Or.inl hm)) hv ht hlt, hk,
    C05_FDB_single (neg := false) hrow hm rfl (by simp [fitsWord]; omega)⟩

/-- **C05, `FDB SYM`** with `SYM EQU -v`, 1 ≤ v ≤ 32768: the two's complement word (`X EQU -5 ; FDB X` is `FF FB`) -/
theorem C05_FDB_symbol_neg {o : Operand} {row : InstrRow} {t : SymTab} {name : Str} {mo : Mode} {v : Nat}
    {h : Option Nat} {m : Mode} (hrow : row ∈ Gen.instructions) (hm : row.mnemonic = "FDB")
    (hk : o.kind = .pseudo) (hv : o.value = .symbol name mo) (ht : t.get? name = some (.numeric v h m true))
    (h1 : 1 ≤ v) (h2 : v ≤ 32768) :
    ∃ o', resolveOperand o row t = .ok o' ∧ o'.kind = .pseudo ∧
      PseudoEmits o' row [(65536 - v) / 256, (65536 - v) % 256] := by
  rw [← wordField_neg h1 h2]
  exact ⟨_, resolveOperand_pseudo_symbol_sign hk (Or.inr (Or.inl hm)) hv ht (by omega) (decide_eq_true h1), hk,
    C05_FDB_single (neg := true) hrow hm rfl (fitsWord_neg h2)⟩

/-- **C05, `RMB SYM`** with `SYM EQU v`: `v` bytes are reserved -/
theorem C05_RMB_symbol {o : Operand} {row : InstrRow} {t : SymTab} {name : Str} {mo : Mode} {v : Nat}
    {h : Option Nat} {m : Mode} (hrow : row ∈ Gen.instructions) (hm : row.mnemonic = "RMB")
    (hk : o.kind = .pseudo) (hv : o.value = .symbol name mo) (ht : t.get? name = some (.numeric v h m false))
    (hlt : v < 65536) :
    ∃ o', resolveOperand o row t = .ok o' ∧ o'.kind = .pseudo ∧ PseudoEmits o' row (List.replicate v 0) :=
  ⟨_, resolveOperand_pseudo_symbol hk (Or.inr (Or.inr (Or.inl hm))) hv ht hlt, hk, C05_RMB hrow hm rfl⟩

/-- **C05, `RMB SYM`** with `SYM EQU -v`, v ≥ 1: refused (before fix 74ec239 `v` bytes were reserved) -/
theorem C05_RMB_symbol_neg_rejected {o : Operand} {row : InstrRow} {t : SymTab} {name : Str} {mo : Mode} {v : Nat}
    {h : Option Nat} {m : Mode} (hm : row.mnemonic = "RMB")
    (hk : o.kind = .pseudo) (hv : o.value = .symbol name mo) (ht : t.get? name = some (.numeric v h m true))
    (h1 : 1 ≤ v) (hlt : v < 65536) :
    ∃ o', resolveOperand o row t = .ok o' ∧ Rejects o' row :=
  ⟨_, resolveOperand_pseudo_symbol_sign hk (Or.inr (Or.inr (Or.inl hm))) hv ht hlt (decide_eq_true h1),
    C05_RMB_neg_rejected hm rfl⟩

/-- **C05, `ORG SYM`** with `SYM EQU v`: the origin is `v` -/
theorem C05_ORG_symbol {o : Operand} {row : InstrRow} {t : SymTab} {name : Str} {mo : Mode} {v : Nat}
    {h : Option Nat} {m : Mode} (hm : row.mnemonic = "ORG")
    (hk : o.kind = .pseudo) (hv : o.value = .symbol name mo) (ht : t.get? name = some (.numeric v h m false))
    (hlt : v < 65536) :
    ∃ o', resolveOperand o row t = .ok o' ∧ ∃ h' m', translatePseudo o' row = .ok { address := .numeric v h' m' false } :=
  ⟨_, resolveOperand_pseudo_symbol hk (Or.inr (Or.inr (Or.inr hm))) hv ht hlt, _, _,
    translatePseudo_ORG (o := { o with value := _ }) hm rfl⟩

/-- an undefined symbol under a data directive is a diagnostic (the resolve stage fails) -/
theorem C05_undefined_symbol {o : Operand} {row : InstrRow} {t : SymTab} {name : Str} {mo : Mode}
    (hk : o.kind = .pseudo)
    (hm : row.mnemonic = "FCB" ∨ row.mnemonic = "FDB" ∨ row.mnemonic = "RMB" ∨ row.mnemonic = "ORG")
    (hv : o.value = .symbol name mo) (ht : t.get? name = none) : resolveOperand o row t = .error .other := by
  rw [resolveOperand_pseudo_eq row t hk, if_pos (isDataRow_of hm), hv]
  simp only [Value.isSymbol, Bool.true_or, if_true, resolve_symbol_undefined ht]
  rfl

/-- **C05, FCC** on the operand level: the character codes, for every string of 8-bit characters -/
theorem C05_FCC {o : Operand} {row : InstrRow} {s : Str}
    (hm : row.mnemonic = "FCC") (hv : o.value = .str s) (hs : ∀ c ∈ s, c.toNat < 256) :
    PseudoEmits o row (s.map Char.toNat) := by
  have hb : o.value.byteLen? = some s.length := by rw [hv]; exact byteLen_str s hs
  refine emits_additional (translatePseudo_FCC hm hb) (fitPkg_nonNumeric row (by rw [hv]; rfl)) ?_ (by simp)
  rw [hv]; exact emitValue_str s hs

/-- `resolve_symbols` leaves the operand of every pseudo operation other than FCB FDB RMB ORG alone -/
theorem resolveOperand_pseudo_other {o : Operand} {row : InstrRow} (t : SymTab) (hk : o.kind = .pseudo)
    (h1 : row.mnemonic ≠ "FCB") (h2 : row.mnemonic ≠ "FDB") (h3 : row.mnemonic ≠ "RMB") (h4 : row.mnemonic ≠ "ORG") :
    resolveOperand o row t = .ok o := by
  rw [resolveOperand_pseudo_eq row t hk, if_neg (by simp [isDataRow, h1, h2, h3, h4])]

/-- **C05, `FCC dtextd`** from the operand text, any delimiter character `d` -/
theorem C05_FCC_text (d : Char) (body : Str) (hs : ∀ c ∈ body, c.toNat < 256) (t : SymTab := []) :
    LineEmits (d :: (body ++ [d])) fccRow (body.map Char.toNat) t :=
  lineEmits_of (createOperand_fcc (row := fccRow) rfl rfl rfl rfl rfl rfl d body hs)
    (resolveOperand_pseudo_other t rfl (by decide) (by decide) (by decide) (by decide)) rfl (C05_FCC rfl rfl hs)

/-- a package with nothing in it emits nothing -/
theorem emits_empty {row : InstrRow} {r : R Pkg} {p : Pkg} (hr : r = .ok p) (h1 : p.opCode = .none)
    (h2 : p.postByte = .none) (h3 : p.additional = .none) (h4 : p.size = 0) : Emits row r [] := by
  refine emits_of_fitPkg hr (fitPkg_nonNumeric row (by rw [h3]; rfl)) ?_ (by simp [h4])
  rw [pkgBytes_additional h1 h2, h3]
  exact emitValue_none

/-- **C05, EQU SETDP NAM END INCLUDE SET** (every mnemonic other than the five with a case of their own):
nothing is emitted and the size is 0, whatever the operand value is -/
theorem C05_no_data {o : Operand} {row : InstrRow}
    (h1 : row.mnemonic ≠ "FCB") (h2 : row.mnemonic ≠ "FDB") (h3 : row.mnemonic ≠ "RMB")
    (h4 : row.mnemonic ≠ "ORG") (h5 : row.mnemonic ≠ "FCC") :
    PseudoEmits o row [] ∧ translatePseudo o row = .ok {} := by
  have := translatePseudo_other (o := o) h1 h2 h3 h4 h5
  exact ⟨emits_empty this rfl rfl rfl rfl, this⟩

/-- **C05, ORG** of a non-negative number: nothing is emitted, the size is 0, and the package address is the operand value -/
theorem C05_ORG {o : Operand} {row : InstrRow} {n : Nat} {h : Option Nat} {m : Mode} (hm : row.mnemonic = "ORG")
    (hv : o.value = .numeric n h m false) :
    PseudoEmits o row [] ∧ translatePseudo o row = .ok { address := o.value } := by
  have := translatePseudo_ORG hm hv
  exact ⟨emits_empty this rfl rfl rfl rfl, this⟩

/-- **C05, ORG of a negative number or of something that is not a number**: refused, "not an address" -/
theorem C05_ORG_rejected {o : Operand} {row : InstrRow} (hm : row.mnemonic = "ORG")
    (hv : o.value.isNumeric = false ∨ o.value.isNegative = true) : Rejects o row := by
  by_cases hpn : o.value = .pyNone
  · exact Or.inl ⟨_, translatePseudo_pyNone o row hpn (Or.inr (Or.inr (Or.inr hm)))⟩
  · rcases hv with hv | hv
    · exact Or.inl ⟨_, translatePseudo_ORG_nonNumeric hm hpn hv⟩
    · cases hval : o.value with
      | numeric n h m neg =>
        rw [hval] at hv
        simp only [Value.isNegative] at hv
        subst hv
        exact Or.inl ⟨_, translatePseudo_ORG_neg hm hval⟩
      | _ => rw [hval] at hv; simp [Value.isNegative] at hv

/-- **C05, `ORG SYM`** with `SYM EQU -v`, v ≥ 1: refused, "not an address" -/
theorem C05_ORG_symbol_neg_rejected {o : Operand} {row : InstrRow} {t : SymTab} {name : Str} {mo : Mode} {v : Nat}
    {h : Option Nat} {m : Mode} (hm : row.mnemonic = "ORG")
    (hk : o.kind = .pseudo) (hv : o.value = .symbol name mo) (ht : t.get? name = some (.numeric v h m true))
    (h1 : 1 ≤ v) (hlt : v < 65536) :
    ∃ o', resolveOperand o row t = .ok o' ∧ Rejects o' row :=
  ⟨_, resolveOperand_pseudo_symbol_sign hk (Or.inr (Or.inr (Or.inr hm))) hv ht hlt (decide_eq_true h1),
    C05_ORG_rejected hm (Or.inr rfl)⟩

/-- the six mnemonics without data and without an address -/
theorem C05_no_data_mnemonics {o : Operand} {row : InstrRow}
    (hm : row.mnemonic ∈ ["EQU", "SETDP", "NAM", "END", "INCLUDE", "SET"]) : PseudoEmits o row [] := by
  refine (C05_no_data ?_ ?_ ?_ ?_ ?_).1 <;> (intro h; rw [h] at hm; revert hm; decide)

/-! ### non-vacuity: the hypotheses are met by real lines, with the generated rows -/

/-- `FCB 1,2,3` emits 1 2 3 -/
example : LineEmits (str "1,2,3") fcbRow [1, 2, 3] :=
  C05_FCB_list [str "1", str "2", str "3"] (by decide) (by decide)

/-- `FDB 1,258,65535` emits 00 01 01 02 FF FF -/
example : LineEmits (str "1,258,65535") fdbRow [0, 1, 1, 2, 255, 255] :=
  (C05_FDB_list [str "1", str "258", str "65535"] (by decide) (by decide)).1

/-- `FCB 1,-2,255,-128` emits 01 FE FF 80; `FDB 1,-1` emits 00 01 FF FF; `FCB 1,300` is refused -/
example : LineEmits (str "1,-2,255,-128") fcbRow [1, 0xFE, 255, 0x80] :=
  C05_FCB_signed_list [(false, str "1"), (true, str "2"), (false, str "255"), (true, str "128")] (by decide) (by decide)
example : LineEmits (str "1,-1") fdbRow [0, 1, 0xFF, 0xFF] :=
  C05_FDB_signed_list [(false, str "1"), (true, str "1")] (by decide) (by decide)
example : ∃ err, createOperand (str "1,300") fcbRow = .error err :=
  C05_FCB_signed_list_rejected_fixed [(false, str "1"), (false, str "300")] (by decide) (by decide)
    (e := (false, str "300")) (by decide) (by decide) (by decide)
example : ∃ err, createOperand (str "1,-32769") fdbRow = .error err :=
  C05_FDB_signed_list_rejected_fixed [(false, str "1"), (true, str "32769")] (by decide) (by decide)
    (e := (true, str "32769")) (by decide) (by decide) (by decide)

example : LineEmits (str "255") fcbRow [255] := C05_FCB_literal (x := str "255") (by decide) (by decide)
example : LineEmits (str "-1") fcbRow [255] := C05_FCB_neg_literal (ds := str "1") (by decide) (by decide) (by decide)
example : LineEmits (str "-128") fcbRow [128] := C05_FCB_neg_literal (ds := str "128") (by decide) (by decide) (by decide)
example : LineEmits (str "4660") fdbRow [0x12, 0x34] := C05_FDB_literal (x := str "4660") (by decide) (by decide)
example : LineEmits (str "-1") fdbRow [0xFF, 0xFF] := C05_FDB_neg_literal (ds := str "1") (by decide) (by decide) (by decide)
example : LineEmits (str "3") rmbRow [0, 0, 0] := C05_RMB_literal (x := str "3") (by decide) (by decide)
example : LineEmits (str "0") rmbRow [] := C05_RMB_literal (x := str "0") (by decide) (by decide)
example : LineEmits (str "\"HELLO, WORLD\"") fccRow [72, 69, 76, 76, 79, 44, 32, 87, 79, 82, 76, 68] :=
  C05_FCC_text '"' (str "HELLO, WORLD") (by decide)
example : LineEmits (str "/a/") fccRow [97] := C05_FCC_text '/' (str "a") (by decide)

/-- the same through the table lookup -/
example : ∃ row, findRow (str "FCB") = some row ∧ LineEmits (str "1,2,3") row [1, 2, 3] :=
  ⟨fcbRow, rows_generated.1, C05_FCB_list [str "1", str "2", str "3"] (by decide) (by decide)⟩

/-- operand-level hypotheses are met by what the parser builds for `EQU 5` and `ORG $1234` -/
example : ∃ o, createOperand (str "5") equRow = .ok o ∧ PseudoEmits o equRow [] := by
  refine ⟨{ kind := .pseudo, text := str "5", value := .numeric 5 (some 4) .extended false }, rfl, ?_⟩
  exact (C05_no_data (by decide) (by decide) (by decide) (by decide) (by decide)).1

example : ∃ o, createOperand (str "$1234") orgRow = .ok o ∧ PseudoEmits o orgRow [] ∧
    translatePseudo o orgRow = .ok { address := .numeric 0x1234 (some 4) .extended false } := by
  refine ⟨{ kind := .pseudo, text := str "$1234", value := .numeric 0x1234 (some 4) .extended false }, rfl, ?_⟩
  exact C05_ORG rfl rfl

/-- the symbol theorems are met by what the parser builds for `FCB SIZE` with `SIZE EQU 4` in the table -/
example : ∃ o o', createOperand (str "SIZE") fcbRow = .ok o ∧
    resolveOperand o fcbRow [(str "SIZE", .numeric 4 (some 4) .extended false)] = .ok o' ∧ PseudoEmits o' fcbRow [4] := by
  obtain ⟨o', h1, _, h3⟩ := C05_FCB_symbol (row := fcbRow)
    (o := { kind := .pseudo, text := str "SIZE", value := .symbol (str "SIZE") .extended })
    (t := [(str "SIZE", .numeric 4 (some 4) .extended false)]) fcb_mem rfl rfl rfl rfl (by decide)
  exact ⟨_, o', rfl, h1, h3⟩

/-! ### kernel-checked witnesses on one line

`lineResult text row` runs the stages on one operand text (empty symbol table) and returns the `size` of the
package and the bytes of the fitted statement; `none` = the line is refused at some stage. -/

def lineResult (text : Str) (row : InstrRow) : Option (Nat × Option Bytes) :=
  match createOperand text row with
  | .ok o =>
    match resolveOperand o row [] with
    | .ok o' =>
      match translateOperand o' row with
      | .ok p => (match fitPkg row p with | .ok p' => some (p.size, pkgBytes p') | _ => none)
      | .error _ => none
    | .error _ => none
  | .error _ => none

/-- `lineResult` agrees with `LineEmits` -/
theorem lineResult_of_lineEmits {text : Str} {row : InstrRow} {bytes : Bytes} (h : LineEmits text row bytes) :
    lineResult text row = some (bytes.length, some bytes) := by
  obtain ⟨o, o', ho, hres, _, he⟩ := h
  obtain ⟨p, p', hp, hf, hb, hl⟩ := he.fitPkg
  simp [lineResult, ho, hres, hp, hf, hb, hl]

/-- `FCB -1` emits `$FF` (before fix fb747a5: `$01`) -/
theorem C05_finding_FCB_neg1_fixed : lineResult (str "-1") fcbRow = some (1, some [0xFF]) := by decide +kernel

/-- `FCB 300` and `FCB 65535` are refused (before fix fb747a5: `$12` and `$FF`) -/
theorem C05_finding_FCB_300_fixed : lineResult (str "300") fcbRow = none := by decide +kernel
theorem C05_finding_FCB_65535_fixed : lineResult (str "65535") fcbRow = none := by decide +kernel

/-- `FDB -1` emits `$FF $FF` (before fix fb747a5: `$00 $01`) -/
theorem C05_finding_FDB_neg1_fixed : lineResult (str "-1") fdbRow = some (2, some [0xFF, 0xFF]) := by decide +kernel

/-- `FDB 70000` fails as a number, is taken as a symbol named "70000", and that symbol is undefined — a diagnostic
(before fix 3dd5ba5 the symbol was accepted and emitted as zeros) -/
theorem C05_finding_FDB_70000_fixed : lineResult (str "70000") fdbRow = none := by decide +kernel

/-- an undefined symbol is a diagnostic, an expression of numbers is evaluated (`FCB 1+2` is `$03`; before fix 3dd5ba5
symbols and expressions were never evaluated) -/
theorem C05_finding_symbolic_fixed :
    lineResult (str "SYM") fcbRow = none ∧ lineResult (str "1+2") fcbRow = some (1, some [3]) ∧
    lineResult (str "SYM") fdbRow = none ∧ lineResult (str "SYM") rmbRow = none := by
  decide +kernel

/-- `RMB -1` is refused (before fix 3dd5ba5 one byte was reserved) -/
theorem C05_finding_RMB_neg1_fixed : lineResult (str "-1") rmbRow = none := by decide +kernel

/-- a list element that does not fit a byte is rejected when the line is parsed (fix 077e4c2) -/
theorem C05_fixed_FCB_list_wide :
    lineResult (str "1,300") fcbRow = none ∧
    lineResult (str "1,4096") fcbRow = none := by decide +kernel

/-- negatives are complemented at the directive's width, single value and list element alike; `-0` is zero (before fix
fb747a5 `FDB 1,-1` gave `0001 00FF`, a single `FCB -2` gave `$02`) -/
theorem C05_finding_list_neg_fixed :
    lineResult (str "1,-2") fcbRow = some (2, some [1, 0xFE]) ∧
    lineResult (str "-2") fcbRow = some (1, some [0xFE]) ∧
    lineResult (str "1,-1") fdbRow = some (4, some [0, 1, 0xFF, 0xFF]) ∧
    lineResult (str "1,-0") fcbRow = some (2, some [1, 0]) := by decide +kernel

/-- A FINDING: empty list elements are dropped without a diagnostic (`FCB 1,,3` is two bytes, `FCB 1,` one) -/
theorem C05_finding_list_empty :
    lineResult (str "1,,3") fcbRow = some (2, some [1, 3]) ∧ lineResult (str "1,") fcbRow = some (1, some [1]) := by
  decide +kernel

/-- a symbol or an expression INSIDE a list (refused before fix e6da74c): on the one-line level the element is accepted
and holds its place with zeros (`lineResult` stops before the lists are evaluated); through `assemble` it is evaluated:
`FCB 1,1+2` is `01 03`, and with `SYM EQU 7`, `FCB 1,SYM` is `01 07` -/
theorem C05_finding_list_symbol_fixed (fs : Files) :
    lineResult (str "1,1+2") fcbRow = some (2, some [1, 0]) ∧ lineResult (str "1+2") fcbRow = some (1, some [3]) ∧
    (∃ a, assemble fs (["SYM EQU 7\n", " FCB 1,SYM\n"].map String.toList) = .ok a ∧ a.image = some [0x01, 0x07]) ∧
    (∃ a, assemble fs ([" FCB 1,1+2\n"].map String.toList) = .ok a ∧ a.image = some [0x01, 0x03]) :=
  ⟨by decide +kernel, C05_finding_symbolic_fixed.2.1, evaluated (by decide +kernel)⟩

/-- a TAB inside an FCC string is the byte `$09` like any other character (fix dfad397) -/
theorem C05_fixed_FCC_tab :
    lineResult ['"', 'A', '\t', 'B', '"'] fccRow = some (3, some [0x41, 0x09, 0x42]) ∧
    lineResult ['"', '\t', '"'] fccRow = some (1, some [0x09]) ∧
    lineResult ['"', '\t', '\t', '"'] fccRow = some (2, some [0x09, 0x09]) := by decide +kernel

/-- on the operand-text level a one-character FCC operand is its own closing delimiter: the text `A` is the empty
string.  (NOT reachable from a source line: `parseLine` cuts the operand of `FCC A` down to the empty
text, which is refused — `C05_program_FCC_single_char`.) -/
theorem C05_finding_FCC_single_char : lineResult (str "A") fccRow = some (0, some []) := by decide +kernel

/-! ### whole programs through `assemble`: labels and EQU symbols under the data directives

`evaluated` (Lemmas/ParseEval.lean) reduces a statement about `assemble fs lines`, for every host file system `fs`, to
a Boolean test on the INCLUDE-free program (`checkProgramF`, `rejectedF`), which the kernel evaluates. -/

def prog (lines : List String) : List Str := lines.map String.toList

/-- **`FDB LABEL`**: the address of the label, backward and forward reference (before fix 3dd5ba5: `$0000`) -/
theorem C05_program_FDB_label (fs : Files) :
    ∃ a, assemble fs (prog [" ORG $1000\n", "START NOP\n", " FDB START\n", " FDB LABEL\n", "LABEL NOP\n"]) = .ok a ∧
      a.image = some [0x12, 0x10, 0x00, 0x10, 0x05, 0x12] :=
  evaluated (by decide +kernel)

/-- **`BUF RMB SIZE`** with `SIZE EQU 4`: four bytes are reserved, `FCB SIZE` / `FDB SIZE` are the constant, and the
label after the buffer has moved accordingly (`FDB BUF2` is `$0004`) -/
theorem C05_program_RMB_symbol (fs : Files) :
    ∃ a, assemble fs (prog ["SIZE EQU 4\n", "BUF RMB SIZE\n", "BUF2 FCB SIZE\n", " FDB SIZE\n", " FDB BUF2\n"]) = .ok a ∧
      a.image = some [0, 0, 0, 0, 4, 0, 4, 0, 4] :=
  evaluated (by decide +kernel)

/-- **`ORG START`** with `START EQU $2000`: the origin is `$2000` and labels count from there -/
theorem C05_program_ORG_symbol (fs : Files) :
    ∃ a, assemble fs (prog ["START EQU $2000\n", " ORG START\n", "L NOP\n", " FDB L\n"]) = .ok a ∧
      a.origin.int? = some 0x2000 ∧ a.image = some [0x12, 0x20, 0x00] :=
  evaluated (by decide +kernel)

/-- a label under FCB must fit a byte: `FCB L` with `L` at `$1000` is a diagnostic, at `$0000` it is `$00` -/
theorem C05_program_FCB_label (fs : Files) :
    assemble fs (prog [" ORG $1000\n", "L NOP\n", " FCB L\n"]) = .diag ∧
    ∃ a, assemble fs (prog ["L NOP\n", " FCB L\n"]) = .ok a ∧ a.image = some [0x12, 0x00] :=
  evaluated (by decide +kernel)

/-- negative values and lists in a program -/
theorem C05_program_negatives (fs : Files) :
    ∃ a, assemble fs (prog [" FCB -1\n", " FDB -1\n", " FCB 1,-2\n", " FDB 1,-1\n"]) = .ok a ∧
      a.image = some [0xFF, 0xFF, 0xFF, 1, 0xFE, 0, 1, 0xFF, 0xFF] :=
  evaluated (by decide +kernel)

/-- a NEGATIVE EQU constant under the data directives (fix 74ec239): `X EQU -5`, `FDB X` is `FF FB`, `FCB X` is
`FB`; `RMB X` and `ORG X` are refused -/
theorem C05_program_negative_symbol (fs : Files) :
    (∃ a, assemble fs (prog ["X EQU -5\n", " FDB X\n", " FCB X\n"]) = .ok a ∧ a.image = some [0xFF, 0xFB, 0xFB]) ∧
    assemble fs (prog ["X EQU -5\n", " RMB X\n"]) = .diag ∧ assemble fs (prog ["X EQU -5\n", " ORG X\n"]) = .diag :=
  evaluated (by decide +kernel)

/-- what is refused, as programs -/
theorem C05_program_rejected (fs : Files) :
    assemble fs (prog [" FCB 300\n"]) = .diag ∧ assemble fs (prog [" FCB -129\n"]) = .diag ∧
    assemble fs (prog [" RMB -1\n"]) = .diag ∧ assemble fs (prog [" FCB 1,300\n"]) = .diag ∧
    assemble fs (prog [" FDB 70000\n"]) = .diag ∧ assemble fs (prog [" FCB NOSUCH\n"]) = .diag :=
  evaluated (by decide +kernel)

/-- `FCC A` as a source line: a diagnostic ("a value cannot be empty") -/
theorem C05_program_FCC_single_char (fs : Files) : assemble fs (prog [" FCC A\n"]) = .diag :=
  evaluated (by decide +kernel)

/-! ### FCC: the string is taken from the line as it was written (fix d74c37d)

Before the fix `parse_line` rebuilt the FCC operand from the `operands` and `comment` groups of ASM_LINE_REGEX (joined by
ONE blank): a run of blanks inside the string collapsed and a `;` after a blank was lost with the blanks around it.  Since
the fix the text from the start of the `operands` group to the end of the line is used (`rstrip (operandsTail line)`). -/

/-- **C05, an FCC line in general**: on the line `label FCC d body d tail` — `label` made of label characters
(possibly empty), `d` any non-blank delimiter, `body` ANY
text of 8-bit characters without `d` and without a newline (blanks, runs of blanks, `;`, characters outside the operand
class: all kept), `tail` not ending in a blank — the statement carries exactly the string `body`; the comment is `tail`
without its blanks and leading semicolons -/
theorem C05_FCC_line_as_written (label : Str) (d : Char) (body tail : Str) (hl : ∀ c ∈ label, isLabelCh c = true)
    (hdsp : isSpace d = false) (hd : d ∉ body) (hb : ∀ c ∈ body, c.toNat < 256)
    (hnl : '\n' ∉ d :: (body ++ d :: tail)) (ht : ∀ c ∈ tail.getLast?, isSpace c = false) :
    parseLine (label ++ ' ' :: (str "FCC" ++ ' ' :: (d :: (body ++ d :: tail)))) = .ok (some {
      label := label, mnemonic := str "FCC", row := fccRow,
      operand := { kind := .pseudo, text := d :: (body ++ [d]), value := .str body },
      origText := d :: (body ++ [d]), comment := strip ((strip tail).dropWhile (· == ';')) }) :=
  parseLine_fcc_line (mn := str "FCC") d body tail hl (by decide) (by decide) rows_generated.2.2.2.1 rfl hdsp hd hnl ht
    (createOperand_fcc (row := fccRow) rfl rfl rfl rfl rfl rfl d body hb)

/-- ... and the bytes of that statement are the character codes of `body` -/
theorem C05_FCC_line_bytes (label : Str) (d : Char) (body tail : Str) (hl : ∀ c ∈ label, isLabelCh c = true)
    (hdsp : isSpace d = false) (hd : d ∉ body) (hb : ∀ c ∈ body, c.toNat < 256)
    (hnl : '\n' ∉ d :: (body ++ d :: tail)) (ht : ∀ c ∈ tail.getLast?, isSpace c = false) :
    ∃ s, parseLine (label ++ ' ' :: (str "FCC" ++ ' ' :: (d :: (body ++ d :: tail)))) = .ok (some s) ∧
      s.operand.value = .str body ∧ PseudoEmits s.operand s.row (body.map Char.toNat) :=
  ⟨_, C05_FCC_line_as_written label d body tail hl hdsp hd hb hnl ht, rfl, C05_FCC rfl rfl hb⟩

/-- the string and the comment `parseLine` finds on a line (`none`: not a statement with a string operand) -/
def fccOf (line : Str) : Option (Str × Str) :=
  match parseLine line with
  | .ok (some s) => (match s.operand.value with | .str b => some (b, s.comment) | _ => none)
  | _ => none

theorem fccOf_sound {line b c : Str} (h : fccOf line = some (b, c)) :
    ∃ s, parseLine line = .ok (some s) ∧ s.operand.value = .str b ∧ s.comment = c := by
  unfold fccOf at h
  split at h
  · rename_i s hs
    split at h
    · rename_i b' hv
      simp only [Option.some.injEq, Prod.mk.injEq] at h
      exact ⟨s, hs, by rw [hv, h.1], h.2⟩
    · cases h
  · cases h

/-- `fccOf` with the mnemonic looked up through `findRowF` (Lemmas/ParseEval.lean), for evaluation in the kernel -/
def fccOfF (line : Str) : Option (Str × Str) :=
  match parseLineG findRowF line with
  | .ok (some s) => (match s.operand.value with | .str b => some (b, s.comment) | _ => none)
  | _ => none

theorem fccOf_eq : fccOf = fccOfF := by
  funext line
  unfold fccOf fccOfF
  rw [parseLine_eq]

/-- kernel-checked lines, with the final newline a file gives.  `MSG FCC 'a  b;c'` keeps its two blanks and its `;`; a comment after the closing
delimiter is still a comment, with or without `;`; blanks at the end of the line are not part of anything -/
theorem C05_finding_FCC_rebuilt_fixed :
    fccOf (str "MSG FCC 'a  b;c'\n") = some (str "a  b;c", []) ∧
    fccOf (str "MSG FCC 'a  b;c'  ; note\n") = some (str "a  b;c", str "note") ∧
    fccOf (str " FCC /a b/ hello  \n") = some (str "a b", str "hello") ∧
    fccOf (str " FCC \"x ; y\"\n") = some (str "x ; y", []) := by
  rw [fccOf_eq]
  decide +kernel

/-- the same through `assemble`: `MSG FCC 'a  b;c'` is the six bytes `61 20 20 62 3B 63` -/
theorem C05_program_FCC_as_written (fs : Files) :
    ∃ a, assemble fs (prog ["MSG FCC 'a  b;c'\n", " FCC /x ; y/ ; note\n"]) = .ok a ∧
      a.image = some [0x61, 0x20, 0x20, 0x62, 0x3B, 0x63, 0x78, 0x20, 0x3B, 0x20, 0x79] :=
  evaluated (by decide +kernel)

/-- the general theorem is met by a real line -/
example : ∃ s, parseLine (str "MSG FCC 'a  b;c' ;note") = .ok (some s) ∧ s.operand.value = .str (str "a  b;c") ∧
    s.comment = str "note" := by
  -- the line, cut where the theorem cuts it (evaluated by the kernel: the elaborator compares string literals slowly)
  rw [show str "MSG FCC 'a  b;c' ;note" =
    str "MSG" ++ ' ' :: (str "FCC" ++ ' ' :: ('\'' :: (str "a  b;c" ++ '\'' :: str " ;note"))) by decide +kernel]
  exact ⟨_, C05_FCC_line_as_written (str "MSG") '\'' (str "a  b;c") (str " ;note") (by decide) (by decide) (by decide)
    (by decide) (by decide) (by decide), rfl, by decide⟩

/-- the integer a numeric value stands for -/
def signedOf (i : Nat) (neg : Bool) : Int := if neg then -(i : Int) else (i : Int)

/-- the byte an integer denotes under FCB: unsigned 0..255 or signed -128..-1 (two's complement) -/
def byteOf? (z : Int) : Option Bytes := if -128 ≤ z ∧ z ≤ 255 then some [(z % 256).toNat] else none

/-- the two bytes an integer denotes under FDB, high byte first -/
def wordOf? (z : Int) : Option Bytes :=
  if -32768 ≤ z ∧ z ≤ 65535 then some [(z % 65536 / 256).toNat, (z % 256).toNat] else none

/-- what is meant to happen: the denoted bytes are emitted; a value without an encoding is refused -/
def Meant (o : Operand) (row : InstrRow) : Option Bytes → Prop
  | some bs => PseudoEmits o row bs
  | none => Rejects o row

/-- C05 at full strength, for the rows of the generated table -/
def C05_Statement : Prop :=
  -- FCB / FDB with one value: every integer, negatives as two's complement, misfits refused
  (∀ (o : Operand) (row : InstrRow) (i : Nat) (h : Option Nat) (m : Mode) (neg : Bool), row ∈ Gen.instructions →
    row.mnemonic = "FCB" → o.value = .numeric i h m neg → Meant o row (byteOf? (signedOf i neg))) ∧
  (∀ (o : Operand) (row : InstrRow) (i : Nat) (h : Option Nat) (m : Mode) (neg : Bool), row ∈ Gen.instructions →
    row.mnemonic = "FDB" → o.value = .numeric i h m neg → Meant o row (wordOf? (signedOf i neg))) ∧
  -- FCB / FDB with a list
  (∀ (o : Operand) (row : InstrRow) (bs : Bytes),
    row.mnemonic = "FCB" → o.value = .multiByte (bs.map byteHex) → (∀ b ∈ bs, b < 256) → PseudoEmits o row bs) ∧
  (∀ (o : Operand) (row : InstrRow) (ws : List Nat),
    row.mnemonic = "FDB" → o.value = .multiWord (ws.map wordHex) → (∀ w ∈ ws, w < 65536) →
      PseudoEmits o row (wordBytes ws)) ∧
  -- RMB: a count; a count written with a minus sign is refused
  (∀ (o : Operand) (row : InstrRow) (n : Nat) (h : Option Nat) (m : Mode) (neg : Bool), row ∈ Gen.instructions →
    row.mnemonic = "RMB" → o.value = .numeric n h m neg →
      Meant o row (if neg = false then some (List.replicate n 0) else none)) ∧
  -- FCC: every string of 8-bit characters
  (∀ (o : Operand) (row : InstrRow) (s : Str),
    row.mnemonic = "FCC" → o.value = .str s → (∀ c ∈ s, c.toNat < 256) → PseudoEmits o row (s.map Char.toNat)) ∧
  -- ORG: nothing is emitted, a non-negative number becomes the address, anything else is refused
  (∀ (o : Operand) (row : InstrRow), row.mnemonic = "ORG" →
    (∀ n h m, o.value = .numeric n h m false → PseudoEmits o row [] ∧ translatePseudo o row = .ok { address := o.value }) ∧
    (o.value.isNumeric = false ∨ o.value.isNegative = true → Rejects o row)) ∧
  -- the rest emit nothing
  (∀ (o : Operand) (row : InstrRow),
    row.mnemonic ∈ ["EQU", "SETDP", "NAM", "END", "INCLUDE", "SET"] → PseudoEmits o row [])

/-- the integer of the specification is the one `NumericValue.fit` looks at: its ranges are those of the model
(`fitsByte_iff`, `fitsWord_iff`) and its two's complement value is the field (`byteField_eq`, `wordField_eq`) -/
theorem signedOf_eq_signedK : signedOf = signedK := rfl

theorem byteOf_fits {i : Nat} {neg : Bool} (h : fitsByte i neg = true) :
    byteOf? (signedOf i neg) = some [byteField i neg] := by
  rw [signedOf_eq_signedK, byteOf?, if_pos ((fitsByte_iff i neg).mp h), byteField_eq h]

theorem byteOf_misfit {i : Nat} {neg : Bool} (h : fitsByte i neg = false) : byteOf? (signedOf i neg) = none := by
  rw [signedOf_eq_signedK, byteOf?, if_neg (mt (fitsByte_iff i neg).mpr (by simp [h]))]

theorem wordOf_fits {i : Nat} {neg : Bool} (h : fitsWord i neg = true) :
    wordOf? (signedOf i neg) = some [wordField i neg / 256, wordField i neg % 256] := by
  rw [signedOf_eq_signedK, wordOf?, if_pos ((fitsWord_iff i neg).mp h), wordField_eq h]
  congr 3 <;> omega

theorem wordOf_misfit {i : Nat} {neg : Bool} (h : fitsWord i neg = false) : wordOf? (signedOf i neg) = none := by
  rw [signedOf_eq_signedK, wordOf?, if_neg (mt (fitsWord_iff i neg).mpr (by simp [h]))]

/-- **C05 holds at full strength** -/
theorem C05_full : C05_Statement := by
  refine ⟨?_, ?_, ?_, ?_, ?_, ?_, ?_, ?_⟩
  · intro o row i h m neg hrow hm hv
    cases hf : fitsByte i neg
    · rw [byteOf_misfit hf]; exact C05_FCB_single_rejected hrow hm hv hf
    · rw [byteOf_fits hf]; exact C05_FCB_single hrow hm hv hf
  · intro o row i h m neg hrow hm hv
    cases hf : fitsWord i neg
    · rw [wordOf_misfit hf]; exact C05_FDB_single_rejected hrow hm hv hf
    · rw [wordOf_fits hf]; exact C05_FDB_single hrow hm hv hf
  · intro o row bs hm hv hb; exact C05_FCB_multi hm hv hb
  · intro o row ws hm hv hw; exact (C05_FDB_multi hm hv hw).1
  · intro o row n h m neg hrow hm hv
    cases neg
    · simp only [if_true]; exact C05_RMB hrow hm hv
    · simp only [Bool.true_eq_false, if_false]; exact C05_RMB_neg_rejected hm hv
  · intro o row s hm hv hs; exact C05_FCC hm hv hs
  · intro o row hm
    exact ⟨fun n h m hv => C05_ORG hm hv, C05_ORG_rejected hm⟩
  · intro o row hm; exact C05_no_data_mnemonics hm

/-- the name the harness registers for the proved part, which is the whole statement -/
theorem C05_partial : C05_Statement := C05_full

/-- `FCB -1` as the parser builds it emits `$FF` (before fix fb747a5: `$01`) -/
example : PseudoEmits { kind := .pseudo, text := str "-1", value := .numeric 1 (some 4) .extended true } fcbRow [255] :=
  C05_FCB_single (n := 1) (neg := true) fcb_mem rfl rfl (by decide)

/-- and `RMB -1` is refused -/
example : Rejects { kind := .pseudo, text := str "-1", value := .numeric 1 (some 4) .extended true } rmbRow :=
  C05_RMB_neg_rejected rfl rfl

/-- the operand used above is the one `Operand.create_from_str` builds for `FCB -1` -/
example : createOperand (str "-1") fcbRow =
    .ok { kind := .pseudo, text := str "-1", value := .numeric 1 (some 4) .extended true } := rfl

/-! ### symbols, expressions and labels INSIDE a list (fix e6da74c)

When the line is parsed a list element that is not a literal but a symbol or a two-term expression is kept and holds its
place with zeros (`multi` / `elemHexP`: `multi_ok_positions`); after the address pass `evalLists` replaces it by its
value at the width of the directive (`evalElem`), literal positions keep their digits (`evalElems`).  The clauses of
`C05_Statement` about lists speak of a value that IS a list of hex strings (it is emitted as it is); the theorems below
say how such a list comes about.  Helpers: Lemmas/EncodeLists.lean. -/

/-- what a list element of integer value `z` is meant to become under FCB: two hex digits, −128..255, a negative value in
two's complement; anything else is a diagnostic -/
def elemOf2 (z : Int) : Outcome Str := if -128 ≤ z ∧ z ≤ 255 then .ok (byteHex (z % 256).toNat) else .diag

/-- ... and under FDB: four hex digits, −32768..65535 -/
def elemOf4 (z : Int) : Outcome Str := if -32768 ≤ z ∧ z ≤ 65535 then .ok (wordHex (z % 65536).toNat) else .diag

theorem renderAt2_eq (n : Nat) (neg : Bool) : renderAt 2 n neg = elemOf2 (signedOf n neg) := by
  rw [renderAt_of .byte, signedOf_eq_signedK, elemOf2]
  by_cases hf : fitsByte n neg = true
  · rw [if_pos hf, if_pos ((fitsByte_iff n neg).mp hf), byteField_eq hf]
  · rw [if_neg hf, if_neg (mt (fitsByte_iff n neg).mpr hf)]

theorem renderAt4_eq (n : Nat) (neg : Bool) : renderAt 4 n neg = elemOf4 (signedOf n neg) := by
  rw [renderAt_of .word, signedOf_eq_signedK, elemOf4]
  by_cases hf : fitsWord n neg = true
  · rw [if_pos hf, if_pos ((fitsWord_iff n neg).mp hf), wordField_eq hf]
  · rw [if_neg hf, if_neg (mt (fitsWord_iff n neg).mpr hf)]

/-- **C05, a list element with a numeric value, FCB**: whatever the element text `x` is (a symbol, an expression of
constants such as `S*2`), if `resolve` yields the number `n` (sign `neg`) the element becomes the two's complement byte of
that number when −128 ≤ n ≤ 255, and the list is refused otherwise -/
theorem C05_list_elem_value_FCB {ss : List Stmt} {t : SymTab} {x : Str} {v : Value} {n : Nat} {h : Option Nat} {m : Mode}
    {neg : Bool} (hc : create 4 x false false true = .ok v) (hr : v.resolve t = .ok (.numeric n h m neg)) :
    evalElem ss t 2 x = elemOf2 (signedOf n neg) := by
  rw [evalElem_numeric hc hr, renderAt2_eq]

/-- **… FDB**: the two's complement word when −32768 ≤ n ≤ 65535, refused otherwise -/
theorem C05_list_elem_value_FDB {ss : List Stmt} {t : SymTab} {x : Str} {v : Value} {n : Nat} {h : Option Nat} {m : Mode}
    {neg : Bool} (hc : create 4 x false false true = .ok v) (hr : v.resolve t = .ok (.numeric n h m neg)) :
    evalElem ss t 4 x = elemOf4 (signedOf n neg) := by
  rw [evalElem_numeric hc hr, renderAt4_eq]

/-- **C05, a SYMBOL in an FCB list** (`SYM EQU n` … `FCB 1,SYM`): `x` is read as the symbol `name` (`hc`; what
`createV_sym` of Lemmas/FrontEndSymbol.lean shows for every symbol name), the table binds it to the constant `v` with
sign `neg` -/
theorem C05_list_elem_symbol_FCB {ss : List Stmt} {t : SymTab} {x name : Str} {mo : Mode} {v : Nat} {h : Option Nat}
    {m : Mode} {neg : Bool} (hc : create 4 x false false true = .ok (.symbol name mo))
    (ht : t.get? name = some (.numeric v h m neg)) (hlt : v < 65536) :
    evalElem ss t 2 x = elemOf2 (signedOf v neg) := by
  rw [evalElem_numeric hc (resolve_symbol_numeric (mo := mo) ht hlt), renderAt_negZero, renderAt2_eq]

/-- **C05, a symbol in an FDB list** -/
theorem C05_list_elem_symbol_FDB {ss : List Stmt} {t : SymTab} {x name : Str} {mo : Mode} {v : Nat} {h : Option Nat}
    {m : Mode} {neg : Bool} (hc : create 4 x false false true = .ok (.symbol name mo))
    (ht : t.get? name = some (.numeric v h m neg)) (hlt : v < 65536) :
    evalElem ss t 4 x = elemOf4 (signedOf v neg) := by
  rw [evalElem_numeric hc (resolve_symbol_numeric (mo := mo) ht hlt), renderAt_negZero, renderAt4_eq]

/-- **C05, a LABEL in an FDB list** (a jump table: `FDB L1,L2`): the table entry of a label is the index `j` of its
statement; the element becomes the address `a` of that statement, high byte first -/
theorem C05_list_elem_label_FDB {ss : List Stmt} {t : SymTab} {x name : Str} {mo m : Mode} {j a : Nat} {h : Option Nat}
    {m' : Mode} (hc : create 4 x false false true = .ok (.symbol name mo)) (ht : t.get? name = some (.address j m))
    (ha : addrOf ss j = some (.numeric a h m' false)) :
    evalElem ss t 4 x = if a ≤ 65535 then .ok (wordHex a) else .diag := by
  rw [evalElem_address hc (resolve_symbol_address ht) ha, renderAt_of .word]
  simp [fitsWord, wordField]

/-- **C05, a label in an FCB list**: the address if it fits a byte, refused otherwise -/
theorem C05_list_elem_label_FCB {ss : List Stmt} {t : SymTab} {x name : Str} {mo m : Mode} {j a : Nat} {h : Option Nat}
    {m' : Mode} (hc : create 4 x false false true = .ok (.symbol name mo)) (ht : t.get? name = some (.address j m))
    (ha : addrOf ss j = some (.numeric a h m' false)) :
    evalElem ss t 2 x = if a ≤ 255 then .ok (byteHex a) else .diag := by
  rw [evalElem_address hc (resolve_symbol_address ht) ha, renderAt_of .byte]
  simp [fitsByte, byteField]

/-- **C05, a LABEL EXPRESSION in a list** (`L1+1`, `L2-L1`): if `resolve` yields a label expression, the element is
`calculate_address_offset` on the final addresses (`addrOffset`), rendered at the width of the directive (`renderAt`:
`renderAt2_eq`, `renderAt4_eq`); a failure of the offset (a division by zero, a result above 65535) refuses the list -/
theorem C05_list_elem_label_expr {ss : List Stmt} {t : SymTab} {w : Nat} {x : Str} {v l r : Value} {op : Char} {mo : Mode}
    (hc : create 4 x false false true = .ok v) (hr : v.resolve t = .ok (.expr l r op mo true)) :
    evalElem ss t w x =
      (match addrOffset ss (.expr l r op mo true) with
       | .ok (.numeric n _ _ neg) => renderAt w n neg
       | .ok _ => .diag
       | .diag => .diag
       | .internal => .internal
       | .diverged => .diverged) :=
  evalElem_addrExpr hc hr

/-- **C05, an UNDEFINED symbol in a list**: refused, whatever the width -/
theorem C05_list_elem_undefined {ss : List Stmt} {t : SymTab} {w : Nat} {x name : Str} {mo : Mode}
    (hc : create 4 x false false true = .ok (.symbol name mo)) (ht : t.get? name = none) :
    evalElem ss t w x = .diag :=
  evalElem_resolve_error hc (resolve_symbol_undefined ht)

/-- **C05, the list position by position**: for a list of element texts `xs` with the digits `hs` stored when the line
was parsed (same length: `multi_ok_positions`), the evaluation succeeds with `r` exactly when `r` has one entry per
element, every PENDING element (a symbol or an expression that is not a literal) evaluates to its entry, and every
LITERAL position keeps its digits -/
theorem C05_list_positions {ss : List Stmt} {t : SymTab} {w : Nat} {xs hs r : List Str} (hl : xs.length = hs.length) :
    evalElems ss t w xs hs = .ok r ↔
      r.length = xs.length ∧
      ∀ i (hi : i < xs.length) (hh : i < hs.length) (hr : i < r.length),
        (isPending w xs[i] = true → evalElem ss t w xs[i] = .ok r[i]) ∧ (isPending w xs[i] = false → r[i] = hs[i]) := by
  have key : ∀ (x h v : Str), evalElem1 ss t w x h = .ok v ↔
      (isPending w x = true → evalElem ss t w x = .ok v) ∧ (isPending w x = false → v = h) := by
    intro x h v
    rw [evalElem1, ← isPending_eq_pendingAt]
    cases hp : isPending w x
    · simp only [Bool.false_eq_true, if_false, Outcome.ok.injEq, false_imp_iff, true_and, forall_const]
      exact eq_comm
    · simp
  simp only [evalElems_ok_iff xs hs r hl, key]

/-- **C05, a list of literals only** is left exactly as it was parsed -/
theorem C05_list_literals_unchanged {ss : List Stmt} {t : SymTab} {w : Nat} {xs hs : List Str}
    (hl : xs.length = hs.length) (hp : ∀ x ∈ xs, isPending w x = false) : evalElems ss t w xs hs = .ok hs :=
  evalElems_literal hp hl

/-- **C05, one element without a value refuses the list**: if a pending element does not evaluate (an undefined symbol,
a value that does not fit, a division by zero), the evaluation of the list does not succeed -/
theorem C05_list_refused {ss : List Stmt} {t : SymTab} {w : Nat} {xs hs : List Str} (hl : xs.length = hs.length)
    {i : Nat} (hi : i < xs.length) (hp : isPending w xs[i] = true) (hne : ∀ v, evalElem ss t w xs[i] ≠ .ok v) :
    ∀ r, evalElems ss t w xs hs ≠ .ok r :=
  evalElems_not_ok_of_mem xs hs hl i hi (by omega) (fun v => by simpa [evalElem1, ← isPending_eq_pendingAt, hp] using hne v)

/-- the hypotheses are met: `SYM` is read as a symbol, `SYM` and `SYM+1` are pending, `7`, `'A` and `300` are not -/
theorem create_SYM : create 4 (str "SYM") false false true = .ok (.symbol (str "SYM") .extended) := rfl
example : isPending 2 (str "SYM") = true ∧ isPending 4 (str "SYM+1") = true ∧ isPending 2 (str "7") = false ∧
    isPending 2 (str "'A") = false ∧ isPending 2 (str "300") = false := by decide +kernel

/-- `FCB 1,SYM` with `SYM EQU 7` in the table: the element `SYM` becomes `07`; with `SYM EQU 300` it is refused; with
`SYM EQU -2` it is `FE`; as a label at `$2000` under FDB it is `2000` -/
example (ss : List Stmt) : evalElem ss [(str "SYM", .numeric 7 (some 4) .extended false)] 2 (str "SYM") = .ok (str "07") :=
  (C05_list_elem_symbol_FCB (v := 7) create_SYM rfl (by decide)).trans (by decide +kernel)
example (ss : List Stmt) : evalElem ss [(str "SYM", .numeric 300 (some 4) .extended false)] 2 (str "SYM") = .diag :=
  (C05_list_elem_symbol_FCB (v := 300) create_SYM rfl (by decide)).trans (by decide +kernel)
example (ss : List Stmt) : evalElem ss [(str "SYM", .numeric 2 (some 4) .extended true)] 2 (str "SYM") = .ok (str "FE") :=
  (C05_list_elem_symbol_FCB (v := 2) create_SYM rfl (by decide)).trans (by decide +kernel)
example (s : Stmt) : evalElem [{ s with pkg := { s.pkg with address := .numeric 0x2000 (some 4) .extended false } }]
    [(str "SYM", .address 0 .none)] 4 (str "SYM") = .ok (str "2000") :=
  (C05_list_elem_label_FDB (a := 0x2000) create_SYM rfl rfl).trans (by decide +kernel)

/-! #### whole programs through `assemble` (kernel-checked, for every host file system) -/

/-- **a jump table**: `T FDB L1,L2,T,$1234,L1+1,L2-L1` at `$2000` — labels behind the table (forward references), the
label of the table itself, a literal, a label plus a constant, a difference of labels -/
theorem C05_program_list_labels (fs : Files) :
    ∃ a, assemble fs (prog [" ORG $2000\n", "T FDB L1,L2,T,$1234,L1+1,L2-L1\n", "L1 NOP\n", "L2 RTS\n"]) = .ok a ∧
      a.image = some [0x20, 0x0C, 0x20, 0x0D, 0x20, 0x00, 0x12, 0x34, 0x20, 0x0D, 0x00, 0x01, 0x12, 0x39] :=
  evaluated (by decide +kernel)

/-- **EQU constants in lists**: with `S EQU 7`, `FCB 1,S,S*2,'A,S+1` is `01 07 0E 41 08` and `FDB S,1,S-8` is
`00 07 00 01 FF FF` -/
theorem C05_program_list_symbols (fs : Files) :
    ∃ a, assemble fs (prog ["S EQU 7\n", " FCB 1,S,S*2,'A,S+1\n", " FDB S,1,S-8\n"]) = .ok a ∧
      a.image = some [0x01, 0x07, 0x0E, 0x41, 0x08, 0x00, 0x07, 0x00, 0x01, 0xFF, 0xFF] :=
  evaluated (by decide +kernel)

/-- **what is refused**: a label that does not fit a byte, an undefined symbol, a constant that does not fit a byte
(defined after its use), a division by zero -/
theorem C05_program_list_rejected (fs : Files) :
    assemble fs (prog [" ORG $100\n", "L NOP\n", " FCB 1,L\n"]) = .diag ∧
    assemble fs (prog [" FCB 1,UNDEF\n"]) = .diag ∧
    assemble fs (prog [" FCB 1,S\n", "S EQU 300\n"]) = .diag ∧
    assemble fs (prog [" FDB 5/Z,1\n", "Z EQU 0\n"]) = .diag :=
  evaluated (by decide +kernel)

/-- an unsigned run of digits from 65536 on inside a list (`FCB 1,70000`, `FDB 1,70000`) is a symbol name to the parser
and is refused when the list is evaluated (no such symbol); a negative literal below the range is refused at once
(`C05_FDB_signed_list_rejected_fixed`) — a diagnostic either way -/
theorem C05_program_list_big_literal (fs : Files) :
    assemble fs (prog [" FCB 1,70000\n"]) = .diag ∧ assemble fs (prog [" FDB 1,70000\n"]) = .diag ∧
    assemble fs (prog [" FDB 1,-32769\n"]) = .diag :=
  evaluated (by decide +kernel)

end CoCo.Props

section axioms
open CoCo.Props
#print axioms C05_full
#print axioms C05_FCB_symbol
#print axioms C05_FDB_symbol_neg
#print axioms C05_program_negative_symbol
#print axioms C05_program_FDB_label
#print axioms C05_FCC_line_as_written
#print axioms C05_finding_FCC_rebuilt_fixed
#print axioms C05_program_FCC_as_written
#print axioms C05_finding_list_symbol_fixed
#print axioms C05_list_elem_symbol_FCB
#print axioms C05_list_elem_label_FDB
#print axioms C05_list_positions
#print axioms C05_program_list_labels
#print axioms C05_program_list_symbols
#print axioms C05_program_list_rejected
#print axioms C05_FCB_signed_list_rejected_fixed
end axioms
