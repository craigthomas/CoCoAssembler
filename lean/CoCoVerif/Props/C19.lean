/-
INCLUDE is textual inclusion: `assemble fs (pre ++ [l] ++ post)`, where `l` is an `INCLUDE f` line, equals the assembly of
the program in which the line is replaced by the lines of `f` (`include_textual_full`; any nesting:
`include_textual_star_full`); an INCLUDE of a missing file and a file that includes itself are diagnostics
(`include_missing_full`; `include_cycle_full`, the cycle of length one of `front_cycle`, of which `cycle2_example` is one of
length two); together `C19_full : C19_Statement`.

No side condition about the nesting depth: `Program.process_mnemonics` reports Python's RecursionError as a diagnostic,
and the model's nesting budget `includeFuel fs` = number of files + 1 is NEVER exhausted, because a file that is being
included is rejected, so the chain of files being processed holds no file twice (`expand_includeFuel_ne_internal`,
`front_never_internal` in Lemmas/FrontInclude.lean).  Python's limit itself (about 1000 nested files) is not modelled.
The forms with cases or side conditions (`include_textual_cases`, `include_textual`, `include_textual_ok`,
`C19_partial`) are corollaries.  The theorems `*_fixed` are about a chain of 65 nested
files, which exhausts any fixed budget of 64 levels.
-/
import CoCoVerif.Lemmas.ParseEval

namespace CoCo.Props
open CoCo CoCo.Asm

/-- `l` is a well-formed `INCLUDE f` line -/
def IsInclude (l : Str) (f : Str) : Prop :=
  ∃ s, parseLine l = .ok (some s) ∧ s.row.isInclude = true ∧ s.operand.text = f ∧ f ≠ []

/-- `s` is an `INCLUDE f` statement -/
def IsIncludeStmt (s : Stmt) (f : Str) : Prop :=
  s.row.isInclude = true ∧ s.operand.text = f ∧ f ≠ []

def isIncludeB (l f : Str) : Bool :=
  match parseLine l with
  | .ok (some s) => s.row.isInclude && s.operand.text == f && !f.isEmpty
  | _ => false

theorem isInclude_of_check {l f : Str} (h : isIncludeB l f = true) : IsInclude l f := by
  unfold isIncludeB at h
  split at h
  · rename_i s hs
    simp only [Bool.and_eq_true, beq_iff_eq, Bool.not_eq_true', List.isEmpty_eq_false_iff] at h
    exact ⟨s, hs, h.1.1, h.1.2, h.2⟩
  · cases h

theorem IsInclude.cond {f : Str} {s : Stmt} (h : s.row.isInclude = true ∧ s.operand.text = f ∧ f ≠ []) :
    (s.row.isInclude && !s.operand.text.isEmpty) = true := by
  obtain ⟨h1, h2, h3⟩ := h
  subst h2
  simp [h1, h3]

/-- the statement of an `INCLUDE f` line, with the condition under which `expand` treats it as an INCLUDE -/
theorem IsInclude.parsed {l f : Str} (h : IsInclude l f) :
    ∃ s, parseLine l = .ok (some s) ∧ (s.row.isInclude && !s.operand.text.isEmpty) = true ∧ s.operand.text = f := by
  obtain ⟨s, hs, h⟩ := h
  exact ⟨s, hs, IsInclude.cond h, h.2.1⟩

def includeRow : Gen.InstrRow :=
  ⟨"INCLUDE", none, 0, none, 0, none, 0, none, 0, none, 0, none, 0, true, false, false, false, true, false, false,
    false, false, false, false, false, false⟩

theorem findRow_include : findRow "INCLUDE".toList = some includeRow := by rw [findRow_eq]; decide +kernel

/-- ` INCLUDE f` with a name made of operand characters is an `INCLUDE f` line -/
theorem isInclude_plain {l f : Str} (hl : l = " INCLUDE ".toList ++ f ++ ['\n']) (hne : f ≠ [])
    (hops : ∀ x ∈ f, isOperandCh x = true) : IsInclude l f := by
  have hscan : scanLine l = .asm [] "INCLUDE".toList f [] := by
    rw [hl, show " INCLUDE ".toList = [] ++ [' '] ++ "INCLUDE".toList ++ [' '] by decide,
      show ∀ x : Str, x ++ f ++ ['\n'] = x ++ f ++ [] ++ [] ++ [] ++ ['\n'] by simp]
    exact scanLine_canonical (by simp) (by decide) (by decide) hops (by simp) (by decide) (by simp) (by decide)
      (by simp) (by simp) ⟨by simp, by simp⟩ (.inr (.inr (by simp)))
  have hup : "INCLUDE".toList.map upperC = "INCLUDE".toList := by decide
  refine ⟨{ label := [], mnemonic := "INCLUDE".toList, row := includeRow,
            operand := { kind := .pseudo, text := f, value := .none }, origText := f, comment := [] }, ?_, rfl, rfl, hne⟩
  rw [parseLine_of_scan hscan (fun r hr => by rw [hup, findRow_include] at hr; cases hr; rfl), hup, findRow_include]
  rfl

/-- clause 1: unconditional textual inclusion -/
def C19_Textual : Prop :=
  ∀ (fs : Files) (pre post ls : List Str) (l f : Str), IsInclude l f → fs.get? f = some ls →
    assemble fs (pre ++ [l] ++ post) = assemble fs (pre ++ ls ++ post)

/-- clause 2: an INCLUDE of a file that does not exist is diagnosed -/
def C19_MissingDiag : Prop :=
  ∀ (fs : Files) (pre post : List Str) (l f : Str), IsInclude l f → fs.get? f = none →
    assemble fs (pre ++ [l] ++ post) = .diag

/-- clause 3: a file whose only line includes the file itself is diagnosed -/
def C19_CycleDiag : Prop :=
  ∀ (fs : Files) (pre post : List Str) (l f : Str), IsInclude l f → fs.get? f = some [l] →
    assemble fs (pre ++ [l] ++ post) = .diag

def C19_Statement : Prop := C19_Textual ∧ C19_MissingDiag ∧ C19_CycleDiag

theorem IsInclude.front_eq {fs : Files} {pre post ls : List Str} {l f : Str} (hl : IsInclude l f)
    (hf : fs.get? f = some ls) : front fs (pre ++ [l] ++ post) = front fs (pre ++ ls ++ post) := by
  obtain ⟨s, hs, hc, rfl⟩ := hl.parsed
  exact front_include_eq hs hc hf

/-- The three-case form: the two sides agree; or the INCLUDE side
exhausts the budget (`internal`); or the INCLUDE side reports a diagnostic and the substituted side exhausts the budget.
The budget `includeFuel fs` is never exhausted, so only the first case arises (`include_textual_full`). -/
theorem include_textual_cases (fs : Files) (pre post ls : List Str) (l f : Str)
    (hl : IsInclude l f) (hf : fs.get? f = some ls) :
    assemble fs (pre ++ [l] ++ post) = assemble fs (pre ++ ls ++ post) ∨
    assemble fs (pre ++ [l] ++ post) = .internal ∨
    (assemble fs (pre ++ [l] ++ post) = .diag ∧ assemble fs (pre ++ ls ++ post) = .internal) :=
  .inl (assemble_congr (hl.front_eq hf))

/-- Strong form: the equality holds as soon as the parse-and-expand stage `front` ends in `internal` on
neither side (a later `internal` is the same on both sides). -/
theorem include_textual_strong (fs : Files) (pre post ls : List Str) (l f : Str)
    (hl : IsInclude l f) (hf : fs.get? f = some ls)
    (hne : front fs (pre ++ [l] ++ post) ≠ .internal)
    (hne' : front fs (pre ++ ls ++ post) ≠ .internal) :
    assemble fs (pre ++ [l] ++ post) = assemble fs (pre ++ ls ++ post) :=
  assemble_congr (hl.front_eq hf)

/-- If the INCLUDE side gets through parsing and expansion, the substituted side gets through with the
same statements and the assemblies agree (no condition on the substituted side). -/
theorem include_textual_front_ok (fs : Files) (pre post ls : List Str) (l f : Str) (ss : List Stmt)
    (hl : IsInclude l f) (hf : fs.get? f = some ls)
    (hok : front fs (pre ++ [l] ++ post) = .ok ss) :
    front fs (pre ++ ls ++ post) = .ok ss ∧
    assemble fs (pre ++ [l] ++ post) = assemble fs (pre ++ ls ++ post) :=
  ⟨hl.front_eq hf ▸ hok, assemble_congr (hl.front_eq hf)⟩

/-- The equality under the side conditions that neither side exhausts the nesting budget; with `includeFuel fs` both always
hold: `include_textual_full` is the same equality without them. -/
theorem include_textual (fs : Files) (pre post ls : List Str) (l f : Str)
    (hl : IsInclude l f) (hf : fs.get? f = some ls)
    (hne : assemble fs (pre ++ [l] ++ post) ≠ .internal)
    (hne' : assemble fs (pre ++ ls ++ post) ≠ .internal) :
    assemble fs (pre ++ [l] ++ post) = assemble fs (pre ++ ls ++ post) :=
  include_textual_strong fs pre post ls l f hl hf (front_ne_internal hne) (front_ne_internal hne')

/-- **C19 clause 1 at full strength: INCLUDE is textual inclusion, without side conditions.**  Both sides run with
the same nesting budget `includeFuel fs`, which neither exhausts (`front_never_internal`). -/
theorem include_textual_full (fs : Files) (pre post ls : List Str) (l f : Str)
    (hl : IsInclude l f) (hf : fs.get? f = some ls) :
    assemble fs (pre ++ [l] ++ post) = assemble fs (pre ++ ls ++ post) :=
  include_textual_strong fs pre post ls l f hl hf (front_never_internal fs _) (front_never_internal fs _)

theorem C19_textual_full : C19_Textual := include_textual_full

/-- for accepted programs no side condition is needed -/
theorem include_textual_ok (fs : Files) (pre post ls : List Str) (l f : Str) (a : Assembly)
    (hl : IsInclude l f) (hf : fs.get? f = some ls)
    (hok : assemble fs (pre ++ [l] ++ post) = .ok a) :
    assemble fs (pre ++ ls ++ post) = .ok a :=
  (include_textual_full fs pre post ls l f hl hf).symm.trans hok

/-- a diagnostic on the INCLUDE side is a diagnostic on the substituted side, unless the budget runs out (it does not:
`include_textual_diag_full`) -/
theorem include_textual_diag (fs : Files) (pre post ls : List Str) (l f : Str)
    (hl : IsInclude l f) (hf : fs.get? f = some ls)
    (hd : assemble fs (pre ++ [l] ++ post) = .diag) :
    assemble fs (pre ++ ls ++ post) = .diag ∨ assemble fs (pre ++ ls ++ post) = .internal :=
  .inl ((include_textual_full fs pre post ls l f hl hf).symm.trans hd)

/-- read right to left: a successful assembly of the substituted program is what the INCLUDE gives,
unless the INCLUDE version exhausts the recursion budget (it does not: `include_textual_conv_full`) -/
theorem include_textual_conv (fs : Files) (pre post ls : List Str) (l f : Str) (a : Assembly)
    (hl : IsInclude l f) (hf : fs.get? f = some ls)
    (hok : assemble fs (pre ++ ls ++ post) = .ok a) :
    assemble fs (pre ++ [l] ++ post) = .ok a ∨ assemble fs (pre ++ [l] ++ post) = .internal :=
  .inl ((include_textual_full fs pre post ls l f hl hf).trans hok)

/-- a diagnostic on the INCLUDE side is a diagnostic on the substituted side (the second case of
`include_textual_diag` does not arise) -/
theorem include_textual_diag_full (fs : Files) (pre post ls : List Str) (l f : Str)
    (hl : IsInclude l f) (hf : fs.get? f = some ls)
    (hd : assemble fs (pre ++ [l] ++ post) = .diag) :
    assemble fs (pre ++ ls ++ post) = .diag := by
  rw [← include_textual_full fs pre post ls l f hl hf, hd]

/-- read right to left (the second case of `include_textual_conv` does not arise) -/
theorem include_textual_conv_full (fs : Files) (pre post ls : List Str) (l f : Str) (a : Assembly)
    (hl : IsInclude l f) (hf : fs.get? f = some ls)
    (hok : assemble fs (pre ++ ls ++ post) = .ok a) :
    assemble fs (pre ++ [l] ++ post) = .ok a := by
  rw [include_textual_full fs pre post ls l f hl hf, hok]

/-- `b` is obtained from `a` by replacing INCLUDE lines by file contents, any number of times, at any
depth -/
inductive Inlines (fs : Files) : List Str → List Str → Prop
  | refl (a : List Str) : Inlines fs a a
  | step {pre post ls : List Str} {l f : Str} {b : List Str} :
      IsInclude l f → fs.get? f = some ls → Inlines fs (pre ++ ls ++ post) b →
      Inlines fs (pre ++ [l] ++ post) b

/-- the same, where no intermediate program exhausts the recursion budget -/
inductive InlinesG (fs : Files) : List Str → List Str → Prop
  | refl (a : List Str) : InlinesG fs a a
  | step {pre post ls : List Str} {l f : Str} {b : List Str} :
      IsInclude l f → fs.get? f = some ls → assemble fs (pre ++ ls ++ post) ≠ .internal →
      InlinesG fs (pre ++ ls ++ post) b → InlinesG fs (pre ++ [l] ++ post) b

theorem Inlines.front_eq {fs : Files} {a b : List Str} (h : Inlines fs a b) : front fs a = front fs b := by
  induction h with
  | refl a => rfl
  | step hl hf _ ih => exact (hl.front_eq hf).trans ih

theorem InlinesG.inlines {fs : Files} {a b : List Str} (h : InlinesG fs a b) : Inlines fs a b := by
  induction h with
  | refl a => exact .refl a
  | step hl hf _ _ ih => exact .step hl hf ih

/-- nested includes: any sequence of substitutions, starting from a program that gets through parsing
and expansion -/
theorem include_textual_star {fs : Files} {a b : List Str} {ss : List Stmt} (h : Inlines fs a b)
    (hok : front fs a = .ok ss) : front fs b = .ok ss ∧ assemble fs a = assemble fs b :=
  ⟨h.front_eq ▸ hok, assemble_congr h.front_eq⟩

/-- **nested includes at full strength**: any sequence of substitutions, at any depth, any outcome -/
theorem include_textual_star_full {fs : Files} {a b : List Str} (h : Inlines fs a b) :
    assemble fs a = assemble fs b :=
  assemble_congr h.front_eq

/-- nested includes, accepted programs -/
theorem include_textual_star_ok {fs : Files} {a b : List Str} {x : Assembly} (h : Inlines fs a b)
    (hok : assemble fs a = .ok x) : assemble fs b = .ok x :=
  include_textual_star_full h ▸ hok

/-- nested includes, any outcome, as long as no intermediate program exhausts the budget -/
theorem include_textual_starG {fs : Files} {a b : List Str} (h : InlinesG fs a b)
    (hne : assemble fs a ≠ .internal) : assemble fs a = assemble fs b :=
  include_textual_star_full h.inlines

theorem Inlines.nested {fs : Files} {pre post pre' post' ls' : List Str} {l f l' f' : Str}
    (hl : IsInclude l f) (hf : fs.get? f = some (pre' ++ [l'] ++ post'))
    (hl' : IsInclude l' f') (hf' : fs.get? f' = some ls') :
    Inlines fs (pre ++ [l] ++ post) (pre ++ (pre' ++ ls' ++ post') ++ post) := by
  refine .step hl hf ?_
  have e1 : pre ++ (pre' ++ [l'] ++ post') ++ post = (pre ++ pre') ++ [l'] ++ (post' ++ post) := by
    simp [List.append_assoc]
  have e2 : pre ++ (pre' ++ ls' ++ post') ++ post = (pre ++ pre') ++ ls' ++ (post' ++ post) := by
    simp [List.append_assoc]
  rw [e1, e2]
  exact .step hl' hf' (.refl _)

/-- the depth-2 instance: `f` itself contains an `INCLUDE f'` line -/
theorem include_textual_nested (fs : Files) (pre post pre' post' ls' : List Str) (l f l' f' : Str)
    (hl : IsInclude l f) (hf : fs.get? f = some (pre' ++ [l'] ++ post'))
    (hl' : IsInclude l' f') (hf' : fs.get? f' = some ls')
    (hne : assemble fs (pre ++ [l] ++ post) ≠ .internal)
    (hne1 : assemble fs (pre ++ (pre' ++ [l'] ++ post') ++ post) ≠ .internal)
    (hne2 : assemble fs (pre ++ (pre' ++ ls' ++ post') ++ post) ≠ .internal) :
    assemble fs (pre ++ [l] ++ post) = assemble fs (pre ++ (pre' ++ ls' ++ post') ++ post) :=
  include_textual_star_full (.nested hl hf hl' hf')

/-- the depth-2 instance for accepted programs -/
theorem include_textual_nested_ok (fs : Files) (pre post pre' post' ls' : List Str) (l f l' f' : Str)
    (x : Assembly)
    (hl : IsInclude l f) (hf : fs.get? f = some (pre' ++ [l'] ++ post'))
    (hl' : IsInclude l' f') (hf' : fs.get? f' = some ls')
    (hok : assemble fs (pre ++ [l] ++ post) = .ok x) :
    assemble fs (pre ++ (pre' ++ ls' ++ post') ++ post) = .ok x :=
  include_textual_star_ok (.nested hl hf hl' hf') hok

theorem IsIncludeStmt.cond {s : Stmt} {f : Str} (h : IsIncludeStmt s f) :
    (s.row.isInclude && !s.operand.text.isEmpty) = true := IsInclude.cond h

/-- Missing file, at the level of `expand`: whatever the fuel (at least one unit), whatever the chain of
files being processed, whatever follows: if the statements before the INCLUDE expand, the result is
`diag` ("Unable to read ..."). -/
theorem include_missing_diag_expand (fs : Files) (n : Nat) (inc : List Str) (pre post e : List Stmt)
    (s : Stmt) (f : Str) (hs : IsIncludeStmt s f) (hf : fs.get? f = none)
    (he : expand fs (n + 1) inc pre = .ok e) :
    expand fs (n + 1) inc (pre ++ [s] ++ post) = .diag := by
  have hc := hs.cond
  obtain ⟨_, rfl, _⟩ := hs
  exact expand_reject (expandOne_missing hc hf) (by rw [← expand_succ]; exact he)

/-- Cycle, general statement at the level of `expand`: an INCLUDE of a file that is in the chain of files
being processed gives `diag` ("... includes itself"), if the statements before it expand. -/
theorem include_cycle_diag_expand (fs : Files) (n : Nat) (inc : List Str) (pre post e : List Stmt)
    (s : Stmt) (f : Str) (hs : IsIncludeStmt s f) (hc : f ∈ inc)
    (he : expand fs (n + 1) inc pre = .ok e) :
    expand fs (n + 1) inc (pre ++ [s] ++ post) = .diag := by
  have hcond := hs.cond
  obtain ⟨_, rfl, _⟩ := hs
  exact expand_reject (expandOne_cycle hcond (by simpa using hc)) (by rw [← expand_succ]; exact he)

/-- a diagnostic inside an included file is a diagnostic of the including file (this is how a cycle
through several files surfaces) -/
theorem include_diag_up (fs : Files) (n : Nat) (inc : List Str) (pre post e pg : List Stmt)
    (s : Stmt) (g : Str) (lg : List Str) (hs : IsIncludeStmt s g) (hg : g ∉ inc)
    (hf : fs.get? g = some lg) (hp : parseLines lg = .ok pg)
    (hd : expand fs n (inc ++ [g]) pg = .diag)
    (he : expand fs (n + 1) inc pre = .ok e) :
    expand fs (n + 1) inc (pre ++ [s] ++ post) = .diag := by
  have hcond := hs.cond
  obtain ⟨_, rfl, _⟩ := hs
  rw [expand_succ] at he ⊢
  rw [go_append, go_append, go_single, expandOne_some hcond (by simpa using hg) hf, hp, he]
  show oapp (oapp _ (expand fs n _ pg)) _ = _
  rw [hd]; rfl

/-- **C19 clause 2 at full strength**: an INCLUDE of a file that does not exist is a diagnostic, whatever precedes
and follows it (the lines before it end in a result or a diagnostic, never in an exhausted nesting budget) -/
theorem include_missing_full (fs : Files) (pre post : List Str) (l f : Str)
    (hl : IsInclude l f) (hf : fs.get? f = none) :
    assemble fs (pre ++ [l] ++ post) = .diag := by
  obtain ⟨s, hs, hc, rfl⟩ := hl.parsed
  exact front_diag (front_diag_of_expandOne_diag hs (expandOne_missing hc hf))

/-- Missing file: the rest of the program parses and the statements before the line expand:
`assemble` ends in `diag`. -/
theorem include_missing_diag (fs : Files) (pre post : List Str) (l f : Str) (rp rq e : List Stmt)
    (hl : IsInclude l f) (hf : fs.get? f = none)
    (hp : parseLines pre = .ok rp) (hq : parseLines post = .ok rq) (he : expand fs (includeFuel fs) [] rp = .ok e) :
    assemble fs (pre ++ [l] ++ post) = .diag :=
  include_missing_full fs pre post l f hl hf

/-- Direct cycle: file `f` contains an `INCLUDE f` line (after lines without INCLUDE); any program that
reaches an `INCLUDE f` ends in `diag`. -/
theorem include_cycle_diag (fs : Files) (pre post pre0 post0 : List Str) (l f : Str)
    (rp rq rp0 rq0 e : List Stmt)
    (hl : IsInclude l f) (hf : fs.get? f = some (pre ++ [l] ++ post))
    (hp : parseLines pre = .ok rp) (hnp : ∀ x ∈ rp, x.row.isInclude = false)
    (hq : parseLines post = .ok rq)
    (hp0 : parseLines pre0 = .ok rp0) (hq0 : parseLines post0 = .ok rq0) (he : expand fs (includeFuel fs) [] rp0 = .ok e) :
    assemble fs (pre0 ++ [l] ++ post0) = .diag := by
  obtain ⟨s, hs, hc, rfl⟩ := hl.parsed
  exact front_diag (front_self_include_around hs hc hf hp hq)

/-- **C19 clause 3 at full strength**: a file whose only line includes the file itself is a diagnostic, whatever
precedes and follows the INCLUDE -/
theorem include_cycle_full (fs : Files) (pre post : List Str) (l f : Str)
    (hl : IsInclude l f) (hf : fs.get? f = some [l]) :
    assemble fs (pre ++ [l] ++ post) = .diag := by
  obtain ⟨s, hs, hc, rfl⟩ := hl.parsed
  exact front_diag (front_self_include_around (pre := []) (post := []) hs hc hf rfl rfl)

theorem C19_full : C19_Statement := ⟨include_textual_full, include_missing_full, include_cycle_full⟩

def incA : Str := " INCLUDE a.asm\n".toList
def incB : Str := "        include  b.asm   ; second file\n".toList
def incM : Str := " INCLUDE m.asm\n".toList

theorem isInclude_incA : IsInclude incA "a.asm".toList :=
  isInclude_plain (by decide +kernel) (by decide +kernel) (by decide +kernel)
/-- lower case, more white space, a comment -/
theorem isInclude_incB : IsInclude incB "b.asm".toList :=
  isInclude_of_check (by rw [isIncludeB, parseLine_eq]; decide +kernel)
theorem isInclude_incM : IsInclude incM "m.asm".toList :=
  isInclude_plain (by decide +kernel) (by decide +kernel) (by decide +kernel)

theorem expand_nil (fs : Files) (inc : List Str) : expand fs (includeFuel fs) inc [] = .ok [] := by
  rw [show includeFuel fs = fs.length + 1 from rfl, expand_succ, go_nil]

/-- missing file: `INCLUDE a.asm` with an empty host file system -/
theorem missing_example : assemble [] [incA] = .diag :=
  include_missing_diag [] [] [] incA _ [] [] [] isInclude_incA rfl rfl rfl (expand_nil _ _)

/-- direct cycle: `a.asm` consists of the line `INCLUDE a.asm` -/
theorem cycle_example : assemble [("a.asm".toList, [incA])] [incA] = .diag :=
  include_cycle_diag _ [] [] [] [] incA _ [] [] [] [] [] isInclude_incA (by decide +kernel)
    rfl (by simp) rfl rfl rfl (expand_nil _ _)

/-- cycle through two files: `a.asm` includes `b.asm`, `b.asm` includes `a.asm` -/
theorem cycle2_example :
    assemble [("a.asm".toList, [incB]), ("b.asm".toList, [incA])] [incA] = .diag := by
  obtain ⟨sa, ha, hsa⟩ := isInclude_incA
  obtain ⟨sb, hb, hsb⟩ := isInclude_incB
  refine front_diag (front_cycle (pre := []) (post := []) ha (IsInclude.cond hsa) ?_)
  rw [hsa.2.1]
  -- `a.asm` holds `INCLUDE b.asm`, and `b.asm` holds `INCLUDE a.asm`
  exact .step ⟨[incB], [sb], sb, by decide +kernel, parseLines_single_some hb, by simp, IsInclude.cond hsb, hsb.2.1⟩
    (.one ⟨[incA], [sa], sa, by decide +kernel, parseLines_single_some ha, by simp, IsInclude.cond hsa, hsa.2.1⟩)

def bogus : Str := " BOGUS\n".toList

theorem parseLine_bogus : parseLine bogus = .diag := by
  have : (match parseLine bogus with | .diag => true | _ => false) = true := by rw [parseLine_eq]; decide +kernel
  split at this <;> simp_all

/-- a line that is not accepted, after a line that is: the program does not parse -/
theorem assemble_bogus {fs : Files} {l : Str} {s : Stmt} (hl : parseLine l = .ok (some s)) :
    assemble fs ([l] ++ [bogus] ++ []) = .diag := by
  apply front_diag
  apply front_of_parse_diag
  rw [parseLines_append, parseLines_append, parseLines_single_some hl, parseLines_cons, parseLine_bogus]
  rfl

/-- The order in which errors are detected differs: `INCLUDE m.asm` (missing) followed by `INCLUDE b.asm` where `b.asm`
holds a syntax error.  With the INCLUDE the missing file is hit first (during expansion), after substitution the syntax
error is found first (during parsing) — both are diagnostics. -/
theorem order_example :
    assemble [("b.asm".toList, [bogus])] ([incM] ++ [incB] ++ []) = .diag ∧
    assemble [("b.asm".toList, [bogus])] ([incM] ++ [bogus] ++ []) = .diag := by
  constructor
  · obtain ⟨sb, hb, _⟩ := isInclude_incB
    exact include_missing_diag _ [] [incB] incM _ [] [sb] [] isInclude_incM (by decide +kernel) rfl
      (parseLines_single_some hb) (expand_nil _ _)
  · obtain ⟨sm, hm, _⟩ := isInclude_incM
    exact assemble_bogus hm

/-! `D` is a file without INCLUDE, `DD` includes `D`, `DDD` includes `DD`, ... (65 files).  `INCLUDE D⁶⁴` (64 letters; 64
files below the program) would exhaust a budget of 64 levels.  The budget `includeFuel fs` (one more than the number of
files) is never exhausted (`expand_includeFuel_ne_internal`): the theorems `*_fixed` below say what these programs give. -/

def deepName (i : Nat) : Str := List.replicate (i + 1) 'D'
def deepLine (i : Nat) : Str := " INCLUDE ".toList ++ deepName i ++ ['\n']

/-- the 65 chain files after some `extra` files -/
def deepFs (extra : Files) : Files :=
  extra ++ (List.range 65).map (fun i => (deepName i, if i = 0 then [" NOP\n".toList] else [deepLine (i - 1)]))

/-- the only line of the innermost chain file -/
def nopLine : Str := " NOP\n".toList

/-- `fs` contains the chain -/
def deepOk (fs : Files) : Prop :=
  ∀ i < 65, fs.get? (deepName i) = some (if i = 0 then [nopLine] else [deepLine (i - 1)])

theorem deepName_inj {i j : Nat} (h : deepName i = deepName j) : i = j := by
  have := congrArg List.length h
  simpa [deepName] using this

theorem deepName_ne {j : Nat} {c : Char} {t : Str} (hc : c ≠ 'D') : deepName j ≠ c :: t := by
  intro h
  rw [deepName, List.replicate_succ] at h
  exact hc (List.cons.inj h).1.symm

theorem find?_range_key {α : Type} (key : Nat → Str) (hinj : ∀ i j, key i = key j → i = j) (val : Nat → α) :
    ∀ (n i : Nat), i < n →
      ((List.range n).map (fun j => (key j, val j))).find? (·.1 == key i) = some (key i, val i) := by
  intro n
  induction n with
  | zero => intro i hi; omega
  | succ n ih =>
    intro i hi
    rw [List.range_succ, List.map_append, List.find?_append]
    by_cases h : i < n
    · rw [ih i h]; rfl
    · have e : i = n := by omega
      subst e
      have : ((List.range i).map (fun j => (key j, val j))).find? (·.1 == key i) = none := by
        rw [List.find?_eq_none]
        intro p hp
        obtain ⟨j, hj, rfl⟩ := List.mem_map.mp hp
        have : j ≠ i := by have := List.mem_range.mp hj; omega
        simpa using fun hc => this (hinj _ _ hc)
      rw [this]
      simp

theorem deepFs_ok {extra : Files} (hx : ∀ p ∈ extra, p.1.head? ≠ some 'D') : deepOk (deepFs extra) := by
  intro i hi
  have hnone : extra.find? (·.1 == deepName i) = none := by
    rw [List.find?_eq_none]
    intro p hp hc
    have : p.1 = deepName i := by simpa using hc
    exact hx p hp (by rw [this]; rfl)
  unfold Files.get? deepFs
  rw [List.find?_append, hnone, Option.none_or, find?_range_key deepName (fun _ _ => deepName_inj)
    (fun i => if i = 0 then [" NOP\n".toList] else [deepLine (i - 1)]) 65 i hi]
  rfl

theorem isInclude_deepLine (i : Nat) : IsInclude (deepLine i) (deepName i) :=
  isInclude_plain rfl (List.cons_ne_nil _ _) (fun x hx => by rw [List.eq_of_mem_replicate hx]; decide)

/-- fuel needed below an `INCLUDE` of the `k`-th chain file; `p0` are the statements of the innermost file -/
theorem deep_expandOne {fs : Files} (h : deepOk fs) :
    ∃ p0 : List Stmt, parseLines [nopLine] = .ok p0 ∧ (∀ x ∈ p0, x.row.isInclude = false) ∧
      ∀ k ≤ 64, ∀ s : Stmt, (s.row.isInclude && !s.operand.text.isEmpty) = true →
      s.operand.text = deepName k → ∀ (n : Nat) (I : List Str), (∀ j ≤ k, deepName j ∉ I) →
      expandOne fs n I s = if n ≤ k then .internal else .ok p0 := by
  obtain ⟨p0, hp0, hpl⟩ := frontOKF_plain (lines := [nopLine]) (by decide +kernel)
  refine ⟨p0, hp0, hpl, expandOne_deep fs deepName 64 p0 ⟨_, h 0 (by omega), hp0⟩ hpl (fun i hi => ?_)
    (fun _ _ _ _ => deepName_inj)⟩
  obtain ⟨s, hs, h1, h2, h3⟩ := isInclude_deepLine i
  exact ⟨_, s, by simpa using h (i + 1) (by omega), parseLines_single_some hs, IsInclude.cond ⟨h1, h2, h3⟩, h2⟩

/-- a program whose first line is an INCLUDE that expands to `p`, if the rest parses -/
theorem deep_prefix_fixed {fs : Files} {l : Str} {s : Stmt} {rest : List Str} {rq p : List Stmt}
    (hl : parseLine l = .ok (some s)) (hgo : expandOne fs fs.length [] s = .ok p)
    (hq : parseLines rest = .ok rq) :
    front fs ([l] ++ rest) = oapp (.ok p) (expand.go fs fs.length [] rq) := by
  have hp : parseLines ([l] ++ rest) = .ok ([s] ++ rq) := by
    rw [parseLines_append, parseLines_single_some hl, hq]; rfl
  rw [front_of_parsed hp, go_append, go_single, hgo]

/-- host files: the chain, `a.asm` = `INCLUDE a.asm`, `b.asm` = a syntax error, `f.asm` = `INCLUDE D⁶²`
then `INCLUDE g.asm`, `g.asm` = `INCLUDE f.asm`; no `m.asm` -/
def incF : Str := " INCLUDE f.asm\n".toList
def incG : Str := " INCLUDE g.asm\n".toList

def fsDeep : Files :=
  deepFs [("a.asm".toList, [incA]), ("b.asm".toList, [bogus]),
          ("f.asm".toList, [deepLine 61, incG]), ("g.asm".toList, [incF])]

theorem fsDeep_ok : deepOk fsDeep := deepFs_ok (by decide +kernel)

/-- 69 files: the nesting budget of `assemble fsDeep` is 70 levels -/
theorem fsDeep_length : fsDeep.length = 69 := by decide +kernel

theorem isInclude_deep63 : IsInclude (deepLine 63) (deepName 63) := isInclude_deepLine 63
theorem isInclude_deep61 : IsInclude (deepLine 61) (deepName 61) := isInclude_deepLine 61
theorem isInclude_incF : IsInclude incF "f.asm".toList :=
  isInclude_plain (by decide +kernel) (by decide +kernel) (by decide +kernel)
theorem isInclude_incG : IsInclude incG "g.asm".toList :=
  isInclude_plain (by decide +kernel) (by decide +kernel) (by decide +kernel)

/-- `INCLUDE D⁶⁴` followed by anything is the program `NOP` followed by the same lines — 64 files below the program are
expanded, the budget is 70 levels -/
theorem deep63_fixed {rest : List Str} :
    assemble fsDeep ([deepLine 63] ++ rest) = assemble fsDeep ([nopLine] ++ rest) := by
  apply assemble_congr
  obtain ⟨s, hs, h⟩ := isInclude_deep63
  obtain ⟨p0, hp0, hpl, hdeep⟩ := deep_expandOne fsDeep_ok
  have h1 : parseLines ([deepLine 63] ++ rest) = oapp (.ok [s]) (parseLines rest) := by
    rw [parseLines_append, parseLines_single_some hs]
  have h2 : parseLines ([nopLine] ++ rest) = oapp (.ok p0) (parseLines rest) := by
    rw [parseLines_append, hp0]
  rcases parseLines_ok_or_diag rest with ⟨rq, hq⟩ | hq <;> rw [hq] at h1 h2
  · rw [front_of_parsed h1, front_of_parsed h2, go_append, go_append, go_single, go_plain _ _ _ p0 hpl,
      hdeep 63 (by omega) s (IsInclude.cond h) h.2.1 fsDeep.length [] (by simp),
      if_neg (by rw [fsDeep_length]; omega)]
  · rw [front_of_parse_diag h1, front_of_parse_diag h2]

/-- a missing file after a line that nests 64 files deep is diagnosed -/
theorem C19_finding_depth_missing_fixed : assemble fsDeep ([deepLine 63] ++ [incM] ++ []) = .diag :=
  include_missing_full fsDeep [deepLine 63] [] incM _ isInclude_incM (by decide +kernel)

/-- a file that includes itself, after a line that nests 64 files deep, is diagnosed -/
theorem C19_finding_depth_cycle_fixed : assemble fsDeep ([deepLine 63] ++ [incA] ++ []) = .diag :=
  include_cycle_full fsDeep [deepLine 63] [] incA _ isInclude_incA (by decide +kernel)

/-- `INCLUDE D⁶⁴` followed by `INCLUDE b.asm`, where `b.asm` holds a syntax error.  With the INCLUDE the syntax error is found during
expansion, after substitution during parsing: a diagnostic on both sides. -/
theorem depth_order_example_fixed :
    assemble fsDeep ([deepLine 63] ++ [incB] ++ []) = .diag ∧
    assemble fsDeep ([deepLine 63] ++ [bogus] ++ []) = .diag := by
  have h2 : assemble fsDeep ([deepLine 63] ++ [bogus] ++ []) = .diag := by
    obtain ⟨s, hs, _⟩ := isInclude_deep63
    exact assemble_bogus hs
  refine ⟨?_, h2⟩
  rw [include_textual_full fsDeep [deepLine 63] [] [bogus] incB _ isInclude_incB (by decide +kernel), h2]

/-- `f.asm` is `INCLUDE D⁶²`, `INCLUDE g.asm`, and `g.asm` is `INCLUDE f.asm`.  The program `INCLUDE f.asm` ends in `diag`: `D⁶²` is
expanded, then `g.asm` hits `INCLUDE f.asm` while `f.asm` is in the chain.  The program consisting of the lines of
`f.asm` has no `f.asm` in the chain: `g.asm` expands `f.asm` once more, two levels further down, and the cycle is
reported there: `diag` as well. -/
theorem include_textual_rhs_needed_fixed :
    assemble fsDeep ([] ++ [incF] ++ []) = .diag ∧
    assemble fsDeep ([] ++ [deepLine 61, incG] ++ []) = .diag := by
  obtain ⟨sf, hf, hsf⟩ := isInclude_incF
  obtain ⟨sg, hg, hsg⟩ := isInclude_incG
  obtain ⟨sd, hd, hsd⟩ := isInclude_deep61
  obtain ⟨p0, _, _, hdeep⟩ := deep_expandOne fsDeep_ok
  have hcf := IsInclude.cond hsf
  have hcg := IsInclude.cond hsg
  have hcd := IsInclude.cond hsd
  have hgetf : fsDeep.get? sf.operand.text = some [deepLine 61, incG] := by rw [hsf.2.1]; decide +kernel
  have hgetg : fsDeep.get? sg.operand.text = some [incF] := by rw [hsg.2.1]; decide +kernel
  have hpF : parseLines [deepLine 61, incG] = .ok [sd, sg] := by
    rw [parseLines_cons, hd, parseLines_single_some hg]; rfl
  have hpG : parseLines [incF] = .ok [sf] := parseLines_single_some hf
  have hnf : ∀ j, deepName j ≠ "f.asm".toList := fun j => deepName_ne (by decide +kernel)
  have hd68 : ∀ I, (∀ j ≤ 61, deepName j ∉ I) → expandOne fsDeep 68 I sd = .ok p0 := fun I hI => by
    rw [hdeep 61 (by omega) sd hcd hsd.2.1 68 I hI, if_neg (by omega)]
  have h1 : assemble fsDeep ([] ++ [incF] ++ []) = .diag := by
    apply front_diag
    rw [show ([] : List Str) ++ [incF] ++ [] = [incF] from rfl, front_of_parsed hpG, fsDeep_length, go_single,
      expandOne_some hcf (by simp) hgetf, hpF]
    show expand fsDeep 69 _ [sd, sg] = _
    rw [expand_succ, go_cons, go_single, hd68 _ (by
        intro j _; simp only [List.nil_append, List.mem_singleton]; rw [hsf.2.1]; exact hnf j),
      expandOne_some hcg (by rw [hsg.2.1, hsf.2.1]; decide) hgetg, hpG]
    show oapp _ (expand fsDeep 68 _ [sf]) = _
    rw [expand_succ, go_single, expandOne_cycle hcf (by simp)]
    rfl
  refine ⟨h1, ?_⟩
  rw [← include_textual_full fsDeep [] [] [deepLine 61, incG] incF _ isInclude_incF (by decide +kernel), h1]

def C19_Partial : Prop :=
  -- textual inclusion, unconditional three-way form
  (∀ (fs : Files) (pre post ls : List Str) (l f : Str), IsInclude l f → fs.get? f = some ls →
    assemble fs (pre ++ [l] ++ post) = assemble fs (pre ++ ls ++ post) ∨
    assemble fs (pre ++ [l] ++ post) = .internal ∨
    (assemble fs (pre ++ [l] ++ post) = .diag ∧ assemble fs (pre ++ ls ++ post) = .internal)) ∧
  -- textual inclusion, equality
  (∀ (fs : Files) (pre post ls : List Str) (l f : Str), IsInclude l f → fs.get? f = some ls →
    assemble fs (pre ++ [l] ++ post) ≠ .internal → assemble fs (pre ++ ls ++ post) ≠ .internal →
    assemble fs (pre ++ [l] ++ post) = assemble fs (pre ++ ls ++ post)) ∧
  -- nested includes
  (∀ (fs : Files) (a b : List Str) (x : Assembly), Inlines fs a b → assemble fs a = .ok x →
    assemble fs b = .ok x) ∧
  (∀ (fs : Files) (a b : List Str), InlinesG fs a b → assemble fs a ≠ .internal →
    assemble fs a = assemble fs b) ∧
  -- a missing file is a diagnostic
  (∀ (fs : Files) (pre post : List Str) (l f : Str) (rp rq e : List Stmt), IsInclude l f →
    fs.get? f = none → parseLines pre = .ok rp → parseLines post = .ok rq → expand fs (includeFuel fs) [] rp = .ok e →
    assemble fs (pre ++ [l] ++ post) = .diag) ∧
  -- an INCLUDE of a file in the chain of files being processed is a diagnostic
  (∀ (fs : Files) (n : Nat) (inc : List Str) (pre post e : List Stmt) (s : Stmt) (f : Str),
    IsIncludeStmt s f → f ∈ inc → expand fs (n + 1) inc pre = .ok e →
    expand fs (n + 1) inc (pre ++ [s] ++ post) = .diag) ∧
  -- a file that includes itself is a diagnostic
  (∀ (fs : Files) (pre0 post0 : List Str) (l f : Str) (rp0 rq0 e : List Stmt), IsInclude l f →
    fs.get? f = some [l] → parseLines pre0 = .ok rp0 → parseLines post0 = .ok rq0 →
    expand fs (includeFuel fs) [] rp0 = .ok e → assemble fs (pre0 ++ [l] ++ post0) = .diag)

theorem C19_partial : C19_Partial :=
  ⟨include_textual_cases, include_textual,
   fun _ _ _ _ h hok => include_textual_star_ok h hok,
   fun _ _ _ h hne => include_textual_starG h hne,
   include_missing_diag, include_cycle_diag_expand,
   fun fs pre0 post0 l f rp0 rq0 e hl hf hp0 hq0 he =>
     include_cycle_diag fs [] [] pre0 post0 l f [] [] rp0 rq0 e hl hf rfl (by simp) rfl hp0 hq0 he⟩

example : IsInclude " INCLUDE a.asm\n".toList "a.asm".toList := isInclude_incA

/-- a run where the hypothesis of `include_textual` holds and the include does something -/
def fsOk : Files := [("a.asm".toList, [" NOP\n".toList, "X RTS\n".toList])]

def fileA : List Str := [" NOP\n".toList, "X RTS\n".toList]

theorem fileA_plain : ∃ r, parseLines fileA = .ok r ∧ ∀ x ∈ r, x.row.isInclude = false :=
  frontOKF_plain (by decide +kernel)

/-- the hypothesis of `include_textual_front_ok` (hence those of `include_textual_strong`) is satisfiable,
and the conclusion is not trivial -/
example : (∃ ss, front fsOk ([] ++ [incA] ++ []) = .ok ss) ∧
    assemble fsOk [incA] = assemble fsOk fileA := by
  obtain ⟨s, hs, h⟩ := isInclude_incA
  have hc := IsInclude.cond h
  obtain ⟨r, hr, hpl⟩ := fileA_plain
  have hf : fsOk.get? s.operand.text = some fileA := by rw [h.2.1]; decide +kernel
  have hfr : front fsOk ([] ++ [incA] ++ []) = .ok r := by
    show front fsOk [incA] = _
    exact front_single_include_plain hs hc hf hr hpl
  refine ⟨⟨r, hfr⟩, ?_⟩
  have := (include_textual_front_ok fsOk [] [] fileA incA _ r isInclude_incA (by decide +kernel) hfr).2
  simpa using this

end CoCo.Props
