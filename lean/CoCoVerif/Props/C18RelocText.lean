/-
C18-R1 (relocation) for source text: two texts that differ only in the values of their ORG lines, by `D`.

`C18_R1_Statement` of Props/C18.lean is FALSE as stated (`C18_R1_Statement_false`): the label part of `orgLine lab n` is an
arbitrary string, so `lab ORG $hhhh` need not be an ORG statement at all.  `C18_R1` proves the statement with a label part
that consists of label characters (`C18_R1_Repaired`); `C18_R1_code`, `C18_R1_equ` are the value-level forms (code bytes,
symbol table entry by entry), the `_any` forms hold at any origin.  The rest are evaluated sample programs.
-/
import CoCoVerif.Lemmas.RelocCheck
import CoCoVerif.Props.C18RelocSrc

namespace CoCo.Props
open CoCo CoCo.Asm

def LineShift (D : Nat) (P : Nat → Prop) (x y : Str) : Prop :=
  (x = y ∧ ∀ s, parseLine x = .ok (some s) → s.row.isOrigin = false ∧ s.row.isInclude = false) ∨
  (∃ lab n, lab.all isLabelCh = true ∧ P n ∧ x = orgLine lab n ∧ y = orgLine lab (n + D) ∧ n + D < 65536)

theorem orgStmt_rel {D : Nat} {P : Nat → Prop} (lab : Str) {n : Nat} (hP : P n) :
    OrgRel D P (orgStmt lab n) (orgStmt lab (n + D)) :=
  .inr ⟨rfl, rfl, rfl, rfl, rfl, n, hP, rfl, rfl⟩

theorem parseLines_shift {D : Nat} {P : Nat → Prop} : ∀ (la lb : List Str) (pa pb : List Stmt),
    PW (LineShift D P) la lb → parseLines la = .ok pa → parseLines lb = .ok pb →
    PW (OrgRel D P) pa pb ∧ ∀ s ∈ pa, s.row.isInclude = false := by
  intro la
  induction la with
  | nil =>
    intro lb pa pb h ha hb
    rw [h.nil_left] at hb
    simp [parseLines] at ha hb
    subst ha hb
    exact ⟨.nil, by simp⟩
  | cons x xs ih =>
    intro lb pa pb h ha hb
    obtain ⟨y, ys, rfl, hxy, hrest⟩ := h.cons_left
    have key : (parseLine x = .ok none ∧ parseLine y = .ok none) ∨
        ∃ s s', parseLine x = .ok (some s) ∧ parseLine y = .ok (some s') ∧ OrgRel D P s s' ∧ s.row.isInclude = false := by
      rcases hxy with ⟨rfl, hx⟩ | ⟨lab, n, hl, hP, rfl, rfl, hn⟩
      · rcases parseLine_ok_or_diag x with ⟨o, ho⟩ | hd
        · cases o with
          | none => exact .inl ⟨ho, ho⟩
          | some s => exact .inr ⟨s, s, ho, ho, .inl ⟨rfl, parseLine_notOrg ho (hx s ho).1⟩, (hx s ho).2⟩
        · rw [parseLines, hd] at ha
          cases ha
      · exact .inr ⟨_, _, parseLine_org hl (by omega), parseLine_org hl hn, orgStmt_rel lab hP, rfl⟩
    rcases key with ⟨e1, e2⟩ | ⟨s, s', e1, e2, hr, hi⟩
    · rw [parseLines_cons_none e1] at ha
      rw [parseLines_cons_none e2] at hb
      exact ih ys pa pb hrest ha hb
    · obtain ⟨ra, ha', rfl⟩ := parseLines_cons_some e1 ha
      obtain ⟨rb, hb', rfl⟩ := parseLines_cons_some e2 hb
      obtain ⟨i1, i2⟩ := ih ys ra rb hrest ha' hb'
      exact ⟨.cons hr i1, fun t ht => (List.mem_cons.mp ht).elim (fun e => e ▸ hi) (i2 t)⟩

/-- `ShiftOrg` of Props/C18.lean with a well-formed label part (and a side condition `P` on the ORG
values) -/
def ShiftOrgP (D : Nat) (P : Nat → Prop) (la lb : List Str) : Prop :=
  la.length = lb.length ∧ ∀ (i : Nat) (x y : Str), la[i]? = some x → lb[i]? = some y → LineShift D P x y

theorem ShiftOrgP.pw {D : Nat} {P : Nat → Prop} {la lb : List Str} (h : ShiftOrgP D P la lb) :
    PW (LineShift D P) la lb := ⟨h.1.symm, h.2⟩

/-- C18-R1 repaired: as `C18_R1_Statement`, but the label part of every ORG line consists of label
characters (and the first line is such an ORG line with a value below `$10000`) -/
def C18_R1_Repaired : Prop :=
  ∀ (fs : Files) (la lb : List Str) (D : Nat) (A B : Assembly),
    ShiftOrgP D (fun _ => True) la lb →
    (∃ lab n rest, lab.all isLabelCh = true ∧ n < 65536 ∧ la = orgLine lab n :: rest) →
    assemble fs la = .ok A → assemble fs lb = .ok B →
    A.stmts.length = B.stmts.length ∧
    ∀ (i : Nat) (s t : Stmt) (n : Nat), A.stmts[i]? = some s → B.stmts[i]? = some t →
      s.pkg.address.int? = some n → t.pkg.address.int? = some (n + D)

theorem head_org {la : List Str} {pa : List Stmt} {lab : Str} {n : Nat} {rest : List Str}
    (hl : lab.all isLabelCh = true) (hn : n < 65536) (hla : la = orgLine lab n :: rest)
    (hpa : parseLines la = .ok pa) : ∃ s0 r0, pa = s0 :: r0 ∧ s0.row.mnemonic = "ORG" := by
  subst hla
  obtain ⟨r, _, rfl⟩ := parseLines_cons_some (parseLine_org hl hn) hpa
  exact ⟨_, r, rfl, rfl⟩

/-- from source text to parsed statements: the hypotheses of the `C18_R1_parsed*` theorems -/
theorem ShiftOrgP.parsed {D : Nat} {P : Nat → Prop} {fs : Files} {la lb : List Str} {A B : Assembly}
    (hsh : ShiftOrgP D P la lb)
    (hhead : ∃ lab n rest, lab.all isLabelCh = true ∧ n < 65536 ∧ la = orgLine lab n :: rest)
    (stA : Stages fs la A) (stB : Stages fs lb B) :
    PW (OrgRel D P) stA.parsed stB.parsed ∧ (∀ s ∈ stA.parsed, s.row.isInclude = false) ∧
      ∃ s0 r0, stA.parsed = s0 :: r0 ∧ s0.row.mnemonic = "ORG" := by
  obtain ⟨lab, n, rest, hl, hn, hla⟩ := hhead
  obtain ⟨hrel, hinc⟩ := parseLines_shift la lb _ _ hsh.pw stA.hparse stB.hparse
  exact ⟨hrel, hinc, head_org hl hn hla stA.hparse⟩

theorem C18_R1 : C18_R1_Repaired := by
  intro fs la lb D A B hsh hhead hA hB
  obtain ⟨stA⟩ := assemble_stages hA
  obtain ⟨stB⟩ := assemble_stages hB
  obtain ⟨hrel, hinc, hhd⟩ := hsh.parsed hhead stA stB
  exact C18_R1_parsed stA.hparse stB.hparse hrel hinc hhd hA hB

/-- C18-R1, value level, for source text: every ORG at `$100` or above.  Conclusions as in
`C18_R1_parsed_code` (the last conjunct is about the table entries that are not EQUs defined by a label
expression, `EquConst`; `C18_R1_equ` is about all entries). -/
theorem C18_R1_code {fs : Files} {la lb : List Str} {D : Nat} {A B : Assembly}
    (hsh : ShiftOrgP D (OrgOk D) la lb)
    (hhead : ∃ lab n rest, lab.all isLabelCh = true ∧ n < 65536 ∧ la = orgLine lab n :: rest)
    (stA : Stages fs la A) (stB : Stages fs lb B) :
    stB.t = stA.t ∧ PW (AddrShift D) stA.ss4 stB.ss4 ∧ PW (AddrShift D) A.stmts B.stmts ∧
    (∀ (i : Nat) (s4 t t' : Stmt), stA.ss4[i]? = some s4 → A.stmts[i]? = some t → B.stmts[i]? = some t' →
      (Unmoved D stA.ss4 s4 → ListsConst stA.t s4 → t'.pkg.additional = t.pkg.additional ∧ stmtBytes t' = stmtBytes t) ∧
      (Moved D stA.ss4 s4 → t'.pkg.additional = shiftV D t.pkg.additional ∧
        ∀ bs, stmtBytes t = some bs →
          ∃ pre x, t.pkg.additional.int? = some x ∧ x + D < 65536 ∧ bs = pre ++ [x / 256, x % 256] ∧
            stmtBytes t' = some (pre ++ [(x + D) / 256, (x + D) % 256]))) ∧
    (∀ (j : Nat) (k : Str) (v : Value), stA.t[j]? = some (k, v) → EquConst stA.t v →
      ∃ kw, A.symtab[j]? = some kw ∧
        B.symtab[j]? = some (kw.1, if v.isAddress then shiftV D kw.2 else kw.2)) := by
  obtain ⟨hrel, hinc, hhd⟩ := hsh.parsed hhead stA stB
  exact C18_R1_parsed_code stA.hparse stB.hparse hrel hinc hhd stA stB

/-- C18-R1, value level, for source text, the final symbol table entry by entry (an EQU defined by an
expression is listed with its value): conclusions as in `C18_R1_parsed_equ` — a label moves by `D`, an EQU that is not
defined by a label expression stays, an EQU defined by a label expression moves like that expression (`EquRel`) -/
theorem C18_R1_equ {fs : Files} {la lb : List Str} {D : Nat} {A B : Assembly}
    (hsh : ShiftOrgP D (OrgOk D) la lb)
    (hhead : ∃ lab n rest, lab.all isLabelCh = true ∧ n < 65536 ∧ la = orgLine lab n :: rest)
    (stA : Stages fs la A) (stB : Stages fs lb B) :
    ∀ (j : Nat) (k : Str) (v : Value), stA.t[j]? = some (k, v) →
      ∃ x x', A.symtab[j]? = some (k, x) ∧ B.symtab[j]? = some (k, x') ∧ EquRel D stA.ss4 stA.t v x x' := by
  obtain ⟨hrel, hinc, hhd⟩ := hsh.parsed hhead stA stB
  exact C18_R1_parsed_equ stA.hparse stB.hparse hrel hinc hhd stA stB

/-! Any origin, moves across `$100` included.  The theorems `C18_R1_code`, `C18_R1_equ` above ask for every ORG at `$100` or
above (`OrgOk`), for a purely technical reason: they relate the address VALUES of the two programs with the same hint
and mode.  The theorems below ask for nothing but what `C18_R1` asks (`ShiftOrgP D P la lb` with ANY side condition `P`;
the line relation itself says `n + D < $10000`): addresses, label values and the origin are related as numbers
(`AddrShiftAny`, `EquRelAny`), operand fields and emitted bytes exactly as above. -/

theorem LineShift.any {D : Nat} {P : Nat → Prop} {x y : Str} (h : LineShift D P x y) :
    LineShift D (OrgOkAny D) x y := by
  rcases h with h | ⟨lab, n, hl, _, hx, hy, hn⟩
  · exact .inl h
  · exact .inr ⟨lab, n, hl, hn, hx, hy, hn⟩

theorem ShiftOrgP.any {D : Nat} {P : Nat → Prop} {la lb : List Str} (h : ShiftOrgP D P la lb) :
    ShiftOrgP D (OrgOkAny D) la lb :=
  ⟨h.1, fun i x y hx hy => (h.2 i x y hx hy).any⟩

/-- C18-R1, code and symbol table, for source text at ANY origin.  Conclusions as in `C18_R1_parsed_code_any`: the
symbol tables before address assignment coincide; every statement address moves by `D` as a number inside the 64K space;
statement by statement the operand field after `fix_addresses; fit_operand_width` and the emitted bytes are identical
(`Unmoved`, with `ListsConst`) or the 16-bit field moves by `D` (`Moved`); the final symbol tables are related entry by
entry by `EquRelAny`. -/
theorem C18_R1_code_any {fs : Files} {la lb : List Str} {D : Nat} {P : Nat → Prop} {A B : Assembly}
    (hsh : ShiftOrgP D P la lb)
    (hhead : ∃ lab n rest, lab.all isLabelCh = true ∧ n < 65536 ∧ la = orgLine lab n :: rest)
    (stA : Stages fs la A) (stB : Stages fs lb B) :
    stB.t = stA.t ∧ PW (AddrShiftAny D) stA.ss4 stB.ss4 ∧ PW (AddrShiftAny D) A.stmts B.stmts ∧
    (∀ (i : Nat) (s4 t t' : Stmt), stA.ss4[i]? = some s4 → A.stmts[i]? = some t → B.stmts[i]? = some t' →
      (Unmoved D stA.ss4 s4 → ListsConst stA.t s4 → t'.pkg.additional = t.pkg.additional ∧ stmtBytes t' = stmtBytes t) ∧
      (Moved D stA.ss4 s4 → t'.pkg.additional = shiftV D t.pkg.additional ∧
        ∀ bs, stmtBytes t = some bs →
          ∃ pre x, t.pkg.additional.int? = some x ∧ x + D < 65536 ∧ bs = pre ++ [x / 256, x % 256] ∧
            stmtBytes t' = some (pre ++ [(x + D) / 256, (x + D) % 256]))) ∧
    (∀ (j : Nat) (k : Str) (v : Value), stA.t[j]? = some (k, v) →
      ∃ x x', A.symtab[j]? = some (k, x) ∧ B.symtab[j]? = some (k, x') ∧ EquRelAny D stA.ss4 stA.t v x x') := by
  obtain ⟨hrel, hinc, hhd⟩ := hsh.any.parsed hhead stA stB
  exact C18_R1_parsed_code_any stA.hparse stB.hparse hrel hinc hhd stA stB

/-- C18-R1 for source text at any origin, the final symbol table entry by entry: conclusions as in
`C18_R1_parsed_equ_any` -/
theorem C18_R1_equ_any {fs : Files} {la lb : List Str} {D : Nat} {P : Nat → Prop} {A B : Assembly}
    (hsh : ShiftOrgP D P la lb)
    (hhead : ∃ lab n rest, lab.all isLabelCh = true ∧ n < 65536 ∧ la = orgLine lab n :: rest)
    (stA : Stages fs la A) (stB : Stages fs lb B) :
    ∀ (j : Nat) (k : Str) (v : Value), stA.t[j]? = some (k, v) →
      ∃ x x', A.symtab[j]? = some (k, x) ∧ B.symtab[j]? = some (k, x') ∧ EquRelAny D stA.ss4 stA.t v x x' :=
  (C18_R1_code_any hsh hhead stA stB).2.2.2.2

/-- C18-R1 for source text at any origin, the third class (`MovedMod`): conclusions as in
`C18_R1_parsed_code_mod_any` -/
theorem C18_R1_code_mod_any {fs : Files} {la lb : List Str} {D : Nat} {P : Nat → Prop} {A B : Assembly}
    (hsh : ShiftOrgP D P la lb)
    (hhead : ∃ lab n rest, lab.all isLabelCh = true ∧ n < 65536 ∧ la = orgLine lab n :: rest)
    (stA : Stages fs la A) (stB : Stages fs lb B) :
    ∀ (i : Nat) (s4 t t' : Stmt), stA.ss4[i]? = some s4 → A.stmts[i]? = some t → B.stmts[i]? = some t' →
      MovedMod D stA.ss4 s4 → t'.pkg.additional = shiftVmod D t.pkg.additional ∧
        ∀ bs, stmtBytes t = some bs →
          ∃ pre x, t.pkg.additional.int? = some x ∧ x < 65536 ∧ bs = pre ++ [x / 256, x % 256] ∧
            stmtBytes t' = some (pre ++ [(x + D) % 65536 / 256, (x + D) % 65536 % 256]) := by
  obtain ⟨hrel, hinc, hhd⟩ := hsh.any.parsed hhead stA stB
  exact C18_R1_parsed_code_mod_any stA.hparse stB.hparse hrel hinc hhd stA stB

/-- C18-R1 for source text at any origin, the fourth class (`MovedNeg`: `number - label`): conclusions as in
`C18_R1_parsed_code_neg_any` -/
theorem C18_R1_code_neg_any {fs : Files} {la lb : List Str} {D : Nat} {P : Nat → Prop} {A B : Assembly}
    (hsh : ShiftOrgP D P la lb)
    (hhead : ∃ lab n rest, lab.all isLabelCh = true ∧ n < 65536 ∧ la = orgLine lab n :: rest)
    (stA : Stages fs la A) (stB : Stages fs lb B) :
    ∀ (i : Nat) (s4 t t' : Stmt), stA.ss4[i]? = some s4 → A.stmts[i]? = some t → B.stmts[i]? = some t' →
      MovedNeg stA.ss4 s4 → t'.pkg.additional = shiftVneg D t.pkg.additional ∧
        ∀ bs, stmtBytes t = some bs →
          ∃ pre x y, t.pkg.additional.int? = some x ∧ x < 65536 ∧ y < 65536 ∧ (y + D) % 65536 = x ∧
            bs = pre ++ [x / 256, x % 256] ∧ stmtBytes t' = some (pre ++ [y / 256, y % 256]) := by
  obtain ⟨hrel, hinc, hhd⟩ := hsh.any.parsed hhead stA stB
  exact C18_R1_parsed_code_neg_any stA.hparse stB.hparse hrel hinc hhd stA stB

/-- C18-R1, value level, for source text, the third class (`MovedMod`): conclusions as in
`C18_R1_parsed_code_mod` -/
theorem C18_R1_code_mod {fs : Files} {la lb : List Str} {D : Nat} {A B : Assembly}
    (hsh : ShiftOrgP D (OrgOk D) la lb)
    (hhead : ∃ lab n rest, lab.all isLabelCh = true ∧ n < 65536 ∧ la = orgLine lab n :: rest)
    (stA : Stages fs la A) (stB : Stages fs lb B) :
    ∀ (i : Nat) (s4 t t' : Stmt), stA.ss4[i]? = some s4 → A.stmts[i]? = some t → B.stmts[i]? = some t' →
      MovedMod D stA.ss4 s4 → t'.pkg.additional = shiftVmod D t.pkg.additional ∧
        ∀ bs, stmtBytes t = some bs →
          ∃ pre x, t.pkg.additional.int? = some x ∧ x < 65536 ∧ bs = pre ++ [x / 256, x % 256] ∧
            stmtBytes t' = some (pre ++ [(x + D) % 65536 / 256, (x + D) % 65536 % 256]) :=
  C18_R1_code_mod_any hsh hhead stA stB

/-- C18-R1, value level, for source text, the fourth class (`MovedNeg`: `number - label`): conclusions as in
`C18_R1_parsed_code_neg` -/
theorem C18_R1_code_neg {fs : Files} {la lb : List Str} {D : Nat} {A B : Assembly}
    (hsh : ShiftOrgP D (OrgOk D) la lb)
    (hhead : ∃ lab n rest, lab.all isLabelCh = true ∧ n < 65536 ∧ la = orgLine lab n :: rest)
    (stA : Stages fs la A) (stB : Stages fs lb B) :
    ∀ (i : Nat) (s4 t t' : Stmt), stA.ss4[i]? = some s4 → A.stmts[i]? = some t → B.stmts[i]? = some t' →
      MovedNeg stA.ss4 s4 → t'.pkg.additional = shiftVneg D t.pkg.additional ∧
        ∀ bs, stmtBytes t = some bs →
          ∃ pre x y, t.pkg.additional.int? = some x ∧ x < 65536 ∧ y < 65536 ∧ (y + D) % 65536 = x ∧
            bs = pre ++ [x / 256, x % 256] ∧ stmtBytes t' = some (pre ++ [y / 256, y % 256]) :=
  C18_R1_code_neg_any hsh hhead stA stB

def r1lineA : Str := "X NOP ; ORG $1000\n".toList
def r1lineB : Str := "X NOP ; ORG $1100\n".toList
def r1cexA : List Str := [r1lineA]
def r1cexB : List Str := [r1lineB]

theorem r1lineA_eq : r1lineA = orgLine "X NOP ;".toList 4096 := by decide +kernel
theorem r1lineB_eq : r1lineB = orgLine "X NOP ;".toList (4096 + 256) := by decide +kernel

theorem r1cex_evaluated :
    (∃ A, assemble [] r1cexA = .ok A ∧ A.stmts[0]?.bind (·.pkg.address.int?) = some 0) ∧
    (∃ B, assemble [] r1cexB = .ok B ∧ B.stmts[0]?.bind (·.pkg.address.int?) = some 0) :=
  evaluated (by decide +kernel)

attribute [irreducible] r1lineA r1lineB

/-- counterexample: `lab := "X NOP ;"`; the line `X NOP ; ORG $1000` is a NOP with a comment, the
"ORG operand" is comment text, and the NOP sits at address 0 in both programs -/
theorem C18_R1_Statement_false : ¬ C18_R1_Statement := by
  intro h
  obtain ⟨⟨A, hA, cA⟩, ⟨B, hB, cB⟩⟩ := r1cex_evaluated
  have hsh : ShiftOrg 256 r1cexA r1cexB := by
    refine ⟨by simp [r1cexA, r1cexB], fun i x y hx hy => .inr ⟨"X NOP ;".toList, 4096, ?_, ?_, by omega⟩⟩
    · cases i with
      | zero =>
        simp only [r1cexA, List.getElem?_cons_zero, Option.some.injEq] at hx
        rw [← hx]; exact r1lineA_eq
      | succ j => simp [r1cexA] at hx
    · cases i with
      | zero =>
        simp only [r1cexB, List.getElem?_cons_zero, Option.some.injEq] at hy
        rw [← hy]; exact r1lineB_eq
      | succ j => simp [r1cexB] at hy
  have hhd : ∃ lab n rest, r1cexA = orgLine lab n :: rest :=
    ⟨"X NOP ;".toList, 4096, [], by rw [← r1lineA_eq]; rfl⟩
  obtain ⟨_, hall⟩ := h [] r1cexA r1cexB 256 A B hsh hhd hA hB
  obtain ⟨s, hs, hs0⟩ := Option.bind_eq_some_iff.mp cA
  obtain ⟨t, ht, ht0⟩ := Option.bind_eq_some_iff.mp cB
  have := hall 0 s t 0 hs ht hs0
  rw [ht0] at this
  cases this

/-- executable side condition on an unchanged line -/
def lineOkB (x : Str) : Bool :=
  match parseLine x with
  | .ok (some s) => !s.row.isOrigin && !s.row.isInclude
  | _ => true

theorem lineOkB_sound {x : Str} (h : lineOkB x = true) :
    ∀ s, parseLine x = .ok (some s) → s.row.isOrigin = false ∧ s.row.isInclude = false := by
  intro s hs
  unfold lineOkB at h
  rw [hs] at h
  simpa using h

/-- `lineOkB` on the parser of Lemmas/ParseEval.lean, for evaluation -/
def lineOkF (x : Str) : Bool :=
  match parseLineG findRowF x with
  | .ok (some s) => !s.row.isOrigin && !s.row.isInclude
  | _ => true

theorem lineOkB_fast : lineOkB = lineOkF := funext fun x => by unfold lineOkB lineOkF; rw [parseLine_eq]

instance {l : List Str} : Evaluable (l.all lineOkB = true) (l.all lineOkF) := ⟨fun h => lineOkB_fast ▸ h⟩

theorem shiftOrgP_single {D : Nat} {P : Nat → Prop} (lab : Str) (n : Nat) (rest : List Str)
    (hl : lab.all isLabelCh = true) (hP : P n) (hn : n + D < 65536) (hrest : rest.all lineOkB = true) :
    ShiftOrgP D P (orgLine lab n :: rest) (orgLine lab (n + D) :: rest) := by
  refine ⟨rfl, fun i x y hx hy => ?_⟩
  cases i with
  | zero =>
    rw [List.getElem?_cons_zero] at hx hy
    cases hx; cases hy
    exact .inr ⟨lab, n, hl, hP, rfl, rfl, hn⟩
  | succ j =>
    rw [List.getElem?_cons_succ] at hx hy
    rw [hx] at hy; cases hy
    exact .inl ⟨rfl, all_sound (fun _ => lineOkB_sound) hrest j x hx⟩

/-! What is evaluated about a sample — the side condition on its lines, the images, the classes of the statements that
enter `fixAll` (on `stage4` / `stageT`, with the Bool versions of the classes of Lemmas/RelocCheck.lean) — is one
statement per sample, proved by ONE evaluation (`evaluated`, Lemmas/ParseEval.lean); `stage4_map` carries what was
evaluated on `stage4` to the `Stages` of any accepted run. -/

/-- the body of the sample program: immediate label, `label+1`, PCR, short branch, absolute jump, data, EQU -/
def relocBody : List Str :=
  ["START LDX #DATA\n", " LDA DATA+1\n", " LEAY DATA,PCR\n", "LOOP DECA\n", " BNE LOOP\n", " JMP START\n",
   "DATA FCB 1,2\n", "LEN EQU 2\n", " END\n"].map String.toList

def relocA : List Str := orgLine [] 0x1000 :: relocBody
def relocB : List Str := orgLine [] 0x1100 :: relocBody

example : relocA.head? = some " ORG $1000\n".toList := by decide +kernel
example : relocB.head? = some " ORG $1100\n".toList := by decide +kernel

/-- the images, evaluated: `LDX #DATA` (8E 100F / 8E 110F), `LDA DATA+1` (B6 1010 / B6 1110) and
`JMP START` (7E 1000 / 7E 1100) move; `LEAY DATA,PCR` (31 8C 06), `DECA`, `BNE LOOP` (26 FD) and the data
do not -/
def imageA : Bytes := [0x8E, 0x10, 0x0F, 0xB6, 0x10, 0x10, 0x31, 0x8C, 0x06, 0x4A, 0x26, 0xFD, 0x7E, 0x10, 0x00, 1, 2]
def imageB : Bytes := [0x8E, 0x11, 0x0F, 0xB6, 0x11, 0x10, 0x31, 0x8C, 0x06, 0x4A, 0x26, 0xFD, 0x7E, 0x11, 0x00, 1, 2]

theorem reloc_evaluated :
    relocBody.all lineOkB = true ∧
    checkProgram relocA (fun A => A.image == some imageA) = true ∧
    checkProgram relocB (fun A => A.image == some imageB) = true := evaluated (by decide +kernel)

theorem relocBody_ok : relocBody.all lineOkB = true := reloc_evaluated.1
theorem relocA_ok : checkProgram relocA (fun A => A.image == some imageA) = true := reloc_evaluated.2.1
theorem relocB_ok : checkProgram relocB (fun A => A.image == some imageB) = true := reloc_evaluated.2.2

theorem reloc_shift : ShiftOrgP 0x100 (OrgOk 0x100) relocA relocB :=
  shiftOrgP_single [] 0x1000 relocBody rfl (by unfold OrgOk; omega) (by omega) relocBody_ok

/-- the hypotheses of `C18_R1` and `C18_R1_code` are satisfiable, and the conclusion of `C18_R1` holds of
the sample program relocated by `$100` -/
example : ∃ A B, assemble [] relocA = .ok A ∧ assemble [] relocB = .ok B ∧
    A.image = some imageA ∧ B.image = some imageB ∧
    A.stmts.length = B.stmts.length ∧
    (∀ (i : Nat) (s t : Stmt) (n : Nat), A.stmts[i]? = some s → B.stmts[i]? = some t →
      s.pkg.address.int? = some n → t.pkg.address.int? = some (n + 0x100)) ∧
    PW (AddrShift 0x100) A.stmts B.stmts := by
  obtain ⟨A, hA, cA⟩ := checkProgram_sound relocA_ok []
  obtain ⟨B, hB, cB⟩ := checkProgram_sound relocB_ok []
  have hhd : ∃ lab n rest, lab.all isLabelCh = true ∧ n < 65536 ∧ relocA = orgLine lab n :: rest :=
    ⟨[], 0x1000, relocBody, rfl, by omega, rfl⟩
  obtain ⟨h1, h2⟩ := C18_R1 [] relocA relocB 0x100 A B
    (shiftOrgP_single [] 0x1000 relocBody rfl trivial (by omega) relocBody_ok) hhd hA hB
  obtain ⟨stA⟩ := assemble_stages hA
  obtain ⟨stB⟩ := assemble_stages hB
  exact ⟨A, B, hA, hB, eq_of_beq cA, eq_of_beq cB, h1, h2, (C18_R1_code reloc_shift hhd stA stB).2.2.1⟩

/-- the body of the signed sample program: `N` is MINUS two; `A+N` in an FDB, `A-N` in a 16-bit immediate,
`A+N` as a PCR target -/
def signedBody : List Str :=
  ["N EQU -2\n", "A FDB A+N\n", " LDX #A-N\n", " LEAX A+N,PCR\n"].map String.toList

def signedA : List Str := orgLine [] 0x0100 :: signedBody
def signedB : List Str := orgLine [] 0x0200 :: signedBody

example : signedA.head? = some " ORG $0100\n".toList := by decide +kernel
example : signedB.head? = some " ORG $0200\n".toList := by decide +kernel

/-- the images, evaluated: `FDB A+N` is `A - 2` (`00FE` / `01FE`),
`LDX #A-N` is `A + 2` (`8E 0102` / `8E 0202`); both move by `$100`.  `LEAX A+N,PCR` (`30 8C F6`: from `$0108` back to
`$00FE`) does not move. -/
def signedImageA : Bytes := [0x00, 0xFE, 0x8E, 0x01, 0x02, 0x30, 0x8C, 0xF6]
def signedImageB : Bytes := [0x01, 0xFE, 0x8E, 0x02, 0x02, 0x30, 0x8C, 0xF6]

/-- both placements assemble to the images above; the tests statement by statement (`unmovedB`, `movedB`): ORG, EQU and
`LEAX A+N,PCR` pass `unmovedB`; `FDB A+N` and `LDX #A-N` pass `movedB`; every statement passes one of the two (`coverB`); no
FCB / FDB list holds a symbol or an expression (`literalListsB`) -/
theorem signed_evaluated :
    signedBody.all lineOkB = true ∧
    (∃ A, assemble [] signedA = .ok A ∧ A.image = some signedImageA) ∧
    (∃ B, assemble [] signedB = .ok B ∧ B.image = some signedImageB) ∧
    (stage4 signedA).map (fun as => as.map (fun s => (unmovedB 0x100 as s, movedB 0x100 as s)))
      = some [(true, false), (true, false), (false, true), (false, true), (true, false)] ∧
    (stage4 signedA).map (coverB 0x100) = some true ∧
    (stage4 signedA).map literalListsB = some true :=
  evaluated (by decide +kernel)

theorem signedBody_ok : signedBody.all lineOkB = true := signed_evaluated.1

theorem signed_shift : ShiftOrgP 0x100 (OrgOk 0x100) signedA signedB :=
  shiftOrgP_single [] 0x0100 signedBody rfl (by unfold OrgOk; omega) (by omega) signedBody_ok

theorem signedA_classes :
    (stage4 signedA).map (fun as => as.map (fun s => (unmovedB 0x100 as s, movedB 0x100 as s)))
      = some [(true, false), (true, false), (false, true), (false, true), (true, false)] :=
  signed_evaluated.2.2.2.1

theorem signedA_cover : (stage4 signedA).map (coverB 0x100) = some true := signed_evaluated.2.2.2.2.1

theorem signedA_lists : (stage4 signedA).map literalListsB = some true := signed_evaluated.2.2.2.2.2

/-- the signed sample program relocated by `$100`: both assemble to the images above; the hypotheses of `C18_R1_code`
hold (`signed_shift`); EVERY statement that enters `fixAll` is in one of the two classes (the covering hypothesis `hcov` of
`reloc_fixAll` / `reloc_finish`), and statement by statement the operand field is identical (`Unmoved`) or moved by `$100`
(`Moved`) — with a NEGATIVE constant `N` in `A+N`, `A-N` and `A+N,PCR` -/
theorem reloc_signed_witness : ∃ A B, assemble [] signedA = .ok A ∧ assemble [] signedB = .ok B ∧
    A.image = some signedImageA ∧ B.image = some signedImageB ∧
    PW (AddrShift 0x100) A.stmts B.stmts ∧
    ∀ (stA : Stages [] signedA A),
      (∀ (i : Nat) (s : Stmt), stA.ss4[i]? = some s → Unmoved 0x100 stA.ss4 s ∨ Moved 0x100 stA.ss4 s) ∧
      ∀ (i : Nat) (s4 t t' : Stmt), stA.ss4[i]? = some s4 → A.stmts[i]? = some t → B.stmts[i]? = some t' →
        (Unmoved 0x100 stA.ss4 s4 ∧ t'.pkg.additional = t.pkg.additional ∧ stmtBytes t' = stmtBytes t) ∨
        (Moved 0x100 stA.ss4 s4 ∧ t'.pkg.additional = shiftV 0x100 t.pkg.additional) := by
  obtain ⟨-, ⟨A, hA, cA⟩, ⟨B, hB, cB⟩, -⟩ := signed_evaluated
  obtain ⟨stA0⟩ := assemble_stages hA
  obtain ⟨stB⟩ := assemble_stages hB
  have hhd : ∃ lab n rest, lab.all isLabelCh = true ∧ n < 65536 ∧ signedA = orgLine lab n :: rest :=
    ⟨[], 0x0100, signedBody, rfl, by omega, rfl⟩
  refine ⟨A, B, hA, hB, cA, cB, (C18_R1_code signed_shift hhd stA0 stB).2.2.1, fun stA => ?_⟩
  have hcov := coverB_sound (stage4_map stA signedA_cover)
  refine ⟨hcov, fun i s4 t t' hs4 ht ht' => ?_⟩
  obtain ⟨hu, hm⟩ := (C18_R1_code signed_shift hhd stA stB).2.2.2.1 i s4 t t' hs4 ht ht'
  exact (hcov i s4 hs4).imp (fun hc => ⟨hc, hu hc (listsConst_of_stage4 stA signedA_lists i s4 hs4)⟩)
    (fun hc => ⟨hc, (hm hc).1⟩)

/-! Why the side conditions are there: evaluated counterexamples (i) – (viii). -/

def lines (l : List String) : List Str := l.map String.toList

/-- (i) `o + D + total size ≤ $10000` is NOT enough for the relocated program to be accepted: a trailing
statement of size 0 (here `END`) sits at address `$10000`, which `set_address` rejects.  `$FEFF + $100 + 1 =
$10000`.  This is why `reloc_assign_fwd` / `reloc_assign_iff` bound every statement ADDRESS. -/
theorem reloc_end_at_64K :
    (∃ A, assemble [] (lines [" ORG $FEFF\n", " NOP\n", " END\n"]) = .ok A) ∧
    assemble [] (lines [" ORG $FFFF\n", " NOP\n", " END\n"]) = .diag := by
  constructor
  · obtain ⟨A, hA, _⟩ := checkProgramF_sound (lines := lines [" ORG $FEFF\n", " NOP\n", " END\n"])
      (check := fun _ => true) (by decide +kernel) []
    exact ⟨A, hA⟩
  · exact diagProgramF_sound (by decide +kernel) []

/-- (ii) crossing `$100` (finding A11): below `$100` the address VALUE of a label is rendered with ONE byte.  Since
`fit_operand_width` gives the operand field of `JMP` four hex digits wherever the program sits (`7E 00F0` / `7E 01F0`), the
CODE moves as it should.  What differs is the rendering of the address VALUE itself (one byte, DIRECT, below
`$100`: the symbol table prints `$F0` against `$01F0`), and the value-level theorems `C18_R1_code`, `C18_R1_equ` speak of
address values with the same hint and mode (`AddrShift`, `WideAddr`); this is why THEY require every ORG at `$100` or
above (`OrgBounds`, `OrgOk`).  The theorems `C18_R1_code_any`, `C18_R1_equ_any`, ... above relate the
address values at int level (`AddrShiftAny`, `IntAddr`) and hold at ANY origin; `reloc_crossing_100_witness` is a move
across `$100`. -/
theorem reloc_crossing_100_fixed :
    (∃ A, assemble [] (lines [" ORG $00F0\n", "START JMP START\n"]) = .ok A ∧ A.image = some [0x7E, 0x00, 0xF0] ∧
      symtabLines A.symtab = some [("$F0   START").toList]) ∧
    (∃ B, assemble [] (lines [" ORG $01F0\n", "START JMP START\n"]) = .ok B ∧ B.image = some [0x7E, 0x01, 0xF0] ∧
      symtabLines B.symtab = some [("$01F0 START").toList]) :=
  evaluated (by decide +kernel)

/-- (iii) the classes without a claim: `label * k` is multiplied AFTER the move (`#A*2`: `$2000` / `$2200`),
and a PCR operand whose target is a label DIFFERENCE aims at a fixed number, so its displacement changes
(`LEAX B-A,PCR`: `EFF3` / `EEF3`, i.e. minus `D`); `label - k` (`#A-2`: `$0FFE` / `$10FE`) and `label - label` (`#B-A`: `$0001`)
behave as `Moved` resp. `Unmoved` say. -/
theorem reloc_no_claim :
    (∃ A, assemble [] (lines [" ORG $1000\n", "A NOP\n", "B LDX #A-2\n", " LDX #B-A\n", " LDX #A*2\n", " LEAX B-A,PCR\n"]) = .ok A ∧
      A.image = some [0x12, 0x8E, 0x0F, 0xFE, 0x8E, 0x00, 0x01, 0x8E, 0x20, 0x00, 0x30, 0x8D, 0xEF, 0xF3]) ∧
    (∃ B, assemble [] (lines [" ORG $1100\n", "A NOP\n", "B LDX #A-2\n", " LDX #B-A\n", " LDX #A*2\n", " LEAX B-A,PCR\n"]) = .ok B ∧
      B.image = some [0x12, 0x8E, 0x10, 0xFE, 0x8E, 0x00, 0x01, 0x8E, 0x22, 0x00, 0x30, 0x8D, 0xEE, 0xF3]) :=
  evaluated (by decide +kernel)

/-- (iv) why `Moved` asks for a 16-bit operand field (`FieldWide`): `A FCB A-$F0` is a `label - k` operand in a
ONE-byte field.  At `$0100` the value `$10` fits (`fit_operand_width`), at `$0200` the value `$110` does not
and the relocated program is rejected ("value 272 does not fit in 1 byte(s)"). -/
theorem reloc_narrow_field :
    (∃ A, assemble [] (lines [" ORG $0100\n", "A FCB A-$F0\n"]) = .ok A ∧ A.image = some [0x10]) ∧
    assemble [] (lines [" ORG $0200\n", "A FCB A-$F0\n"]) = .diag :=
  evaluated (by decide +kernel)

/-- the body of the wrap-around sample: `A+N` with `N EQU -384` is negative when `A` is at `$0100` -/
def wrapBody : List Str := ["N EQU -384\n", "A FDB A+N\n", " LDX #A+N\n"].map String.toList
def wrapA : List Str := orgLine [] 0x0100 :: wrapBody
def wrapB : List Str := orgLine [] 0x0200 :: wrapBody

example : wrapA = lines [" ORG $0100\n", "N EQU -384\n", "A FDB A+N\n", " LDX #A+N\n"] := by decide +kernel
example : wrapB = lines [" ORG $0200\n", "N EQU -384\n", "A FDB A+N\n", " LDX #A+N\n"] := by decide +kernel

/-- both placements are accepted; the tests statement by statement (`unmovedB`, `movedB`, `movedModB`): ORG and EQU pass
`unmovedB`; `FDB A+N` and `LDX #A+N` pass `movedModB`, and the tests `unmovedB`, `movedB` are `false` of them (a sound test
that fails: that they are not `Unmoved` or `Moved` is not proved); every statement passes one of the three (`coverModB`) -/
theorem wrap_evaluated :
    wrapBody.all lineOkB = true ∧
    (∃ A, assemble [] wrapA = .ok A ∧ A.image = some [0xFF, 0x80, 0x8E, 0xFF, 0x80]) ∧
    (∃ B, assemble [] wrapB = .ok B ∧ B.image = some [0x00, 0x80, 0x8E, 0x00, 0x80]) ∧
    (stage4 wrapA).map (fun as => as.map (fun s => (unmovedB 0x100 as s, movedB 0x100 as s, movedModB 0x100 as s)))
      = some [(true, false, false), (true, false, false), (false, false, true), (false, false, true)] ∧
    (stage4 wrapA).map (coverModB 0x100) = some true :=
  evaluated (by decide +kernel)

/-- (v) signed constants, a field that does not move by `D`: `A+N` with `N EQU -384` and `A` at `$0100` has the NEGATIVE
value `-$80`, which `calculate_address_offset` reduces modulo `$10000`: `FF80`.  At `$0200` the value is `$0080`.  Both
programs are accepted and the 16-bit field moves by `D` MODULO `$10000` (`reloc_fixFit_label_plus_mod`, class `MovedMod`),
not by `D`: this is why `Moved` (`NumExpr`) asks for a (reduced) value that stays at most `$FFFF` when moved. -/
theorem reloc_signed_wrap :
    (∃ A, assemble [] wrapA = .ok A ∧ A.image = some [0xFF, 0x80, 0x8E, 0xFF, 0x80]) ∧
    (∃ B, assemble [] wrapB = .ok B ∧ B.image = some [0x00, 0x80, 0x8E, 0x00, 0x80]) :=
  ⟨wrap_evaluated.2.1, wrap_evaluated.2.2.1⟩

theorem wrapA_classes :
    (stage4 wrapA).map (fun as => as.map (fun s => (unmovedB 0x100 as s, movedB 0x100 as s, movedModB 0x100 as s)))
      = some [(true, false, false), (true, false, false), (false, false, true), (false, false, true)] :=
  wrap_evaluated.2.2.2.1

theorem wrapA_cover : (stage4 wrapA).map (coverModB 0x100) = some true := wrap_evaluated.2.2.2.2

theorem wrap_shift : ShiftOrgP 0x100 (OrgOk 0x100) wrapA wrapB :=
  shiftOrgP_single [] 0x0100 wrapBody rfl (by unfold OrgOk; omega) (by omega) wrap_evaluated.1

/-- the wrap-around sample under the three-class theorems: every statement that enters `fixAll` is `Unmoved`, `Moved`
or `MovedMod` (the covering hypothesis `hcov` of `reloc_fixAll_mod` / `reloc_finish_mod`), and for the `MovedMod`
statements the operand field moves by `$100` modulo `$10000` (`C18_R1_code_mod_any`) -/
theorem reloc_signed_wrap_witness : ∃ A B, assemble [] wrapA = .ok A ∧ assemble [] wrapB = .ok B ∧
    ∀ (stA : Stages [] wrapA A),
      (∀ (i : Nat) (s : Stmt), stA.ss4[i]? = some s →
        Unmoved 0x100 stA.ss4 s ∨ Moved 0x100 stA.ss4 s ∨ MovedMod 0x100 stA.ss4 s) ∧
      ∀ (i : Nat) (s4 t t' : Stmt), stA.ss4[i]? = some s4 → A.stmts[i]? = some t → B.stmts[i]? = some t' →
        MovedMod 0x100 stA.ss4 s4 → t'.pkg.additional = shiftVmod 0x100 t.pkg.additional := by
  obtain ⟨-, ⟨A, hA, -⟩, ⟨B, hB, -⟩, -⟩ := wrap_evaluated
  obtain ⟨stB⟩ := assemble_stages hB
  refine ⟨A, B, hA, hB, fun stA => ⟨coverModB_sound (stage4_map stA wrapA_cover), ?_⟩⟩
  intro i s4 t t' hs4 ht ht' hc
  exact (C18_R1_code_mod_any wrap_shift ⟨[], 0x0100, wrapBody, rfl, by omega, rfl⟩ stA stB i s4 t t' hs4 ht ht' hc).1

def pcrNegBody : List Str := ["N EQU -258\n", "A LEAX A+N,PCR\n"].map String.toList
def pcrNegA : List Str := orgLine [] 0x0100 :: pcrNegBody
def pcrNegB : List Str := orgLine [] 0x0200 :: pcrNegBody

example : pcrNegA = lines [" ORG $0100\n", "N EQU -258\n", "A LEAX A+N,PCR\n"] := by decide +kernel
example : pcrNegB = lines [" ORG $0200\n", "N EQU -258\n", "A LEAX A+N,PCR\n"] := by decide +kernel

/-- both placements are accepted; every statement of the witness passes `unmovedB` (the PCR operand with the negative
target: the target `$FFFE` moves to `$00FE`, i.e. by `$100` modulo `$10000`, `TargetMovesMod`); no FCB / FDB list holds a
symbol or an expression (`literalListsB`) -/
theorem pcrNeg_evaluated :
    pcrNegBody.all lineOkB = true ∧
    (∃ A, assemble [] pcrNegA = .ok A ∧ A.image = some [0x30, 0x8D, 0xFE, 0xFA]) ∧
    (∃ B, assemble [] pcrNegB = .ok B ∧ B.image = some [0x30, 0x8D, 0xFE, 0xFA]) ∧
    (stage4 pcrNegA).map (fun as => as.all (fun s => unmovedB 0x100 as s)) = some true ∧
    (stage4 pcrNegA).map literalListsB = some true :=
  evaluated (by decide +kernel)

/-- (vi) signed constants, a PCR operand whose target `A+N` is NEGATIVE.  With `N EQU -258` and `A` at `$0100` the target
is `-2`; `calculate_address_offset` reduces it modulo `$10000` (`$FFFE`), the displacement is `$FFFE - $0104 = $FEFA` — it
aims at `-2` — in both placements, and the PCR code is IDENTICAL.  (Taking the magnitude `.int` of the target instead would
aim at `+2` and give `$FEFE` at `$0100` against `$FEFA` at `$0200`.) -/
theorem reloc_signed_pcr_negative_target_fixed :
    (∃ A, assemble [] pcrNegA = .ok A ∧ A.image = some [0x30, 0x8D, 0xFE, 0xFA]) ∧
    (∃ B, assemble [] pcrNegB = .ok B ∧ B.image = some [0x30, 0x8D, 0xFE, 0xFA]) :=
  ⟨pcrNeg_evaluated.2.1, pcrNeg_evaluated.2.2.1⟩

theorem pcrNeg_shift : ShiftOrgP 0x100 (OrgOk 0x100) pcrNegA pcrNegB :=
  shiftOrgP_single [] 0x0100 pcrNegBody rfl (by unfold OrgOk; omega) (by omega) pcrNeg_evaluated.1

theorem pcrNegA_lists : (stage4 pcrNegA).map literalListsB = some true := pcrNeg_evaluated.2.2.2.2

/-- (vi, continued) the witness under the class theorems: every statement that enters `fixAll` is `Unmoved`,
and statement by statement operand field and code are IDENTICAL in the two placements -/
theorem reloc_signed_pcr_negative_target_unmoved : ∃ A B, assemble [] pcrNegA = .ok A ∧ assemble [] pcrNegB = .ok B ∧
    ∀ (stA : Stages [] pcrNegA A),
      (∀ (i : Nat) (s : Stmt), stA.ss4[i]? = some s → Unmoved 0x100 stA.ss4 s) ∧
      ∀ (i : Nat) (t t' : Stmt), A.stmts[i]? = some t → B.stmts[i]? = some t' →
        t'.pkg.additional = t.pkg.additional ∧ stmtBytes t' = stmtBytes t := by
  obtain ⟨-, ⟨A, hA, -⟩, ⟨B, hB, -⟩, hall, -⟩ := pcrNeg_evaluated
  obtain ⟨stB⟩ := assemble_stages hB
  refine ⟨A, B, hA, hB, fun stA => ?_⟩
  have hcov : ∀ (i : Nat) (s : Stmt), stA.ss4[i]? = some s → Unmoved 0x100 stA.ss4 s :=
    all_sound (fun _ => unmovedB_sound) (stage4_map stA hall)
  refine ⟨hcov, fun i t t' ht ht' => ?_⟩
  obtain ⟨s4, hs4, _⟩ := (fixAllL_pw stA.hfix).get' ht
  exact ((C18_R1_code pcrNeg_shift ⟨[], 0x0100, pcrNegBody, rfl, by omega, rfl⟩ stA stB).2.2.2.1 i s4 t t' hs4 ht ht').1
    (hcov i s4 hs4) (listsConst_of_stage4 stA pcrNegA_lists i s4 hs4)

/-- the body of the indexed sample program: a plain label, `label+1` and a bracketed label as constant offset of a
pointer register (the 16-bit offset form, post bytes `$89`, `$A9`, `$D9`), and `[label+1]` (extended indirect with an address
expression, post byte `$9F`) -/
def idxBody : List Str :=
  ["T FCB 1\n", " LDA T,X\n", " LDB T+1,Y\n", " LDD [T,U]\n", " LDA [T+1]\n"].map String.toList

def idxA : List Str := orgLine [] 0x0100 :: idxBody
def idxB : List Str := orgLine [] 0x0200 :: idxBody

example : idxA = lines [" ORG $0100\n", "T FCB 1\n", " LDA T,X\n", " LDB T+1,Y\n", " LDD [T,U]\n", " LDA [T+1]\n"] := by
  decide +kernel
example : idxB = lines [" ORG $0200\n", "T FCB 1\n", " LDA T,X\n", " LDB T+1,Y\n", " LDD [T,U]\n", " LDA [T+1]\n"] := by
  decide +kernel

/-- the images, evaluated (and replayed on the Python): `LDA T,X` is `A6 89 0100` / `A6 89 0200`, `LDB T+1,Y` is
`E6 A9 0101` / `E6 A9 0201`, `LDD [T,U]` is `EC D9 0100` / `EC D9 0200`, `LDA [T+1]` is `A6 9F 0101` / `A6 9F 0201`: op
code and post byte identical, every 16-bit field moved by `$100` -/
def idxImageA : Bytes :=
  [0x01, 0xA6, 0x89, 0x01, 0x00, 0xE6, 0xA9, 0x01, 0x01, 0xEC, 0xD9, 0x01, 0x00, 0xA6, 0x9F, 0x01, 0x01]
def idxImageB : Bytes :=
  [0x01, 0xA6, 0x89, 0x02, 0x00, 0xE6, 0xA9, 0x02, 0x01, 0xEC, 0xD9, 0x02, 0x00, 0xA6, 0x9F, 0x02, 0x01]

/-- both placements assemble to the images above; the tests statement by statement (`unmovedB`, `movedRefB`,
`movedAbsB`): ORG and `FCB 1` pass `unmovedB`; `LDA T,X`, `LDB T+1,Y` and `LDD [T,U]` pass `movedAbsB` (the sub-class
`MovedAbs` of `Moved`; `unmovedB` is `false` of them: `needsRes` without post byte choices); `LDA [T+1]` passes `movedRefB`
(the sub-class `MovedRef`); every statement passes `unmovedB` or `movedB` (`coverB`); the lists consist of literals
(`literalListsB`) -/
theorem idx_evaluated :
    idxBody.all lineOkB = true ∧
    (∃ A, assemble [] idxA = .ok A ∧ A.image = some idxImageA) ∧
    (∃ B, assemble [] idxB = .ok B ∧ B.image = some idxImageB) ∧
    (stage4 idxA).map (fun as => as.map (fun s => (unmovedB 0x100 as s, movedRefB 0x100 as s, movedAbsB 0x100 as s)))
      = some [(true, false, false), (true, false, false), (false, false, true), (false, false, true),
              (false, false, true), (false, true, false)] ∧
    (stage4 idxA).map (coverB 0x100) = some true ∧
    (stage4 idxA).map literalListsB = some true :=
  evaluated (by decide +kernel)

theorem idx_shift : ShiftOrgP 0x100 (OrgOk 0x100) idxA idxB :=
  shiftOrgP_single [] 0x0100 idxBody rfl (by unfold OrgOk; omega) (by omega) idx_evaluated.1

theorem idxA_classes :
    (stage4 idxA).map (fun as => as.map (fun s => (unmovedB 0x100 as s, movedRefB 0x100 as s, movedAbsB 0x100 as s)))
      = some [(true, false, false), (true, false, false), (false, false, true), (false, false, true),
              (false, false, true), (false, true, false)] :=
  idx_evaluated.2.2.2.1

theorem idxA_cover : (stage4 idxA).map (coverB 0x100) = some true := idx_evaluated.2.2.2.2.1

theorem idxA_lists : (stage4 idxA).map literalListsB = some true := idx_evaluated.2.2.2.2.2

/-- the indexed sample program relocated by `$100`: both assemble to the images above; the hypotheses of `C18_R1_code`
hold; EVERY statement that enters `fixAll` is in one of the two classes (the covering hypothesis `hcov` of `reloc_fixAll` /
`reloc_finish`), and statement by statement the operand field is identical (`Unmoved`) or moved by `$100` (`Moved`:
the label as constant offset of `X`, `Y`, `[,U]` and `[T+1]`), the emitted bytes ending with the moved 16-bit field -/
theorem reloc_indexed_witness : ∃ A B, assemble [] idxA = .ok A ∧ assemble [] idxB = .ok B ∧
    A.image = some idxImageA ∧ B.image = some idxImageB ∧
    PW (AddrShift 0x100) A.stmts B.stmts ∧
    ∀ (stA : Stages [] idxA A),
      (∀ (i : Nat) (s : Stmt), stA.ss4[i]? = some s → Unmoved 0x100 stA.ss4 s ∨ Moved 0x100 stA.ss4 s) ∧
      ∀ (i : Nat) (s4 t t' : Stmt), stA.ss4[i]? = some s4 → A.stmts[i]? = some t → B.stmts[i]? = some t' →
        (Unmoved 0x100 stA.ss4 s4 ∧ t'.pkg.additional = t.pkg.additional ∧ stmtBytes t' = stmtBytes t) ∨
        (Moved 0x100 stA.ss4 s4 ∧ t'.pkg.additional = shiftV 0x100 t.pkg.additional ∧
          ∀ bs, stmtBytes t = some bs →
            ∃ pre x, t.pkg.additional.int? = some x ∧ x + 0x100 < 65536 ∧ bs = pre ++ [x / 256, x % 256] ∧
              stmtBytes t' = some (pre ++ [(x + 0x100) / 256, (x + 0x100) % 256])) := by
  obtain ⟨-, ⟨A, hA, cA⟩, ⟨B, hB, cB⟩, -⟩ := idx_evaluated
  obtain ⟨stA0⟩ := assemble_stages hA
  obtain ⟨stB⟩ := assemble_stages hB
  have hhd : ∃ lab n rest, lab.all isLabelCh = true ∧ n < 65536 ∧ idxA = orgLine lab n :: rest :=
    ⟨[], 0x0100, idxBody, rfl, by omega, rfl⟩
  refine ⟨A, B, hA, hB, cA, cB, (C18_R1_code idx_shift hhd stA0 stB).2.2.1, fun stA => ?_⟩
  have hcov := coverB_sound (stage4_map stA idxA_cover)
  refine ⟨hcov, fun i s4 t t' hs4 ht ht' => ?_⟩
  obtain ⟨hu, hm⟩ := (C18_R1_code idx_shift hhd stA stB).2.2.2.1 i s4 t t' hs4 ht ht'
  exact (hcov i s4 hs4).imp (fun hc => ⟨hc, hu hc (listsConst_of_stage4 stA idxA_lists i s4 hs4)⟩)
    (fun hc => ⟨hc, hm hc⟩)

/-- the body of the wrap-around indexed sample: `A+N` with `N EQU -384` is negative when `A` is at `$0100`; as constant
offset of `X`, as PCR target, and as bracketed constant offset of `Y` -/
def idxWrapBody : List Str := ["N EQU -384\n", "A LDA A+N,X\n", " LEAX A+N,PCR\n", " LDD [A+N,Y]\n"].map String.toList
def idxWrapA : List Str := orgLine [] 0x0100 :: idxWrapBody
def idxWrapB : List Str := orgLine [] 0x0200 :: idxWrapBody

example : idxWrapA = lines [" ORG $0100\n", "N EQU -384\n", "A LDA A+N,X\n", " LEAX A+N,PCR\n", " LDD [A+N,Y]\n"] := by
  decide +kernel

/-- `LDA A+N,X` is `A6 89 FF80` / `A6 89 0080` and `LDD [A+N,Y]` is `EC B9 FF80` / `EC B9 0080` (the offset field moves
by `$100` modulo `$10000`); `LEAX A+N,PCR` is `30 8D FE78` in both placements -/
def idxWrapImageA : Bytes := [0xA6, 0x89, 0xFF, 0x80, 0x30, 0x8D, 0xFE, 0x78, 0xEC, 0xB9, 0xFF, 0x80]
def idxWrapImageB : Bytes := [0xA6, 0x89, 0x00, 0x80, 0x30, 0x8D, 0xFE, 0x78, 0xEC, 0xB9, 0x00, 0x80]

/-- both placements assemble to the images above; the tests statement by statement (`unmovedB`, `movedB`,
`movedModRefB`, `movedModAbsB`): ORG, EQU and `LEAX A+N,PCR` — a PCR operand whose NEGATIVE target is reduced modulo
`$10000` and moves by `D` modulo `$10000` (`TargetMovesMod`) — pass `unmovedB`; `LDA A+N,X` and `LDD [A+N,Y]` pass
`movedModAbsB` (the sub-class `MovedModAbs` of `MovedMod`); every statement passes one of the tests of the three classes
(`coverModB`); no FCB / FDB list holds a symbol or an expression (`literalListsB`) -/
theorem idxWrap_evaluated :
    idxWrapBody.all lineOkB = true ∧
    (∃ A, assemble [] idxWrapA = .ok A ∧ A.image = some idxWrapImageA) ∧
    (∃ B, assemble [] idxWrapB = .ok B ∧ B.image = some idxWrapImageB) ∧
    (stage4 idxWrapA).map (fun as => as.map (fun s =>
        (unmovedB 0x100 as s, movedB 0x100 as s, movedModRefB 0x100 as s, movedModAbsB 0x100 as s)))
      = some [(true, false, false, false), (true, false, false, false), (false, false, false, true),
              (true, false, false, false), (false, false, false, true)] ∧
    (stage4 idxWrapA).map (coverModB 0x100) = some true ∧
    (stage4 idxWrapA).map literalListsB = some true :=
  evaluated (by decide +kernel)

theorem idxWrap_shift : ShiftOrgP 0x100 (OrgOk 0x100) idxWrapA idxWrapB :=
  shiftOrgP_single [] 0x0100 idxWrapBody rfl (by unfold OrgOk; omega) (by omega) idxWrap_evaluated.1

theorem idxWrapA_classes :
    (stage4 idxWrapA).map (fun as => as.map (fun s =>
        (unmovedB 0x100 as s, movedB 0x100 as s, movedModRefB 0x100 as s, movedModAbsB 0x100 as s)))
      = some [(true, false, false, false), (true, false, false, false), (false, false, false, true),
              (true, false, false, false), (false, false, false, true)] :=
  idxWrap_evaluated.2.2.2.1

theorem idxWrapA_cover : (stage4 idxWrapA).map (coverModB 0x100) = some true := idxWrap_evaluated.2.2.2.2.1

theorem idxWrapA_lists : (stage4 idxWrapA).map literalListsB = some true := idxWrap_evaluated.2.2.2.2.2

/-- the wrap-around indexed sample under the three-class theorems: both assemble to the images above; every statement
that enters `fixAll` is `Unmoved`, `Moved` or `MovedMod`; the `Unmoved` statements (the PCR operand with the negative
target among them) have IDENTICAL code, and for the `MovedMod` statements the 16-bit offset field moves by `$100` modulo
`$10000` -/
theorem reloc_indexed_wrap_witness : ∃ A B, assemble [] idxWrapA = .ok A ∧ assemble [] idxWrapB = .ok B ∧
    A.image = some idxWrapImageA ∧ B.image = some idxWrapImageB ∧
    ∀ (stA : Stages [] idxWrapA A),
      (∀ (i : Nat) (s : Stmt), stA.ss4[i]? = some s →
        Unmoved 0x100 stA.ss4 s ∨ Moved 0x100 stA.ss4 s ∨ MovedMod 0x100 stA.ss4 s) ∧
      ∀ (i : Nat) (s4 t t' : Stmt), stA.ss4[i]? = some s4 → A.stmts[i]? = some t → B.stmts[i]? = some t' →
        (Unmoved 0x100 stA.ss4 s4 → t'.pkg.additional = t.pkg.additional ∧ stmtBytes t' = stmtBytes t) ∧
        (MovedMod 0x100 stA.ss4 s4 → t'.pkg.additional = shiftVmod 0x100 t.pkg.additional) := by
  obtain ⟨-, ⟨A, hA, cA⟩, ⟨B, hB, cB⟩, -⟩ := idxWrap_evaluated
  obtain ⟨stB⟩ := assemble_stages hB
  have hhd : ∃ lab n rest, lab.all isLabelCh = true ∧ n < 65536 ∧ idxWrapA = orgLine lab n :: rest :=
    ⟨[], 0x0100, idxWrapBody, rfl, by omega, rfl⟩
  refine ⟨A, B, hA, hB, cA, cB, fun stA => ?_⟩
  refine ⟨coverModB_sound (stage4_map stA idxWrapA_cover), fun i s4 t t' hs4 ht ht' => ⟨fun hc => ?_, fun hc => ?_⟩⟩
  · exact ((C18_R1_code idxWrap_shift hhd stA stB).2.2.2.1 i s4 t t' hs4 ht ht').1 hc
      (listsConst_of_stage4 stA idxWrapA_lists i s4 hs4)
  · exact (C18_R1_code_mod_any idxWrap_shift hhd stA stB i s4 t t' hs4 ht ht' hc).1

def negBody : List Str := ["L FDB 5-L\n", " LDX #$4000-L\n"].map String.toList
def negA : List Str := orgLine [] 0x0100 :: negBody
def negB : List Str := orgLine [] 0x0200 :: negBody

example : negA = lines [" ORG $0100\n", "L FDB 5-L\n", " LDX #$4000-L\n"] := by decide +kernel

/-- `FDB 5-L` is `5 - $0100 = $FF05` (modulo `$10000`) / `$FE05`, `LDX #$4000-L` is `8E 3F00` / `8E 3E00`: the fields
move by MINUS `$100` -/
def negImageA : Bytes := [0xFF, 0x05, 0x8E, 0x3F, 0x00]
def negImageB : Bytes := [0xFE, 0x05, 0x8E, 0x3E, 0x00]

/-- both placements assemble to the images above; the tests statement by statement (`unmovedB`, `movedB`, `movedModB`,
`movedNegB`): the ORG passes `unmovedB`; `FDB 5-L` and `LDX #$4000-L` pass `movedNegB`, and the tests `unmovedB`, `movedB`,
`movedModB` are `false` of them (the tests are sound, not complete); every statement passes one of the four (`coverNegB`) -/
theorem neg_evaluated :
    negBody.all lineOkB = true ∧
    (∃ A, assemble [] negA = .ok A ∧ A.image = some negImageA) ∧
    (∃ B, assemble [] negB = .ok B ∧ B.image = some negImageB) ∧
    (stage4 negA).map (fun as => as.map (fun s =>
        (unmovedB 0x100 as s, movedB 0x100 as s, movedModB 0x100 as s, movedNegB as s)))
      = some [(true, false, false, false), (false, false, false, true), (false, false, false, true)] ∧
    (stage4 negA).map (coverNegB 0x100) = some true :=
  evaluated (by decide +kernel)

theorem neg_shift : ShiftOrgP 0x100 (OrgOk 0x100) negA negB :=
  shiftOrgP_single [] 0x0100 negBody rfl (by unfold OrgOk; omega) (by omega) neg_evaluated.1

theorem negA_classes :
    (stage4 negA).map (fun as => as.map (fun s =>
        (unmovedB 0x100 as s, movedB 0x100 as s, movedModB 0x100 as s, movedNegB as s)))
      = some [(true, false, false, false), (false, false, false, true), (false, false, false, true)] :=
  neg_evaluated.2.2.2.1

theorem negA_cover : (stage4 negA).map (coverNegB 0x100) = some true := neg_evaluated.2.2.2.2

/-- the `number - label` sample under the four-class theorems: both assemble to the images above; every statement that
enters `fixAll` is `Unmoved`, `Moved`, `MovedMod` or `MovedNeg` (the covering hypothesis `hcov` of `reloc_fixAll_neg` /
`reloc_finish_neg`), and for the `MovedNeg` statements the operand field moves by MINUS `$100` modulo `$10000`
(`C18_R1_code_neg_any`) -/
theorem reloc_neg_witness : ∃ A B, assemble [] negA = .ok A ∧ assemble [] negB = .ok B ∧
    A.image = some negImageA ∧ B.image = some negImageB ∧
    ∀ (stA : Stages [] negA A),
      (∀ (i : Nat) (s : Stmt), stA.ss4[i]? = some s →
        Unmoved 0x100 stA.ss4 s ∨ Moved 0x100 stA.ss4 s ∨ MovedMod 0x100 stA.ss4 s ∨ MovedNeg stA.ss4 s) ∧
      ∀ (i : Nat) (s4 t t' : Stmt), stA.ss4[i]? = some s4 → A.stmts[i]? = some t → B.stmts[i]? = some t' →
        MovedNeg stA.ss4 s4 → t'.pkg.additional = shiftVneg 0x100 t.pkg.additional := by
  obtain ⟨-, ⟨A, hA, cA⟩, ⟨B, hB, cB⟩, -⟩ := neg_evaluated
  obtain ⟨stB⟩ := assemble_stages hB
  refine ⟨A, B, hA, hB, cA, cB, fun stA => ⟨coverNegB_sound (stage4_map stA negA_cover), ?_⟩⟩
  intro i s4 t t' hs4 ht ht' hc
  exact (C18_R1_code_neg_any neg_shift ⟨[], 0x0100, negBody, rfl, by omega, rfl⟩ stA stB i s4 t t' hs4 ht ht' hc).1

/-- the tests of the four classes (`unmovedB`, `movedB`, `movedModB`, `movedNegB`) on the sample of (vii): ORG and
`A NOP` pass `unmovedB`; on `LDX #2*A`, `LDX #$8000/A` and `LDA 5-A,X` all four tests are `false`.  The tests are sound
for the classes, not complete: that these statements are in none of the classes is not proved. -/
theorem noClaimB3_classes :
    (stage4 (lines [" ORG $1000\n", "A NOP\n", " LDX #2*A\n", " LDX #$8000/A\n", " LDA 5-A,X\n"])).map
        (fun as => as.map (fun s => (unmovedB 0x100 as s, movedB 0x100 as s, movedModB 0x100 as s, movedNegB as s)))
      = some [(true, false, false, false), (true, false, false, false), (false, false, false, false),
              (false, false, false, false), (false, false, false, false)] := evaluated (by decide +kernel)

/-- (vii) more forms without a claim: `number * label` is multiplied AFTER the move (`#2*A`: `$2000` / `$2200`),
`number / label` is divided after the move (`#$8000/A`: `$0008` / `$0007`), and `number - label` as constant offset of a
pointer register (`LDA 5-A,X`: `A6 89 F005` / `A6 89 EF05`) moves by MINUS `D` like the operand form `MovedNeg`, for
which only the operand form has a class.  Both programs are accepted. -/
theorem reloc_no_claim_b3 :
    (∃ A, assemble [] (lines [" ORG $1000\n", "A NOP\n", " LDX #2*A\n", " LDX #$8000/A\n", " LDA 5-A,X\n"]) = .ok A ∧
      A.image = some [0x12, 0x8E, 0x20, 0x00, 0x8E, 0x00, 0x08, 0xA6, 0x89, 0xF0, 0x05]) ∧
    (∃ B, assemble [] (lines [" ORG $1100\n", "A NOP\n", " LDX #2*A\n", " LDX #$8000/A\n", " LDA 5-A,X\n"]) = .ok B ∧
      B.image = some [0x12, 0x8E, 0x22, 0x00, 0x8E, 0x00, 0x07, 0xA6, 0x89, 0xEF, 0x05]) :=
  evaluated (by decide +kernel)

/-- (viii) why `MovedMod` (`ModBound`) asks for `a - c + D ≤ $FFFF` for `label - N` as well:
with a NEGATIVE `N` the difference can pass `$FFFF`, and `calculate_address_offset` rejects it ("integer value cannot
exceed 65535").  `A FDB A-N`
with `N EQU -256` is `$FF00` at `$FE00` and REJECTED at `$FF00`: through a signed constant the OUTCOME KIND changes under
relocation, although the relocated program itself fits the 64K space. -/
theorem reloc_label_minus_overflow :
    (∃ A, assemble [] (lines [" ORG $FE00\n", "N EQU -256\n", "A FDB A-N\n"]) = .ok A ∧ A.image = some [0xFF, 0x00]) ∧
    assemble [] (lines [" ORG $FF00\n", "N EQU -256\n", "A FDB A-N\n"]) = .diag :=
  evaluated (by decide +kernel)

/-- on the `FDB A-N` of (viii) the tests of the four classes are all `false` for `D = $100` (evaluated; the tests are
sound for the classes, not complete) -/
theorem labelMinusOverflow_classes :
    (stage4 (lines [" ORG $FE00\n", "N EQU -256\n", "A FDB A-N\n"])).map
        (fun as => as.map (fun s => (unmovedB 0x100 as s, movedB 0x100 as s, movedModB 0x100 as s, movedNegB as s)))
      = some [(true, false, false, false), (true, false, false, false), (false, false, false, false)] :=
  evaluated (by decide +kernel)

/-- the body of the EQU sample program: `T EQU L+1` (`label + k`), `W EQU L+N` with the negative `N` (`label + N`, negative
at `$0100`), `LEN EQU M-L` (`label - label`), `R EQU $4000-L` (`number - label`), and two EQUs that are not defined by
label expressions: `C EQU 5`, `E EQU C+1` (an expression of constants) -/
def equBody : List Str :=
  ["N EQU -384\n", "L NOP\n", "M NOP\n", "T EQU L+1\n", "W EQU L+N\n", "LEN EQU M-L\n", "R EQU $4000-L\n", "C EQU 5\n",
   "E EQU C+1\n", " LDX #E\n"].map String.toList

def equA : List Str := orgLine [] 0x0100 :: equBody
def equB : List Str := orgLine [] 0x0200 :: equBody

example : equA.head? = some " ORG $0100\n".toList := by decide +kernel
example : equB.head? = some " ORG $0200\n".toList := by decide +kernel

/-- the symbol table listings, evaluated: an EQU defined by an expression is listed with its VALUE.  The
labels `L`, `M` and `T EQU L+1` move by `$100`; `W EQU L+N` moves by `$100` modulo `$10000` (`$FF80` / `$0080`);
`LEN EQU M-L` does not move; `R EQU $4000-L` moves by MINUS `$100`; `N`, `C`, `E` are the same -/
def equSymsA : List Str :=
  lines ["$FE80 N", "$0100 L", "$0101 M", "$0101 T", "$FF80 W", "$0001 LEN", "$3F00 R", "$0005 C", "$0006 E"]
def equSymsB : List Str :=
  lines ["$FE80 N", "$0200 L", "$0201 M", "$0201 T", "$0080 W", "$0001 LEN", "$3E00 R", "$0005 C", "$0006 E"]

/-- the code (`NOP`, `NOP`, `LDX #E`) is the same in both placements -/
def equImage : Bytes := [0x12, 0x12, 0x8E, 0x00, 0x06]

/-- both placements assemble, with the listings and the image above; the tests on the table entries, entry by entry (is a
label, `equConstB`, then `equLabelB` with `numExprB`, `modExprB`, `diffExprB`, `negExprB`; Lemmas/RelocCheck.lean): `N`,
`C`, `E` are no labels and pass `equConstB` (EQUs not defined by a label expression); `L`, `M` are labels; `T` passes the
tests for `NumExpr` and `ModExpr`, `W` the one for `ModExpr` only (its value `$FF80` does not stay below `$10000` when
moved), `LEN` the one for `DiffExpr`, `R` the one for `NegExpr`; every statement passes `unmovedB` or `movedB` (`coverB`),
every table entry passes one of the tests (`equCoverB`) -/
theorem equ_evaluated :
    equBody.all lineOkB = true ∧
    (∃ A, assemble [] equA = .ok A ∧ symtabLines A.symtab = some equSymsA ∧ A.image = some equImage) ∧
    (∃ B, assemble [] equB = .ok B ∧ symtabLines B.symtab = some equSymsB ∧ B.image = some equImage) ∧
    (stage4 equA).bind (fun as => (stageT equA).map (fun t => t.map (fun kv =>
      [kv.2.isAddress, equConstB t kv.2, equLabelB (numExprB 0x100 as) t kv.2, equLabelB (modExprB 0x100 as) t kv.2,
        equLabelB diffExprB t kv.2, equLabelB (negExprB as) t kv.2])))
      = some [[false, true, false, false, false, false], [true, true, false, false, false, false],
              [true, true, false, false, false, false], [false, false, true, true, false, false],
              [false, false, false, true, false, false], [false, false, false, false, true, false],
              [false, false, false, false, false, true], [false, true, false, false, false, false],
              [false, true, false, false, false, false]] ∧
    (stage4 equA).map (coverB 0x100) = some true ∧
    (stage4 equA).bind (fun as => (stageT equA).map (equCoverB 0x100 as)) = some true :=
  evaluated (by decide +kernel)

theorem equ_shift : ShiftOrgP 0x100 (OrgOk 0x100) equA equB :=
  shiftOrgP_single [] 0x0100 equBody rfl (by unfold OrgOk; omega) (by omega) equ_evaluated.1

theorem equA_classes :
    (stage4 equA).bind (fun as => (stageT equA).map (fun t => t.map (fun kv =>
      [kv.2.isAddress, equConstB t kv.2, equLabelB (numExprB 0x100 as) t kv.2, equLabelB (modExprB 0x100 as) t kv.2,
        equLabelB diffExprB t kv.2, equLabelB (negExprB as) t kv.2])))
      = some [[false, true, false, false, false, false], [true, true, false, false, false, false],
              [true, true, false, false, false, false], [false, false, true, true, false, false],
              [false, false, false, true, false, false], [false, false, false, false, true, false],
              [false, false, false, false, false, true], [false, true, false, false, false, false],
              [false, true, false, false, false, false]] :=
  equ_evaluated.2.2.2.1

theorem equA_cover : (stage4 equA).map (coverB 0x100) = some true := equ_evaluated.2.2.2.2.1

theorem equA_equCover : (stage4 equA).bind (fun as => (stageT equA).map (equCoverB 0x100 as)) = some true :=
  equ_evaluated.2.2.2.2.2

/-- the EQU sample program relocated by `$100`: both assemble, with the symbol table listings above (the EQUs defined by
label expressions are NOT unchanged: this is why `reloc_finish` asks for `NoLabelEqu` and the last conjunct of
`C18_R1_code` for `EquConst`); every statement is `Unmoved` or `Moved` and every table entry is covered (`EquCovered`):
the hypotheses `hcov`, `hequ` of `reloc_finish_equ`; and entry by entry the final values are related by `EquRel`
(`C18_R1_equ`) -/
theorem reloc_equ_witness : ∃ A B, assemble [] equA = .ok A ∧ assemble [] equB = .ok B ∧
    symtabLines A.symtab = some equSymsA ∧ symtabLines B.symtab = some equSymsB ∧
    A.image = some equImage ∧ B.image = some equImage ∧
    ∀ (stA : Stages [] equA A),
      (∀ (i : Nat) (s : Stmt), stA.ss4[i]? = some s → Unmoved 0x100 stA.ss4 s ∨ Moved 0x100 stA.ss4 s) ∧
      (∀ kv ∈ stA.t, EquCovered 0x100 stA.ss4 stA.t kv.2) ∧
      ∀ (j : Nat) (k : Str) (v : Value), stA.t[j]? = some (k, v) →
        ∃ x x', A.symtab[j]? = some (k, x) ∧ B.symtab[j]? = some (k, x') ∧ EquRel 0x100 stA.ss4 stA.t v x x' := by
  obtain ⟨-, ⟨A, hA, cA⟩, ⟨B, hB, cB⟩, -⟩ := equ_evaluated
  obtain ⟨stB⟩ := assemble_stages hB
  exact ⟨A, B, hA, hB, cA.1, cB.1, cA.2, cB.2, fun stA =>
    ⟨coverB_sound (stage4_map stA equA_cover), equCoverB_sound (stage4T_map stA equA_equCover),
      C18_R1_equ equ_shift ⟨[], 0x0100, equBody, rfl, by omega, rfl⟩ stA stB⟩⟩

def refFittedB (s : Stmt) : Bool := !s.operand.value.isAddress || !fitSkipped s.row

theorem refFittedB_sound {s : Stmt} (h : refFittedB s = true) : RefFitted s := by
  intro ha
  unfold refFittedB at h
  rw [ha] at h
  simpa using h

/-- every statement of the list is in one of the four classes of a program at any origin (`CoveredAny`) -/
def coverAnyB (D : Nat) (as : List Stmt) : Bool :=
  as.all (fun s => unmovedB D as s || (movedB D as s && refFittedB s) || movedModB D as s || movedNegB as s)

theorem coverAnyB_sound {D : Nat} {as : List Stmt} (h : coverAnyB D as = true) :
    ∀ (i : Nat) (s : Stmt), as[i]? = some s → CoveredAny D as s := by
  refine all_sound (fun s hs => ?_) h
  simp only [Bool.or_eq_true, Bool.and_eq_true] at hs
  rcases hs with ((h1 | ⟨h1, h2⟩) | h1) | h1
  · exact .inl (unmovedB_sound h1)
  · exact .inr (.inl ⟨movedB_sound h1, refFittedB_sound h2⟩)
  · exact .inr (.inr (.inl (movedModB_sound h1)))
  · exact .inr (.inr (.inr (movedNegB_sound h1)))

/-- the body of the crossing sample: the label `L` referenced absolutely (`JMP L`, `LDX #L`, `LDA L,X`, `FDB L`),
relatively (`BRA L`, `LEAX L,PCR`) and in an EQU (`T EQU L+1`) -/
def crossBody : List Str :=
  ["L JMP L\n", " LDX #L\n", " LDA L,X\n", " FDB L\n", " BRA L\n", " LEAX L,PCR\n", "T EQU L+1\n"].map String.toList

/-- at `$00F8` the program itself straddles `$100` (`L` at `$F8`, the `FDB` at `$0102`); moved by `$100` all of it is
above `$100` -/
def crossA : List Str := orgLine [] 0x00F8 :: crossBody
def crossB : List Str := orgLine [] 0x01F8 :: crossBody

example : crossA = lines [" ORG $00F8\n", "L JMP L\n", " LDX #L\n", " LDA L,X\n", " FDB L\n", " BRA L\n",
    " LEAX L,PCR\n", "T EQU L+1\n"] := by decide +kernel
example : crossB = lines [" ORG $01F8\n", "L JMP L\n", " LDX #L\n", " LDA L,X\n", " FDB L\n", " BRA L\n",
    " LEAX L,PCR\n", "T EQU L+1\n"] := by decide +kernel

/-- the images, evaluated: `JMP L` (`7E 00F8` / `7E 01F8`), `LDX #L` (`8E 00F8` / `8E 01F8`), `LDA L,X`
(`A6 89 00F8` / `A6 89 01F8`) and `FDB L` (`00F8` / `01F8`) move by `$100`; `BRA L` (`20 F2`) and `LEAX L,PCR`
(`30 8C EF`) are identical -/
def crossImageA : Bytes :=
  [0x7E, 0x00, 0xF8, 0x8E, 0x00, 0xF8, 0xA6, 0x89, 0x00, 0xF8, 0x00, 0xF8, 0x20, 0xF2, 0x30, 0x8C, 0xEF]
def crossImageB : Bytes :=
  [0x7E, 0x01, 0xF8, 0x8E, 0x01, 0xF8, 0xA6, 0x89, 0x01, 0xF8, 0x01, 0xF8, 0x20, 0xF2, 0x30, 0x8C, 0xEF]

/-- statement addresses (ORG, `L JMP`, `LDX`, `LDA`, `FDB`, `BRA`, `LEAX`, `T EQU`) and label values (`L`, `T`) -/
def crossAddrsA : List (Option Nat) :=
  [some 0xF8, some 0xF8, some 0xFB, some 0xFE, some 0x102, some 0x104, some 0x106, some 0x109]
def crossAddrsB : List (Option Nat) :=
  [some 0x1F8, some 0x1F8, some 0x1FB, some 0x1FE, some 0x202, some 0x204, some 0x206, some 0x209]

/-- the side condition of the value-level theorems fails: the ORG is below `$100` -/
theorem cross_not_orgOk : ¬ OrgOk 0x100 0x00F8 := by unfold OrgOk; omega

/-- both placements assemble: images, symbol table listings, label values and statement addresses; the tests statement by
statement (`unmovedB`, `movedB` with `refFittedB`): ORG, `BRA L`, `LEAX L,PCR` and the EQU pass `unmovedB`; `JMP L`,
`LDX #L`, `LDA L,X`, `FDB L` pass `movedB` and `refFittedB` (they are looked at by `fit_operand_width`).  The table entries:
`L` is a label, `T EQU L+1` passes the test for an EQU defined by a label expression of the class `NumExpr`.  Every
statement passes `unmovedB` or `movedB` (`coverB`), no FCB / FDB list holds a symbol or an expression (`literalListsB`),
every table entry passes `equCoverB` -/
theorem cross_evaluated :
    crossBody.all lineOkB = true ∧
    (∃ A, assemble [] crossA = .ok A ∧ A.image = some crossImageA ∧
      symtabLines A.symtab = some (lines ["$F8   L", "$00F9 T"]) ∧
      A.symtab.map (fun kv => kv.2.int?) = [some 0xF8, some 0xF9] ∧
      A.stmts.map (fun s => s.pkg.address.int?) = crossAddrsA) ∧
    (∃ B, assemble [] crossB = .ok B ∧ B.image = some crossImageB ∧
      symtabLines B.symtab = some (lines ["$01F8 L", "$01F9 T"]) ∧
      B.symtab.map (fun kv => kv.2.int?) = [some 0x1F8, some 0x1F9] ∧
      B.stmts.map (fun s => s.pkg.address.int?) = crossAddrsB) ∧
    (stage4 crossA).map (fun as => as.map (fun s => (unmovedB 0x100 as s, movedB 0x100 as s && refFittedB s)))
      = some [(true, false), (false, true), (false, true), (false, true), (false, true), (true, false), (true, false),
              (true, false)] ∧
    (stage4 crossA).bind (fun as => (stageT crossA).map (fun t => t.map (fun kv =>
      (kv.2.isAddress, equLabelB (numExprB 0x100 as) t kv.2))))
      = some [(true, false), (false, true)] ∧
    (stage4 crossA).map (coverB 0x100) = some true ∧
    (stage4 crossA).map literalListsB = some true ∧
    (stage4 crossA).bind (fun as => (stageT crossA).map (equCoverB 0x100 as)) = some true :=
  evaluated (by decide +kernel)

/-- the hypothesis of `C18_R1` / `C18_R1_code_any` (no side condition on the ORG value) -/
theorem cross_shift : ShiftOrgP 0x100 (fun _ => True) crossA crossB :=
  shiftOrgP_single [] 0x00F8 crossBody rfl trivial (by omega) cross_evaluated.1

theorem crossA_classes :
    (stage4 crossA).map (fun as => as.map (fun s => (unmovedB 0x100 as s, movedB 0x100 as s && refFittedB s)))
      = some [(true, false), (false, true), (false, true), (false, true), (false, true), (true, false), (true, false),
              (true, false)] :=
  cross_evaluated.2.2.2.1

theorem crossA_equClasses :
    (stage4 crossA).bind (fun as => (stageT crossA).map (fun t => t.map (fun kv =>
      (kv.2.isAddress, equLabelB (numExprB 0x100 as) t kv.2))))
      = some [(true, false), (false, true)] :=
  cross_evaluated.2.2.2.2.1

theorem crossA_lists : (stage4 crossA).map literalListsB = some true := cross_evaluated.2.2.2.2.2.2.1

theorem crossA_equCover : (stage4 crossA).bind (fun as => (stageT crossA).map (equCoverB 0x100 as)) = some true :=
  cross_evaluated.2.2.2.2.2.2.2

/-- a move across `$100` under the any-origin theorems.  The program at `$00F8` and at `$01F8`: both assemble to the
images above — equal except the four absolute 16-bit fields, which are `$100` higher; the relative displacements
(`BRA L`, `LEAX L,PCR`) are identical.  Statement addresses and label values move by `$100` as numbers (evaluated, and
`PW (AddrShiftAny ..)` by `C18_R1_code_any`); the printed symbol table differs in FORMAT (`$F8` against `$01F8`: the
listing prints a value below `$100` with two digits).  The hypotheses of `C18_R1_code_any` hold (`cross_shift`;
`OrgOk` does not: `cross_not_orgOk`), EVERY statement that enters `fixAll` is `Unmoved` or `Moved` (evaluated; `RefFitted`
holds of every statement of an accepted program: `coveredAny_of_stages`) and every table entry is covered: the
hypotheses `hcov`, `hequ` of `reloc_finish_any`; statement by statement operand field and code are
identical (`Unmoved`) or the trailing 16-bit field moves by `$100` (`Moved`); entry by entry the final symbol tables are
related by `EquRelAny` (`L`: `IntAddr`; `T EQU L+1`: `shiftV`). -/
theorem reloc_crossing_100_witness : ∃ A B, assemble [] crossA = .ok A ∧ assemble [] crossB = .ok B ∧
    A.image = some crossImageA ∧ B.image = some crossImageB ∧
    symtabLines A.symtab = some (lines ["$F8   L", "$00F9 T"]) ∧
    symtabLines B.symtab = some (lines ["$01F8 L", "$01F9 T"]) ∧
    A.symtab.map (fun kv => kv.2.int?) = [some 0xF8, some 0xF9] ∧
    B.symtab.map (fun kv => kv.2.int?) = [some 0x1F8, some 0x1F9] ∧
    A.stmts.map (fun s => s.pkg.address.int?) = crossAddrsA ∧
    B.stmts.map (fun s => s.pkg.address.int?) = crossAddrsB ∧
    PW (AddrShiftAny 0x100) A.stmts B.stmts ∧
    ∀ (stA : Stages [] crossA A),
      (∀ (i : Nat) (s : Stmt), stA.ss4[i]? = some s → CoveredAny 0x100 stA.ss4 s) ∧
      (∀ kv ∈ stA.t, EquCovered 0x100 stA.ss4 stA.t kv.2) ∧
      (∀ (i : Nat) (s4 t t' : Stmt), stA.ss4[i]? = some s4 → A.stmts[i]? = some t → B.stmts[i]? = some t' →
        (Unmoved 0x100 stA.ss4 s4 ∧ t'.pkg.additional = t.pkg.additional ∧ stmtBytes t' = stmtBytes t) ∨
        (Moved 0x100 stA.ss4 s4 ∧ t'.pkg.additional = shiftV 0x100 t.pkg.additional ∧
          ∀ bs, stmtBytes t = some bs →
            ∃ pre x, t.pkg.additional.int? = some x ∧ x + 0x100 < 65536 ∧ bs = pre ++ [x / 256, x % 256] ∧
              stmtBytes t' = some (pre ++ [(x + 0x100) / 256, (x + 0x100) % 256]))) ∧
      ∀ (j : Nat) (k : Str) (v : Value), stA.t[j]? = some (k, v) →
        ∃ x x', A.symtab[j]? = some (k, x) ∧ B.symtab[j]? = some (k, x') ∧ EquRelAny 0x100 stA.ss4 stA.t v x x' := by
  obtain ⟨-, ⟨A, hA, a1, a2, a3, a4⟩, ⟨B, hB, b1, b2, b3, b4⟩, -, -, hcv, -⟩ := cross_evaluated
  obtain ⟨stA0⟩ := assemble_stages hA
  obtain ⟨stB⟩ := assemble_stages hB
  have hhd : ∃ lab n rest, lab.all isLabelCh = true ∧ n < 65536 ∧ crossA = orgLine lab n :: rest :=
    ⟨[], 0x00F8, crossBody, rfl, by omega, rfl⟩
  refine ⟨A, B, hA, hB, a1, b1, a2, b2, a3, b3, a4, b4, (C18_R1_code_any cross_shift hhd stA0 stB).2.2.1, fun stA => ?_⟩
  have hcov := coverB_sound (stage4_map stA hcv)
  refine ⟨fun i s hs => coveredAny_of_stages stA hs ((hcov i s hs).imp_right .inl),
    equCoverB_sound (stage4T_map stA crossA_equCover), fun i s4 t t' hs4 ht ht' => ?_,
    C18_R1_equ_any cross_shift hhd stA stB⟩
  obtain ⟨hu, hm⟩ := (C18_R1_code_any cross_shift hhd stA stB).2.2.2.1 i s4 t t' hs4 ht ht'
  exact (hcov i s4 hs4).imp (fun hc => ⟨hc, hu hc (listsConst_of_stage4 stA crossA_lists i s4 hs4)⟩)
    (fun hc => ⟨hc, hm hc⟩)

def tblBody : List Str := ["K EQU 5\n", "A NOP\n", "T FDB A,T,K\n", "C FDB K,K+1,2\n"].map String.toList
def tblA : List Str := orgLine [] 0x1000 :: tblBody
def tblB : List Str := orgLine [] 0x1100 :: tblBody

/-- both placements assemble, to the images of `reloc_list_label_witness`; statement by statement `listsConstB` on the
label table of the program: `false` of the jump table `T FDB A,T,K` (two elements are labels; the test is sound for
`ListsConst`, its failure proves nothing), `true` of the list of constants `C FDB K,K+1,2`; and `unmovedB`: every statement
of the sample passes it (the operand VALUE of a list statement holds no label) -/
theorem tbl_evaluated :
    tblBody.all lineOkB = true ∧
    checkProgram tblA (fun A => A.image ==
      some [0x12, 0x10, 0x00, 0x10, 0x01, 0x00, 0x05, 0x00, 0x05, 0x00, 0x06, 0x00, 0x02]) = true ∧
    checkProgram tblB (fun A => A.image ==
      some [0x12, 0x11, 0x00, 0x11, 0x01, 0x00, 0x05, 0x00, 0x05, 0x00, 0x06, 0x00, 0x02]) = true ∧
    (stage4 tblA).bind (fun as => (stageT tblA).map (fun T => as.map (listsConstB T)))
      = some [true, true, true, false, true] ∧
    (stage4 tblA).map (fun as => as.map (fun s => unmovedB 0x100 as s)) = some [true, true, true, true, true] :=
  evaluated (by decide +kernel)

theorem tblA_ok : checkProgram tblA (fun A => A.image ==
    some [0x12, 0x10, 0x00, 0x10, 0x01, 0x00, 0x05, 0x00, 0x05, 0x00, 0x06, 0x00, 0x02]) = true := tbl_evaluated.2.1
theorem tblB_ok : checkProgram tblB (fun A => A.image ==
    some [0x12, 0x11, 0x00, 0x11, 0x01, 0x00, 0x05, 0x00, 0x05, 0x00, 0x06, 0x00, 0x02]) = true := tbl_evaluated.2.2.1

theorem tblA_lists :
    (stage4 tblA).bind (fun as => (stageT tblA).map (fun T => as.map (listsConstB T)))
      = some [true, true, true, false, true] :=
  tbl_evaluated.2.2.2.1

theorem tblA_classes :
    (stage4 tblA).map (fun as => as.map (fun s => unmovedB 0x100 as s)) = some [true, true, true, true, true] :=
  tbl_evaluated.2.2.2.2

/-- why the `Unmoved` clauses ask for `ListsConst`: the jump table `T FDB A,T,K` passes `unmovedB` (`tblA_classes`),
it fails the test `listsConstB` (`tblA_lists`), and its code is NOT the same in the two placements: the label elements `A`,
`T` move by `$100` (`1000 1001` / `1100 1101`), the EQU element `K` stays (`0005`).  The list of constants `C FDB K,K+1,2`
passes `listsConstB` and has the same code (`0005 0006 0002`).  Lists with label elements: Props/C18RelocLists.lean. -/
theorem reloc_list_label_witness :
    (∃ A, assemble [] tblA = .ok A ∧
      A.image = some [0x12, 0x10, 0x00, 0x10, 0x01, 0x00, 0x05, 0x00, 0x05, 0x00, 0x06, 0x00, 0x02]) ∧
    (∃ B, assemble [] tblB = .ok B ∧
      B.image = some [0x12, 0x11, 0x00, 0x11, 0x01, 0x00, 0x05, 0x00, 0x05, 0x00, 0x06, 0x00, 0x02]) :=
  ⟨(checkProgram_sound tblA_ok []).imp fun _ h => ⟨h.1, eq_of_beq h.2⟩,
    (checkProgram_sound tblB_ok []).imp fun _ h => ⟨h.1, eq_of_beq h.2⟩⟩

#print axioms CoCo.Asm.assignAddrs_reloc_any
#print axioms CoCo.Asm.fixFit_moved_any_aux
#print axioms CoCo.Asm.symtab_reloc_entry_any
#print axioms reloc_assign_rel_any
#print axioms reloc_assign_iff_any
#print axioms reloc_fixFit_unmoved_any
#print axioms reloc_fixFit_moved_any
#print axioms reloc_bytes_unmoved_any
#print axioms reloc_bytes_moved_any
#print axioms reloc_bytes_movedMod_any
#print axioms reloc_bytes_movedNeg_any
#print axioms reloc_fixAll_any
#print axioms reloc_finish_any
#print axioms C18_R1_parsed_code_any
#print axioms C18_R1_parsed_equ_any
#print axioms C18_R1_parsed_code_mod_any
#print axioms C18_R1_parsed_code_neg_any
#print axioms C18_R1_code_any
#print axioms C18_R1_equ_any
#print axioms C18_R1_code_mod_any
#print axioms C18_R1_code_neg_any
#print axioms stages_refFitted
#print axioms coveredAny_of_stages
#print axioms reloc_crossing_100_witness
#print axioms reloc_list_label_witness
#print axioms reloc_signed_witness
#print axioms reloc_finish
#print axioms reloc_finish_equ
#print axioms C18_R1_code

end CoCo.Props
