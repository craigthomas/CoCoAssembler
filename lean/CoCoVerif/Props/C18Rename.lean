/-
C18-R2 (renaming) for the relation `RenamedStmt` of Props/C18.lean, up to operand resolution: `SymTab.get?`,
`Value.resolve`, `buildSymTab`, and `resolveOperand` (for operands whose left part is not read) commute with a globally
injective renaming `ρ` of symbol names.  `renameValue ρ` is the instance `⟨ρ, ρ, id⟩` of `Rename.rnValue`; `renameOperand`
differs from `Rename.rnOperand ⟨ρ, ρ, id⟩` in the `left` field only (`renameSide` leaves a left part that is already a value
alone, `Rename.rnSide` renames the symbols in it), and for the operands of `resolveOperand_rename` that field is carried
along unread.
The left part of an indexed operand, which is still a STRING when `resolve_symbols` runs (`resolveLeft` parses it
again), and everything after `resolve_symbols` are in Props/C18RenameFull.lean.
-/
import CoCoVerif.Lemmas.RenameResolve
import CoCoVerif.Props.C18

namespace CoCo.Props
open CoCo CoCo.Asm

def renameTab (ρ : Str → Str) (t : SymTab) : SymTab := t.map (fun kv => (ρ kv.1, renameValue ρ kv.2))

def renameOperand (ρ : Str → Str) (o : Operand) : Operand :=
  { o with value := renameValue ρ o.value, left := renameSide ρ o.left }

section
variable {ρ : Str → Str}

/-- `renameValue ρ` is the instance of `Rename.rnValue` that applies `ρ` to the text of a left part as a whole -/
theorem rnValue_eq_renameValue (ρ τ : Str → Str) : ∀ (v : Value), Rename.rnValue ⟨ρ, ρ, τ⟩ v = renameValue ρ v
  | .expr l r op m ae => by
    show Value.expr _ _ op m ae = Value.expr _ _ op m ae
    rw [rnValue_eq_renameValue ρ τ l, rnValue_eq_renameValue ρ τ r]
  | .symbol _ _ | .leftRight _ _ _ | .none | .pyNone | .numeric _ _ _ _ | .address _ _ | .str _ | .multiByte _
  | .multiWord _ => rfl

theorem renameValue_eq : renameValue ρ = Rename.rnValue ⟨ρ, ρ, id⟩ :=
  funext fun v => (rnValue_eq_renameValue ρ id v).symm

theorem renameTab_eq : renameTab ρ = Rename.rnTab ⟨ρ, ρ, id⟩ := by
  funext t
  unfold renameTab Rename.rnTab
  rw [renameValue_eq]

@[simp] theorem renameValue_isAddress (v : Value) : (renameValue ρ v).isAddress = v.isAddress :=
  renameValue_eq ▸ Rename.rnValue_isAddress v
@[simp] theorem renameValue_isNumeric (v : Value) : (renameValue ρ v).isNumeric = v.isNumeric :=
  renameValue_eq ▸ Rename.rnValue_isNumeric v
@[simp] theorem renameValue_isNone (v : Value) : (renameValue ρ v).isNone = v.isNone :=
  renameValue_eq ▸ Rename.rnValue_isNone v
@[simp] theorem renameValue_isLeftRight (v : Value) : (renameValue ρ v).isLeftRight = v.isLeftRight :=
  renameValue_eq ▸ Rename.rnValue_isLeftRight v
@[simp] theorem renameValue_mode (v : Value) : (renameValue ρ v).mode = v.mode :=
  renameValue_eq ▸ Rename.rnValue_mode v
@[simp] theorem renameValue_isExtendedLike (v : Value) : (renameValue ρ v).isExtendedLike = v.isExtendedLike :=
  renameValue_eq ▸ Rename.rnValue_isExtendedLike v
@[simp] theorem renameValue_isDirect (v : Value) : (renameValue ρ v).isDirect = v.isDirect :=
  renameValue_eq ▸ Rename.rnValue_isDirect v
@[simp] theorem renameValue_isExplicitDirect (v : Value) :
    (renameValue ρ v).isExplicitDirect = v.isExplicitDirect :=
  renameValue_eq ▸ Rename.rnValue_isExplicitDirect v

@[simp] theorem renameValue_isExplicitExtended (v : Value) :
    (renameValue ρ v).isExplicitExtended = v.isExplicitExtended :=
  renameValue_eq ▸ Rename.rnValue_isExplicitExtended v
@[simp] theorem renameValue_isSymbol (v : Value) : (renameValue ρ v).isSymbol = v.isSymbol :=
  renameValue_eq ▸ Rename.rnValue_isSymbol v
@[simp] theorem renameValue_isExpression (v : Value) : (renameValue ρ v).isExpression = v.isExpression :=
  renameValue_eq ▸ Rename.rnValue_isExpression v

theorem renameValue_of_numeric {v : Value} (h : v.isNumeric = true) : renameValue ρ v = v := by
  rw [renameValue_eq]; exact Rename.rnValue_of_numeric h

theorem numericOfInt_isNumeric {z : Int} {h : Option Nat} {m : Mode} {x : Value}
    (hx : numericOfInt z h m = .ok x) : x.isNumeric = true := Asm.numericOfInt_isNumeric hx

theorem numericOfStr_isNumeric {s : Str} {h : Option Nat} {m : Mode} {x : Value}
    (hx : numericOfStr s h m = .ok x) : x.isNumeric = true := Asm.numericOfStr_isNumeric hx

theorem numericOfInt_rename (z : Int) (h : Option Nat) (m : Mode) :
    (numericOfInt z h m).map (renameValue ρ) = numericOfInt z h m := by
  rw [renameValue_eq]; exact Rename.numericOfInt_rn z h m

theorem numericOfStr_rename (s : Str) (h : Option Nat) (m : Mode) :
    (numericOfStr s h m).map (renameValue ρ) = numericOfStr s h m := by
  rw [renameValue_eq]; exact Rename.numericOfStr_rn s h m

theorem get?_rename (hinj : ∀ x y, ρ x = ρ y → x = y) (t : SymTab) (k : Str) :
    (renameTab ρ t).get? (ρ k) = (t.get? k).map (renameValue ρ) := by
  rw [renameValue_eq, renameTab_eq]
  exact Rename.get?_rn t k (fun kv _ he => hinj _ _ he)

theorem lookV_rename (hinj : ∀ x y, ρ x = ρ y → x = y) (t : SymTab) (x : Value) :
    lookV (renameTab ρ t) (renameValue ρ x) = (lookV t x).map (renameValue ρ) := by
  cases x with
  | symbol name m =>
    simp only [renameValue, lookV, get?_rename hinj]
    cases t.get? name <;> rfl
  | _ => rfl

theorem exprPost_rename (l r : Value) (op : Char) (mode : Mode) :
    exprPost (renameValue ρ l) (renameValue ρ r) op mode
      = (exprPost l r op mode).map (renameValue ρ) := by
  rw [renameValue_eq]; exact Rename.exprPost_rn l r op mode

theorem resolveF_rename (hinj : ∀ x y, ρ x = ρ y → x = y) (t : SymTab) : ∀ (n : Nat) (v : Value),
    resolveF n (renameValue ρ v) (renameTab ρ t) = (resolveF n v t).map (renameValue ρ) := by
  intro n v
  obtain ⟨N, hN, hv⟩ := names_of t v
  rw [renameValue_eq, renameTab_eq]
  exact Rename.resolveF_rn N (fun x _ y _ h => hinj x y h) t hN n v hv

theorem resolve_rename (hinj : ∀ x y, ρ x = ρ y → x = y) (t : SymTab) (v : Value) :
    (renameValue ρ v).resolve (renameTab ρ t) = (v.resolve t).map (renameValue ρ) := by
  obtain ⟨N, hN, hv⟩ := names_of t v
  rw [renameValue_eq, renameTab_eq]
  exact Rename.resolve_rn N (fun x _ y _ h => hinj x y h) t hN v hv

theorem renameTab_append (t d : SymTab) : renameTab ρ (t ++ d) = renameTab ρ t ++ renameTab ρ d :=
  renameTab_eq ▸ Rename.rnTab_append t d

theorem get?_isSome_rename (hinj : ∀ x y, ρ x = ρ y → x = y) (t : SymTab) (k : Str) :
    ((renameTab ρ t).get? (ρ k)).isSome = (t.get? k).isSome := by
  rw [get?_rename hinj]; cases t.get? k <;> rfl

/-- `save_symbol` over statements related by `RenamedStmt` builds the renamed table -/
theorem buildSymTab_rename (hinj : ∀ x y, ρ x = ρ y → x = y) : ∀ (ss ss' : List Stmt) (i : Nat) (t : SymTab),
    PW (RenamedStmt ρ) ss ss' → (∀ s ∈ ss, s.label ≠ [] → ρ s.label ≠ []) →
    buildSymTab ss' i (renameTab ρ t) = (buildSymTab ss i t).map (renameTab ρ) := by
  intro ss ss' i t h hne
  rw [buildSymTab_congr (Rename.renameStmt ⟨ρ, ρ, id⟩) ss ss' i _ (h.mono fun s s' ⟨hl, hr, _, hv, _⟩ =>
      ⟨hl, congrArg _ hr, hv.trans (congrFun renameValue_eq _)⟩), renameTab_eq]
  exact Rename.buildSymTab_rn (ss.map (·.label) ++ t.map (·.1)) (fun x _ y _ => hinj x y) ss i t
    (fun s hs hl => ⟨List.mem_append_left _ (List.mem_map_of_mem hs), hne s hs hl⟩)
    (fun kv hkv => List.mem_append_right _ (List.mem_map_of_mem hkv))

theorem renameOperand_eq (o : Operand) : renameOperand ρ o
    = { Rename.rnOperand ⟨ρ, ρ, id⟩ { o with left := .noneV } with left := renameSide ρ o.left } := by
  unfold renameOperand Rename.rnOperand
  rw [renameValue_eq]
  rfl

/-- `resolve_symbols` commutes with the renaming for every operand class whose symbols sit in `value`
(everything except indexed operands and `[label,R]`, whose left part is still source text) -/
theorem resolveOperand_rename (hinj : ∀ x y, ρ x = ρ y → x = y) (t : SymTab) (o : Operand) (row : Gen.InstrRow)
    (hk : o.kind ≠ .indexed)
    (hx : o.kind = .extIndirect → o.value.isNone = false ∧ o.value.isLeftRight = false) :
    resolveOperand (renameOperand ρ o) row (renameTab ρ t)
      = (resolveOperand o row t).map (renameOperand ρ) := by
  obtain ⟨N, hN, hv⟩ := names_of t o.value
  have hx' : o.kind = .extIndirect → (Rename.rnValue ⟨ρ, ρ, id⟩ o.value).isNone = false ∧
      (Rename.rnValue ⟨ρ, ρ, id⟩ o.value).isLeftRight = false := by
    simpa using hx
  -- take the left part out, rename by `Rename.rnOperand`, put the left part back
  rw [renameOperand_eq, resolveOperand_setLeft (Rename.rnOperand ⟨ρ, ρ, id⟩ { o with left := .noneV }) _ _ _ hk hx',
    renameTab_eq,
    Rename.resolveOperand_rn N (fun x _ y _ h => hinj x y h) t hN { o with left := .noneV } row hv (by intro x hx; cases hx)
      trivial,
    resolveOperand_setLeft o row t .noneV hk hx]
  cases hr : resolveOperand o row t with
  | error e => rfl
  | ok o' =>
    have hl : o'.left = o.left := by
      cases resolveOperand_graph hr with
      | indexedKeep hk' | indexedLeft hk' => exact absurd hk' hk
      | extLeft hk' hc => obtain ⟨h1, h2⟩ := hx hk'; rw [h1, h2] at hc; cases hc
      | _ => rfl
    simp only [Except.map]
    rw [renameOperand_eq, hl]

end

/-- prefixing every name with `Z` is an injective renaming; a label `A` bound to statement 3 and the
expression `A+1` resolve to the same results under the new names -/
example :
    (renameValue (fun x => 'Z' :: x) (.expr (.symbol "A".toList .none) (.numeric 1 none .none false) '+' .none false)).resolve
      (renameTab (fun x => 'Z' :: x) [("A".toList, .address 3 .none)])
    = .ok (.expr (.address 3 .none) (.numeric 1 none .none false) '+' .none true) := by
  rw [resolve_rename (by intro x y h; simpa using h)]
  rfl

/-! Names with an underscore or an at sign: SYMBOL_REGEX and the operands of EXPRESSION_REGEX are `[\w@]+` (fix
4e31349 in /repo; with `[a-zA-Z\d@]+` for a symbol and `\w+` for an operand of an expression, a renaming to `M_1` or to `A@`
inside an expression turned an accepted program into a rejected one). -/

/-- `M_1 NOP / JMP M_1` assembles: the label with an underscore is a symbol, `JMP M_1` is `7E 0000` -/
theorem C18_R2_underscore_label_fixed :
    ∃ A, assemble [] (["M_1 NOP\n", " JMP M_1\n"].map String.toList) = .ok A ∧ A.image = some [0x12, 0x7E, 0, 0] :=
  checkProgramF_eq (f := (·.image)) (by decide +kernel) []

/-- `A@ NOP / JMP A@+1` assembles: `A@+1` is an expression over the label `A@` -/
theorem C18_R2_at_expression_fixed :
    ∃ A, assemble [] (["A@ NOP\n", " JMP A@+1\n"].map String.toList) = .ok A ∧ A.image = some [0x12, 0x7E, 0, 1] :=
  checkProgramF_eq (f := (·.image)) (by decide +kernel) []

/-- renaming `M` to `M_1` in `M NOP / JMP M` keeps the image -/
theorem C18_R2_rename_underscore_fixed :
    ∃ A B, assemble [] (["M NOP\n", " JMP M\n"].map String.toList) = .ok A ∧
      assemble [] (["M_1 NOP\n", " JMP M_1\n"].map String.toList) = .ok B ∧ A.image = B.image := by
  obtain ⟨A, hA, hc⟩ := checkProgramF_eq (lines := ["M NOP\n", " JMP M\n"].map String.toList) (f := (·.image))
    (v := some [0x12, 0x7E, 0, 0]) (by decide +kernel) []
  obtain ⟨B, hB, hB2⟩ := C18_R2_underscore_label_fixed
  exact ⟨A, B, hA, hB, by rw [hB2]; exact hc⟩

end CoCo.Props
