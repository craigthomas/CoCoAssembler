/-
Props/C02Full.lean — C02 at full strength.  `C02_Statement` (Props/C02.lean) contains the clause "an ORG is the statement
of index 0", which is stronger than the property: an ORG after lines that lay nothing (EQU, NAM) is accepted
(`C02_Statement_too_strong`).  What the property needs is that the image, loaded at the origin the tool reports, puts every
byte at the address the listing shows (`Placement`); `C02_Statement_v2` has that clause instead, and an EQU clause that
covers expressions (`EquBound`), whose side conditions (pseudo operand, not a statement index) are proved, not assumed.
All clauses follow here from the byte-count clause (`C02_v2_of_size`); the byte count is Props/C02Size.lean, the closed
theorem `C02_full_v2` is in Props/C02C03Final.lean.
-/
import CoCoVerif.Lemmas.OrgFirst
import CoCoVerif.Props.C02Size

namespace CoCo.Props
open CoCo CoCo.Asm

/-- an ORG after an EQU -/
def C02_orgSecondWitness : List Str := ["C1 EQU 5\n", " ORG $100\n", " NOP\n"].map String.toList

private def orgSecondCheck (a : Assembly) : Bool :=
  match a.stmts[1]? with
  | some s => s.row.mnemonic == "ORG"
  | none => false

theorem C02_org_second_accepted (fs : Files) :
    ∃ a s, assemble fs C02_orgSecondWitness = .ok a ∧ a.stmts[1]? = some s ∧ s.row.mnemonic = "ORG" := by
  obtain ⟨a, ha, hc⟩ := checkProgramF_sound (lines := C02_orgSecondWitness) (check := orgSecondCheck)
    (by decide +kernel) fs
  unfold orgSecondCheck at hc
  split at hc
  · rename_i s hs
    exact ⟨a, s, ha, hs, by simpa using hc⟩
  · cases hc

/-- **`C02_Statement` is too strong**: its clause "an ORG is the statement of index 0" fails on
`C1 EQU 5 / ORG $100 / NOP`, which is accepted (and rightly so: the EQU lays nothing) -/
theorem C02_Statement_too_strong : ¬ C02_Statement := by
  intro H
  obtain ⟨a, s, ha, hs, hm⟩ := C02_org_second_accepted []
  obtain ⟨_, _, _, _, horg, _⟩ := H [] _ a ha
  have := horg 1 s hs hm
  omega

/-- the origin the tool reports: the address of the last ORG, 0 when there is none -/
def originNat (a : Assembly) : Nat := (a.origin.int?).getD 0

/-- loading the image at the reported origin places each statement's bytes at the address the listing shows -/
def Placement (a : Assembly) : Prop :=
  ∀ img, a.image = some img → ∀ (i : Nat) (s : Stmt) (b : Bytes), a.stmts[i]? = some s → stmtBytes s = some b → b ≠ [] →
    ∃ pre post ai, img = pre ++ b ++ post ∧ addrNat s = some ai ∧ pre.length + originNat a = ai

/-- labels: a label of an ordinary statement (not an EQU) is bound to that statement's address; labels are unique -/
def LabelsBound (a : Assembly) : Prop :=
  (∀ (i : Nat) (s : Stmt), a.stmts[i]? = some s → s.label.isEmpty = false → s.row.isPseudoDefine = false →
      a.symtab.get? s.label = some s.pkg.address) ∧
  (∀ (i j : Nat) (s t : Stmt), a.stmts[i]? = some s → a.stmts[j]? = some t → s.label.isEmpty = false →
      s.label = t.label → i = j)

/-- the table of labels that expressions are evaluated against (`save_symbol`): the label of an ordinary statement stands
for that statement (its index; the address is filled in at the end), the label of an EQU for the operand value as
written; there are no other keys -/
def LabelTable (a : Assembly) (t : SymTab) : Prop :=
  (∀ (i : Nat) (s : Stmt), a.stmts[i]? = some s → s.label.isEmpty = false →
      t.get? s.label = some (if s.row.isPseudoDefine then s.operand.value else .address i .none)) ∧
  (∀ (k : Str) (v : Value), t.get? k = some v → ∃ (i : Nat) (s : Stmt), a.stmts[i]? = some s ∧ s.label.isEmpty = false ∧ s.label = k)

/-- every EQU symbol has its defined value: the operand value itself, or, for an EQU defined by an expression, the value
of the expression (of constants: `resolve`; of labels: `addrOffset` on the final addresses) -/
def EquDefined (t : SymTab) (ss : List Stmt) (v v' : Value) : Prop :=
  (v.isExpression = false ∧ v.isAddrExpr = false ∧ v' = v) ∨
  ((v.isExpression = true ∨ v.isAddrExpr = true) ∧
    ∃ r, v.resolve t = .ok r ∧
      ((r.isNumeric = true ∧ v' = r) ∨ (r.isAddrExpr = true ∧ addrOffset ss r = .ok v')))

/-- EQU: there is a label table `t` against which every EQU label has its defined value -/
def EquBound (a : Assembly) : Prop :=
  ∃ t : SymTab, LabelTable a t ∧
    ∀ (i : Nat) (s : Stmt), a.stmts[i]? = some s → s.label.isEmpty = false → s.row.isPseudoDefine = true →
      s.operand.kind = .pseudo ∧ s.operand.value.isAddress = false ∧
      ∃ v', a.symtab.get? s.label = some v' ∧ EquDefined t a.stmts s.operand.value v'

/-- **C02, restated**: the clause "an ORG is the statement of index 0" of `C02_Statement` is replaced by `Placement`; the
symbol clause is split into labels and EQUs, the EQU clause covering expressions -/
def C02_Statement_v2 : Prop :=
  ∀ (fs : Files) (lines : List Str) (a : Assembly), assemble fs lines = .ok a →
    (∃ img, a.image = some img) ∧ ImageConcat a ∧ AddressChain a ∧
    (∀ s ∈ a.stmts, (stmtBytes s).map List.length = some s.pkg.size) ∧
    Placement a ∧ LabelsBound a ∧ EquBound a

/-- the origin the tool reports, spelt out: the address of the last ORG ... -/
theorem C02_origin_last_org {fs : Files} {lines : List Str} {a : Assembly} (h : assemble fs lines = .ok a)
    {k : Nat} {sk : Stmt} (hsk : a.stmts[k]? = some sk) (hm : sk.row.mnemonic = "ORG")
    (hlast : ∀ j u, k < j → a.stmts[j]? = some u → u.row.mnemonic ≠ "ORG") :
    a.origin = sk.pkg.address ∧ addrNat sk = some (originNat a) := by
  obtain ⟨st⟩ := assemble_stages h
  have hor : a.origin = sk.pkg.address := by
    rw [assemble_origin h]
    refine originScan_last hsk ((st.isOrigin_iff hsk).2 hm) ?_ _
    intro j u hj hu
    cases ho : u.row.isOrigin with
    | false => rfl
    | true => exact absurd ((st.isOrigin_iff hu).1 ho) (hlast j u hj hu)
  refine ⟨hor, ?_⟩
  obtain ⟨x, hx⟩ := (C02_chain h).1 k sk hsk
  unfold originNat
  rw [hor]
  have : sk.pkg.address.int? = some x := hx
  rw [hx, this]; rfl

/-- ... and 0 (the value `NoneValue`) when the program has no ORG -/
theorem C02_origin_no_org {fs : Files} {lines : List Str} {a : Assembly} (h : assemble fs lines = .ok a)
    (hno : ∀ (j : Nat) (u : Stmt), a.stmts[j]? = some u → u.row.mnemonic ≠ "ORG") : a.origin = Value.none ∧ originNat a = 0 := by
  obtain ⟨st⟩ := assemble_stages h
  have hor : a.origin = Value.none := by
    rw [assemble_origin h]
    refine originScan_none ?_ _
    intro u hu
    obtain ⟨j, hj⟩ := List.mem_iff_getElem?.mp hu
    cases ho : u.row.isOrigin with
    | false => rfl
    | true => exact absurd ((st.isOrigin_iff hj).1 ho) (hno j u hj)
  exact ⟨hor, by unfold originNat; rw [hor]; rfl⟩

/-- **Placement**: for every accepted program whose statements emit as many bytes as their size (`hsz`: every accepted
program, `C02_bytes_eq_size`), the image loaded at the reported origin has the bytes of every statement at the address
the listing shows -/
theorem C02_placement {fs : Files} {lines : List Str} {a : Assembly} (h : assemble fs lines = .ok a)
    (hsz : ∀ s ∈ a.stmts, (stmtBytes s).map List.length = some s.pkg.size) : Placement a := by
  intro img himg i s b hs hb hne
  obtain ⟨st⟩ := assemble_stages h
  have hpos : 0 < s.pkg.size := by
    have := hsz s (List.mem_of_getElem? hs)
    rw [hb] at this
    simp only [Option.map_some, Option.some.injEq] at this
    cases b with
    | nil => exact absurd rfl hne
    | cons x xs => simp at this; omega
  -- the anchor `k`: the last ORG, or statement 0 when there is none; it sits at the reported origin, nothing is
  -- emitted before it and no ORG follows it
  obtain ⟨k, sk, hsk, hki, hk0, hk1, hor⟩ : ∃ k sk, a.stmts[k]? = some sk ∧ k ≤ i ∧
      (∀ j u, j < k → a.stmts[j]? = some u → u.pkg.size = 0) ∧
      (∀ j u, k < j → a.stmts[j]? = some u → u.row.mnemonic ≠ "ORG") ∧ addrNat sk = some (originNat a) := by
    rcases exists_last (fun j => ∃ u : Stmt, a.stmts[j]? = some u ∧ u.row.mnemonic = "ORG") a.stmts.length with
      hnone | ⟨k, _, ⟨sk, hsk, hmk⟩, hlast⟩
    · have hnom : ∀ (j : Nat) (u : Stmt), a.stmts[j]? = some u → u.row.mnemonic ≠ "ORG" :=
        fun j u hu hm => hnone j (lt_of_getElem? hu) ⟨u, hu, hm⟩
      have hlen : 0 < a.stmts.length := by have := lt_of_getElem? hs; omega
      have h0 : a.stmts[0]? = some a.stmts[0] := List.getElem?_eq_getElem hlen
      refine ⟨0, _, h0, Nat.zero_le i, fun j _ hj => by omega, fun j u _ hu => hnom j u hu, ?_⟩
      rw [(C02_origin_no_org h hnom).2]
      exact (C02_chain h).2.1 _ h0 (hnom 0 _ h0)
    · have hk1 : ∀ j u, k < j → a.stmts[j]? = some u → u.row.mnemonic ≠ "ORG" :=
        fun j u hj hu hm => hlast j hj (lt_of_getElem? hu) ⟨u, hu, hm⟩
      refine ⟨k, sk, hsk, ?_, fun j u hj hu => (Stmt.lays_false (st.org_before hj hu hsk ((st.isOrigin_iff hsk).2 hmk))).1, hk1,
        (C02_origin_last_org h hsk hmk hk1).2⟩
      exact Nat.le_of_not_lt (fun hlt => no_org_after_laid h hs (.inl hpos) k sk hlt hsk hmk)
  obtain ⟨pre, b', post, ak, ai, himg', hb', hak, hai, hlen⟩ := C02_offset h himg hsz k hk0 hk1 hki hsk hs
  rw [hb] at hb'; cases hb'
  rw [hor] at hak; cases hak
  exact ⟨pre, post, ai, himg', hai, hlen⟩

theorem C02_labels {fs : Files} {lines : List Str} {a : Assembly} (h : assemble fs lines = .ok a) : LabelsBound a := by
  obtain ⟨st⟩ := assemble_stages h
  refine ⟨fun i s hs hl hpd => ?_, fun i j s t hs ht hl hlt => ?_⟩
  · -- a label: the table binds it to the statement's index, the final table to the statement's address
    obtain ⟨s0, _, _, hget⟩ := st.label_entry hs hl
    rw [hpd, if_neg (by simp)] at hget
    obtain ⟨v1, v', hev, hv', hfin⟩ := st.symtab_get hget
    cases hev
    rw [hv', ← hfin]
    exact addrOf_eq_some.2 ⟨s, hs, rfl⟩
  · -- the same label on two statements: `buildSymTab` would have rejected the program
    have hnlt : ∀ {i j : Nat} {s t : Stmt}, a.stmts[i]? = some s → a.stmts[j]? = some t → s.label.isEmpty = false →
        s.label = t.label → ¬ i < j := by
      intro i j s t hs ht hl hlt hij
      obtain ⟨s0, hs0, hks⟩ := st.keep05.get' hs
      obtain ⟨t0, ht0, hkt⟩ := st.keep05.get' ht
      have := buildSymTab_dup hij hs0 ht0 (by rw [← hks.1, ← hkt.1]; exact hlt) (by rw [← hks.1]; exact hl)
      rw [st.hsym] at this
      cases this
    have := hnlt hs ht hl hlt
    have := hnlt ht hs (hlt ▸ hl) hlt.symm
    omega

/-- an EQU-like statement of an accepted program has a pseudo operand, exactly as the parser built it -/
theorem equ_operand {fs : Files} {lines : List Str} {a : Assembly} (st : Stages fs lines a)
    {i : Nat} {s : Stmt} (hs : a.stmts[i]? = some s) (hpd : s.row.isPseudoDefine = true) :
    ∃ s0, st.ss0[i]? = some s0 ∧ s.label = s0.label ∧ s.row = s0.row ∧ s.operand = s0.operand ∧
      s.operand.kind = .pseudo ∧ s.operand.value.isAddress = false := by
  obtain ⟨s0, o, p, sz, mx, pb, hint, ad, vf, vw, v, c, rfl⟩ := st.compiled hs
  obtain ⟨txt, hcr⟩ := c.parsed.2
  have hk0 : s0.operand.kind = .pseudo := (createOperand_kind hcr).1 (table_pseudoDefine_pseudo s0.row c.parsed.1 hpd)
  -- an EQU-like row is no data row: `resolve_symbols` leaves its operand alone
  obtain rfl : o = s0.operand := resolveOperand_pseudo c.hres (pseudoDefine_not_data s0.row c.parsed.1 hpd) (.inl hk0)
  exact ⟨s0, c.h0, rfl, rfl, rfl, hk0, st.ss0_notAddr s0 (List.mem_of_getElem? c.h0)⟩

theorem C02_label_table {fs : Files} {lines : List Str} {a : Assembly} (st : Stages fs lines a) :
    LabelTable a st.t := by
  refine ⟨?_, ?_⟩
  · intro i s hs hl
    obtain ⟨s0, hs0, _, hget⟩ := st.label_entry hs hl
    cases hpd : s.row.isPseudoDefine with
    | false => rw [hpd] at hget; exact hget
    | true =>
      obtain ⟨s0', hs0', _, _, hop, _⟩ := equ_operand st hs hpd
      rw [hs0] at hs0'; cases hs0'
      rw [hpd, ← hop] at hget
      exact hget
  · intro k v hkv
    obtain ⟨htab, _⟩ := buildSymTab_some st.hsym
    have hmem := get?_mem_key hkv
    rw [htab] at hmem
    obtain ⟨j, s0, hs0, hl0, hlab, _⟩ := mem_symEntries.mp hmem
    obtain ⟨s, hs, hk⟩ := st.keep05.get hs0
    exact ⟨j, s, hs, by rw [hk.1]; exact hl0, by rw [hk.1]; exact hlab.symm⟩

/-- `EquDefined` is what `evalSym` returns -/
theorem evalSym_defined {ss : List Stmt} {t : SymTab} {v v' : Value} (h : evalSym ss t v = .ok v') :
    EquDefined t ss v v' := by
  cases v with
  | expr l r op m ae =>
    right
    constructor
    · cases ae
      · exact .inl rfl
      · exact .inr rfl
    rw [evalSym_expr] at h
    cases hx : (Value.expr l r op m ae).resolve t with
    | error e => rw [hx] at h; cases h
    | ok x =>
      rw [hx] at h
      refine ⟨x, rfl, ?_⟩
      cases hae : x.isAddrExpr with
      | true =>
        -- a label expression: `calculate_address_offset` gives a number
        simp only [hae, if_true] at h
        cases hy : addrOffset ss x with
        | ok y =>
          rw [hy] at h
          simp only [addrOffset_isNumeric hy, if_true, Outcome.ok.injEq] at h
          exact .inr ⟨rfl, h ▸ rfl⟩
        | _ => rw [hy] at h; cases h
      | false =>
        -- an expression of constants: `resolve` gave a number
        have hn : x.isNumeric = true := (resolve_expr_fieldable hx).resolve_right (by rw [hae]; simp)
        simp only [hae, Bool.false_eq_true, if_false, hn, if_true, Outcome.ok.injEq] at h
        exact .inl ⟨hn, h.symm⟩
  | _ => cases h; exact .inl ⟨rfl, rfl, rfl⟩

/-- a defined value is the value itself or a number: unless the value is a statement index, it is final -/
theorem EquDefined.final {t : SymTab} {ss : List Stmt} {v v1 v' : Value} (hd : EquDefined t ss v v1)
    (hna : v.isAddress = false) (hf : finalVal ss v1 = some v') : v' = v1 := by
  refine finalVal_keep ?_ hf
  rcases hd with ⟨_, _, rfl⟩ | ⟨_, r, _, ⟨hn, rfl⟩ | ⟨_, hy⟩⟩
  · exact hna
  · exact isAddress_of_isNumeric hn
  · exact isAddress_of_isNumeric (addrOffset_isNumeric hy)

/-- for an expression whose resolved value `x` is known, the second case of `EquDefined` with `x` in it -/
theorem EquDefined.of_resolve {t : SymTab} {ss : List Stmt} {v v' x : Value} (hd : EquDefined t ss v v')
    {l r : Value} {op : Char} {m : Mode} {ae : Bool} (hv : v = .expr l r op m ae) (hx : v.resolve t = .ok x) :
    (x.isNumeric = true ∧ v' = x) ∨ (x.isAddrExpr = true ∧ addrOffset ss x = .ok v') := by
  rcases hd with ⟨h1, h2, _⟩ | ⟨_, r', hr, h⟩
  · exact absurd hv (not_expr_of_flags h1 h2 l r op m ae)
  · rw [hx] at hr
    cases hr
    exact h

/-- **EQU**: against the table built from the labels, every EQU label of an accepted program has its defined value -/
theorem C02_equ_defined {fs : Files} {lines : List Str} {a : Assembly} (st : Stages fs lines a)
    {i : Nat} {s : Stmt} (hs : a.stmts[i]? = some s) (hl : s.label.isEmpty = false)
    (hpd : s.row.isPseudoDefine = true) :
    s.operand.kind = .pseudo ∧ s.operand.value.isAddress = false ∧
      ∃ v', a.symtab.get? s.label = some v' ∧ EquDefined st.t a.stmts s.operand.value v' := by
  obtain ⟨s0, _, _, _, _, hkind, hna⟩ := equ_operand st hs hpd
  obtain ⟨v1, v', hev, hfin, hget⟩ := C02_equ_symbol st hs hl hpd hkind
  have hd := evalSym_defined hev
  obtain rfl := hd.final hna hfin
  exact ⟨hkind, hna, v', hget, hd⟩

/-- an EQU defined by an expression of constants (`resolve` against the label table gives a number): the final symbol
table binds the label to that number -/
theorem C02_equ_expression_symbol {fs : Files} {lines : List Str} {a : Assembly} (st : Stages fs lines a)
    {i : Nat} {s : Stmt} (hs : a.stmts[i]? = some s) (hl : s.label.isEmpty = false)
    (hpd : s.row.isPseudoDefine = true) (hkind : s.operand.kind = .pseudo)
    {l r : Value} {op : Char} {m : Mode} {ae : Bool} (hv : s.operand.value = .expr l r op m ae)
    {x : Value} (hx : s.operand.value.resolve st.t = .ok x) (hn : x.isNumeric = true) :
    a.symtab.get? s.label = some x := by
  obtain ⟨_, _, v', hget, hd⟩ := C02_equ_defined st hs hl hpd
  rcases hd.of_resolve hv hx with ⟨_, rfl⟩ | ⟨hae, _⟩
  · exact hget
  · obtain ⟨_, _, _, _, rfl⟩ := isNumeric_elim hn
    cases hae

/-- an EQU defined by a label expression (`resolve` gives an expression with a statement index in it): the final
symbol table binds the label to the number `calculate_address_offset` computes on the final addresses -/
theorem C02_equ_label_expression_symbol {fs : Files} {lines : List Str} {a : Assembly} (st : Stages fs lines a)
    {i : Nat} {s : Stmt} (hs : a.stmts[i]? = some s) (hl : s.label.isEmpty = false)
    (hpd : s.row.isPseudoDefine = true) (hkind : s.operand.kind = .pseudo)
    {l r : Value} {op : Char} {m : Mode} {ae : Bool} (hv : s.operand.value = .expr l r op m ae)
    {x y : Value} (hx : s.operand.value.resolve st.t = .ok x) (hae : x.isAddrExpr = true)
    (hy : addrOffset a.stmts x = .ok y) : a.symtab.get? s.label = some y := by
  obtain ⟨_, _, v', hget, hd⟩ := C02_equ_defined st hs hl hpd
  rcases hd.of_resolve hv hx with ⟨hn, _⟩ | ⟨_, hy'⟩
  · obtain ⟨_, _, _, _, rfl⟩ := isNumeric_elim hn
    cases hae
  · rw [hy] at hy'
    cases hy'
    exact hget

theorem C02_equ {fs : Files} {lines : List Str} {a : Assembly} (h : assemble fs lines = .ok a) : EquBound a := by
  obtain ⟨st⟩ := assemble_stages h
  exact ⟨st.t, C02_label_table st, fun _ _ hs hl hpd => C02_equ_defined st hs hl hpd⟩

/-- `LabelsBound` and `EquBound` (the symbol clauses of `C02_Statement_v2`) imply the symbol clause `SymbolsBound` of
`C02_Statement`, with `PseudoValueHyp` as its side condition on EQUs -/
theorem symbolsBound_of_v2 {a : Assembly} (hl : LabelsBound a) (he : EquBound a) : SymbolsBound a PseudoValueHyp := by
  obtain ⟨t, _, hequ⟩ := he
  refine ⟨fun i s hs hne => ⟨fun hpd => hl.1 i s hs hne hpd, fun hpd hph => ?_⟩, hl.2⟩
  obtain ⟨_, _, v', hget, hdef⟩ := hequ i s hs hne hpd
  obtain ⟨_, _, hne1, hne2⟩ := hph
  rcases hdef with ⟨_, _, rfl⟩ | ⟨hx, _⟩
  · exact hget
  · rcases hx with hx | hx
    · rw [hne1] at hx; cases hx
    · rw [hne2] at hx; cases hx

theorem C02_symbols {fs : Files} {lines : List Str} {a : Assembly} (h : assemble fs lines = .ok a) :
    SymbolsBound a PseudoValueHyp :=
  symbolsBound_of_v2 (C02_labels h) (C02_equ h)

/-- C02 as Props/C02.lean states it: the chain, the image as a concatenation, the symbols (an EQU keeps its operand value
when that is not an expression, `PseudoValueHyp`), rejection of duplicate labels; `C02_offset` is the conditional
statement about offsets inside the image.
The byte count of a statement equals its size: `Props/C02Size.lean`; where the image sits relative to the reported
origin: `C02_placement`; the closed statement: `C02_full_v2` (Props/C02C03Final.lean). -/
theorem C02_partial :
    (∀ (fs : Files) (lines : List Str) (a : Assembly), assemble fs lines = .ok a →
        AddressChain a ∧ ImageConcat a ∧ SymbolsBound a PseudoValueHyp) ∧
    (∀ (fs : Files) (lines : List Str) (parsed ss0 : List Stmt) (i j : Nat) (s t : Stmt),
        parseLines lines = .ok parsed → expand fs (includeFuel fs) [] parsed = .ok ss0 → i < j → ss0[i]? = some s → ss0[j]? = some t →
        s.label = t.label → s.label.isEmpty = false → assemble fs lines = .diag) :=
  ⟨fun _ _ _ h => ⟨C02_chain h, C02_image h, C02_symbols h⟩,
   fun _ _ _ _ _ _ _ _ hp he hij hs ht hl hne => C02_duplicate_label hp he hij hs ht hl hne⟩

/-- **C02 (restated) for one accepted program**, from the byte-count clause `hsz` (which holds for every accepted
program: `C02_bytes_eq_size` in Props/C02Size.lean) -/
theorem C02_v2_of_size {fs : Files} {lines : List Str} {a : Assembly} (h : assemble fs lines = .ok a)
    (hsz : ∀ s ∈ a.stmts, (stmtBytes s).map List.length = some s.pkg.size) :
    (∃ img, a.image = some img) ∧ ImageConcat a ∧ AddressChain a ∧
    (∀ s ∈ a.stmts, (stmtBytes s).map List.length = some s.pkg.size) ∧
    Placement a ∧ LabelsBound a ∧ EquBound a :=
  ⟨C02_image_of_sizes hsz, C02_image h, C02_chain h, hsz, C02_placement h hsz, C02_labels h, C02_equ h⟩

/-- `C02_Statement_v2` from the byte-count statement (`C02_BytesEqSize_Statement` of Props/C02Size.lean, spelt out) -/
theorem C02_full_v2_of_size
    (H : ∀ (fs : Files) (lines : List Str) (a : Assembly), assemble fs lines = .ok a →
      ∀ s ∈ a.stmts, (stmtBytes s).map List.length = some s.pkg.size) : C02_Statement_v2 :=
  fun fs lines a h => C02_v2_of_size h (H fs lines a h)

/-- the bytes of every statement that emits some sit in the image at `address − origin` -/
def placedB (a : Assembly) : Bool :=
  match a.image with
  | none => false
  | some img =>
    a.stmts.all (fun s =>
      match stmtBytes s, addrNat s with
      | some b, some ai => b.isEmpty || (decide (originNat a ≤ ai) && (img.drop (ai - originNat a)).take b.length == b)
      | _, _ => false)

/-- `NAM / EQU / ORG $0E00 / code with labels / an EQU defined by a label expression`: the ORG is the statement of index 2 -/
def C02_fullExample : List Str :=
  [" NAM DEMO\n", "TEN EQU 10\n", " ORG $0E00\n", "START LDA #TEN\n", " NOP\n", "DONE RTS\n", "LEN EQU DONE-START\n"].map
    String.toList

/-- the example is accepted; its image, loaded at the origin `$0E00` it reports, has every statement's bytes at the
listed address (checked concretely: `placedB`), and `Placement` holds by `C02_placement` -/
theorem C02_full_example :
    ∃ a, assemble [] C02_fullExample = .ok a ∧ originNat a = 0x0E00 ∧ a.image = some [0x86, 10, 0x12, 0x39] ∧
      placedB a = true ∧ Placement a ∧ LabelsBound a ∧ EquBound a := by
  obtain ⟨a, ha, hc⟩ := checkProgramF_sound (lines := C02_fullExample)
    (check := fun a => placedB a && originNat a == 0x0E00 && a.image == some [0x86, 10, 0x12, 0x39])
    (by decide +kernel) []
  simp only [Bool.and_eq_true, beq_iff_eq] at hc
  obtain ⟨⟨h2, h3⟩, h4⟩ := hc
  exact ⟨a, ha, h3, h4, h2, C02_placement ha (C02_bytes_eq_size ha), C02_labels ha, C02_equ ha⟩

/-- two ORGs before the first byte: the LAST one is the origin, and the code sits there -/
def C02_twoOrgExample : List Str := [" ORG $100\n", "C EQU 1\n", " ORG $200\n", "S NOP\n", " RTS\n"].map String.toList

theorem C02_two_org_example :
    ∃ a, assemble [] C02_twoOrgExample = .ok a ∧ originNat a = 0x200 ∧ a.image = some [0x12, 0x39] ∧
      placedB a = true ∧ Placement a := by
  obtain ⟨a, ha, hc⟩ := checkProgramF_sound (lines := C02_twoOrgExample)
    (check := fun a => placedB a && originNat a == 0x200 && a.image == some [0x12, 0x39])
    (by decide +kernel) []
  simp only [Bool.and_eq_true, beq_iff_eq] at hc
  obtain ⟨⟨h2, h3⟩, h4⟩ := hc
  exact ⟨a, ha, h3, h4, h2, C02_placement ha (C02_bytes_eq_size ha)⟩

/-- no ORG: the origin is 0 and the code starts at 0 -/
theorem C02_no_org_example :
    ∃ a, assemble [] ([" NAM X\n", "S NOP\n", " RTS\n"].map String.toList) = .ok a ∧ originNat a = 0 ∧
      a.image = some [0x12, 0x39] ∧ placedB a = true ∧ Placement a := by
  obtain ⟨a, ha, hc⟩ := checkProgramF_sound (lines := [" NAM X\n", "S NOP\n", " RTS\n"].map String.toList)
    (check := fun a => placedB a && originNat a == 0 && a.image == some [0x12, 0x39])
    (by decide +kernel) []
  simp only [Bool.and_eq_true, beq_iff_eq] at hc
  obtain ⟨⟨h2, h3⟩, h4⟩ := hc
  exact ⟨a, ha, h3, h4, h2, C02_placement ha (C02_bytes_eq_size ha)⟩

#print axioms C02_Statement_too_strong
#print axioms C02_placement
#print axioms C02_labels
#print axioms C02_equ
#print axioms symbolsBound_of_v2
#print axioms C02_v2_of_size
#print axioms C02_full_v2_of_size
#print axioms C02_full_example
#print axioms C02_two_org_example

end CoCo.Props
