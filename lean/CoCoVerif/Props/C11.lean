/-
Props/C11.lean — the saved image holds the assembled program, at its origin, under its name.
Independent of whether the assembly itself is correct: `a` is whatever `Asm.assemble` accepted.
-/
import CoCoVerif.Lemmas.ParseEval
import CoCoVerif.Lemmas.VFAsm
import CoCoVerif.Lemmas.VFDsk
import CoCoVerif.Props.C06
import CoCoVerif.Props.C14

namespace CoCo.Props
open CoCo CoCo.VF

/-- the file `assembler.main` hands to the containers: machine language, extension `bin`, the name from the
source (`NAM`) or else from `--name`, load = exec = the origin's address, data = the assembled image -/
def asmFile (a : Asm.Assembly) (nm : Option (List Char)) (img : Bytes) : CFile :=
  { name := chars (asmName a nm), ext := chars "bin".toList, ftype := 2, dtype := 0, gaps := 0,
    load := originAddr a.origin, exec := originAddr a.origin, data := img }

def AsciiStr (s : List Char) : Prop := ∀ c ∈ s, c.toNat < 128

/-- **C11** at full strength: for every accepted program, fresh target `p`, ASCII program name:
`--to_bin` writes exactly the image; `--to_cas` writes a well-formed tape holding exactly the file;
`--to_dsk` (when not refused) writes a consistent Disk BASIC image holding exactly the file; without a name no
cassette / disk file is made; a four-digit `ORG` is the load and exec address. -/
def C11_Statement : Prop :=
  ∀ (fs : FS) (incl : Asm.Files) (lines : List (List Char)) (a : Asm.Assembly) (nm : Option (List Char))
    (ap : Bool) (p : Path) (img : Bytes),
    Asm.assemble incl lines = .ok a → a.image = some img → fs.get? p = none → AsciiStr (asmName a nm) →
    (let r := asmMain fs incl lines { toBin := some p, name := nm, append := ap }
     r.exit = 0 ∧ r.fs.get? p = some img ∧ ∀ q, q ≠ p → r.fs.get? q = fs.get? q) ∧
    (asmName a nm ≠ [] →
      let r := asmMain fs incl lines { toCas := some p, name := nm, append := ap }
      r.exit = 0 ∧ (∀ q, q ≠ p → r.fs.get? q = fs.get? q) ∧
      ∃ b, r.fs.get? p = some b ∧ Spec.Tape.WellFormed [toTape (asmFile a nm img)] b) ∧
    (asmName a nm ≠ [] →
      let r := asmMain fs incl lines { toDsk := some p, name := nm, append := ap }
      r.exit = 0 ∧ (∀ q, q ≠ p → r.fs.get? q = fs.get? q) ∧
      (r.refused = [] → ∃ b, r.fs.get? p = some b ∧ Spec.DiskBasic.Fsck b ∧
        Spec.DiskBasic.read b = some [toDFile (asmFile a nm img)])) ∧
    (asmName a nm = [] → ∀ args : AsmArgs, args.name = nm → args.toBin = none →
      (asmMain fs incl lines args).fs = fs) ∧
    (∀ v m, v < 65536 → a.origin = .numeric v (some 4) m false → (asmFile a nm img).load = v)

theorem coco_eq {a : Asm.Assembly} {nm : Option (List Char)} {cf : CFile}
    (h : cocoOfAssembly a nm = some cf) : ∃ img, a.image = some img ∧ cf = asmFile a nm img := by
  unfold cocoOfAssembly at h
  cases hi : a.image with
  | none => simp [hi] at h
  | some img =>
    simp only [hi] at h
    refine ⟨img, rfl, ?_⟩
    rw [← Option.some.inj h]
    rfl

theorem coco_of_image {a : Asm.Assembly} {nm : Option (List Char)} {img : Bytes} (h : a.image = some img) :
    cocoOfAssembly a nm = some (asmFile a nm img) := by
  unfold cocoOfAssembly
  simp only [h]
  rfl

theorem C11_file {a : Asm.Assembly} {nm : Option (List Char)} {cf : CFile}
    (h : cocoOfAssembly a nm = some cf) :
    a.image = some cf.data ∧ cf.ftype = 2 ∧ cf.dtype = 0 ∧ cf.load = cf.exec ∧ cf.load = originAddr a.origin ∧
    cf.ext = [98, 105, 110] ∧
    cf.name = chars (match a.name with
                     | some n => if n.isEmpty then nm.getD [] else n
                     | none => nm.getD []) := by
  obtain ⟨img, hi, rfl⟩ := coco_eq h
  exact ⟨hi, rfl, rfl, rfl, rfl, rfl, rfl⟩

theorem C11_name_source {a : Asm.Assembly} {nm : Option (List Char)} {cf : CFile} {n : List Char}
    (h : cocoOfAssembly a nm = some cf) (hn : a.name = some n) (hne : n ≠ []) : cf.name = chars n := by
  obtain ⟨img, _, rfl⟩ := coco_eq h
  cases n with
  | nil => exact absurd rfl hne
  | cons c t => simp [asmFile, asmName, hn]

theorem C11_name_arg {a : Asm.Assembly} {nm : Option (List Char)} {cf : CFile}
    (h : cocoOfAssembly a nm = some cf) (hn : a.name = none ∨ a.name = some []) :
    cf.name = chars (nm.getD []) := by
  obtain ⟨img, _, rfl⟩ := coco_eq h
  rcases hn with hn | hn <;> simp [asmFile, asmName, hn]

/-- `ORG $xxxx`: load = exec = that address -/
theorem C11_load_org {a : Asm.Assembly} {nm : Option (List Char)} {cf : CFile} {v : Nat} {m : Asm.Mode}
    (h : cocoOfAssembly a nm = some cf) (ho : a.origin = .numeric v (some 4) m false) (hv : v < 65536) :
    cf.load = v ∧ cf.exec = v := by
  obtain ⟨img, _, rfl⟩ := coco_eq h
  simp [asmFile, ho, originAddr_numeric4 v m hv]

/-- `ORG $xx` (two hex digits) and decimal `ORG n`: load = exec = that address -/
theorem C11_load_org_other {a : Asm.Assembly} {nm : Option (List Char)} {cf : CFile} {v : Nat} {m : Asm.Mode}
    (h : cocoOfAssembly a nm = some cf)
    (ho : (a.origin = .numeric v (some 2) m false ∧ v < 256) ∨ (a.origin = .numeric v none m false ∧ v < 65536)) :
    cf.load = v ∧ cf.exec = v := by
  obtain ⟨img, _, rfl⟩ := coco_eq h
  rcases ho with ⟨ho, hv⟩ | ⟨ho, hv⟩
  · simp [asmFile, ho, originAddr_numeric2 v m hv]
  · simp [asmFile, ho, originAddr_numericNone v m hv]

/-- no `ORG`: load = exec = 0 -/
theorem C11_load_none {a : Asm.Assembly} {nm : Option (List Char)} {cf : CFile}
    (h : cocoOfAssembly a nm = some cf) (ho : a.origin = .none) : cf.load = 0 ∧ cf.exec = 0 := by
  obtain ⟨img, _, rfl⟩ := coco_eq h
  simp [asmFile, ho, originAddr_none]

theorem name_isEmpty_false {cf : CFile} (h : cf.name ≠ []) : cf.name.isEmpty = false :=
  List.isEmpty_eq_false_iff.mpr h

/-- `--to_bin`: the raw binary is byte for byte the assembled image -/
theorem C11_bin (fs : FS) (incl : Asm.Files) (lines : List (List Char)) (a : Asm.Assembly)
    (nm : Option (List Char)) (ap : Bool) (p : Path) (cf : CFile)
    (ha : Asm.assemble incl lines = .ok a) (hc : cocoOfAssembly a nm = some cf) (hf : fs.get? p = none) :
    let r := asmMain fs incl lines { toBin := some p, name := nm, append := ap }
    r.fs.get? p = a.image ∧ r.exit = 0 ∧ r.refused = [] ∧ ∀ q, q ≠ p → r.fs.get? q = fs.get? q := by
  rw [(C11_file hc).1]
  exact asmMain_only_written .binary p nm ap cf.data ha hc (fun h => absurd rfl h) hf (by simp [buildImage])

/-- `--to_cas` with a name: the file at `p` is the cassette written from the one file -/
theorem C11_cas_written (fs : FS) (incl : Asm.Files) (lines : List (List Char)) (a : Asm.Assembly)
    (nm : Option (List Char)) (ap : Bool) (p : Path) (cf : CFile)
    (ha : Asm.assemble incl lines = .ok a) (hc : cocoOfAssembly a nm = some cf) (hf : fs.get? p = none)
    (hname : cf.name ≠ []) :
    let r := asmMain fs incl lines { toCas := some p, name := nm, append := ap }
    r.fs.get? p = some (Cas.write [cf]) ∧ r.exit = 0 ∧ r.refused = [] ∧
      ∀ q, q ≠ p → r.fs.get? q = fs.get? q :=
  asmMain_only_written .cassette p nm ap _ ha hc (fun _ => hname) hf rfl

/-- … it is a well-formed tape holding exactly that file (C14), and the tool lists it back (C06; E1 excluded) -/
theorem C11_cas (fs : FS) (incl : Asm.Files) (lines : List (List Char)) (a : Asm.Assembly)
    (nm : Option (List Char)) (ap : Bool) (p : Path) (cf : CFile)
    (ha : Asm.assemble incl lines = .ok a) (hc : cocoOfAssembly a nm = some cf) (hf : fs.get? p = none)
    (hname : cf.name ≠ []) (hv : ValidFile cf) :
    let r := asmMain fs incl lines { toCas := some p, name := nm, append := ap }
    r.fs.get? p = some (Cas.write [cf]) ∧ r.exit = 0 ∧
    Spec.Tape.WellFormed [toTape cf] (Cas.write [cf]) ∧
    (AsciiName cf.name → K_C06_emptyData cf.data = false → Cas.list (Cas.write [cf]) = .ok [Cas.norm cf]) ∧
    a.image = some cf.data ∧ cf.ftype = 2 ∧ cf.load = cf.exec := by
  obtain ⟨h1, h2, _, _⟩ := C11_cas_written fs incl lines a nm ap p cf ha hc hf hname
  obtain ⟨hi, ht, _, hl, _⟩ := C11_file hc
  have hvs : ∀ f ∈ [cf], ValidFile f := List.forall_mem_singleton.mpr hv
  refine ⟨h1, h2, (C14_full [cf] hvs).1, ?_, hi, ht, hl⟩
  intro hn hK
  exact C06_roundtrip_partial [cf] (List.forall_mem_singleton.mpr hn) hvs (List.forall_mem_singleton.mpr hK)

/-- `--to_dsk` with a name, the disk writer succeeding: the file at `p` is that image -/
theorem C11_dsk_written (fs : FS) (incl : Asm.Files) (lines : List (List Char)) (a : Asm.Assembly)
    (nm : Option (List Char)) (ap : Bool) (p : Path) (cf : CFile) (img : Bytes)
    (ha : Asm.assemble incl lines = .ok a) (hc : cocoOfAssembly a nm = some cf) (hf : fs.get? p = none)
    (hname : cf.name ≠ []) (hw : Dsk.write Gen.granuleFillOrder [cf] = .ok img) :
    let r := asmMain fs incl lines { toDsk := some p, name := nm, append := ap }
    r.fs.get? p = some img ∧ r.exit = 0 ∧ r.refused = [] ∧ ∀ q, q ≠ p → r.fs.get? q = fs.get? q :=
  asmMain_only_written .disk p nm ap img ha hc (fun _ => hname) hf hw

/-- … it is a consistent Disk BASIC image on which the reference reader finds exactly the file (C08) and the
tool lists it back (C07) -/
theorem C11_dsk (fs : FS) (incl : Asm.Files) (lines : List (List Char)) (a : Asm.Assembly)
    (nm : Option (List Char)) (ap : Bool) (p : Path) (cf : CFile) (img : Bytes)
    (ha : Asm.assemble incl lines = .ok a) (hc : cocoOfAssembly a nm = some cf) (hf : fs.get? p = none)
    (hname : cf.name ≠ []) (hv : ValidDFile cf) (hw : Dsk.write Gen.granuleFillOrder [cf] = .ok img) :
    let r := asmMain fs incl lines { toDsk := some p, name := nm, append := ap }
    r.fs.get? p = some img ∧ r.exit = 0 ∧
    Spec.DiskBasic.Fsck img ∧ Spec.DiskBasic.read img = some [toDFile cf] ∧
    Dsk.list img = .ok [Dsk.norm cf] ∧
    a.image = some cf.data ∧ cf.ftype = 2 ∧ cf.load = cf.exec := by
  obtain ⟨h1, h2, _, _⟩ := C11_dsk_written fs incl lines a nm ap p cf img ha hc hf hname hw
  obtain ⟨hi, ht, _, hl, _⟩ := C11_file hc
  have h := Dsk.Holds.write validOrder_default (List.forall_mem_singleton.mpr hv) hw
  exact ⟨h1, h2, h.fsck.1, h.fsck.2, h.list, hi, ht, hl⟩

/-- `--to_dsk` when the disk writer refuses (e.g. an image above 65535 bytes): nothing is written, the refusal
is reported, exit status 0 all the same -/
theorem C11_dsk_refused (fs : FS) (incl : Asm.Files) (lines : List (List Char)) (a : Asm.Assembly)
    (nm : Option (List Char)) (ap : Bool) (p : Path) (cf : CFile)
    (ha : Asm.assemble incl lines = .ok a) (hc : cocoOfAssembly a nm = some cf) (hf : fs.get? p = none)
    (hname : cf.name ≠ []) (hw : ∀ img, Dsk.write Gen.granuleFillOrder [cf] ≠ .ok img) :
    let r := asmMain fs incl lines { toDsk := some p, name := nm, append := ap }
    r.fs = fs ∧ r.exit = 0 ∧ r.refused = [.disk] := by
  intro r
  have hst : ∀ fs', storeTo fs p .disk [cf] ap ≠ .ok fs' :=
    storeTo_build_not_ok (openVF_fresh _ hf) hw
  have hr : r = _ := asmMain_only (fs := fs) .disk p nm ap ha hc (fun _ => hname)
  rw [hr, hostAfter_not_ok hst, isOk_false hst]
  exact ⟨rfl, rfl, rfl⟩

/-- all three switches at once, three distinct fresh targets -/
theorem C11_all (fs : FS) (incl : Asm.Files) (lines : List (List Char)) (a : Asm.Assembly)
    (nm : Option (List Char)) (ap : Bool) (pb pc pd : Path) (cf : CFile) (img : Bytes)
    (ha : Asm.assemble incl lines = .ok a) (hc : cocoOfAssembly a nm = some cf)
    (hfb : fs.get? pb = none) (hfc : fs.get? pc = none) (hfd : fs.get? pd = none)
    (hbc : pc ≠ pb) (hbd : pd ≠ pb) (hcd : pd ≠ pc)
    (hname : cf.name ≠ []) (hw : Dsk.write Gen.granuleFillOrder [cf] = .ok img) :
    let r := asmMain fs incl lines { toBin := some pb, toCas := some pc, toDsk := some pd, name := nm, append := ap }
    r.exit = 0 ∧ r.refused = [] ∧ r.fs.get? pb = a.image ∧ r.fs.get? pc = some (Cas.write [cf]) ∧
    r.fs.get? pd = some img ∧ ∀ q, q ≠ pb → q ≠ pc → q ≠ pd → r.fs.get? q = fs.get? q := by
  have hb : buildImage .binary [cf] = .ok cf.data := by simp [buildImage]
  have h1 := asmStep_fresh cf ap (fs, []) pb .binary cf.data hfb hb
  have hfc' : (fs.set pb cf.data).get? pc = none := by rw [FS.get?_set_other _ _ _ _ hbc]; exact hfc
  have h2 := asmStep_fresh cf ap (fs.set pb cf.data, []) pc .cassette (Cas.write [cf]) hfc' rfl
  have hfd' : ((fs.set pb cf.data).set pc (Cas.write [cf])).get? pd = none := by
    rw [FS.get?_set_other _ _ _ _ hcd, FS.get?_set_other _ _ _ _ hbd]; exact hfd
  have h3 := asmStep_fresh cf ap ((fs.set pb cf.data).set pc (Cas.write [cf]), []) pd .disk img hfd'
    (by simpa [buildImage] using hw)
  intro r
  have hr : r = { exit := 0, fs := ((fs.set pb cf.data).set pc (Cas.write [cf])).set pd img, refused := [] } := by
    show asmMain fs incl lines
      { toBin := some pb, toCas := some pc, toDsk := some pd, name := nm, append := ap } = _
    rw [asmMain_ok ha hc]
    simp [h1, h2, h3, name_isEmpty_false hname]
  rw [hr]
  refine ⟨rfl, rfl, ?_, ?_, FS.get?_set_same _ _ _, ?_⟩
  · show (((fs.set pb cf.data).set pc _).set pd img).get? pb = _
    rw [FS.get?_set_other _ _ _ _ (Ne.symm hbd), FS.get?_set_other _ _ _ _ (Ne.symm hbc), FS.get?_set_same,
      (C11_file hc).1]
  · show (((fs.set pb cf.data).set pc _).set pd img).get? pc = _
    rw [FS.get?_set_other _ _ _ _ (Ne.symm hcd), FS.get?_set_same]
  · intro q h1 h2 h3
    rw [← hr]
    exact asmMain_frame _ _ _ _ q (mt Option.some.inj (Ne.symm h1)) (mt Option.some.inj (Ne.symm h2))
      (mt Option.some.inj (Ne.symm h3))

/-- no name: no cassette / disk file is created — every path other than the `--to_bin` target is untouched,
whatever the switches -/
theorem C11_noname (fs : FS) (incl : Asm.Files) (lines : List (List Char)) (a : Asm.Assembly) (args : AsmArgs)
    (cf : CFile) (ha : Asm.assemble incl lines = .ok a) (hc : cocoOfAssembly a args.name = some cf)
    (hname : cf.name = []) :
    (asmMain fs incl lines args).exit = 0 ∧
    ∀ q, args.toBin ≠ some q → (asmMain fs incl lines args).fs.get? q = fs.get? q := by
  rw [asmMain_noname ha hc hname]
  exact ⟨rfl, fun q hq => asmStep_frame cf args.append (fs, []) args.toBin .binary q hq⟩

/-- in particular without `--to_bin` the host file system is unchanged -/
theorem C11_noname_unchanged (fs : FS) (incl : Asm.Files) (lines : List (List Char)) (a : Asm.Assembly)
    (args : AsmArgs) (cf : CFile) (ha : Asm.assemble incl lines = .ok a)
    (hc : cocoOfAssembly a args.name = some cf) (hname : cf.name = []) (hb : args.toBin = none) :
    (asmMain fs incl lines args).fs = fs := by
  rw [asmMain_noname ha hc hname, hb]
  rfl

theorem write_single_len {order : List Nat} {f : CFile} {img : Bytes} (h : Dsk.write order [f] = .ok img) :
    f.data.length ≤ 65535 := by
  unfold Dsk.write Dsk.addFiles Dsk.addFile at h
  by_cases hl : f.data.length > 65535
  · simp [hl] at h
  · omega

theorem asmFile_name_ne {a : Asm.Assembly} {nm : Option (List Char)} {img : Bytes} (h : asmName a nm ≠ []) :
    (asmFile a nm img).name ≠ [] := by
  simp [asmFile, chars, h]

theorem asmFile_name_ascii {a : Asm.Assembly} {nm : Option (List Char)} {img : Bytes}
    (h : AsciiStr (asmName a nm)) : ∀ c ∈ (asmFile a nm img).name, c < 128 := by
  intro c hc
  simp only [asmFile, chars, List.mem_map] at hc
  obtain ⟨ch, hch, rfl⟩ := hc
  exact h ch hch

theorem asmFile_valid {a : Asm.Assembly} {nm : Option (List Char)} {img : Bytes}
    (hn : AsciiStr (asmName a nm)) (hb : ∀ b ∈ img, b < 256) (ho : originAddr a.origin < 65536) :
    ValidFile (asmFile a nm img) := by
  refine ⟨fun c hc => ?_, by simp [asmFile], by simp [asmFile], ho, ho, hb⟩
  have := asmFile_name_ascii (img := img) hn c hc
  omega

theorem asmFile_dvalid {a : Asm.Assembly} {nm : Option (List Char)} {img : Bytes}
    (hn : AsciiStr (asmName a nm)) (hb : ∀ b ∈ img, b < 256) (ho : originAddr a.origin < 65536)
    (hl : img.length ≤ 65535) : ValidDFile (asmFile a nm img) := by
  refine ⟨asmFile_name_ascii hn, ?_, by simp [asmFile], by simp [asmFile], ho, ho, hb, hl⟩
  intro c hc
  have : c = 98 ∨ c = 105 ∨ c = 110 := by simpa [asmFile, chars] using hc
  omega

/-- **C11_partial**: `C11_Statement` with two extra hypotheses about the assembler's output which this property
does not establish itself: the image consists of bytes, and the origin's address as `main` derives it from
the hex string is below 65536 (shown below for `ORG $xxxx` and for no `ORG`). -/
theorem C11_partial :
    ∀ (fs : FS) (incl : Asm.Files) (lines : List (List Char)) (a : Asm.Assembly) (nm : Option (List Char))
      (ap : Bool) (p : Path) (img : Bytes),
      Asm.assemble incl lines = .ok a → a.image = some img → fs.get? p = none → AsciiStr (asmName a nm) →
      (∀ b ∈ img, b < 256) → originAddr a.origin < 65536 →
      (let r := asmMain fs incl lines { toBin := some p, name := nm, append := ap }
       r.exit = 0 ∧ r.fs.get? p = some img ∧ ∀ q, q ≠ p → r.fs.get? q = fs.get? q) ∧
      (asmName a nm ≠ [] →
        let r := asmMain fs incl lines { toCas := some p, name := nm, append := ap }
        r.exit = 0 ∧ (∀ q, q ≠ p → r.fs.get? q = fs.get? q) ∧
        ∃ b, r.fs.get? p = some b ∧ Spec.Tape.WellFormed [toTape (asmFile a nm img)] b) ∧
      (asmName a nm ≠ [] →
        let r := asmMain fs incl lines { toDsk := some p, name := nm, append := ap }
        r.exit = 0 ∧ (∀ q, q ≠ p → r.fs.get? q = fs.get? q) ∧
        (r.refused = [] → ∃ b, r.fs.get? p = some b ∧ Spec.DiskBasic.Fsck b ∧
          Spec.DiskBasic.read b = some [toDFile (asmFile a nm img)])) ∧
      (asmName a nm = [] → ∀ args : AsmArgs, args.name = nm → args.toBin = none →
        (asmMain fs incl lines args).fs = fs) ∧
      (∀ v m, v < 65536 → a.origin = .numeric v (some 4) m false → (asmFile a nm img).load = v) := by
  intro fs incl lines a nm ap p img ha hi hf hn hb ho
  have hc := coco_of_image (nm := nm) hi
  refine ⟨?_, ?_, ?_, ?_, ?_⟩
  · obtain ⟨h1, h2, _, h4⟩ := C11_bin fs incl lines a nm ap p _ ha hc hf
    exact ⟨h2, by rw [h1, hi], h4⟩
  · intro hne
    obtain ⟨h1, h2, _, h4⟩ := C11_cas_written fs incl lines a nm ap p _ ha hc hf (asmFile_name_ne hne)
    refine ⟨h2, h4, _, h1, ?_⟩
    exact (C14_full [asmFile a nm img] (List.forall_mem_singleton.mpr (asmFile_valid hn hb ho))).1
  · intro hne
    cases hw : Dsk.write Gen.granuleFillOrder [asmFile a nm img] with
    | ok b =>
      obtain ⟨h1, h2, _, h4⟩ := C11_dsk_written fs incl lines a nm ap p _ b ha hc hf (asmFile_name_ne hne) hw
      refine ⟨h2, h4, fun _ => ⟨b, h1, ?_⟩⟩
      exact (Dsk.Holds.write validOrder_default
        (List.forall_mem_singleton.mpr (asmFile_dvalid hn hb ho (write_single_len hw))) hw).fsck
    | _ =>
      obtain ⟨h1, h2, h3⟩ := C11_dsk_refused fs incl lines a nm ap p _ ha hc hf (asmFile_name_ne hne)
        (by intro b; rw [hw]; nofun)
      exact ⟨h2, fun q _ => by rw [h1], fun h => by rw [h3] at h; cases h⟩
  · intro he args hargs hbin
    subst hargs
    exact C11_noname_unchanged fs incl lines a args _ ha hc (by simp [asmFile, chars, he]) hbin
  · intro v m hv hov
    simp [asmFile, hov, originAddr_numeric4 v m hv]

/-- the origin hypothesis of `C11_partial` holds for `ORG $xxxx` and when there is no `ORG` -/
theorem originAddr_lt_cases (o : Asm.Value)
    (h : o = .none ∨ (∃ v m, v < 65536 ∧ o = .numeric v (some 4) m false) ∨
         (∃ v m, v < 256 ∧ o = .numeric v (some 2) m false) ∨ (∃ v m, v < 65536 ∧ o = .numeric v none m false)) :
    originAddr o < 65536 := by
  rcases h with rfl | ⟨v, m, hv, rfl⟩ | ⟨v, m, hv, rfl⟩ | ⟨v, m, hv, rfl⟩
  · rw [originAddr_none]; omega
  · rw [originAddr_numeric4 v m hv]; exact hv
  · rw [originAddr_numeric2 v m hv]; omega
  · rw [originAddr_numericNone v m hv]; exact hv

/-- non-vacuity: a small program that is accepted, has an image, a name and a four-digit origin -/
def demoSrc : List (List Char) :=
  ["  NAM hello\n".toList, "  ORG $0E00\n".toList, "START LDA #$01\n".toList, "  RTS\n".toList]

/-- the model accepts it; image `86 01 39`; the origin's address is `$0E00`; the file name is `hello` -/
theorem demo_accepted : ∃ a, Asm.assemble [] demoSrc = .ok a ∧ a.image = some [0x86, 0x01, 0x39] ∧
    originAddr a.origin = 0x0E00 ∧ asmName a none = "hello".toList := by
  have h : Asm.checkProgram demoSrc (fun a => a.image == some [0x86, 0x01, 0x39] && originAddr a.origin == 0x0E00 &&
      asmName a none == "hello".toList) = true := by decide +kernel
  obtain ⟨a, ha, hc⟩ := Asm.checkProgram_sound h []
  simp only [Bool.and_eq_true, beq_iff_eq] at hc
  exact ⟨a, ha, hc.1.1, hc.1.2, hc.2⟩

/-- so the hypotheses of `C11_partial` are satisfiable (with a non-empty name) -/
example : ∃ a img, Asm.assemble [] demoSrc = .ok a ∧ a.image = some img ∧ AsciiStr (asmName a none) ∧
    (∀ b ∈ img, b < 256) ∧ originAddr a.origin < 65536 ∧ asmName a none ≠ [] := by
  obtain ⟨a, ha, hi, ho, hn⟩ := demo_accepted
  refine ⟨a, _, ha, hi, ?_, ?_, ?_, ?_⟩
  · rw [hn]; unfold AsciiStr; decide
  · decide
  · omega
  · rw [hn]; decide

/-- the `ORG` check (the repair of finding B1) seen from the command line. An `ORG` after code: the program has
already emitted a byte (and defined a label) when the origin moves -/
def orgLateSrc : List (List Char) :=
  ["START LDA #$01\n".toList, "  ORG $0E00\n".toList, "  RTS\n".toList]

/-- the assembler rejects it with a diagnostic … -/
theorem orgLate_rejected : Asm.assemble [] orgLateSrc = .diag :=
  Asm.diagProgramF_sound (by decide +kernel) []

/-- … and `assembler.main` ends with a failure exit status, writes no file (whatever the switches and the targets)
and has no refusal to report -/
theorem C11_orgLate_no_file (fs : FS) (args : AsmArgs) :
    let r := asmMain fs [] orgLateSrc args
    r.exit = 1 ∧ r.fs = fs ∧ r.refused = [] := by
  intro r
  have hr : r = { exit := 1, fs := fs } := asmMain_diag orgLate_rejected
  rw [hr]
  exact ⟨rfl, rfl, rfl⟩

/-- the same lines with the `ORG` first are accepted (so the rejection is due to the position of the `ORG`) -/
theorem orgFirst_accepted : ∃ a, Asm.assemble [] ["  ORG $0E00\n".toList, "START LDA #$01\n".toList, "  RTS\n".toList] = .ok a ∧
    a.image = some [0x86, 0x01, 0x39] ∧ originAddr a.origin = 0x0E00 := by
  have h : Asm.checkProgram ["  ORG $0E00\n".toList, "START LDA #$01\n".toList, "  RTS\n".toList]
      (fun a => a.image == some [0x86, 0x01, 0x39] && originAddr a.origin == 0x0E00) = true := by decide +kernel
  obtain ⟨a, ha, hc⟩ := Asm.checkProgram_sound h []
  simp only [Bool.and_eq_true, beq_iff_eq] at hc
  exact ⟨a, ha, hc.1, hc.2⟩

end CoCo.Props
