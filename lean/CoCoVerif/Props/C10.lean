/-
Props/C10.lean — an existing target file is never modified unless append applies to it.
Model level: host file system = finite map path ↦ bytes; `storeTo` = open_virtual_file; add_coco_file*;
save_virtual_file(append).  What the theorem cannot carry (named in DESIGN.md): the atomicity of
`open(path, "wb")`/`write`, and races of `os.path.exists`.
-/
import CoCoVerif.Spec.DiskBasic
import CoCoVerif.Spec.Tape
import CoCoVerif.Lemmas.VirtualFile

namespace CoCo.Props
open CoCo CoCo.VF

/-- the content is an image of kind `k` by the format specifications -/
def IsImage (k : Kind) (b : Bytes) : Prop :=
  match k with
  | .cassette => ∃ ts, Spec.Tape.WellFormed ts b ∧ (ts ≠ [] ∨ b = [])
  | .disk => Spec.DiskBasic.Fsck b
  | .binary => True

/-- the content is an image of kind `k` in the eyes of the tool's own sniffer -/
def SniffedAs (k : Kind) (b : Bytes) : Prop := ∃ files, sniff b = .ok (files, k)

/-- **C10** at full strength (one invocation; sequences follow by induction because each invocation only
depends on the file system it starts from): a change to an existing path happens only under append and only
if the old content is an image of the requested kind; everything else is untouched; a refusal writes nothing
(`storeTo` returns no file system at all in that case). -/
def C10_Statement : Prop :=
  ∀ (fs fs' : FS) (path : Path) (k : Kind) (files : List CFile) (append : Bool),
    storeTo fs path k files append = .ok fs' →
      (∀ q, q ≠ path → fs'.get? q = fs.get? q) ∧
      (∀ old, fs.get? path = some old → append = true ∧ IsImage k old)

/-- exclusion: the sniffer accepts the content as kind `k` but the format specification does not. Known finding
G1 lies here (a long zero gap of a cassette lying over the directory offsets reads as an empty disk); so does
every stream that the scanning cassette reader lists although it is not a well-formed tape (the reader verifies
no checksum and skips whatever precedes a block) -/
def K_C10_sniff (k : Kind) (old : Bytes) : Prop := SniffedAs k old ∧ ¬ IsImage k old

/-- **C10_partial**: as the full statement, with "is an image of the kind" judged by the tool's sniffer; and
the content written is exactly the image the writer builds from the old files followed by the new ones. -/
theorem C10_partial (fs fs' : FS) (path : Path) (k : Kind) (files : List CFile) (append : Bool)
    (h : storeTo fs path k files append = .ok fs') :
    (∀ q, q ≠ path → fs'.get? q = fs.get? q) ∧
    (∀ old, fs.get? path = some old → append = true ∧ SniffedAs k old ∧
        ∃ oldFiles img, sniff old = .ok (oldFiles, k) ∧ buildImage k (oldFiles ++ files) = .ok img ∧
          fs'.get? path = some img) ∧
    (fs.get? path = none → ∃ img, buildImage k files = .ok img ∧ fs'.get? path = some img) := by
  obtain ⟨hframe, hmain⟩ := storeTo_ok h
  refine ⟨hframe, ?_, ?_⟩
  · intro old hold
    rw [hold] at hmain
    obtain ⟨ha, oldFiles, img, hs, hb, hg⟩ := hmain
    exact ⟨ha, ⟨oldFiles, hs⟩, oldFiles, img, hs, hb, hg⟩
  · intro hnone
    rw [hnone] at hmain
    exact hmain

/-- hence: outside the exclusion the full statement holds -/
theorem C10_outside_exclusion (fs fs' : FS) (path : Path) (k : Kind) (files : List CFile) (append : Bool)
    (h : storeTo fs path k files append = .ok fs')
    (hK : ∀ old, fs.get? path = some old → ¬ K_C10_sniff k old) :
    (∀ q, q ≠ path → fs'.get? q = fs.get? q) ∧
    (∀ old, fs.get? path = some old → append = true ∧ IsImage k old) := by
  obtain ⟨hf, hm, _⟩ := C10_partial fs fs' path k files append h
  refine ⟨hf, fun old hold => ?_⟩
  obtain ⟨ha, hs, _⟩ := hm old hold
  refine ⟨ha, ?_⟩
  by_cases hi : IsImage k old
  · exact hi
  · exact absurd ⟨hs, hi⟩ (hK old hold)

/-- without the append flag an existing target is never written, whatever it holds -/
theorem C10_no_append (fs : FS) (path : Path) (k : Kind) (files : List CFile) (old : Bytes)
    (hold : fs.get? path = some old) : ¬ ∃ fs', storeTo fs path k files false = .ok fs' := by
  rintro ⟨fs', h⟩
  obtain ⟨_, hm, _⟩ := C10_partial fs fs' path k files false h
  have := (hm old hold).1
  simp at this

/-- the assembler's command line: when assembly does not succeed the exit status is 1 and NO file is created or
modified (C13, last sentence) -/
theorem asmMain_failure (fs : FS) (incl : Asm.Files) (lines : List (List Char)) (args : AsmArgs)
    (h : ∀ a, Asm.assemble incl lines ≠ .ok a) :
    (asmMain fs incl lines args).exit = 1 ∧ (asmMain fs incl lines args).fs = fs := by
  unfold asmMain
  cases ha : Asm.assemble incl lines with
  | ok a => exact absurd ha (h a)
  | diag => simp
  | internal => simp
  | diverged => simp

/-- non-vacuity: a fresh path, a cassette save -/
example : ∃ fs', storeTo [] "a.cas".toList .cassette [] false = .ok fs' := ⟨_, rfl⟩

end CoCo.Props
