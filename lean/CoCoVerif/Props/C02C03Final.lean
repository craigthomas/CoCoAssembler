/-
Props/C02C03Final.lean — the full-strength statements of C02 and C03, closed.

`Props/C02Full.lean` and `Props/C03Full.lean` reduce them to the byte-count theorem of `Props/C02Size.lean` and to the
PC-relative width theorem of `Props/C03Width.lean`; this file imports both sides and states the corollaries.
Neither has an exclusion: an ORG after the first label or byte is a diagnostic (fix f9c374f).
-/
import CoCoVerif.Props.C02Full
import CoCoVerif.Props.C03Full
import CoCoVerif.Props.C03Width

namespace CoCo.Props
open CoCo CoCo.Asm

/-- **C02 at full strength (restated: `C02_Statement_v2`)**: for every accepted program the image exists and is the
in-order concatenation, addresses form the chain, every statement emits exactly `size` bytes, loading the image at the
reported origin places every statement's bytes at its listing address (`Placement`), every label has the listing address of
its statement, labels are unique, and every EQU symbol has its defined value. -/
theorem C02_full_v2 : C02_Statement_v2 := fun _ _ _ h => C02_v2_of_size h (C02_bytes_eq_size h)

/-- **C03 at full strength**: every branch and every label,PCR operand of every accepted program carries the displacement
that reaches its target from the following instruction, in a field wide enough; there is no hypothesis about ORG. -/
theorem C03_full : C03_Statement :=
  C03_full_of_pcr (fun _ _ _ h _ _ _ _ _ hs hc hl ht _ => C03_pcr_label h hs hc hl ht)

#print axioms C02_full_v2
#print axioms C03_full

end CoCo.Props
