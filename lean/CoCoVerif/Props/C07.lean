/-
Props/C07.lean — (a) write-then-list returns the stored files up to `norm` (valid fill order, `ValidDFile` files, the write
succeeding); (b) on every consistent Disk BASIC image whose names and extensions are ASCII, listing returns what the
reference reader finds. No exclusion: an ASCII file whose last-granule marker says 0 sectors
(`K_C07_zeroSectorAscii`) is listed as empty since the repair of `calculate_file_length`.
-/
import CoCoVerif.Lemmas.DiskHolds
import CoCoVerif.Lemmas.DiskWitness

namespace CoCo.Props
open CoCo CoCo.Dsk

/-- part (b) of C07, no exclusion: on a consistent image (`Fsck`) that the reference reader reads and whose names
and extensions are ASCII, the tool lists exactly the files the reference reader finds -/
theorem C07_reader_full :
    ∀ (img : Bytes) (ds : List Spec.DiskBasic.DFile),
      Spec.DiskBasic.Fsck img → Spec.DiskBasic.read img = some ds →
      (∀ d ∈ ds, (∀ c ∈ d.name, c < 128) ∧ (∀ c ∈ d.ext, c < 128)) →
        Dsk.list img = .ok (ds.map ofDFile) :=
  fun _ _ hf hr ha => list_eq_read_of_length hf.1 hr ha

/-- part (b) of C07 with the hypothesis `K_C07_zeroSectorAscii img = false`, which `C07_reader_full` does without -/
theorem C07_reader_partial :
    ∀ (img : Bytes) (ds : List Spec.DiskBasic.DFile),
      Spec.DiskBasic.Fsck img → Spec.DiskBasic.read img = some ds →
      (∀ d ∈ ds, (∀ c ∈ d.name, c < 128) ∧ (∀ c ∈ d.ext, c < 128)) →
      K_C07_zeroSectorAscii img = false →
        Dsk.list img = .ok (ds.map ofDFile) :=
  fun img ds hf hr ha _ => C07_reader_full img ds hf hr ha

/-- part (a) of C07 -/
theorem C07_write_list :
    ∀ (order : List Nat) (fs : List CFile) (img : Bytes),
      ValidOrder order → (∀ f ∈ fs, ValidDFile f) → Dsk.write order fs = .ok img →
        Dsk.list img = .ok (fs.map Dsk.norm) :=
  fun _ _ _ ho hv hres => (Holds.write ho hv hres).list

theorem C07_partial :
    (∀ (order : List Nat) (fs : List CFile) (img : Bytes),
       ValidOrder order → (∀ f ∈ fs, ValidDFile f) → Dsk.write order fs = .ok img →
         Dsk.list img = .ok (fs.map Dsk.norm)) ∧
    (∀ (img : Bytes) (ds : List Spec.DiskBasic.DFile),
       Spec.DiskBasic.Fsck img → Spec.DiskBasic.read img = some ds →
       (∀ d ∈ ds, (∀ c ∈ d.name, c < 128) ∧ (∀ c ∈ d.ext, c < 128)) →
       K_C07_zeroSectorAscii img = false →
         Dsk.list img = .ok (ds.map ofDFile)) :=
  ⟨C07_write_list, C07_reader_partial⟩

/-- **C07** as stated, without any exclusion -/
theorem C07_full : C07_Statement := ⟨C07_write_list, C07_reader_full⟩

/-- the image `Witness.img` (blank, one ASCII entry in slot 0 whose chain is granule 0 with table entry $C0 =
"0 sectors used") passes the consistency check and satisfies `K_C07_zeroSectorAscii`; the reference reader finds
one ASCII file with empty data, and the tool lists exactly that (before the repair of `calculate_file_length` it
returned 2048 bytes of $FF). -/
theorem C07_finding_zeroSector_fixed :
    Spec.DiskBasic.Fsck Witness.img ∧
    K_C07_zeroSectorAscii Witness.img = true ∧
    Spec.DiskBasic.read Witness.img = some [Witness.d0] ∧
    Witness.d0.data = [] ∧
    Dsk.list Witness.img = .ok ([Witness.d0].map ofDFile) ∧
    Dsk.list Witness.img = .ok [{ name := [65], ext := [84, 88, 84], ftype := 1, dtype := 0xFF, gaps := 0,
                                  load := 0, exec := 0, data := [] }] :=
  ⟨Witness.fsck Witness.wimg, Witness.K_true Witness.wimg, Witness.read_eq Witness.wimg, rfl,
   Witness.list_eq_general Witness.wimg, Witness.list_eq_general Witness.wimg⟩

end CoCo.Props
