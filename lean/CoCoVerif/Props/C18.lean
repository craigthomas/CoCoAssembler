/-
Metamorphic invariances of the assembler.

R3 reformatting and R4 appending statements are proved here (`C18_R3`, `C18_R4`; the PCR size loop of R4 by a stuttering
simulation, Lemmas/AppendPcr.lean).  For R1 relocation and R2 label renaming this file holds only the naive
formalisations `C18_R1_Statement`, `C18_R2_Statement`; both are FALSE as stated (`C18_R1_Statement_false` in
Props/C18RelocText.lean, `C18_R2_Statement_false` in Props/C18RenameFull.lean), hence so is `C18_Statement`; what is proved
of R1 and R2 is in Props/C18Reloc*.lean and Props/C18Rename*.lean.
-/
import CoCoVerif.Lemmas.AppendPcr
import CoCoVerif.Lemmas.ParseEval

namespace CoCo.Props
open CoCo CoCo.Asm

/-- the fields of a source line in canonical form:
`lab w1 mn w2 ops w3 semis c \n` -/
structure LineParts where
  lab : Str
  w1 : Str
  mn : Str
  w2 : Str
  ops : Str
  w3 : Str
  semis : Str
  c : Str
deriving Repr

def LineParts.render (p : LineParts) : Str :=
  p.lab ++ p.w1 ++ p.mn ++ p.w2 ++ p.ops ++ p.w3 ++ p.semis ++ p.c ++ ['\n']

/-- Well-formedness (all conditions are Boolean so that concrete lines are checked by `decide`).
`sep` is the exact condition under which the comment is not swallowed by the operand field: there is a
semicolon, or there is a nonempty operand field followed by white space, or the comment does not begin
with an operand character (in particular when there is no comment).  White space may be any of the six
ASCII white-space characters; `scanLine_render` does not even need `\n` to be excluded from `w1 w2 w3`. -/
structure LineParts.WF (p : LineParts) : Prop where
  lab : p.lab.all isLabelCh = true
  mn_ne : p.mn ≠ []
  mn : p.mn.all isWord = true
  ops : p.ops.all isOperandCh = true
  w1_ne : p.w1 ≠ []
  w1 : p.w1.all isSpace = true
  w2_ne : p.w2 ≠ []
  w2 : p.w2.all isSpace = true
  w3 : p.w3.all isSpace = true
  semis : p.semis.all (· == ';') = true
  c_nl : p.c.all (· != '\n') = true
  c_head : p.c.head?.all (fun x => !isSpace x && x != ';') = true
  sep : p.semis ≠ [] ∨ (p.ops ≠ [] ∧ p.w3 ≠ []) ∨ p.c.head?.all (fun x => !isOperandCh x) = true

theorem head_all {c : Str} {q : Char → Bool} (h : c.head?.all q = true) : ∀ x ∈ c.head?, q x = true := by
  intro x hx
  cases c with
  | nil => simp at hx
  | cons y ys => simp at hx; subst hx; simpa using h

theorem LineParts.WF.commentText {p : LineParts} (h : p.WF) : CommentText p.c := by
  refine ⟨by simpa using h.c_nl, fun x hx => ?_⟩
  simpa using head_all h.c_head x hx

theorem scanLine_render {p : LineParts} (h : p.WF) : scanLine p.render = .asm p.lab p.mn p.ops p.c := by
  apply scanLine_canonical (List.all_eq_true.mp h.lab) h.mn_ne (List.all_eq_true.mp h.mn)
    (List.all_eq_true.mp h.ops) h.w1_ne (List.all_eq_true.mp h.w1) h.w2_ne (List.all_eq_true.mp h.w2)
    (List.all_eq_true.mp h.w3) (List.all_eq_true.mp h.semis) h.commentText
  rcases h.sep with h1 | h1 | h1
  · exact .inl h1
  · exact .inr (.inl h1)
  · exact .inr (.inr (fun x hx => by simpa using head_all h1 x hx))

/-- C18-R3: (i) the scan result does not depend on the white space `w1 w2 w3` nor on the number of
semicolons; (ii) for a mnemonic that is not a string definition (FCC), two lines that differ only in
white space, semicolons, comment text and letter case of the mnemonic are both rejected, or parse to
statements that agree outside the `comment` field (and the `comment` fields are the stripped comments). -/
def C18_R3_Statement : Prop :=
  (∀ p : LineParts, p.WF → scanLine p.render = .asm p.lab p.mn p.ops p.c) ∧
  (∀ p q : LineParts, p.WF → q.WF → p.lab = q.lab → p.mn.map upperC = q.mn.map upperC → p.ops = q.ops →
    (∀ row, findRow (p.mn.map upperC) = some row → row.isStringDefine = false) →
    (parseLine p.render = .diag ∧ parseLine q.render = .diag) ∨
    ∃ s t, parseLine p.render = .ok (some s) ∧ parseLine q.render = .ok (some t) ∧
      s.eraseComment = t.eraseComment ∧ s.comment = strip p.c ∧ t.comment = strip q.c)

theorem C18_R3 : C18_R3_Statement := by
  refine ⟨fun p h => scanLine_render h, ?_⟩
  intro p q hp hq hlab hmn hops hrow
  have h1 := scanLine_render hp
  have h2 := scanLine_render hq
  rw [← hlab, ← hops] at h2
  exact parseLine_reformat h1 h2 hmn hrow

theorem scanLine_reformat {p q : LineParts} (hp : p.WF) (hq : q.WF)
    (h : p.lab = q.lab ∧ p.mn = q.mn ∧ p.ops = q.ops ∧ p.c = q.c) : scanLine p.render = scanLine q.render := by
  rw [scanLine_render hp, scanLine_render hq, h.1, h.2.1, h.2.2.1, h.2.2.2]

def lineP : LineParts :=
  { lab := "LOOP".toList, w1 := " ".toList, mn := "LDA".toList, w2 := " ".toList, ops := "#$10".toList,
    w3 := " ".toList, semis := ";".toList, c := "load".toList }
def lineQ : LineParts :=
  { lab := "LOOP".toList, w1 := "\t\t".toList, mn := "lda".toList, w2 := "   ".toList, ops := "#$10".toList,
    w3 := [], semis := [], c := [] }

example : lineP.render = "LOOP LDA #$10 ;load\n".toList := by decide +kernel
example : lineQ.render = "LOOP\t\tlda   #$10\n".toList := by decide +kernel

theorem lineP_wf : lineP.WF := by
  constructor <;> decide +kernel
theorem lineQ_wf : lineQ.WF := by
  constructor <;> decide +kernel

set_option maxRecDepth 100000 in
example : ∃ s t, parseLine lineP.render = .ok (some s) ∧ parseLine lineQ.render = .ok (some t) ∧
    s.eraseComment = t.eraseComment := by
  have hrow : ∀ row, findRow (lineP.mn.map upperC) = some row → row.isStringDefine = false := by
    rw [findRow_eq]; decide +kernel
  rcases C18_R3.2 lineP lineQ lineP_wf lineQ_wf rfl (by decide +kernel) rfl hrow with h | ⟨s, t, h1, h2, h3, _⟩
  · exfalso
    have : (match parseLine lineP.render with | .diag => false | _ => true) = true := by
      rw [parseLine_eq]; decide +kernel
    rw [h.1] at this; cases this
  · exact ⟨s, t, h1, h2, h3⟩

/-- the side condition `sep` is needed: without a semicolon the text after an empty operand field is
taken for the operand -/
example : scanLine "L NOP hello\n".toList = .asm "L".toList "NOP".toList "hello".toList [] := by rfl

/-- C18-R4 at full strength: whenever a program and an extension of it (more lines at the end) both
assemble, the statements of the shorter program (sizes, addresses, code) are the first statements of
the longer one, the final symbol table of the longer one extends that of the shorter one, and if the
longer one has a binary image, so has the shorter one, and it is a prefix of it. -/
def C18_R4_Statement : Prop :=
  ∀ (fs : Files) (ls ext : List Str) (A B : Assembly),
    assemble fs ls = .ok A → assemble fs (ls ++ ext) = .ok B →
    (∃ r, B.stmts = A.stmts ++ r) ∧ (∃ d, B.symtab = A.symtab ++ d) ∧
    (∀ ib, B.image = some ib → ∃ ia rest, A.image = some ia ∧ ib = ia ++ rest)

/-- the program has no statement whose size is decided by the PCR loop
(`determine_pcr_relative_sizes`): after `translate` every statement has a fixed size -/
def NoPcrProgram (fs : Files) (lines : List Str) : Prop :=
  ∀ p ss0 t ss1 ss2, parseLines lines = .ok p → expand fs (includeFuel fs) [] p = .ok ss0 →
    buildSymTab ss0 0 [] = some t → resolveAll t ss0 = some ss1 → translateAll ss1 = some ss2 →
    allFixed ss2 = true

/-- C18-R4 holds as stated (PCR-sized statements included) -/
theorem C18_R4 : C18_R4_Statement :=
  fun _ _ _ _ _ hA hB => assemble_prefix_gen hA hB

/-- the weaker form: the conclusion for extended programs without PCR-sized statements only (an instance of `C18_R4`) -/
def C18_R4_Partial : Prop :=
  ∀ (fs : Files) (ls ext : List Str) (A B : Assembly),
    assemble fs ls = .ok A → assemble fs (ls ++ ext) = .ok B → NoPcrProgram fs (ls ++ ext) →
    (∃ r, B.stmts = A.stmts ++ r) ∧ (∃ d, B.symtab = A.symtab ++ d) ∧
    (∀ ib, B.image = some ib → ∃ ia rest, A.image = some ia ∧ ib = ia ++ rest)

theorem C18_R4_partial : C18_R4_Partial :=
  fun fs ls ext A B hA hB _ => C18_R4 fs ls ext A B hA hB

/-- the stage-wise facts behind R4 that hold for every program (PCR or not).
The last fact (symbol resolution is monotone in the table) holds although `resolve` follows chains of EQUs with the
length of the table as fuel: a chain that can be evaluated has no cycle (`resolveF_depth`). -/
theorem C18_R4_stages :
    (∀ (ls ext : List Str) (r' : List Stmt), parseLines (ls ++ ext) = .ok r' →
      ∃ r rx, parseLines ls = .ok r ∧ parseLines ext = .ok rx ∧ r' = r ++ rx) ∧
    (∀ (fs : Files) (ls ext : List Str) (r' : List Stmt), front fs (ls ++ ext) = .ok r' →
      ∃ r rx, front fs ls = .ok r ∧ front fs ext = .ok rx ∧ r' = r ++ rx) ∧
    (∀ (a b : List Stmt) (t2 : SymTab), buildSymTab (a ++ b) 0 [] = some t2 →
      ∃ t1 d, buildSymTab a 0 [] = some t1 ∧ t2 = t1 ++ d ∧ SymTab.Le t1 t2) ∧
    (∀ (t t' : SymTab) (a r : List Stmt), SymTab.Le t t' → resolveAll t a = some r → resolveAll t' a = some r) :=
  ⟨fun _ _ _ h => parseLines_append_ok h, fun _ _ _ _ h => front_append_ok h,
   fun _ _ _ h => buildSymTab_append_le h, fun _ _ _ _ hle h => resolveAll_mono hle h⟩

def okPlainB (ls : List Str) : Bool :=
  match parseLines ls with
  | .ok p => p.all (fun s => !s.row.isInclude) && (back p).isOk
  | _ => false

theorem assemble_of_okPlainB {fs : Files} {ls : List Str} (h : okPlainB ls = true) :
    ∃ A, assemble fs ls = .ok A := by
  unfold okPlainB at h
  split at h
  · rename_i p hp
    simp only [Bool.and_eq_true, List.all_eq_true, Bool.not_eq_true'] at h
    rw [assemble_eq, front_plain hp h.1]
    cases hb : back p with
    | ok A => exact ⟨A, hb⟩
    | _ => rw [hb] at h; simp [Outcome.isOk] at h
  · cases h

/-- executable check of `NoPcrProgram` for INCLUDE-free programs -/
def noPcrB (ls : List Str) : Bool :=
  match parseLines ls with
  | .ok p =>
    p.all (fun s => !s.row.isInclude) &&
    (match buildSymTab p 0 [] with
     | some t =>
       (match resolveAll t p with
        | some s1 => (match translateAll s1 with | some s2 => allFixed s2 | none => true)
        | none => true)
     | none => true)
  | _ => true

theorem noPcrProgram_of_check {fs : Files} {ls : List Str} (h : noPcrB ls = true) : NoPcrProgram fs ls := by
  intro p ss0 t ss1 ss2 hp he h0 h1 h2
  unfold noPcrB at h
  rw [hp] at h
  simp only [Bool.and_eq_true, List.all_eq_true, Bool.not_eq_true'] at h
  rw [expand_includeFuel_plain fs p h.1] at he
  cases he
  have h3 := h.2
  rw [h0] at h3; dsimp only at h3
  rw [h1] at h3; dsimp only at h3
  rw [h2] at h3; exact h3

def progA : List Str := [" ORG $1000\n".toList, "START LDA #$10\n".toList, " BRA START\n".toList]
def extB : List Str := ["DATA FCB $01\n".toList, " LDX DATA\n".toList, " JMP START\n".toList]

theorem progA_ok : okPlainB progA = true := by rw [okPlainB, parseLines_eq]; decide +kernel
theorem progAB_ok : okPlainB (progA ++ extB) = true := by rw [okPlainB, parseLines_eq]; decide +kernel
theorem progAB_noPcr : noPcrB (progA ++ extB) = true := by rw [noPcrB, parseLines_eq]; decide +kernel

/-- the hypotheses of `C18_R4_partial` are satisfiable -/
example : ∃ A B, assemble [] progA = .ok A ∧ assemble [] (progA ++ extB) = .ok B ∧
    NoPcrProgram [] (progA ++ extB) ∧ ∃ r, B.stmts = A.stmts ++ r := by
  obtain ⟨A, hA⟩ := assemble_of_okPlainB (fs := []) progA_ok
  obtain ⟨B, hB⟩ := assemble_of_okPlainB (fs := []) progAB_ok
  have hn := noPcrProgram_of_check (fs := []) progAB_noPcr
  exact ⟨A, B, hA, hB, hn, (C18_R4_partial [] progA extB A B hA hB hn).1⟩

/-- a prefix with PCR-sized statements (two `LEAX label,PCR`, one backward and one forward) -/
def progP : List Str :=
  [" ORG $2000\n".toList, "P1 LEAX P2,PCR\n".toList, " NOP\n".toList, "P2 LEAY P1,PCR\n".toList]
def extP : List Str := [" LEAU P1,PCR\n".toList, "P3 RTS\n".toList]

theorem progP_ok : okPlainB progP = true := by rw [okPlainB, parseLines_eq]; decide +kernel
theorem progPP_ok : okPlainB (progP ++ extP) = true := by rw [okPlainB, parseLines_eq]; decide +kernel
theorem progP_pcr : noPcrB progP = false := by rw [noPcrB, parseLines_eq]; decide +kernel

/-- `C18_R4` applied to a program that does go through the PCR size loop -/
example : ∃ A B, assemble [] progP = .ok A ∧ assemble [] (progP ++ extP) = .ok B ∧
    ∃ r, B.stmts = A.stmts ++ r := by
  obtain ⟨A, hA⟩ := assemble_of_okPlainB (fs := []) progP_ok
  obtain ⟨B, hB⟩ := assemble_of_okPlainB (fs := []) progPP_ok
  exact ⟨A, B, hA, hB, (C18_R4 [] progP extP A B hA hB).1⟩

/-! `C18_R1_Statement` below is too loose in one place that has nothing to do with
the assembler: `orgLine lab n` accepts ANY string as `lab`, and `lab = "X NOP ;"` turns the line into a NOP with a
comment (`C18_R1_Statement_false` in `Props/C18RelocText.lean`). `C18_R1_Repaired` there adds `lab.all isLabelCh`
for every ORG line and `n < 65536` for the first line and is proved (`C18_R1`); `C18_R1_code` (every ORG at `$100` or
above; `C18_R1_code_any` at any origin) gives the byte-level half, statement by statement: identical bytes (class `Unmoved`,
with `ListsConst`), or the 16-bit field of an absolute own-label reference moved by exactly `D` (class `Moved`). -/

/-- an ORG line in a fixed layout -/
def orgLine (lab : Str) (n : Nat) : Str := lab ++ " ORG $".toList ++ fmtHex 4 n ++ ['\n']

/-- `lb` is `la` with the operand of every ORG line shifted by `D`; other lines are neither ORG nor
INCLUDE and are unchanged -/
def ShiftOrg (D : Nat) (la lb : List Str) : Prop :=
  la.length = lb.length ∧ ∀ (i : Nat) (x y : Str), la[i]? = some x → lb[i]? = some y →
    (x = y ∧ ∀ s, parseLine x = .ok (some s) → s.row.isOrigin = false ∧ s.row.isInclude = false) ∨
    (∃ lab n, x = orgLine lab n ∧ y = orgLine lab (n + D) ∧ n + D < 65536)

/-- C18-R1: shifting every ORG operand by `D` (in a program that starts with an ORG) shifts every
statement address by `D` -/
def C18_R1_Statement : Prop :=
  ∀ (fs : Files) (la lb : List Str) (D : Nat) (A B : Assembly),
    ShiftOrg D la lb → (∃ lab n rest, la = orgLine lab n :: rest) →
    assemble fs la = .ok A → assemble fs lb = .ok B →
    A.stmts.length = B.stmts.length ∧
    ∀ (i : Nat) (s t : Stmt) (n : Nat), A.stmts[i]? = some s → B.stmts[i]? = some t →
      s.pkg.address.int? = some n → t.pkg.address.int? = some (n + D)

/-- renaming inside values: symbols and the left part of an indexed operand -/
def renameValue (ρ : Str → Str) : Value → Value
  | .symbol n m => .symbol (ρ n) m
  | .expr l r op m a => .expr (renameValue ρ l) (renameValue ρ r) op m a
  | .leftRight l r m => .leftRight (ρ l) r m
  | v => v

def renameSide (ρ : Str → Str) : Side → Side
  | .text l => .text (ρ l)
  | x => x

/-- statement `t` is statement `s` with labels renamed by `ρ` -/
def RenamedStmt (ρ : Str → Str) (s t : Stmt) : Prop :=
  t.label = (if s.label = [] then [] else ρ s.label) ∧ t.row = s.row ∧
  t.operand.kind = s.operand.kind ∧ t.operand.value = renameValue ρ s.operand.value ∧
  t.operand.left = renameSide ρ s.operand.left ∧ t.operand.right = s.operand.right

/-- C18-R2; false as stated, because `RenamedStmt` does not tie the operand text, from which PSHS / EXG read
their registers (`C18_R2_Statement_false`; `C18_R2_full` in Props/C18RenameFull.lean is what is proved).
Renaming the labels of an INCLUDE-free program injectively (to names that are neither
registers nor otherwise used, `ρ` being the identity on strings that are not labels of the program)
changes neither addresses nor code, and the symbol table is renamed accordingly -/
def C18_R2_Statement : Prop :=
  ∀ (ρ : Str → Str) (la lb : List Str) (pa pb : List Stmt) (A B : Assembly),
    parseLines la = .ok pa → parseLines lb = .ok pb → (∀ s ∈ pa, s.row.isInclude = false) →
    pa.length = pb.length → (∀ (i : Nat) (s t : Stmt), pa[i]? = some s → pb[i]? = some t → RenamedStmt ρ s t) →
    (∀ x y, ρ x = ρ y → x = y) →
    (∀ x, (∀ s ∈ pa, s.label ≠ x) → ρ x = x) →
    (∀ s ∈ pa, s.label ≠ [] → ρ s.label ≠ [] ∧ (ρ s.label).all isSym = true ∧ isReg (ρ s.label) = false ∧
      isReg s.label = false) →
    assemble [] la = .ok A → assemble [] lb = .ok B →
    A.image = B.image ∧
    A.stmts.map (·.pkg.address) = B.stmts.map (·.pkg.address) ∧
    B.symtab = A.symtab.map (fun kv => (ρ kv.1, kv.2))

def C18_Statement : Prop :=
  C18_R1_Statement ∧ C18_R2_Statement ∧ C18_R3_Statement ∧ C18_R4_Statement

/-- what is proved of C18 in this file: R3 and R4 in full -/
theorem C18_partial : C18_R3_Statement ∧ C18_R4_Statement := ⟨C18_R3, C18_R4⟩

end CoCo.Props
