/-
Lemmas/EncodeShape.lean — the SHAPE of what the front end builds: what the values `Value.create_from_str` returns
resolve to against a table of EQU constants (numbers), and, from that, the shape of every operand `createOperand` +
`resolveOperand` produce for a machine-instruction row (`frontEnd_shape`).
-/
import CoCoVerif.Lemmas.ResolveGraph

namespace CoCo.Asm
open CoCo.Gen (InstrRow)

/-- a symbol table of EQU constants only (no labels) -/
def ConstTable (t : SymTab) : Prop := ∀ e ∈ t, e.2.isNumeric = true

theorem ConstTable.get {t : SymTab} (ht : ConstTable t) {k : Str} {s : Value} (h : t.get? k = some s) :
    s.isNumeric = true := by
  simp only [SymTab.get?, Option.map_eq_some_iff] at h
  obtain ⟨e, he, rfl⟩ := h
  exact ht e (List.mem_of_find?_eq_some he)

theorem ConstTable.notExpr {t : SymTab} (ht : ConstTable t) {k : Str} {s : Value} (h : t.get? k = some s) :
    s.isExpression = false := by
  obtain ⟨_, _, _, _, rfl⟩ := isNumeric_elim (ht.get h)
  rfl

/-- a table of constants holds no EQU expression: the lookup is the plain one -/
theorem getSymF_const {t : SymTab} (ht : ConstTable t) (n : Nat) (name : Str) :
    getSymF n t name = (match t.get? name with | some s => .ok s | Option.none => .error .other) := by
  cases hg : t.get? name with
  | none => rw [getSymF_none hg]
  | some s => rw [getSymF_plain hg (ht.notExpr hg)]

/-- an operand of an expression that is no label is none after the lookup either: a table of constants holds numbers -/
theorem lookStep_notAddr {t : SymTab} (ht : ConstTable t) (n : Nat) {x x' : Value} (hx : x.isAddress = false)
    (h : lookStep (getSymF n t) x = .ok x') : x'.isAddress = false := by
  cases x with
  | symbol name m =>
    rw [lookStep_symbol, getSymF_const ht] at h
    cases hg : t.get? name with
    | none => rw [hg] at h; cases h
    | some s =>
      rw [hg] at h
      cases h
      obtain ⟨_, _, _, _, rfl⟩ := isNumeric_elim (ht.get hg)
      rfl
  | _ => cases h; exact hx

theorem resolve_expr_numeric_of {t : SymTab} (ht : ConstTable t) {l r : Value} {op : Char} {mode : Mode} {ae : Bool}
    (hl : l.isAddress = false) (hr : r.isAddress = false) {v' : Value}
    (h : (Value.expr l r op mode ae).resolve t = .ok v') : v'.isNumeric = true := by
  rw [resolve_eq_step] at h
  obtain ⟨l', r', hL, hR, hx⟩ := resolveStep_expr_ok h
  rcases exprPost_ok hx with ⟨s, m, hs⟩ | ⟨ha, _⟩
  · exact numericOfStr_isNumeric hs
  · simp [lookStep_notAddr ht _ hl hL, lookStep_notAddr ht _ hr hR] at ha

theorem resolve_symbol_numeric_of {t : SymTab} (ht : ConstTable t) {name : Str} {m : Mode} {v' : Value}
    (h : (Value.symbol name m).resolve t = .ok v') : v'.isNumeric = true := by
  cases hg : t.get? name with
  | none => rw [resolve_symbol_undefined hg] at h; cases h
  | some s =>
    obtain ⟨_, _, _, _, rfl⟩ := isNumeric_elim (ht.get hg)
    rw [resolve_symbol_number hg] at h
    exact numericOfInt_isNumeric h

/-- whatever `create` builds without the string flag, other than a `left,right` pair, resolves to a number under a
table of constants (or the resolution fails) -/
theorem resolve_created_numeric {t : SymTab} (ht : ConstTable t) {is16 defExt : Bool} {s : Str} {v v' : Value}
    (hc : CreateOf false is16 defExt s v) (hlr : v.isLeftRight = false) (h : v.resolve t = .ok v') :
    v'.isNumeric = true := by
  cases hc with
  | expr _ _ hl hr => exact resolve_expr_numeric_of ht hl.notAddr hr.notAddr h
  | leftRight => cases hlr
  | numeric => cases h; rfl
  | symbol => exact resolve_symbol_numeric_of ht h

/-- the left part of an index operand (a text without a comma) becomes a number -/
theorem resolveLeft_numeric_of {t : SymTab} (ht : ConstTable t) {row : InstrRow} (hsd : row.isStringDefine = false)
    {l : Str} (hcm : ',' ∉ l) {v : Value} (h : resolveLeft l row t = .ok v) : v.isNumeric = true := by
  obtain ⟨v0, hcr, hr⟩ := resolveLeft_ok h
  rw [hsd] at hcr
  have hg := create_graph hcr
  refine resolve_created_numeric ht hg (isLeftRight_false_of_ne fun _ _ _ e => ?_) hr
  subst e
  exact hcm hg.comma

/-- the left and right parts of an index operand after `resolve_symbols`: a register text, and an empty /
accumulator left text or a NUMBER -/
def IdxShape (o : Operand) : Prop :=
  ∃ right, o.right = some right ∧
    ((∃ l, o.left = .text l ∧ (l = [] ∨ isABD l = true)) ∨ (∃ n h m neg, o.left = .val (.numeric n h m neg)))

/-- what `createOperand` + `resolveOperand` (table of constants) produce for a machine-instruction row -/
inductive FrontShape (r : InstrRow) (o : Operand) : Prop
  | relative : o.kind = .relative → FrontShape r o
  | special : o.kind = .special → r.isSpecial = true → FrontShape r o
  | inherent : o.kind = .inherent → r.isSpecial = false → FrontShape r o
  | numeric {n : Nat} {h : Option Nat} {m : Mode} {neg : Bool} :
      (o.kind = .immediate ∨ o.kind = .direct ∨ o.kind = .extended ∨ o.kind = .extIndirect) → r.isSpecial = false →
      o.value = .numeric n h m neg → FrontShape r o
  | indexed : o.kind = .indexed → r.isSpecial = false → IdxShape o → FrontShape r o
  | bracket : o.kind = .extIndirect → r.isSpecial = false → o.value.isAddress = false → o.value.isAddrExpr = false →
      o.value.isNumeric = false → IdxShape o → FrontShape r o

section
variable {r : InstrRow} {t : SymTab} (ht : ConstTable t) (hsd : r.isStringDefine = false)
include ht hsd

/-- the left text of an index operand (no comma in it) after `resolve_symbols`: kept if empty or an accumulator,
else a number -/
theorem resolvedLeft_shape {o0 o : Operand} {l rr : Str} (hl : o0.left = .text l) (hcm : ',' ∉ l)
    (hr : o0.right = some rr) (h : ResolvedLeft r t o0 l o) : o.kind = o0.kind ∧ o.value = o0.value ∧ IdxShape o := by
  cases h with
  | keep hn =>
    refine ⟨rfl, rfl, rr, hr, .inl ⟨l, hl, ?_⟩⟩
    cases l with
    | nil => exact .inl rfl
    | cons c rest => exact .inr (by simpa using hn)
  | left _ hv =>
    obtain ⟨n, hh, m, neg, rfl⟩ := isNumeric_elim (resolveLeft_numeric_of ht hsd hcm hv)
    exact ⟨rfl, rfl, rr, hr, .inr ⟨n, hh, m, neg, rfl⟩⟩

/-- an operand with a `left,right` value whose left text has no comma: the index shape -/
theorem resolve_idx_shape {o0 o : Operand} {l rr : Str}
    (hk : o0.kind = .indexed ∨ (o0.kind = .extIndirect ∧ o0.value.isLeftRight = true))
    (hl : o0.left = .text l) (hcm : ',' ∉ l) (hr : o0.right = some rr) (h : resolveOperand o0 r t = .ok o) :
    o.kind = o0.kind ∧ o.value = o0.value ∧ IdxShape o := by
  have hkind : o0.kind = .indexed ∨ o0.kind = .extIndirect := hk.imp id And.left
  cases resolveOperand_graph h with
  | indexedLeft _ hl' hrl => rw [hl] at hl'; cases hl'; exact resolvedLeft_shape ht hsd hl hcm hr hrl
  | extLeft _ _ hl' hrl => rw [hl] at hl'; cases hl'; exact resolvedLeft_shape ht hsd hl hcm hr hrl
  | indexedKeep _ hnl => exact absurd hl (hnl l)
  | extValue hk' hc =>
    rcases hk with e | ⟨_, hv⟩
    · rw [e] at hk'; cases hk'
    · simp [hv] at hc
  | value hk' => rcases hkind with e | e <;> rw [e] at hk' <;> simp at hk'
  | special hk' | pseudoOther hk' | pseudoKeep hk' | pseudoValue hk' | unknown hk' =>
    rcases hkind with e | e <;> rw [e] at hk' <;> cases hk'

omit ht hsd in
theorem resolve_value_shape {o0 o : Operand} (hk : o0.kind = .relative ∨ o0.kind = .inherent ∨ o0.kind = .immediate)
    (h : resolveOperand o0 r t = .ok o) : o.kind = o0.kind ∧ o0.value.resolve t = .ok o.value := by
  rw [resolveOperand_value_eq r t (by rcases hk with hk | hk | hk <;> simp [hk])] at h
  obtain ⟨v, hv, rfl⟩ := exceptMap_ok h
  exact ⟨rfl, hv⟩

omit ht hsd in
/-- an UnknownOperand whose value resolves to a number becomes a direct or an extended operand carrying a number -/
theorem resolve_unknown_shape {o0 o : Operand} (hk : o0.kind = .unknown)
    (hnum : ∀ v, o0.value.resolve t = .ok v → v.isNumeric = true)
    (h : resolveOperand o0 r t = .ok o) :
    (o.kind = .direct ∨ o.kind = .extended) ∧ o.value.isNumeric = true := by
  cases resolveOperand_graph h with
  | unknown _ hv hu =>
    refine ⟨hu.kind, ?_⟩
    have hn := hnum _ hv
    cases hu with
    | directNum _ _ _ hnv => exact numericOfInt_isNumeric hnv
    | explExt | extNum | directAddr | extAddr | extOther => exact hn
  | indexedLeft hk' | extLeft hk' | indexedKeep hk' | extValue hk' | special hk' | pseudoOther hk' | pseudoKeep hk'
  | pseudoValue hk' => rw [hk] at hk'; cases hk'
  | value hk' => rw [hk] at hk'; simp at hk'

omit ht hsd in
/-- `[value]` with a value that is not a `left,right` pair: the value is resolved -/
theorem resolve_bracket_val_shape {o0 o : Operand} (hk : o0.kind = .extIndirect) (hnn : o0.value.isNone = false)
    (hlr : o0.value.isLeftRight = false) (h : resolveOperand o0 r t = .ok o) :
    o.kind = .extIndirect ∧ o0.value.resolve t = .ok o.value := by
  rw [resolveOperand_bracket_eq r t hk, hnn, hlr, if_pos (by rfl)] at h
  obtain ⟨v, hv, rfl⟩ := exceptMap_ok h
  exact ⟨hk, hv⟩

omit hsd in
theorem numeric_of_created {is16 defExt : Bool} {s : Str} {v : Value} {o : Operand}
    (hc : createV s false is16 defExt = .ok v) (hlr : v.isLeftRight = false) (h : v.resolve t = .ok o.value) :
    ∃ n hh m neg, o.value = .numeric n hh m neg :=
  isNumeric_elim (resolve_created_numeric ht (createV_graph hc) hlr h)

theorem frontEnd_shape (hp : r.isPseudo = false) {text : Str} {o0 o : Operand}
    (hc : createOperand text r = .ok o0) (hr : resolveOperand o0 r t = .ok o) : FrontShape r o := by
  cases createOperand_graph hc with
  | pseudo hp' | equExt hp' | equDir hp' => rw [hp] at hp'; cases hp'
  | special _ hsp =>
    simp only [resolveOperand, Except.ok.injEq] at hr
    subst hr
    exact .special rfl hsp
  | relative => exact .relative (resolve_value_shape (.inl rfl) hr).1
  | inherent _ hsp => exact .inherent (resolve_value_shape (.inr (.inl rfl)) hr).1 hsp
  | bracketPair _ hsp _ _ _ hv =>
    rw [hsd] at hv
    obtain ⟨h1, h2, h3⟩ := resolve_idx_shape ht hsd (.inr ⟨rfl, rfl⟩) rfl (createV_graph hv).pv rfl hr
    exact .bracket h1 hsp (by rw [h2]; rfl) (by rw [h2]; rfl) (by rw [h2]; rfl) h3
  | bracket _ hsp _ _ _ hv hlr =>
    rw [hsd] at hv
    obtain ⟨h1, h2⟩ := resolve_bracket_val_shape rfl (createV_graph hv).notNone hlr hr
    obtain ⟨n, hh, m, neg, hov⟩ := numeric_of_created ht hv hlr h2
    exact .numeric (.inr (.inr (.inr h1))) hsp hov
  | indexed _ hsp _ _ hv =>
    rw [hsd] at hv
    obtain ⟨h1, _, h3⟩ := resolve_idx_shape ht hsd (.inl rfl) rfl (createV_graph hv).pv rfl hr
    exact .indexed h1 hsp h3
  | immediate _ hsp _ _ hv hlr =>
    rw [hsd] at hv
    obtain ⟨h1, h2⟩ := resolve_value_shape (.inr (.inr rfl)) hr
    obtain ⟨n, hh, m, neg, hov⟩ := numeric_of_created ht hv hlr h2
    exact .numeric (.inl h1) hsp hov
  | unknown _ hsp _ _ hv hlr =>
    rw [hsd] at hv
    obtain ⟨h1, hn⟩ := resolve_unknown_shape rfl
      (fun v' hv' => resolve_created_numeric ht (createV_graph hv) hlr hv') hr
    obtain ⟨n, hh, m, neg, hov⟩ := isNumeric_elim hn
    exact .numeric (.inr (h1.imp id .inl)) hsp hov

end
end CoCo.Asm
