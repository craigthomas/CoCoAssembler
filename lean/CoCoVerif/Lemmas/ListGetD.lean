/-
Lemmas/ListGetD.lean — list facts the container proofs share and core does not state: `List.getD` on an appended
list and on a slice (core has them for `getElem?` only), a function on `range l.length` that reads `l`, counting
over a duplicate-free list. It imports nothing.
-/
namespace CoCo

theorem getD_append_lt {α} (l1 l2 : List α) (i : Nat) (d : α) (h : i < l1.length) :
    (l1 ++ l2).getD i d = l1.getD i d := by
  simp [List.getD_eq_getElem?_getD, List.getElem?_append_left h]

theorem getD_append_at {α} (l1 l2 : List α) (n i : Nat) (d : α) (h : l1.length = n) :
    (l1 ++ l2).getD (n + i) d = l2.getD i d := by
  subst h
  simp [List.getD_eq_getElem?_getD, List.getElem?_append_right]

theorem getD_mem {α} (l : List α) (i : Nat) (d : α) (h : i < l.length) : l.getD i d ∈ l := by
  simp [List.getD_eq_getElem?_getD, List.getElem?_eq_getElem h]

theorem getElem?_eq_getD {α} {l : List α} {i : Nat} (d : α) (h : i < l.length) : l[i]? = some (l.getD i d) := by
  simp [List.getD_eq_getElem?_getD, List.getElem?_eq_getElem h]

theorem slice_getD {α} (l : List α) (q n i : Nat) (d : α) (hi : i < n) :
    ((l.drop q).take n).getD i d = l.getD (q + i) d := by
  simp [List.getD_eq_getElem?_getD, hi]

theorem headD_eq_head {α} (l : List α) (d : α) (h : l ≠ []) : l.headD d = l.head h := by
  cases l with
  | nil => exact absurd rfl h
  | cons a l => rfl

theorem list8 {α} (l : List α) (h : l.length = 8) : ∃ a b c d e f g i, l = [a, b, c, d, e, f, g, i] := by
  match l, h with
  | [a, b, c, d, e, f, g, i], _ => exact ⟨a, b, c, d, e, f, g, i, rfl⟩

theorem list15 {α} (l : List α) (h : l.length = 15) :
    ∃ a0 a1 a2 a3 a4 a5 a6 a7 a8 a9 a10 a11 a12 a13 a14,
      l = [a0, a1, a2, a3, a4, a5, a6, a7, a8, a9, a10, a11, a12, a13, a14] := by
  match l, h with
  | [a0, a1, a2, a3, a4, a5, a6, a7, a8, a9, a10, a11, a12, a13, a14], _ =>
    exact ⟨a0, a1, a2, a3, a4, a5, a6, a7, a8, a9, a10, a11, a12, a13, a14, rfl⟩

theorem map_range {α β} (l : List α) (f : Nat → β) (g : α → β) (h : ∀ k e, l[k]? = some e → f k = g e) :
    (List.range l.length).map f = l.map g := by
  apply List.ext_getElem (by simp)
  intro i h1 _
  rw [List.getElem_map, List.getElem_map, List.getElem_range]
  exact h i _ (List.getElem?_eq_getElem (by simpa using h1))

theorem range_filterMap {α β} (l : List α) (f : Nat → Option β) (g : α → β)
    (h : ∀ k e, l[k]? = some e → f k = some (g e)) : (List.range l.length).filterMap f = l.map g := by
  have := congrArg (List.filterMap id) (map_range l f (some ∘ g) h)
  rwa [List.filterMap_map, List.filterMap_map, Function.id_comp, Function.id_comp, List.filterMap_eq_map] at this

theorem range_mapM {α β} (l : List α) (f : Nat → Option β) (g : α → β)
    (h : ∀ k e, l[k]? = some e → f k = some (g e)) : (List.range l.length).mapM f = some (l.map g) := by
  have := congrArg (List.mapM id) (map_range l f (some ∘ g) h)
  rw [List.mapM_map, List.mapM_map] at this
  exact this.trans (List.mapM_pure (m := Option))

theorem filter_range_lt (m n : Nat) (h : m ≤ n) :
    (List.range n).filter (fun k => decide (k < m)) = List.range m := by
  obtain ⟨k, rfl⟩ : ∃ k, n = m + k := ⟨n - m, by omega⟩
  rw [List.range_add, List.filter_append, List.filter_eq_self.mpr, List.filter_eq_nil_iff.mpr, List.append_nil]
  · intro a ha
    obtain ⟨i, _, rfl⟩ := List.mem_map.mp ha
    simp
  · intro a ha
    simpa using ha

theorem complete_length : ∀ (n : Nat) (l : List Nat), (∀ g, g < n → g ∈ l) → n ≤ l.length := by
  intro n
  induction n with
  | zero => intro l _; omega
  | succ n ih =>
    intro l h
    have hn : n ∈ l := h n (by omega)
    have := ih (l.erase n) (fun g hg => (List.mem_erase_of_ne (by omega)).mpr (h g (by omega)))
    rw [List.length_erase_of_mem hn] at this
    have : 0 < l.length := List.length_pos_of_mem hn
    omega

theorem filter_length_flip {l : List Nat} (hnd : l.Nodup) {p q : Nat → Bool} {g0 : Nat} (hmem : g0 ∈ l)
    (hp : p g0 = true) (hq : q g0 = false) (h : ∀ x, x ≠ g0 → q x = p x) :
    (l.filter q).length + 1 = (l.filter p).length := by
  induction l with
  | nil => cases hmem
  | cons a l ih =>
    obtain ⟨ha, hnd'⟩ := List.nodup_cons.mp hnd
    by_cases e : a = g0
    · subst e
      have : l.filter q = l.filter p :=
        List.filter_congr (fun x hx => h x (fun e => ha (e ▸ hx)))
      simp [hp, hq, this]
    · have := ih hnd' ((List.mem_cons.mp hmem).resolve_left (Ne.symm e))
      rw [List.filter_cons, List.filter_cons, h a e]
      split
      · simp; omega
      · exact this

theorem count_not_mem (n : Nat) : ∀ (l : List Nat), l.Nodup → (∀ g ∈ l, g < n) →
    ((List.range n).filter (fun g => decide (g ∉ l))).length + l.length = n := by
  intro l
  induction l with
  | nil => intro _ _; rw [List.filter_eq_self.mpr (by simp)]; simp
  | cons a l ih =>
    intro hnd hlt
    obtain ⟨ha, hnd'⟩ := List.nodup_cons.mp hnd
    have := ih hnd' (fun g hg => hlt g (List.mem_cons_of_mem _ hg))
    have hflip := filter_length_flip (l := List.range n) List.nodup_range
      (p := fun g => decide (g ∉ l)) (q := fun g => decide (g ∉ a :: l)) (g0 := a)
      (List.mem_range.mpr (hlt a List.mem_cons_self)) (by simpa using ha) (by simp)
      (fun x hx => by simp [hx])
    simp only [List.length_cons]
    omega

theorem takeWhile_all {α} {p : α → Bool} {l : List α} (h : ∀ a ∈ l, p a = true) : l.takeWhile p = l := by
  simpa using List.takeWhile_append_of_pos (l₂ := []) h

end CoCo
