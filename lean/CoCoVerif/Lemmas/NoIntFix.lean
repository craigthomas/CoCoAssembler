/-
Lemmas/NoIntFix.lean — C13, "no internal error": the stages after the size loop (address assignment, `fix_addresses`,
the pass over the FCB / FDB lists, the final symbol table), each in the form `Outcome.Meets .internal`: no internal
error, and a result has the invariant the next stage needs.  What the stages are handed: a symbol table whose
`.address j` entries have `j` below the number of statements (`SymTab.Good N t`), and statements whose addresses are
16-bit magnitudes.  `back_ne_internal` binds the stages of the back end; the other half of C13, no run diverges, goes
one step per stage.
-/
import CoCoVerif.Lemmas.NoIntPcr

namespace CoCo.Asm
open CoCo
open CoCo.Gen (InstrRow)

section
variable {N : Nat} {ss : List Stmt} (hlen : ss.length = N) (haddr : ∀ s ∈ ss, s.pkg.address.Good 0)
include hlen haddr

/-- however many statements there are: an address is what `assignAddrs` computed (`numV`) or the operand of an ORG,
which contains no label (`StmtOK.addr`) -/
theorem addrIntOf_good {j : Nat} (hj : j < N) : ∃ a, addrIntOf ss j = some a ∧ a ≤ 65535 := by
  have hj' : j < ss.length := by omega
  obtain ⟨k, hk, hkle⟩ := (haddr _ (List.getElem_mem hj')).int_le (Nat.zero_le _)
  exact ⟨k, addrIntOf_eq_some.2 ⟨_, List.getElem?_eq_getElem hj', hk⟩, hkle⟩

omit haddr in
theorem addrOf_good {j : Nat} (hj : j < N) : ∃ v, addrOf ss j = some v :=
  ⟨_, addrOf_eq_some.2 ⟨_, List.getElem?_eq_getElem (hlen ▸ hj), rfl⟩⟩

theorem addrOperand_ne_internal {v : Value} (hv : v.Good N) : addrOperand ss v ≠ .internal := by
  cases v with
  | address j m =>
    obtain ⟨a, ha, _⟩ := addrIntOf_good hlen haddr (j := j) hv
    rw [addrOperand_address, ha]
    nofun
  | pyNone => exact absurd hv id
  | _ => nofun

/-- `calculate_address_offset`: below zero the result is reduced modulo 65536, above 65535 it is a diagnostic -/
theorem addrOffset_good {v : Value} (hv : v.Good N) (hae : v.isAddrExpr = true) :
    (addrOffset ss v).Meets .internal fun x => ∃ n, n < 65536 ∧ x = .numeric n (some 4) .extended false := by
  obtain ⟨l, r, op, m, rfl⟩ := Value.eq_addrExpr hae
  refine ⟨?_, fun x => addrOffset_numeric⟩
  rw [addrOffset_bind]
  exact Outcome.bind_ne_internal (addrOperand_ne_internal hlen haddr hv.1) fun _ _ =>
    Outcome.bind_ne_internal (addrOperand_ne_internal hlen haddr hv.2.1) fun _ _ => addrCombine_ne_internal _ _ _

/-- a label of the table points at an existing statement, a label expression is evaluated without internal error -/
theorem elemNum_ne_internal {r : Value} (hr : r.Good N) : elemNum ss r ≠ .internal := by
  rw [elemNum_eq]
  refine Outcome.Meets.ne_internal (Q := fun _ => True) (.ite (fun ha => ?_) fun _ =>
    .ite (fun hae => (addrOffset_good hlen haddr hr hae).mono fun _ _ _ => trivial) fun _ => .ok trivial)
  obtain ⟨k, hk, hlt, _⟩ := hr.int
  obtain ⟨a, ha'⟩ := addrOf_good hlen (hlt ha)
  rw [hk, Outcome.ofOptionI, Outcome.ok_bind, ha']
  exact .ok trivial

theorem evalLists_ne_internal {t : SymTab} (ht : SymTab.Good N t) (l : List Stmt) : evalLists t ss l ≠ .internal := by
  refine evalLists_ne_out_of (c := .internal) (fun w x => ?_) l
  rcases evalElem_cases t x with hd | ⟨v, r, hv, hr, e⟩
  · rw [hd]; nofun
  · rw [e]
    exact elemRender_ne_internal
      (elemNum_ne_internal hlen haddr (Value.resolve_good ht (create_good N hv) hr))

end

/-- `fix_addresses` and the list pass leave the addresses alone -/
theorem PW.addr_good {l l' : List Stmt} (h : PW SameButAdditional l l') (hl : ∀ s ∈ l, s.pkg.address.Good 0) :
    ∀ s ∈ l', s.pkg.address.Good 0 := fun _ hs' =>
  let ⟨s, hs, _, e⟩ := h.mem' hs'
  e ▸ hl s hs

theorem Placed.ok {N : Nat} {s s' : Stmt} (h : Placed s s') (hs : StmtOK N s) : StmtOK N s' := by
  rcases h with ⟨_, rfl⟩ | ⟨_, _, v, hv, rfl⟩
  · exact hs
  · exact { hs with addr := numV_good 0 hv }

theorem assignAddrs_good {N : Nat} (l : List Stmt) (a : Nat) (hall : ∀ s ∈ l, StmtOK N s) :
    (assignAddrs l a).Meets .internal fun r => r.length = l.length ∧ ∀ s ∈ r, StmtOK N s := by
  refine ⟨assignAddrs_ne_internal (fun s hs => (hall s hs).addr.ne_pyNone) a,
    fun r h => ⟨(assignAddrs_placed h).length_eq, fun s' hs' => ?_⟩⟩
  obtain ⟨s, hs, hp⟩ := (assignAddrs_placed h).mem' hs'
  exact hp.ok (hall s hs)

section
variable {N : Nat} {ss : List Stmt} (hlen : ss.length = N) (haddr : ∀ s ∈ ss, s.pkg.address.Good 0)
include hlen haddr

/-- the target of a PCR statement or of a label offset -/
theorem fixRelTarget_good {s : Stmt} (hok : StmtOK N s) (hn : s.pkg.needsRes = true) :
    (fixRelTarget ss s).Meets .internal (· ≤ 65535) := by
  obtain ⟨hgood, _, ⟨t, ht, htlt⟩⟩ := hok.addl hn
  rw [fixRelTarget_bind]
  refine .ite (fun h => (addrOffset_good hlen haddr hgood h.2).bind fun v _ ⟨n, hn, e⟩ => ?_) fun _ => ?_
  · rw [e]
    exact .ok (Nat.le_of_lt_succ hn)
  · obtain ⟨a, ha, hale⟩ := addrIntOf_good hlen haddr htlt
    rw [ht, Outcome.ofOptionI, Outcome.ok_bind, ha]
    exact .ok hale

end

/-- `fix_addresses`, with `fixBranch_meets`, `fixPart1_meets` .. `fixPart3_meets` of Lemmas/FixOne.lean at `.internal` -/
theorem fixOne_good {N : Nat} {ss : List Stmt} (hlen : ss.length = N) (hall : ∀ s ∈ ss, StmtOK N s)
    {i : Nat} {s : Stmt} (hs : ss[i]? = some s) : (fixOne ss i s).Meets .internal (SameButAdditional s) := by
  have hsf := hall s (List.mem_of_getElem? hs)
  have haddr : ∀ s ∈ ss, s.pkg.address.Good 0 := fun s hs => (hall s hs).addr
  by_cases hk : s.operand.kind = .relative
  · -- a long backward branch has a size itself
    obtain ⟨⟨b, hb⟩, hsz⟩ := hsf.rel hk
    rw [fixOne_relative hk]
    refine fixBranch_meets i s fun _ => ⟨b, hb, fun hsb hbi => ?_⟩
    rw [sumSize_succ hbi hs]
    have := hsz hsb
    omega
  · have hv := hsf.val
    by_cases hn : s.pkg.needsRes = true
    · rw [fixOne_eq_fixPart3 (.of_leftRight hk (hsf.needs hn).1)]
      obtain ⟨st, hst, _⟩ := addrIntOf_good hlen haddr (hlen ▸ lt_of_getElem? hs)
      exact fixPart3_meets i s fun _ _ => ⟨fixRelTarget_good hlen haddr hsf hn, hst ▸ rfl⟩
    · rw [fixOne_nonrel_eq ss i s (beq_false_of_ne hk) hv.ne_pyNone, fixNonRel_bind]
      refine .step (fixPart1_meets s fun _ hae => (addrOffset_good hlen haddr hv hae).ne_internal) fun s1 _ h1 =>
        .step (fixPart2_meets s1 fun _ ha => ?_) fun s2 _ h2 => ?_
      · obtain ⟨t, ht, htlt, _⟩ := hv.int
        obtain ⟨a, ha'⟩ := addrOf_good hlen (htlt ha)
        exact ⟨t, ht, ha' ▸ rfl⟩
      · -- the first two steps leave `needsRes` as it is, so the third has nothing to do
        obtain ⟨v, rfl⟩ := h1.trans h2
        exact fixPart3_meets i _ fun _ hn2 => absurd hn2 hn

theorem fixFit_good {N : Nat} {ss : List Stmt} (hlen : ss.length = N) (hall : ∀ s ∈ ss, StmtOK N s)
    {i : Nat} {s : Stmt} (hs : ss[i]? = some s) : (fixFit ss i s).Meets .internal (SameButAdditional s) := by
  have hc := (hall s (List.mem_of_getElem? hs)).codes
  rw [fixFit_eq]
  refine .step (fixOne_good hlen hall hs) fun s1 _ ⟨v, e⟩ => fitWidth_meets s1 fun _ => ?_
  rw [e]
  -- `fit_operand_width` takes the `hex_len()` of op code and post byte
  exact ⟨Option.ne_none_iff_exists'.2 (Value.hexLen?_isSome_of_ne_pyNone hc.1),
    Option.ne_none_iff_exists'.2 (Value.hexLen?_isSome_of_ne_pyNone hc.2)⟩

theorem fixAll_good {N : Nat} {ss : List Stmt} (hlen : ss.length = N) (hall : ∀ s ∈ ss, StmtOK N s) :
    (fixAll ss 0 ss).Meets .internal (PW SameButAdditional ss) := by
  rw [fixAll_eq_traverse]
  exact Outcome.traverse_meets fun j s hs => fixFit_good hlen hall (j.zero_add.symm ▸ hs)

theorem fixAllL_good {N : Nat} {t : SymTab} {ss : List Stmt} (ht : SymTab.Good N t) (hlen : ss.length = N)
    (hall : ∀ s ∈ ss, StmtOK N s) : (fixAllL t ss).Meets .internal (PW SameButAdditional ss) := by
  refine ⟨?_, fun _ => fixAllL_pw⟩
  rw [fixAllL_eq]
  exact ((fixAll_good hlen hall).bind fun x _ hx => .of_ne
    (evalLists_ne_internal (hx.length_eq.trans hlen) (hx.addr_good fun s hs => (hall s hs).addr) ht x)).ne_internal

theorem finalSymTab_good {N : Nat} {ss : List Stmt} (hlen : ss.length = N) :
    ∀ (t : SymTab), SymTab.Good N t → finalSymTab ss t ≠ .internal := by
  intro t ht
  rw [finalSymTab_eq_traverse ss 0]
  refine Outcome.traverse_ne_internal fun _ kv hkv => ?_
  have hv : kv.2.Good N := ht kv (List.mem_of_getElem? hkv)
  obtain ⟨k, v⟩ := kv
  cases v with
  | address i m =>
    obtain ⟨a, ha⟩ := addrOf_good hlen (j := i) hv
    simp [finalSym1, finalVal, ha]
  | pyNone => exact absurd hv id
  | _ => nofun

section
variable {N : Nat} {ss : List Stmt} (hlen : ss.length = N) (haddr : ∀ s ∈ ss, s.pkg.address.Good 0)
include hlen haddr

/-- an EQU defined by an expression is evaluated on the final addresses -/
theorem evalSym_good {t : SymTab} (ht : SymTab.Good N t) {v : Value} (hv : v.Good N) :
    (evalSym ss t v).Meets .internal fun v' => v'.Good N := by
  rw [evalSym_eq]
  refine .ite (fun _ => .bind .ofR fun r _ hr => ?_) fun _ => .ok hv
  have hrg := Value.resolve_good ht hv hr
  refine .map (P := fun x => x.Good N) (.ite (fun hae => ?_) fun _ => .ok hrg) fun x _ hx => ?_
  · exact (addrOffset_good hlen haddr hrg hae).mono fun x _ ⟨n, hn, e⟩ => e ▸ Nat.le_of_lt_succ hn
  · split
    · exact hx
    · exact hv

theorem evalSyms_good {t : SymTab} (ht : SymTab.Good N t) : ∀ (x : SymTab), SymTab.Good N x →
    evalSyms ss t x ≠ .internal ∧ ∀ r, evalSyms ss t x = .ok r → SymTab.Good N r := by
  intro x hx
  rw [evalSyms_eq_traverse ss t 0]
  show (Outcome.traverse _ 0 x).Meets .internal (SymTab.Good N)
  refine (Outcome.traverse_meets (Q := fun (_ kv' : Str × Value) => kv'.2.Good N) fun _ kv hkv =>
    Outcome.Meets.map (g := fun v' => (kv.1, v')) (evalSym_good hlen haddr ht (hx kv (List.mem_of_getElem? hkv))) fun _ _ h => h).mono
      fun r _ hr kv' hkv' => ?_
  obtain ⟨_, _, h⟩ := hr.mem' hkv'
  exact h

end

/-- no bound on the number of statements: an address index is only ever used to look a statement up, never as a
number (head of Lemmas/NoIntVal.lean) -/
theorem back_ne_internal {ss0 : List Stmt} (hpar : ∀ s ∈ ss0, Parsed s) : back ss0 ≠ .internal := by
  rw [back_chain]
  refine Outcome.Meets.ne_internal (Q := fun _ => True) (.bind (.of_ne (Outcome.ofOption_ne_internal _)) fun t h0 _ => ?_)
  refine .bind (.of_ne (Outcome.ofOption_ne_internal _)) fun ss1 h1 _ => ?_
  refine .bind (.of_ne (Outcome.ofOption_ne_internal _)) fun ss2 h2 _ => ?_
  obtain ⟨ht, hlen2, hall2⟩ :=
    translated_good hpar (Outcome.ofOption_eq_ok h0) (Outcome.ofOption_eq_ok h1) (Outcome.ofOption_eq_ok h2)
  refine .bind (pcrLoop_good (ss2.length + 1) ss2 hlen2 hall2) fun ss3 _ ⟨hlen3, hall3⟩ => ?_
  refine .bind (.of_ne (Outcome.guard_ne_internal _)) fun _ _ _ => ?_
  refine .bind (assignAddrs_good ss3 0 hall3) fun ss4 _ ⟨hlen4, hall4⟩ => ?_
  have hlen4' : ss4.length = ss0.length := hlen4.trans hlen3
  rw [finish_eq]
  refine .bind (fixAllL_good ht hlen4' hall4) fun ss5 _ hpw => ?_
  have hlen5 : ss5.length = ss0.length := hpw.length_eq.trans hlen4'
  have haddr5 := hpw.addr_good fun s hs => (hall4 s hs).addr
  refine .bind (P := SymTab.Good ss0.length) (evalSyms_good hlen5 haddr5 ht t ht) fun t1 _ ht1 => ?_
  exact .bind (.of_ne (finalSymTab_good hlen5 t1 ht1)) fun _ _ _ => .ok trivial

theorem finish_not_diverged (t : SymTab) (ss4 : List Stmt) : finish t ss4 ≠ .diverged := by
  rw [finish_eq]
  refine Outcome.bind_ne_diverged (fixAllL_not_diverged _ _) fun ss5 _ => ?_
  refine Outcome.bind_ne_diverged (evalSyms_not_diverged _ _ _) fun t1 _ => ?_
  exact Outcome.bind_ne_diverged (finalSymTab_not_diverged _ _) fun _ _ => nofun

theorem back_not_diverged (ss0 : List Stmt) : back ss0 ≠ .diverged := by
  rw [back_chain]
  refine Outcome.bind_ne_diverged (Outcome.ofOption_ne_diverged _) fun t _ => ?_
  refine Outcome.bind_ne_diverged (Outcome.ofOption_ne_diverged _) fun ss1 _ => ?_
  refine Outcome.bind_ne_diverged (Outcome.ofOption_ne_diverged _) fun ss2 _ => ?_
  refine Outcome.bind_ne_diverged (pcrLoop_not_diverged _) fun ss3 _ => ?_
  refine Outcome.bind_ne_diverged (Outcome.guard_ne_diverged _) fun _ _ => ?_
  exact Outcome.bind_ne_diverged (assignAddrs_not_diverged _ _) fun ss4 _ => finish_not_diverged t ss4

theorem assemble_not_diverged (fs : Files) (lines : List Str) : assemble fs lines ≠ .diverged := by
  have hparse : parseLines lines ≠ .diverged := by
    rcases parseLines_ok_or_diag lines with ⟨_, h⟩ | h <;> rw [h] <;> nofun
  rw [assemble_eq, front_eq]
  exact Outcome.bind_ne_diverged (Outcome.bind_ne_diverged hparse fun _ _ => expand_ne_diverged _ _ _ _)
    fun _ _ => back_not_diverged _

/-- a run that is not accepted is a diagnostic -/
theorem back_diag_of_not_ok {ss0 : List Stmt} (hpar : ∀ s ∈ ss0, Parsed s) (h : ∀ a, back ss0 ≠ .ok a) :
    back ss0 = .diag :=
  (Outcome.ok_or_diag (back_ne_internal hpar) (back_not_diverged ss0)).resolve_left fun ⟨a, ha⟩ => h a ha

end CoCo.Asm
