/-
C18-R2 (renaming): the stages after `translate` — the PCR size loop, the ORG check,
address assignment, `fix_addresses`, the evaluation of EQU expressions and the final symbol table — commute with the
renaming of statements `rnStmt` (they read sizes, statement indices and addresses, never a name). The evaluation of the
FCB / FDB lists (`evalLists`, inside `fixAllL`) reads element TEXTS; it commutes when the element texts of the renamed
operand text are faithful renamings of the element texts (`ElemRn`; for a list `ListRn`; for every list statement that
reaches the pass `ListsOK`).  `back_rn` puts the stages together:
`back (ss.map (renameStmt ρ)) = (back ss).map (rnAssembly ρ)`.
-/
import CoCoVerif.Lemmas.PcrLoopLockstep
import CoCoVerif.Lemmas.RenameTranslate
import CoCoVerif.Lemmas.StagesKeep

namespace CoCo.Asm.Rename
open CoCo
open CoCo.Gen (InstrRow)

variable {ρ : Ren}

@[simp] theorem rnStmt_row (s : Stmt) : (rnStmt ρ s).row = s.row := rfl
@[simp] theorem rnStmt_pkg (s : Stmt) : (rnStmt ρ s).pkg = rnPkg ρ s.pkg := rfl
@[simp] theorem rnStmt_fixedSize (s : Stmt) : (rnStmt ρ s).fixedSize = s.fixedSize := rfl
@[simp] theorem rnStmt_pcrHint (s : Stmt) : (rnStmt ρ s).pcrHint = s.pcrHint := rfl
@[simp] theorem rnStmt_operand (s : Stmt) : (rnStmt ρ s).operand = rnOperand ρ s.operand := rfl
@[simp] theorem rnStmt_label (s : Stmt) : (rnStmt ρ s).label = rnLabel ρ s.label := rfl
@[simp] theorem rnPkg_size (p : Pkg) : (rnPkg ρ p).size = p.size := rfl
@[simp] theorem rnPkg_maxSize (p : Pkg) : (rnPkg ρ p).maxSize = p.maxSize := rfl
@[simp] theorem rnPkg_choices (p : Pkg) : (rnPkg ρ p).choices = p.choices := rfl
@[simp] theorem rnPkg_needsRes (p : Pkg) : (rnPkg ρ p).needsRes = p.needsRes := rfl
@[simp] theorem rnPkg_postByte (p : Pkg) : (rnPkg ρ p).postByte = p.postByte := rfl
@[simp] theorem rnPkg_opCode (p : Pkg) : (rnPkg ρ p).opCode = p.opCode := rfl
@[simp] theorem rnPkg_additional (p : Pkg) : (rnPkg ρ p).additional = rnValue ρ p.additional := rfl
@[simp] theorem rnPkg_address (p : Pkg) : (rnPkg ρ p).address = rnValue ρ p.address := rfl

theorem relIndex_rn (v : Value) : relIndex (rnValue ρ v) = relIndex v := by
  cases v with
  | expr l r op m ae =>
    cases ae
    · rfl
    · simp only [relIndex, rnValue, rnValue_isAddress, rnValue_int?]
  | _ => rfl

theorem exprForces_rn (v : Value) : exprForces (rnValue ρ v) = exprForces v := by
  cases v with
  | expr l r op m ae =>
    cases ae
    · rfl
    · simp only [exprForces, rnValue, rnValue_isAddress]
      by_cases h : l.isAddress = true <;> simp [h]
  | _ => rfl

theorem exprExtra_rn (v : Value) : exprExtra (rnValue ρ v) = exprExtra v := by
  cases v with
  | expr l r op m ae =>
    cases ae
    · rfl
    · simp only [exprExtra, rnValue, rnValue_isAddress, rnValue_int?]
  | _ => rfl

/-- the size loop reads nothing that renaming changes -/
theorem rnStmt_view {s s' : Stmt} (h : s' = rnStmt ρ s) : PcrView s s' :=
  h ▸ ⟨rfl, rfl, rfl, rfl, rfl, exprForces_rn _, relIndex_rn _, exprExtra_rn _⟩

theorem pcrLoop_rn (fuel : Nat) (ss : List Stmt) :
    pcrLoop fuel (ss.map (rnStmt ρ)) = (pcrLoop fuel ss).map (List.map (rnStmt ρ)) := by
  have h := pcrLoop_lockstep (R := fun s s' => s' = rnStmt ρ s) rnStmt_view (fun _ _ _ h => h ▸ rfl) fuel ss _
    (PW.graph_iff.mpr rfl)
  exact OutRel.graph_iff.mp (h.mono fun _ _ => PW.graph_iff.mp)

theorem orgOK_rn (ss : List Stmt) (b : Bool) (hl : ∀ s ∈ ss, s.label ≠ [] → ρ.sym s.label ≠ []) :
    orgOK (ss.map (rnStmt ρ)) b = orgOK ss b := by
  refine orgOK_lockstep ss _ b ⟨List.length_map _, ?_⟩
  intro j s s' hs hs'
  rw [List.getElem?_map, hs] at hs'
  cases hs'
  exact ⟨rfl, rfl, rnLabel_isEmpty (hl s (List.mem_of_getElem? hs))⟩

theorem placeOne_rn (s : Stmt) (a : Nat) :
    placeOne (rnStmt ρ s) a = (placeOne s a).map fun p => (rnStmt ρ p.1, p.2) := by
  unfold placeOne
  rw [rnStmt_pkg, rnPkg_address, rnValue_isNone, rnPkg_size, rnValue_int?]
  refine ite_app_congr ?_ ?_
  · cases hv : numV a with
    | error e => rfl
    | ok v => simp only [Outcome.map_ok, rnStmt, rnPkg, numV_ok_rn hv]
  · cases s.pkg.address.int? <;> rfl

theorem assignAddrs_rn : ∀ (ss : List Stmt) (a : Nat),
    assignAddrs (ss.map (rnStmt ρ)) a = (assignAddrs ss a).map (List.map (rnStmt ρ))
  | [], _ => rfl
  | s :: rest, a => by
    rw [List.map_cons, assignAddrs_cons_eq, assignAddrs_cons_eq]
    refine Outcome.bind_map (placeOne_rn s a) fun p _ => ?_
    rw [assignAddrs_rn rest p.2, Outcome.map_map, Outcome.map_map]
    rfl

theorem addrOf_rn (ss : List Stmt) (j : Nat) :
    addrOf (ss.map (rnStmt ρ)) j = (addrOf ss j).map (rnValue ρ) := by
  rw [addrOf_eq, addrOf_eq, List.getElem?_map, Option.map_map, Option.map_map]
  rfl

theorem addrIntOf_rn (ss : List Stmt) (j : Nat) : addrIntOf (ss.map (rnStmt ρ)) j = addrIntOf ss j :=
  addrIntOf_congr ((PW.graph_iff.2 rfl).mono fun s _ e => by rw [e]; exact rnValue_int? s.pkg.address) j

theorem addrOperand_rn (ss : List Stmt) (x : Value) :
    addrOperand (ss.map (rnStmt ρ)) (rnValue ρ x) = addrOperand ss x := by
  unfold addrOperand
  simp only [rnValue_isAddress, rnValue_int?, rnValue_isNumeric, rnValue_isNegative, addrIntOf_rn]

theorem addrOffset_rn (ss : List Stmt) (v : Value) :
    addrOffset (ss.map (rnStmt ρ)) (rnValue ρ v) = addrOffset ss v := by
  cases v with
  | expr l r op m ae =>
    simp only [rnValue]
    rw [addrOffset_expr, addrOffset_expr, addrOperand_rn, addrOperand_rn]
  | _ => rfl

theorem addrOffset_ok_rn {ss : List Stmt} {v x : Value} (h : addrOffset ss v = .ok x) : rnValue ρ x = x :=
  rnValue_of_numeric (addrOffset_isNumeric h)

theorem sumSize_rn (ss : List Stmt) (lo hi : Nat) : sumSize (ss.map (rnStmt ρ)) lo hi = sumSize ss lo hi := by
  unfold sumSize
  rw [sumSizes_lockstep (R := fun s s' => s' = rnStmt ρ s) rnStmt_view (PW.graph_iff.mpr rfl)]

theorem rnStmt_withAdditional (s : Stmt) (v : Value) :
    rnStmt ρ { s with pkg := { s.pkg with additional := v } }
      = { rnStmt ρ s with pkg := { (rnStmt ρ s).pkg with additional := rnValue ρ v } } := rfl

theorem write_rn (s : Stmt) {x x' : Outcome Value} (h : x' = x.map (rnValue ρ)) :
    x'.map (withAdditional (rnStmt ρ s)) = (x.map (withAdditional s)).map (rnStmt ρ) := by
  rw [h, Outcome.map_map, Outcome.map_map]
  exact Outcome.map_congr fun v _ => (rnStmt_withAdditional s v).symm

/-- the form in which `fixBranch`, `fixPartAbs` and `fixPart3` store a new operand number -/
theorem writeNum_rn (s : Stmt) (z : Int) (h : Option Nat) (m : Mode) :
    (Outcome.ofRI (numericOfInt z h m)).map (withAdditional (rnStmt ρ s))
      = ((Outcome.ofRI (numericOfInt z h m)).map (withAdditional s)).map (rnStmt ρ) :=
  write_rn s (Outcome.map_eq_self fun _ hv => numericOfInt_ok_rn (Outcome.ofRI_eq_ok hv)).symm

theorem fixBranch_rn (ss : List Stmt) (i : Nat) (s : Stmt) :
    fixBranch (ss.map (rnStmt ρ)) i (rnStmt ρ s) = (fixBranch ss i s).map (rnStmt ρ) := by
  rw [fixBranch_eq, fixBranch_eq, Outcome.map_bind]
  simp only [rnStmt_pkg, rnPkg_additional, rnValue_int?, rnStmt_row, sumSize_rn]
  exact Outcome.bind_congr fun b _ =>
    ite_app_congr (ite_app_congr rfl (writeNum_rn s _ _ _)) (ite_app_congr rfl (writeNum_rn s _ _ _))

theorem fixPart1_rn (ss : List Stmt) (s : Stmt) (ov : Value) :
    fixPart1 (ss.map (rnStmt ρ)) (rnStmt ρ s) (rnValue ρ ov) = (fixPart1 ss s ov).map (rnStmt ρ) := by
  rw [fixPart1_eq, fixPart1_eq, rnValue_isAddrExpr, addrOffset_rn]
  exact ite_app_congr (write_rn s (Outcome.map_eq_self fun _ => addrOffset_ok_rn).symm) rfl

theorem fixPart2_rn (ss : List Stmt) (ov : Value) (s1 : Stmt) :
    fixPart2 (ss.map (rnStmt ρ)) (rnValue ρ ov) (rnStmt ρ s1) = (fixPart2 ss ov s1).map (rnStmt ρ) := by
  rw [fixPart2_eq, fixPart2_eq, rnValue_isAddress, rnValue_int?]
  refine ite_app_congr (write_rn s1 ?_) rfl
  rw [Outcome.map_bind]
  exact Outcome.bind_congr fun t _ => by rw [addrOf_rn, Outcome.ofOptionI_map]

theorem fixRelTarget_rn (ss : List Stmt) (s2 : Stmt) :
    fixRelTarget (ss.map (rnStmt ρ)) (rnStmt ρ s2) = fixRelTarget ss s2 := by
  rw [fixRelTarget_bind, fixRelTarget_bind]
  simp only [rnStmt_pkg, rnPkg_additional, rnValue_isAddrExpr, rnValue_int?, addrOffset_rn, addrIntOf_rn]
  rfl

theorem fixPart3_rn (ss : List Stmt) (i : Nat) (s2 : Stmt) :
    fixPart3 (ss.map (rnStmt ρ)) i (rnStmt ρ s2) = (fixPart3 ss i s2).map (rnStmt ρ) := by
  rw [fixPart3_eq, fixPart3_eq, fixRelTarget_rn, addrIntOf_rn]
  refine ite_app_congr ?_ rfl
  rw [Outcome.map_bind]
  refine Outcome.bind_congr fun r _ => ite_app_congr (writeNum_rn s2 _ _ _) ?_
  rw [Outcome.map_bind]
  exact Outcome.bind_congr fun start _ => ite_app_congr rfl (writeNum_rn s2 _ _ _)

theorem fixNonRel_rn (ss : List Stmt) (i : Nat) (s : Stmt) (ov : Value) :
    fixNonRel (ss.map (rnStmt ρ)) i (rnStmt ρ s) (rnValue ρ ov) = (fixNonRel ss i s ov).map (rnStmt ρ) := by
  rw [fixNonRel_bind, fixNonRel_bind]
  exact Outcome.bind_map (fixPart1_rn ss s ov) fun s1 _ =>
    Outcome.bind_map (fixPart2_rn ss ov s1) fun s2 _ => fixPart3_rn ss i s2

theorem fixOne_rn (ss : List Stmt) (i : Nat) (s : Stmt) :
    fixOne (ss.map (rnStmt ρ)) i (rnStmt ρ s) = (fixOne ss i s).map (rnStmt ρ) := by
  rw [fixOne_eq, fixOne_eq]
  dsimp +instances only [rnStmt_operand, rnOperand_kind, rnOperand_value]
  split
  · exact fixBranch_rn ss i s
  · generalize hv : s.operand.value = ov
    cases ov with
    | pyNone => rfl
    | _ => exact fixNonRel_rn ss i s _

theorem fitWidth_rn (s : Stmt) : fitWidth (rnStmt ρ s) = (fitWidth s).map (rnStmt ρ) := by
  rw [fitWidth_eq, fitWidth_eq]
  -- renaming keeps numbers, hex lengths and the size
  refine (congrArg _ (fitPkg_map s.row s.pkg (rnPkg ρ) (rnValue_isNumeric s.pkg.additional).trans
    (congrArg (rnValue ρ)) rfl rfl rfl fun _ _ _ _ => rfl)).trans ?_
  rw [Outcome.map_map, Outcome.map_map]
  rfl

theorem fixFit_rn (ss : List Stmt) (i : Nat) (s : Stmt) :
    fixFit (ss.map (rnStmt ρ)) i (rnStmt ρ s) = (fixFit ss i s).map (rnStmt ρ) := by
  rw [fixFit_eq, fixFit_eq]
  exact Outcome.bind_map (fixOne_rn ss i s) fun s1 _ => fitWidth_rn s1

theorem fixAll_rn (ss : List Stmt) : ∀ (l : List Stmt) (i : Nat),
    fixAll (ss.map (rnStmt ρ)) i (l.map (rnStmt ρ)) = (fixAll ss i l).map (List.map (rnStmt ρ)) := by
  intro l i
  rw [fixAll_eq_traverse, fixAll_eq_traverse]
  exact Outcome.traverse_map _ _ fun j s _ => fixFit_rn ss (i + j) s

/-! `evalLists` reads, for a statement whose operand field is a byte / word list, the element TEXTS of the operand text
that are symbols or expressions (`pendingAt`) and evaluates them against the label table. The renaming `rnStmt` maps the
operand text by `ρ.txt`; the pass commutes with it when the elements of the renamed text are, one by one, faithful
renamings of the elements of the text (`ElemRn`). -/

def isList (v : Value) : Bool := v.isMultiByte || v.isMultiWord

theorem pendingAny_false {x : Str} (h : pendingAny x = false) {w : Nat} (hw : w = 2 ∨ w = 4) : pendingAt w x = false := by
  unfold pendingAny at h
  simp only [Bool.or_eq_false_iff] at h
  rcases hw with rfl | rfl
  · exact h.1
  · exact h.2

theorem litElems_any {txt : Str} (h : litElems txt = true) : ∀ x ∈ listElems txt, pendingAny x = false := by
  intro x hx
  have := List.all_eq_true.mp h x hx
  rw [← Bool.not_or, Bool.not_eq_true'] at this
  exact this

theorem litElems_at {txt : Str} (h : litElems txt = true) {w : Nat} (hw : w = 2 ∨ w = 4) :
    ∀ x ∈ listElems txt, pendingAt w x = false :=
  fun x hx => pendingAny_false (litElems_any h x hx) hw

/-- `x'` is a faithful renaming of the list element text `x` at the width `w`: it is evaluated by the list pass iff `x`
is, and then `create` of `x'` is the renamed `create` of `x` and the symbols of `x` are in `N` -/
def ElemRn (ρ : Ren) (N : List Str) (w : Nat) (x x' : Str) : Prop :=
  pendingAt w x' = pendingAt w x ∧
  (pendingAt w x = true →
    create 4 x' false false true = (create 4 x false false true).map (rnValue ρ) ∧
    ∀ v, create 4 x false false true = .ok v → ∀ y ∈ valSyms v, y ∈ N)

theorem elemRn_refl (N : List Str) {w : Nat} {x : Str} (h : pendingAt w x = false) : ElemRn ρ N w x x :=
  ⟨rfl, fun h' => by rw [h] at h'; cases h'⟩

theorem elemNum_rn (ss : List Stmt) (r : Value) :
    elemNum (ss.map (rnStmt ρ)) (rnValue ρ r) = (elemNum ss r).map (rnValue ρ) := by
  rw [elemNum_eq, elemNum_eq, rnValue_isAddress, rnValue_int?, rnValue_isAddrExpr, addrOffset_rn]
  refine ite_app_congr ?_ (ite_app_congr (Outcome.map_eq_self fun _ => addrOffset_ok_rn).symm rfl)
  rw [Outcome.map_bind]
  exact Outcome.bind_congr fun j _ => by rw [addrOf_rn, Outcome.ofOptionI_map]

theorem elemRender_rn (w : Nat) (o : Outcome Value) : elemRender w (o.map (rnValue ρ)) = elemRender w o := by
  cases o with
  | ok v => cases v <;> rfl
  | _ => rfl

theorem evalElem_rn (N : List Str) (hinj : InjOn ρ.sym N) (t : SymTab) (ht : TabIn N t) (ss : List Stmt) (w : Nat)
    {x x' : Str} (hc : create 4 x' false false true = (create 4 x false false true).map (rnValue ρ))
    (hN : ∀ v, create 4 x false false true = .ok v → ∀ y ∈ valSyms v, y ∈ N) :
    evalElem (ss.map (rnStmt ρ)) (rnTab ρ t) w x' = evalElem ss t w x := by
  rw [evalElem_bind, evalElem_bind, hc, Outcome.ofR_map, Outcome.bind_map_left]
  refine Outcome.bind_congr fun v hv => ?_
  rw [resolve_rn N hinj t ht v (hN v (Outcome.ofR_eq_ok hv)), Outcome.ofR_map, Outcome.bind_map_left]
  exact Outcome.bind_congr fun r _ => by rw [elemNum_rn, elemRender_rn]

theorem evalElem1_rn (N : List Str) (hinj : InjOn ρ.sym N) (t : SymTab) (ht : TabIn N t) (ss : List Stmt) (w : Nat)
    {x x' : Str} (h : ElemRn ρ N w x x') (d : Str) :
    evalElem1 (ss.map (rnStmt ρ)) (rnTab ρ t) w x' d = evalElem1 ss t w x d := by
  unfold evalElem1
  rw [h.1]
  split
  · rename_i hp
    exact evalElem_rn N hinj t ht ss w (h.2 hp).1 (h.2 hp).2
  · rfl

inductive All2 {α β : Type} (R : α → β → Prop) : List α → List β → Prop
  | nil : All2 R [] []
  | cons {a : α} {b : β} {l : List α} {l' : List β} : R a b → All2 R l l' → All2 R (a :: l) (b :: l')

theorem All2.imp {α β : Type} {R S : α → β → Prop} (h : ∀ a b, R a b → S a b) : ∀ {l : List α} {l' : List β},
    All2 R l l' → All2 S l l'
  | _, _, .nil => .nil
  | _, _, .cons hab ht => .cons (h _ _ hab) (All2.imp h ht)

theorem evalElems_rn (N : List Str) (hinj : InjOn ρ.sym N) (t : SymTab) (ht : TabIn N t) (ss : List Stmt) (w : Nat) :
    ∀ (xs xs' hs : List Str), All2 (ElemRn ρ N w) xs xs' →
      evalElems (ss.map (rnStmt ρ)) (rnTab ρ t) w xs' hs = evalElems ss t w xs hs := by
  intro xs xs' hs hf
  induction hf generalizing hs with
  | nil => rw [evalElems_nil_left, evalElems_nil_left]
  | cons hx _ ih =>
    cases hs with
    | nil => rw [evalElems_nil_right, evalElems_nil_right]
    | cons d ds => rw [evalElems_cons, evalElems_cons, evalElem1_rn N hinj t ht ss w hx d, ih ds]

def ListRn (ρ : Ren) (N : List Str) (txt : Str) : Prop :=
  All2 (fun x x' => ElemRn ρ N 2 x x' ∧ ElemRn ρ N 4 x x') (listElems txt) (listElems (ρ.txt txt))

theorem forall2_map_right {α β : Type} {R : α → β → Prop} (f : α → β) : ∀ (l : List α), (∀ x ∈ l, R x (f x)) →
    All2 R l (l.map f)
  | [], _ => .nil
  | a :: l, h => .cons (h a (by simp)) (forall2_map_right f l (fun x hx => h x (by simp [hx])))

theorem listRn_lit (N : List Str) {txt : Str} (h1 : litElems txt = true) (h2 : ρ.txt txt = txt) : ListRn ρ N txt := by
  unfold ListRn
  rw [h2]
  simpa using forall2_map_right id _ (fun x hx => ⟨elemRn_refl N (litElems_at h1 (.inl rfl) x hx),
    elemRn_refl N (litElems_at h1 (.inr rfl) x hx)⟩)

theorem evalList1_rn (N : List Str) (hinj : InjOn ρ.sym N) (t : SymTab) (ht : TabIn N t) (ss : List Stmt) (s : Stmt)
    (h : isList s.pkg.additional = true → ListRn ρ N s.operand.text) :
    evalList1 (rnTab ρ t) (ss.map (rnStmt ρ)) (rnStmt ρ s) = (evalList1 t ss s).map (rnStmt ρ) := by
  unfold evalList1
  have e : (rnStmt ρ s).pkg.additional = rnValue ρ s.pkg.additional := rfl
  have e2 : (rnStmt ρ s).operand.text = ρ.txt s.operand.text := rfl
  rw [e, e2]
  cases ha : s.pkg.additional with
  | multiByte hs =>
    have h1 := h (by rw [ha]; rfl)
    simp only [rnValue]
    rw [evalElems_rn N hinj t ht ss 2 _ _ hs (All2.imp (fun _ _ h => h.1) h1)]
    cases evalElems ss t 2 (listElems s.operand.text) hs <;> rfl
  | multiWord hs =>
    have h1 := h (by rw [ha]; rfl)
    simp only [rnValue]
    rw [evalElems_rn N hinj t ht ss 4 _ _ hs (All2.imp (fun _ _ h => h.2) h1)]
    cases evalElems ss t 4 (listElems s.operand.text) hs <;> rfl
  | _ => first | rfl | (simp only [rnValue]; rfl)

theorem evalLists_rn (N : List Str) (hinj : InjOn ρ.sym N) (t : SymTab) (ht : TabIn N t) (ss : List Stmt) :
    ∀ (l : List Stmt), (∀ s ∈ l, isList s.pkg.additional = true → ListRn ρ N s.operand.text) →
    evalLists (rnTab ρ t) (ss.map (rnStmt ρ)) (l.map (rnStmt ρ)) = (evalLists t ss l).map (List.map (rnStmt ρ)) := by
  intro l hl
  rw [evalLists_eq_traverse _ _ 0, evalLists_eq_traverse _ _ 0]
  exact Outcome.traverse_map _ _ fun _ s hs => evalList1_rn N hinj t ht ss s (hl s (List.mem_of_getElem? hs))

theorem fixAllL_rn (N : List Str) (hinj : InjOn ρ.sym N) (t : SymTab) (ht : TabIn N t) (ss4 : List Stmt)
    (h : ∀ x, fixAll ss4 0 ss4 = .ok x → ∀ s ∈ x, isList s.pkg.additional = true → ListRn ρ N s.operand.text) :
    fixAllL (rnTab ρ t) (ss4.map (rnStmt ρ)) = (fixAllL t ss4).map (List.map (rnStmt ρ)) := by
  rw [fixAllL_eq, fixAllL_eq]
  exact Outcome.bind_map (fixAll_rn ss4 ss4 0) fun x hf => evalLists_rn N hinj t ht x x (h x hf)

/-- the side condition of C18-R2 about FCB / FDB lists: for a statement that reaches the list pass
with a byte / word list as its operand field, the elements of the renamed operand text are faithful renamings
(`ListRn`, `ElemRn`) of the elements of its operand text, with their symbols in `N`. -/
def ListsOK (ρ : Ren) (N : List Str) (ss : List Stmt) : Prop :=
  ∀ x, preLists ss = some x → ∀ s ∈ x, isList s.pkg.additional = true → ListRn ρ N s.operand.text

theorem listsOK_of_lit (N : List Str) {ss : List Stmt}
    (h : ∀ x, preLists ss = some x → ∀ s ∈ x, isList s.pkg.additional = true →
      litElems s.operand.text = true ∧ ρ.txt s.operand.text = s.operand.text) : ListsOK ρ N ss :=
  fun x hx s hs hl => listRn_lit N (h x hx s hs hl).1 (h x hx s hs hl).2

theorem evalSym_rn (N : List Str) (hinj : InjOn ρ.sym N) (t : SymTab) (ht : TabIn N t) (ss : List Stmt) (v : Value)
    (hv : ∀ x ∈ valSyms v, x ∈ N) :
    evalSym (ss.map (rnStmt ρ)) (rnTab ρ t) (rnValue ρ v) = (evalSym ss t v).map (rnValue ρ) := by
  rw [evalSym_eq, evalSym_eq, rnValue_isExpression, rnValue_isAddrExpr, resolve_rn N hinj t ht v hv, Outcome.ofR_map]
  refine ite_app_congr (Outcome.bind_map rfl fun r _ => ?_) rfl
  rw [rnValue_isAddrExpr, addrOffset_rn, Outcome.map_map]
  by_cases hae : r.isAddrExpr = true
  · rw [if_pos hae, if_pos hae]
    exact Outcome.map_congr fun r' ho => by
      have hn := addrOffset_isNumeric ho
      rw [if_pos hn, if_pos hn, rnValue_of_numeric hn]
  · rw [if_neg hae, if_neg hae]
    simp only [Outcome.map_ok, rnValue_isNumeric]
    split <;> rfl

theorem evalSyms_rn (N : List Str) (hinj : InjOn ρ.sym N) (t : SymTab) (ht : TabIn N t) (ss : List Stmt) :
    ∀ (x : SymTab), (∀ kv ∈ x, ∀ y ∈ valSyms kv.2, y ∈ N) →
    evalSyms (ss.map (rnStmt ρ)) (rnTab ρ t) (rnTab ρ x) = (evalSyms ss t x).map (rnTab ρ) := by
  intro x hx
  rw [evalSyms_eq_traverse _ _ 0, evalSyms_eq_traverse _ _ 0]
  refine Outcome.traverse_map _ _ fun _ kv hkv => ?_
  dsimp only
  rw [evalSym_rn N hinj t ht ss kv.2 (hx kv (List.mem_of_getElem? hkv)), Outcome.map_map, Outcome.map_map]

theorem finalVal_rn (ss : List Stmt) (v : Value) :
    finalVal (ss.map (rnStmt ρ)) (rnValue ρ v) = (finalVal ss v).map (rnValue ρ) := by
  cases v with
  | address i m => exact addrOf_rn ss i
  | _ => rfl

theorem finalSymTab_rn (ss : List Stmt) (x : SymTab) :
    finalSymTab (ss.map (rnStmt ρ)) (rnTab ρ x) = (finalSymTab ss x).map (rnTab ρ) := by
  rw [finalSymTab_eq_traverse _ 0, finalSymTab_eq_traverse _ 0]
  refine Outcome.traverse_map _ _ fun _ kv _ => ?_
  rw [finalSym1_eq, finalSym1_eq, finalVal_rn, Outcome.ofOptionI_map, Outcome.map_map, Outcome.map_map]

def rnAssembly (ρ : Ren) (a : Assembly) : Assembly :=
  { stmts := a.stmts.map (rnStmt ρ), symtab := rnTab ρ a.symtab, origin := rnValue ρ a.origin,
    name := a.name.map ρ.txt }

/-- the origin and the name of an assembly are read off the last ORG / NAM statement: such a fold commutes with the
renaming when what is read off is renamed by `g` -/
theorem foldl_last_rn {β : Type} (g : β → β) (p : Stmt → Bool) (v : Stmt → β) (hp : ∀ s, p (rnStmt ρ s) = p s)
    (hv : ∀ s, v (rnStmt ρ s) = g (v s)) (l : List Stmt) (o : β) :
    (l.map (rnStmt ρ)).foldl (fun o s => if p s then v s else o) (g o)
      = g (l.foldl (fun o s => if p s then v s else o) o) :=
  PW.foldl_last (Ro := fun a b => b = g a) p p v v
    ((PW.graph_iff.2 rfl).mono fun s _ e => by rw [e]; exact ⟨hp s, hv s⟩) rfl

theorem back_rn (ss : List Stmt) (N : List Str) (hinj : InjOn ρ.sym N)
    (hN : ∀ s ∈ ss, ∀ x ∈ stmtNames s, x ∈ N) (hok : ∀ s ∈ ss, StmtOK ρ s) (hlists : ListsOK ρ N ss) :
    back (ss.map (renameStmt ρ)) = (back ss).map (rnAssembly ρ) := by
  have hb := buildSymTab_rn (R := ρ) N hinj ss 0 []
    (fun s hs hl => ⟨hN s hs _ (by simp [stmtNames, hl]), (hok s hs).label hl⟩) (by intro kv hkv; cases hkv)
  rw [back_chain, back_chain]
  refine Outcome.bind_map (g := rnTab ρ) (by rw [← Outcome.ofOption_map, ← hb]; rfl) fun t hbt => ?_
  have hbt := Outcome.ofOption_eq_ok hbt
  have ht : TabIn N t := buildSymTab_tabIn N ss 0 [] t hN (by intro kv hkv; cases hkv) hbt
  refine Outcome.bind_map (g := List.map (renameStmt ρ))
    (by rw [← Outcome.ofOption_map, resolveAll_rn N hinj t ht ss hN (fun s hs => (hok s hs).side)]) fun ss1 hr => ?_
  have hr := Outcome.ofOption_eq_ok hr
  refine Outcome.bind_map (g := List.map (rnStmt ρ))
    (by rw [← Outcome.ofOption_map, translateAll_rn ss1 (resolveAll_stmtOK hr hok)]) fun ss2 htr => ?_
  have htr := Outcome.ofOption_eq_ok htr
  refine Outcome.bind_map (g := List.map (rnStmt ρ)) (by rw [List.length_map, pcrLoop_rn]) fun ss3 hp => ?_
  have hlab : ∀ s ∈ ss3, s.label ≠ [] → ρ.sym s.label ≠ [] := by
    intro s3 hs3
    obtain ⟨s0, hs0, e, _⟩ := (keepRel_sized hr htr hp).mem' hs3
    rw [e]; exact (hok s0 hs0).label
  refine Outcome.bind_map (g := id) (by rw [orgOK_rn ss3 false hlab]; exact (Outcome.map_id' _).symm) fun _ _ => ?_
  refine Outcome.bind_map (g := List.map (rnStmt ρ)) (assignAddrs_rn ss3 0) fun ss4 ha => ?_
  rw [finish_eq, finish_eq]
  refine Outcome.bind_map (g := List.map (rnStmt ρ)) (fixAllL_rn N hinj t ht ss4 fun x hx => hlists x (by
    unfold preLists; simp only [hbt, hr, htr, hp, ha, hx])) fun ss5 _ => ?_
  refine Outcome.bind_map (g := rnTab ρ) (evalSyms_rn N hinj t ht ss5 t fun kv hkv => (ht kv hkv).2) fun t1 _ => ?_
  refine Outcome.bind_map (g := rnTab ρ) (finalSymTab_rn ss5 t1) fun t' _ => ?_
  have e1 := foldl_last_rn (ρ := ρ) (rnValue ρ) (fun s => s.row.isOrigin) (fun s => s.pkg.address)
    (fun _ => rfl) (fun _ => rfl) ss5 Value.none
  have e2 := foldl_last_rn (ρ := ρ) (Option.map ρ.txt) (fun s => s.row.isName)
    (fun s => some s.operand.text) (fun _ => rfl) (fun _ => rfl) ss5 none
  simp only [Outcome.map_ok, rnAssembly]
  rw [← e1, ← e2]
  rfl

end CoCo.Asm.Rename
