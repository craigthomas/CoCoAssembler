/-
Lemmas/VFDsk.lean — disk side of the VirtualFile proofs: what the sniffer says about a written disk image, and that
the tool's granule fill order offers every granule.
-/
import CoCoVerif.Model.VirtualFile
import CoCoVerif.Lemmas.DiskHolds

namespace CoCo.Props
open CoCo CoCo.VF

theorem sniff_written_disk {order : List Nat} {fs : List CFile} {img : Bytes} (ho : ValidOrder order)
    (hv : ∀ f ∈ fs, ValidDFile f) (hw : Dsk.write order fs = .ok img) :
    sniff img = .ok (fs.map Dsk.norm, .disk) := by
  unfold sniff
  rw [(Dsk.Holds.write ho hv hw).list]

end CoCo.Props

namespace CoCo.VF
open CoCo CoCo.Props

theorem validOrder_default : ValidOrder Gen.granuleFillOrder := by
  unfold ValidOrder Gen.granuleFillOrder
  decide +kernel

theorem completeOrder_default : CompleteOrder Gen.granuleFillOrder := by
  refine ⟨validOrder_default, ?_⟩
  unfold Gen.granuleFillOrder
  decide +kernel

theorem _root_.CoCo.Props.openVF_written (fs : FS) (p : Path) (done : List CFile) (img : Bytes)
    (hg : fs.get? p = some img) (hwd : Dsk.write Gen.granuleFillOrder done = .ok img)
    (hv : ∀ f ∈ done, ValidDFile f) :
    openVF fs p (some .disk) = .ok { path := p, kind := some .disk, files := done.map Dsk.norm, exists_ := true } := by
  unfold openVF
  simp only [hg, sniff_written_disk validOrder_default hv hwd]
  simp

end CoCo.VF
