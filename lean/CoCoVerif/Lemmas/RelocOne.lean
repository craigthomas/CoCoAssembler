/-
Lemmas/RelocOne.lean — relocation (C18-R1): `fixOne` by the shape of the statement, the frame lemmas (`fixOne` and
`fitWidth` never read the statement's own `pkg.address`), and `fitWidth` on a 16-bit operand field.
-/
import CoCoVerif.Lemmas.RelocFix

namespace CoCo.Asm
open CoCo

section classes
variable {D : Nat} {as as' : List Stmt}

/-- relative branches: the displacement is computed from sizes only — IDENTICAL outcome -/
theorem fixOne_reloc_relative (h : PW (AddrShiftI D) as as') (i : Nat) (s : Stmt)
    (hk : s.operand.kind = .relative) : fixOne as' i s = fixOne as i s := by
  rw [fixOne_relative hk, fixOne_relative hk, fixBranch_reloc h]

/-- no label, no PCR: IDENTICAL outcome (for any two statement lists) -/
theorem fixOne_reloc_inert (ss ss' : List Stmt) (i : Nat) (s : Stmt) (hk : (s.operand.kind == .relative) = false)
    (hE : s.operand.value.isAddrExpr = false) (hA : s.operand.value.isAddress = false)
    (hn : s.pkg.needsRes = false) : fixOne ss' i s = fixOne ss i s := by
  by_cases hv : s.operand.value = .pyNone
  · rw [fixOne_pyNone _ _ _ hk hv, fixOne_pyNone _ _ _ hk hv]
  · rw [fixOne_inert _ _ _ hk hv hE hA hn, fixOne_inert _ _ _ hk hv hE hA hn]

/-- no label in the operand value: the two outcomes agree when part 3 does -/
theorem fixOne_of_part3 (i : Nat) (s : Stmt) (hk : (s.operand.kind == .relative) = false)
    (hE : s.operand.value.isAddrExpr = false) (hA : s.operand.value.isAddress = false)
    (h3 : fixPart3 as' i s = fixPart3 as i s) : fixOne as' i s = fixOne as i s := by
  by_cases hv : s.operand.value = .pyNone
  · rw [fixOne_pyNone _ _ _ hk hv, fixOne_pyNone _ _ _ hk hv]
  · rw [fixOne_nonrel_eq _ _ _ hk hv, fixOne_nonrel_eq _ _ _ hk hv, fixNonRel_plain _ _ _ hE hA,
      fixNonRel_plain _ _ _ hE hA, h3]

/-- PCR operands (`needsRes` with post byte choices): whenever the target moves by `D`, the stored displacement is
IDENTICAL -/
theorem fixOne_reloc_pcr (h : PW (AddrShiftI D) as as') (i : Nat) (s : Stmt)
    (hk : (s.operand.kind == .relative) = false)
    (hE : s.operand.value.isAddrExpr = false) (hA : s.operand.value.isAddress = false)
    (hc : s.pkg.choices.isEmpty = false)
    (ht : fixRelTarget as' s = (fixRelTarget as s).map (· + D)) : fixOne as' i s = fixOne as i s :=
  fixOne_of_part3 i s hk hE hA (fixPart3_reloc_of_target h i s hc ht)

/-- target moved modulo `$10000`: the stored displacement is still IDENTICAL -/
theorem fixOne_reloc_pcr_mod (h : PW (AddrShiftI D) as as') (i : Nat) (s : Stmt)
    (hk : (s.operand.kind == .relative) = false)
    (hE : s.operand.value.isAddrExpr = false) (hA : s.operand.value.isAddress = false)
    (hc : s.pkg.choices.isEmpty = false)
    (ht : fixRelTarget as' s = (fixRelTarget as s).map (fun x => (x + D) % 65536)) :
    fixOne as' i s = fixOne as i s :=
  fixOne_of_part3 i s hk hE hA (fixPart3_reloc_of_target_mod h i s hc ht)

/-- `label,PCR` -/
theorem fixOne_reloc_pcr_plain (h : PW (AddrShiftI D) as as') (i : Nat) (s : Stmt)
    (hk : (s.operand.kind == .relative) = false)
    (hE : s.operand.value.isAddrExpr = false) (hA : s.operand.value.isAddress = false)
    (hc : s.pkg.choices.isEmpty = false)
    (hp : s.isIdx = false ∨ s.pkg.additional.isAddrExpr = false) : fixOne as' i s = fixOne as i s :=
  fixOne_reloc_pcr h i s hk hE hA hc (fixRelTarget_reloc_plain h s hp)

/-- `label+k,PCR` / `label-k,PCR` -/
theorem fixOne_reloc_pcr_num (h : PW (AddrShiftI D) as as') (i : Nat) (s : Stmt)
    (hk : (s.operand.kind == .relative) = false)
    (hE : s.operand.value.isAddrExpr = false) (hA : s.operand.value.isAddress = false)
    (hc : s.pkg.choices.isEmpty = false)
    {l r : Value} {op : Char} {m : Mode} {k : Nat} {hh : Option Nat} {mm : Mode} {nn : Bool}
    (hidx : s.isIdx = true) (he : s.pkg.additional = .expr l r op m true)
    (hother : (if l.isAddress then r else l) = .numeric k hh mm nn) (hop : op = '+' ∨ op = '-')
    (hside : LabelSide l r op)
    (hb : ∀ v, addrOffset as (.expr l r op m true) = .ok v →
      ∃ z, v = .numeric z (some 4) .extended false ∧ z + D ≤ 65535) : fixOne as' i s = fixOne as i s :=
  fixOne_reloc_pcr h i s hk hE hA hc (fixRelTarget_reloc_num h s hidx he hother hop hside hb)

theorem fixOne_reloc_abs (i : Nat) (s : Stmt)
    (hk : (s.operand.kind == .relative) = false)
    (hE : s.operand.value.isAddrExpr = false) (hA : s.operand.value.isAddress = false)
    (hn : s.pkg.needsRes = true) (hc : s.pkg.choices.isEmpty = true)
    (ht : fixRelTarget as' s = (fixRelTarget as s).map (· + D))
    (hb : ∀ r, fixRelTarget as s = .ok r → r + D ≤ 65535) :
    fixOne as' i s = (fixOne as i s).map (Stmt.shiftAdditional D) := by
  by_cases hv : s.operand.value = .pyNone
  · rw [fixOne_pyNone _ _ _ hk hv, fixOne_pyNone _ _ _ hk hv]; rfl
  · rw [fixOne_abs_eq _ _ _ hk hv hE hA hn hc, fixOne_abs_eq _ _ _ hk hv hE hA hn hc,
      fixPartAbs_reloc_of_target s ht hb]

theorem fixOne_address_eq (ss : List Stmt) (i : Nat) (s : Stmt) {t : Nat} {m : Mode}
    (hk : (s.operand.kind == .relative) = false) (hv : s.operand.value = .address t m)
    (hn : s.pkg.needsRes = false) :
    fixOne ss i s = (match addrOf ss t with
                     | some a => .ok { s with pkg := { s.pkg with additional := a } }
                     | none => .internal) := by
  rw [fixOne_nonrel_eq ss i s hk (by rw [hv]; intro hc; cases hc), hv,
    fixNonRel_address ss i s (show (Value.address t m).isAddress = true from rfl) hn]
  rfl

/-- absolute reference to a label: the stored VALUE is the target's address value, moved by `D` -/
theorem fixOne_reloc_address (h : PW (AddrShift D) as as') (i : Nat) (s : Stmt) {t : Nat} {m : Mode}
    (hk : (s.operand.kind == .relative) = false) (hv : s.operand.value = .address t m)
    (hn : s.pkg.needsRes = false) : fixOne as' i s = (fixOne as i s).map (Stmt.shiftAdditional D) := by
  rw [fixOne_address_eq _ _ _ hk hv hn, fixOne_address_eq _ _ _ hk hv hn, addrOf_reloc h]
  cases addrOf as t <;> rfl

theorem fixOne_expr_eq (ss : List Stmt) (i : Nat) (s : Stmt) {l r : Value} {op : Char} {m : Mode}
    (hk : (s.operand.kind == .relative) = false) (hv : s.operand.value = .expr l r op m true)
    (hn : s.pkg.needsRes = false) :
    fixOne ss i s = (match addrOffset ss (.expr l r op m true) with
                     | .ok v => .ok { s with pkg := { s.pkg with additional := v } }
                     | .diag => .diag | .internal => .internal | .diverged => .diverged) := by
  rw [fixOne_nonrel_eq ss i s hk (by rw [hv]; intro hc; cases hc), hv, fixNonRel_expr ss i s l r op m hn]
  rfl

/-- `label + k` / `label - k`: the stored value moves by `D` -/
theorem fixOne_reloc_expr_num (h : PW (AddrShiftI D) as as') (i : Nat) (s : Stmt)
    {l r : Value} {op : Char} {m : Mode} {k : Nat} {hh : Option Nat} {mm : Mode} {nn : Bool}
    (hk : (s.operand.kind == .relative) = false) (hv : s.operand.value = .expr l r op m true)
    (hn : s.pkg.needsRes = false)
    (hother : (if l.isAddress then r else l) = .numeric k hh mm nn) (hop : op = '+' ∨ op = '-')
    (hside : LabelSide l r op)
    (hb : ∀ v, addrOffset as (.expr l r op m true) = .ok v →
      ∃ z, v = .numeric z (some 4) .extended false ∧ z + D ≤ 65535) :
    fixOne as' i s = (fixOne as i s).map (Stmt.shiftAdditional D) := by
  rw [fixOne_expr_eq _ _ _ hk hv hn, fixOne_expr_eq _ _ _ hk hv hn,
    addrOffset_reloc_num h l r op m true hother hop hside hb]
  cases addrOffset as (.expr l r op m true) <;> rfl

def Stmt.shiftAdditionalMod (D : Nat) (s : Stmt) : Stmt :=
  { s with pkg := { s.pkg with additional := shiftVmod D s.pkg.additional } }

/-- `label ± k` that the MOVED layout accepts: the stored value moves by `D` modulo `$10000` -/
theorem fixOne_reloc_expr_mod (h : PW (AddrShiftI D) as as') (i : Nat) (s : Stmt)
    {l r : Value} {op : Char} {m : Mode} {k : Nat} {hh : Option Nat} {mm : Mode} {nn : Bool}
    (hk : (s.operand.kind == .relative) = false) (hv : s.operand.value = .expr l r op m true)
    (hn : s.pkg.needsRes = false)
    (hother : (if l.isAddress then r else l) = .numeric k hh mm nn) (hop : op = '+' ∨ op = '-')
    (hside : LabelSide l r op)
    (hacc : ∀ a, addrOperand as (if l.isAddress then l else r) = .ok a →
      (if op = '+' then a + signedK k nn else a - signedK k nn) + D ≤ 65535) :
    fixOne as' i s = (fixOne as i s).map (Stmt.shiftAdditionalMod D) := by
  rw [fixOne_expr_eq _ _ _ hk hv hn, fixOne_expr_eq _ _ _ hk hv hn,
    addrOffset_reloc_mod h l r op m true hother hop hside hacc]
  cases addrOffset as (.expr l r op m true) <;> rfl

/-- `label - label`: IDENTICAL -/
theorem fixOne_reloc_expr_diff (h : PW (AddrShiftI D) as as') (i : Nat) (s : Stmt)
    {l r : Value} {m : Mode}
    (hk : (s.operand.kind == .relative) = false) (hv : s.operand.value = .expr l r '-' m true)
    (hn : s.pkg.needsRes = false) (hother : (if l.isAddress then r else l).isAddress = true) :
    fixOne as' i s = fixOne as i s := by
  rw [fixOne_expr_eq _ _ _ hk hv hn, fixOne_expr_eq _ _ _ hk hv hn, addrOffset_reloc_diff h l r m true hother]

end classes

@[simp] theorem setAddress_row (s : Stmt) (v : Value) : (s.setAddress v).row = s.row := by cases s; rfl
@[simp] theorem setAddress_operand (s : Stmt) (v : Value) : (s.setAddress v).operand = s.operand := by cases s; rfl
@[simp] theorem setAddress_pcrHint (s : Stmt) (v : Value) : (s.setAddress v).pcrHint = s.pcrHint := by cases s; rfl
@[simp] theorem setAddress_additional (s : Stmt) (v : Value) : (s.setAddress v).pkg.additional = s.pkg.additional := by cases s; rfl
@[simp] theorem setAddress_size (s : Stmt) (v : Value) : (s.setAddress v).pkg.size = s.pkg.size := by cases s; rfl
@[simp] theorem setAddress_needsRes (s : Stmt) (v : Value) : (s.setAddress v).pkg.needsRes = s.pkg.needsRes := by cases s; rfl
@[simp] theorem setAddress_choices (s : Stmt) (v : Value) : (s.setAddress v).pkg.choices = s.pkg.choices := by cases s; rfl
@[simp] theorem setAddress_address (s : Stmt) (v : Value) : (s.setAddress v).pkg.address = v := by cases s; rfl

/-! `fixOne` does not read the statement's own address: each part writes a computed value into the operand field, and the
value is the same for `s.setAddress v` -/

theorem fixBranch_setAddress (ss : List Stmt) (i : Nat) (s : Stmt) (v : Value) :
    fixBranch ss i (s.setAddress v) = (fixBranch ss i s).map (·.setAddress v) := by
  rw [fixBranch_eq, fixBranch_eq]
  simp only [Outcome.map_bind, apply_ite (Outcome.map _), Outcome.map_map, Outcome.map_diag]
  rfl

theorem fixPart1_setAddress (ss : List Stmt) (s : Stmt) (ov v : Value) :
    fixPart1 ss (s.setAddress v) ov = (fixPart1 ss s ov).map (·.setAddress v) := by
  rw [fixPart1_eq, fixPart1_eq]
  simp only [apply_ite (Outcome.map _), Outcome.map_map, Outcome.map_ok]
  rfl

theorem fixPart2_setAddress (ss : List Stmt) (s : Stmt) (ov v : Value) :
    fixPart2 ss ov (s.setAddress v) = (fixPart2 ss ov s).map (·.setAddress v) := by
  rw [fixPart2_eq, fixPart2_eq]
  simp only [apply_ite (Outcome.map _), Outcome.map_map, Outcome.map_ok]
  rfl

theorem fixPart3_setAddress (ss : List Stmt) (i : Nat) (s : Stmt) (v : Value) :
    fixPart3 ss i (s.setAddress v) = (fixPart3 ss i s).map (·.setAddress v) := by
  rw [fixPart3_eq, fixPart3_eq]
  simp only [Outcome.map_bind, apply_ite (Outcome.map _), Outcome.map_map, Outcome.map_ok, Outcome.map_diag]
  rfl

theorem fixNonRel_setAddress (ss : List Stmt) (i : Nat) (s : Stmt) (ov v : Value) :
    fixNonRel ss i (s.setAddress v) ov = (fixNonRel ss i s ov).map (·.setAddress v) := by
  rw [fixNonRel_bind, fixNonRel_bind]
  exact Outcome.bind_map (fixPart1_setAddress ss s ov v) fun s1 _ =>
    Outcome.bind_map (fixPart2_setAddress ss s1 ov v) fun s2 _ => fixPart3_setAddress ss i s2 v

theorem fixOne_setAddress (ss : List Stmt) (i : Nat) (s : Stmt) (v : Value) :
    fixOne ss i (s.setAddress v) = (fixOne ss i s).map (·.setAddress v) := by
  rw [fixOne_eq, fixOne_eq]
  have e1 : (s.setAddress v).operand = s.operand := rfl
  rw [e1]
  split
  · exact fixBranch_setAddress ss i s v
  · split
    · rfl
    · exact fixNonRel_setAddress ss i s _ v

theorem fitWidth_setAddress (s : Stmt) (v : Value) :
    fitWidth (s.setAddress v) = (fitWidth s).map (·.setAddress v) := by
  rw [fitWidth_eq, fitWidth_eq]
  -- `fit_operand_width` does not read the address
  refine (congrArg _ (fitPkg_map s.row s.pkg (fun p => { p with address := v }) id id rfl rfl rfl fun _ _ _ _ => rfl)).trans ?_
  rw [Outcome.map_map, Outcome.map_map]
  rfl

theorem fixFit_setAddress (ss : List Stmt) (i : Nat) (s : Stmt) (v : Value) :
    fixFit ss i (s.setAddress v) = (fixFit ss i s).map (·.setAddress v) := by
  rw [fixFit_eq, fixFit_eq]
  exact Outcome.bind_map (fixOne_setAddress ss i s v) fun s1 _ => fitWidth_setAddress s1 v

/-- a step `φ` (`fixOne`, `fixFit`) that does not read the statement's own address and under relocation applies `f` to
the statement: on a statement `s'` that is `s` with another address it applies `f` and keeps that address -/
theorem step_setAddress {φ : List Stmt → Nat → Stmt → Outcome Stmt}
    (hφ : ∀ ss i s v, φ ss i (s.setAddress v) = (φ ss i s).map (·.setAddress v))
    {as as' : List Stmt} {i : Nat} {s s' : Stmt} {f : Stmt → Stmt} (hmv : φ as' i s = (φ as i s).map f)
    (he : s' = s.setAddress s'.pkg.address) :
    φ as' i s' = (φ as i s).map (fun t => (f t).setAddress s'.pkg.address) := by
  have : φ as' i s' = φ as' i (s.setAddress s'.pkg.address) := by rw [← he]
  rw [this, hφ, hmv, Outcome.map_map]

/-- the operand field of the statement is 16 bits wide: `fit_operand_width` leaves the statement alone (a
directive other than FCB / FDB), or the size leaves four hex digits after op code and post byte (an extended
or 16-bit immediate operand, `[label]`, FDB).  With a narrower field (`LDA <label`, `FCB label`) the value
`x` may fit where `x + D` does not, and the two assemblies end differently. -/
def FieldWide (s : Stmt) : Prop :=
  fitSkipped s.row = true ∨
  ∃ a b, s.pkg.opCode.hexLen? = some a ∧ s.pkg.postByte.hexLen? = some b ∧ 2 * s.pkg.size = a + b + 4

theorem FieldWide.same {s s' : Stmt} (h : FieldWide s) (hs : SameButAdditional s s') : FieldWide s' := by
  obtain ⟨v, rfl⟩ := hs
  exact h

def Field4 (s : Stmt) : Prop :=
  fitSkipped s.row = false ∧
  ∃ a b, s.pkg.opCode.hexLen? = some a ∧ s.pkg.postByte.hexLen? = some b ∧ 2 * s.pkg.size = a + b + 4

theorem Field4.wide {s : Stmt} (h : Field4 s) : FieldWide s := .inr h.2

theorem Field4.withAdditional {s : Stmt} (h : Field4 s) (v : Value) : Field4 (withAdditional s v) := h

theorem fitWidth_field4 {s : Stmt} (hf : Field4 s) {n : Nat} {h : Option Nat} {m : Mode} {neg : Bool}
    (hadd : s.pkg.additional = .numeric n h m neg) :
    fitWidth s =
      if -32768 ≤ signedK n neg ∧ signedK n neg < 65536 then
        .ok (withAdditional s (.numeric (signedK n neg % 65536).toNat (some 4) .extended false))
      else .diag := by
  obtain ⟨hsk, a, b, ha, hb, hsz⟩ := hf
  rw [fitWidth_eq, fitPkg_numeric hsk hadd ha hb hsz (.inr rfl), fitNum_eq (.inr rfl), pow15, pow16]
  by_cases hr : -32768 ≤ signedK n neg ∧ signedK n neg < 65536
  · rw [if_pos hr, if_pos hr]; rfl
  · rw [if_neg hr, if_neg hr]; rfl

/-- however the number was rendered, the field is rendered anew with hint 4, mode EXTENDED: what lets relocation
work at any origin -/
theorem fitWidth_field4_numeric {s : Stmt} (hf : Field4 s) {x : Nat} {hh : Option Nat} {m : Mode}
    (hadd : s.pkg.additional = .numeric x hh m false) (hx : x < 65536) :
    fitWidth s = .ok (withAdditional s (.numeric x (some 4) .extended false)) := by
  rw [fitWidth_field4 hf hadd]
  simp only [signedK, Bool.false_eq_true, if_false]
  rw [if_pos ⟨by omega, by omega⟩]
  have e : ((x : Nat) : Int) % 65536 = x := by omega
  rw [e]; rfl

theorem fitWidth_field4_any {s : Stmt} (hf : Field4 s) {x : Nat} (hx : x < 65536) (hh : Option Nat) (m : Mode) :
    fitWidth (withAdditional s (.numeric x hh m false)) =
      .ok (withAdditional s (.numeric x (some 4) .extended false)) :=
  fitWidth_field4_numeric (hf.withAdditional _) rfl hx

theorem fitWidth_field4_nat {s : Stmt} (hf : Field4 s) {x : Nat} (hx : x < 65536) :
    fitWidth (withAdditional s (.numeric x (some 4) .extended false)) =
      .ok (withAdditional s (.numeric x (some 4) .extended false)) :=
  fitWidth_field4_any hf hx _ _

section
variable {ss : List Stmt} {s : Stmt} {l r : Value} {op : Char} {m : Mode}

/-- an address expression as the operand, in a four-digit field: what `calculate_address_offset` accepts is a number in
`0 .. $FFFF`, which `fit_operand_width` leaves alone -/
theorem fixFit_expr_pm (i : Nat) (hk : (s.operand.kind == .relative) = false) (hn : s.pkg.needsRes = false)
    (hf : Field4 s) (hv : s.operand.value = .expr l r op m true) :
    fixFit ss i s = (addrOffset ss (.expr l r op m true)).map (withAdditional s) := by
  rw [fixFit_eq, fixOne_expr_eq _ _ _ hk hv hn]
  cases ho : addrOffset ss (.expr l r op m true) with
  | ok v =>
    obtain ⟨a, b, _, _, hc⟩ := addrOffset_ok.mp ho
    obtain ⟨x, hx, rfl⟩ := addrCombine_ok hc
    exact fitWidth_field4_any hf hx _ _
  | _ => rfl

/-- the same with the expression as constant offset of a pointer register -/
theorem fixFit_abs_pm (i : Nat) (hk : (s.operand.kind == .relative) = false) (hv : s.operand.value ≠ .pyNone)
    (hE : s.operand.value.isAddrExpr = false) (hA : s.operand.value.isAddress = false)
    (hn : s.pkg.needsRes = true) (hc : s.pkg.choices.isEmpty = true) (hidx : s.isIdx = true) (hf : Field4 s)
    (he : s.pkg.additional = .expr l r op m true) :
    fixFit ss i s = (addrOffset ss (.expr l r op m true)).map (withAdditional s) := by
  rw [fixFit_eq, fixOne_abs_eq _ _ _ hk hv hE hA hn hc, fixPartAbs_eq, fixRelTarget_expr _ _ hidx he]
  cases ho : addrOffset ss (.expr l r op m true) with
  | ok v =>
    obtain ⟨a, b, _, _, hc⟩ := addrOffset_ok.mp ho
    obtain ⟨x, hx, rfl⟩ := addrCombine_ok hc
    dsimp only [Value.int?]
    rw [if_pos (by omega)]
    exact fitWidth_field4_any hf hx _ _
  | diverged => exact absurd ho (addrOffset_not_diverged _ _)
  | _ => rfl

end

theorem fitWidth_wide {D : Nat} {t : Stmt} (hf : FieldWide t)
    (hw : WideAddr D t.pkg.additional (shiftV D t.pkg.additional)) :
    ∃ t1, fitWidth t = .ok t1 ∧ fitWidth (t.shiftAdditional D) = .ok (t1.shiftAdditional D) ∧
      WideAddr D t1.pkg.additional (shiftV D t1.pkg.additional) := by
  by_cases hsk : fitSkipped t.row = true
  · exact ⟨t, fitWidth_ok (fitPkg_skip _ hsk), fitWidth_ok (s := t.shiftAdditional D) (fitPkg_skip _ hsk), hw⟩
  · have hf4 : Field4 t := ⟨by simpa using hsk, hf.resolve_left hsk⟩
    obtain ⟨x, h, m, e1, _, _, hlt⟩ := hw
    refine ⟨withAdditional t (.numeric x (some 4) .extended false), fitWidth_field4_numeric hf4 e1 (by omega), ?_,
      x, some 4, .extended, rfl, rfl, .inl rfl, hlt⟩
    have e2 : (t.shiftAdditional D).pkg.additional = .numeric (x + D) h m false := by
      show shiftV D t.pkg.additional = _
      rw [e1]; rfl
    exact fitWidth_field4_numeric (s := t.shiftAdditional D) hf4 e2 hlt

end CoCo.Asm
