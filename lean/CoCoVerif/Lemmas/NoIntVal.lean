/-
Lemmas/NoIntVal.lean — C13, "no internal error": the value-level invariant.

`Value.Good N v`: `v` contains no Python `None`, every number in it is a 16-bit magnitude, every address
index in it is below `N` (the number of statements), and an address expression has an address on one side.
Everything the parser builds is `Good` (for every `N`), and `Value.resolve` keeps values `Good` when the
symbol table is.

The two bounds are independent, so `Good 0` says "no label inside, numbers of 16 bits".  That holds of a preset
statement address (`PkgOK.addr`, `StmtOK.addr`), and it is why the back end needs no bound on the number of
statements (`back_ne_internal`): an address index is only used to look a statement up, never as a number
(fix 9045646 of the assembler).
-/
import CoCoVerif.Lemmas.HexEmit
import CoCoVerif.Lemmas.ResolveValue
import CoCoVerif.Lemmas.SymTab

namespace CoCo.Asm
open CoCo
open CoCo.Gen (InstrRow)

def Value.Good (N : Nat) : Value → Prop
  | .pyNone => False
  | .numeric i _ _ _ => i ≤ 65535
  | .address i _ => i < N
  | .expr l r _ _ ae => Value.Good N l ∧ Value.Good N r ∧ (ae = true → (l.isAddress = true ∨ r.isAddress = true))
  | _ => True

theorem Value.Good.ne_pyNone {N : Nat} {v : Value} (h : v.Good N) : v ≠ .pyNone := by
  rintro rfl; exact h

theorem Value.Good.mono {M N : Nat} (hMN : M ≤ N) : ∀ {v : Value}, v.Good M → v.Good N := by
  intro v
  induction v with
  | address i m => intro h; exact Nat.lt_of_lt_of_le h hMN
  | expr l r op m ae ihl ihr => intro h; exact ⟨ihl h.1, ihr h.2.1, h.2.2⟩
  | _ => intro h; exact h

theorem Value.Good.int {N : Nat} {v : Value} (h : v.Good N) :
    ∃ k, v.int? = some k ∧ (v.isAddress = true → k < N) ∧ (v.isAddress = false → k ≤ 65535) := by
  cases v with
  | pyNone => exact absurd h id
  | numeric i _ _ _ => exact ⟨i, rfl, by simp [Value.isAddress], fun _ => h⟩
  | address i _ => exact ⟨i, rfl, fun _ => h, by simp [Value.isAddress]⟩
  | _ => exact ⟨0, rfl, by simp [Value.isAddress], fun _ => by omega⟩

theorem Value.Good.int_le {N : Nat} {v : Value} (h : v.Good N) (hN : N ≤ 65536) :
    ∃ k, v.int? = some k ∧ k ≤ 65535 := by
  obtain ⟨k, hk, h1, h2⟩ := h.int
  refine ⟨k, hk, ?_⟩
  cases ha : v.isAddress
  · exact h2 ha
  · have := h1 ha; omega

theorem numericOfInt_good {z : Int} {h : Option Nat} {m : Mode} {v : Value} (N : Nat)
    (hv : numericOfInt z h m = .ok v) (hz : -65535 ≤ z) : v.Good N := by
  obtain ⟨hle, rfl⟩ := numericOfInt_ok hv
  show z.natAbs ≤ 65535
  omega

theorem numV_good {a : Nat} {v : Value} (N : Nat) (hv : numV a = .ok v) : v.Good N :=
  numericOfInt_good N hv (by omega)

theorem numericOfStr_good {s : Str} {h : Option Nat} {m : Mode} {v : Value} (N : Nat)
    (hv : numericOfStr s h m = .ok v) : v.Good N := by
  have bin : ∀ {bits : Str}, (∀ c ∈ bits, (c == '0' || c == '1') = true) → bits.length = 8 ∨ bits.length = 16 →
      parseBase 2 bits ≤ 65535 := by
    intro bits hb hl
    have := parseBase_bound 2 bits (fun c hc => digitVal_bit (hb c hc))
    rcases hl with e | e <;> rw [e] at this <;> omega
  have hex : ∀ {hs : Str}, (∀ c ∈ hs, isHexD c = true) → hs.length ≤ 4 → parseBase 16 hs ≤ 65535 := by
    intro hs hb hl
    have := parseBase_bound 16 hs (fun c hc => digitVal_lt_16 (hb c hc))
    have hp : 16 ^ hs.length ≤ 16 ^ 4 := Nat.pow_le_pow_right (by omega) hl
    omega
  cases numericOfStr_graph hv with
  | char hc => exact isCharLit_bound hc
  | binShort hb hl => exact bin hb (.inl hl)
  | bin hb hl => exact bin hb hl
  | hexShort hb hl => exact hex hb (by omega)
  | hex hb _ hl => exact hex hb hl
  | neg _ _ hle => exact Nat.le_trans hle (by decide)
  | dec _ _ hle => exact hle

theorem CreateOf.good (N : Nat) {isStr is16 defExt : Bool} {s : Str} {v : Value} (h : CreateOf isStr is16 defExt s v) :
    v.Good N := by
  induction h with
  | str | leftRight | symbol => trivial
  | expr _ _ _ _ ihl ihr => exact ⟨ihl, ihr, fun e => by cases e⟩
  | numeric _ hn => exact numericOfStr_good N hn

theorem create_good (N : Nat) {fuel : Nat} {s : Str} {a b c : Bool} {v : Value} (h : create fuel s a b c = .ok v) :
    v.Good N :=
  (create_graph h).good N

def SymTab.Good (N : Nat) (t : SymTab) : Prop := ∀ kv ∈ t, Value.Good N kv.2

theorem SymTab.Good.get {N : Nat} {t : SymTab} (ht : SymTab.Good N t) {k : Str} {v : Value}
    (h : t.get? k = some v) : v.Good N := ht (k, v) (get?_mem_key h)

theorem lookV_good {N : Nat} {t : SymTab} (ht : SymTab.Good N t) {x y : Value} (hx : x.Good N)
    (h : lookV t x = .ok y) : y.Good N := by
  cases x with
  | symbol name m =>
    unfold lookV at h
    dsimp only at h
    cases hg : t.get? name with
    | none => rw [hg] at h; cases h
    | some s => rw [hg] at h; cases h; exact ht.get hg
  | _ => cases h; exact hx

theorem exprPost_good {N : Nat} {l r : Value} {op : Char} {mode : Mode} {x : Value}
    (hl : l.Good N) (hr : r.Good N) (h : exprPost l r op mode = .ok x) : x.Good N := by
  rcases exprPost_ok h with ⟨s, m, hs⟩ | ⟨ha, rfl⟩
  · exact numericOfStr_good N hs
  · exact ⟨hl, hr, fun _ => by simpa using ha⟩

theorem symPost_good {N : Nat} {s r : Value} (hs : s.Good N) (h : symPost s = .ok r) : r.Good N := by
  rcases symPost_ok h with ⟨_, _, rfl, rfl⟩ | ⟨a, _, _, _, rfl, hn⟩
  · exact hs
  · have hs' : a ≤ 65535 := hs
    exact numericOfInt_good N hn (by split <;> omega)

/-- `resolve` follows chains of EQU expressions (`resolveF`); the invariant goes through every level -/
theorem resolveF_good {N : Nat} {t : SymTab} (ht : SymTab.Good N t) : ∀ (n : Nat) {v r : Value}, v.Good N →
    resolveF n v t = .ok r → r.Good N
  | 0, _, _, _, h => by cases h
  | n + 1, v, r, hv, h => by
    have hsym : ∀ {name : Str} {s : Value}, getSymF n t name = .ok s → s.Good N := by
      intro name s hs
      obtain ⟨e, hg, ⟨_, he⟩ | ⟨_, rfl⟩⟩ := getSymF_ok hs
      · exact resolveF_good ht n (ht.get hg) he
      · exact ht.get hg
    have hlook : ∀ {x y : Value}, x.Good N → lookStep (getSymF n t) x = .ok y → y.Good N := by
      intro x y hx hxy
      cases x with
      | symbol name m => exact hsym hxy
      | _ => cases hxy; exact hx
    rw [resolveF_succ] at h
    cases v with
    | symbol name md =>
      obtain ⟨s, hs, hp⟩ := resolveStep_symbol_ok h
      exact symPost_good (hsym hs) hp
    | expr l r' op mode ae =>
      obtain ⟨l', r'', hl, hr, hx⟩ := resolveStep_expr_ok h
      exact exprPost_good (hlook hv.1 hl) (hlook hv.2.1 hr) hx
    | pyNone => exact absurd hv id
    | _ => cases h; exact hv

theorem Value.resolve_good {N : Nat} {t : SymTab} (ht : SymTab.Good N t) {v r : Value} (hv : v.Good N)
    (h : v.resolve t = .ok r) : r.Good N :=
  resolveF_good ht _ hv h

theorem resolveLeft_good {N : Nat} {t : SymTab} (ht : SymTab.Good N t) {l : Str} {row : InstrRow} {r : Value}
    (h : resolveLeft l row t = .ok r) : r.Good N := by
  obtain ⟨v, hc, hr⟩ := resolveLeft_ok h
  exact Value.resolve_good ht (create_good N hc) hr

end CoCo.Asm
