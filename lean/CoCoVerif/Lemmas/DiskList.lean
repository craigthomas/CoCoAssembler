/-
Lemmas/DiskList.lean — `list_files` against the reference reader. The spec's `walk` is the interface: the tool's chain
reader follows it, so for a live slot both readers see the same stream, and the tool's preamble and postamble reads
are replayed on a stream the spec's parsers accept. Nothing here knows how an image was written: of the image only
its size is used.
-/
import CoCoVerif.Lemmas.Cassette
import CoCoVerif.Lemmas.DiskBytes
import CoCoVerif.Props.DiskDefs
namespace CoCo.Dsk
open CoCo Spec.DiskBasic CoCo.Props

theorem fatSlice_get {img : Bytes} {g : Nat} (hb : img.length = 161280) (hg : g < 68) :
    ((img.drop FAT).take 256)[g]? = some (fatAt img g) := by
  rw [slice_get, if_pos (by omega)]
  exact fatAt_eq_get hb hg

/-- the tool's chain reader follows the spec's walk -/
theorem readChainF_walk {img : Bytes} (hb : img.length = 161280) :
    ∀ (fuel g : Nat) (vis : List Nat) (acc : Bytes) (c : List Nat) (s : Nat),
      walk img fuel g vis = some (c, s) →
      ∃ tail, c = vis.reverse ++ g :: tail ∧ (∀ x ∈ g :: tail, x < 68) ∧ s ≤ 9 ∧
        readChainF img ((img.drop FAT).take 256) (fuel + 1) g vis acc
          = .ok (acc ++ streamOf img (g :: tail), c, 0xC0 + s) := by
  intro fuel
  induction fuel with
  | zero => intro g vis acc c s h; simp [walk] at h
  | succ fuel ih =>
    intro g vis acc c s h
    rw [walk] at h
    split at h
    · cases h
    · rename_i hcond
      have hg : g < 68 := by omega
      have hgv : g ∉ vis := fun hin => hcond (Or.inr hin)
      have hcond' : ¬ (g ≥ Gen.totalGranules ∨ g ∈ vis) := by rw [totalGranules_eq]; exact hcond
      rw [readChainF]
      simp only [hcond', if_false, fatSlice_get hb hg]
      simp only [] at h
      split at h
      · rename_i hterm
        cases h
        have h3 : fatAt img g / 64 % 4 = 3 := by omega
        simp only [h3, if_true]
        refine ⟨[], by simp, by simpa using hg, by omega, ?_⟩
        have : 0xC0 + (fatAt img g - 0xC0) = fatAt img g := by omega
        rw [this]
        simp [streamOf, granuleBytes_eq, G_eq]
      · rename_i hterm
        -- the next entry is a granule number, or the walk fails
        have hnext : fatAt img g < 68 := by
          cases fuel with
          | zero => simp [walk] at h
          | succ f' =>
            rw [walk] at h
            split at h
            · cases h
            · rename_i hc2; omega
        have h3 : ¬ fatAt img g / 64 % 4 = 3 := by omega
        simp only [h3, if_false]
        obtain ⟨tail, hc, hlt, hs, hrd⟩ := ih (fatAt img g) (g :: vis) (acc ++ (img.drop (seek g)).take G) c s h
        refine ⟨fatAt img g :: tail, by simpa using hc, ?_, hs, ?_⟩
        · intro x hx
          rcases List.mem_cons.mp hx with rfl | hx
          · exact hg
          · exact hlt x hx
        · rw [hrd]
          simp [streamOf, granuleBytes_eq, G_eq]

theorem parseML_some {st : Bytes} {l x : Nat} {dat : Bytes} (h : parseML st = some (l, dat, x)) :
    ∃ lh ll ah al eh el, st = [0x00, lh, ll, ah, al] ++ dat ++ [0xFF, 0x00, 0x00, eh, el] ∧
      dat.length = lh * 256 + ll ∧ l = ah * 256 + al ∧ x = eh * 256 + el := by
  unfold parseML at h
  split at h
  · rename_i lh ll ah al rest
    simp only [] at h
    split at h
    · rename_i hlen
      split at h
      · rename_i eh el hdrop
        simp only [Option.some.injEq, Prod.mk.injEq] at h
        obtain ⟨h1, h2, h3⟩ := h
        refine ⟨lh, ll, ah, al, eh, el, ?_, ?_, h1.symm, h3.symm⟩
        · rw [← h2]
          have := List.take_append_drop (lh * 256 + ll) rest
          rw [hdrop] at this
          simp [this]
        · rw [← h2]; simp [List.length_take]; omega
      · cases h
    · cases h
  · cases h

theorem parseBasic_some {st dat : Bytes} (h : parseBasic st = some dat) :
    ∃ lh ll, st = [0xFF, lh, ll] ++ dat ∧ dat.length = lh * 256 + ll := by
  unfold parseBasic at h
  split at h
  · rename_i lh ll rest
    split at h
    · rename_i hlen
      cases h
      exact ⟨lh, ll, rfl, hlen⟩
    · cases h
  · cases h

theorem streamOf_cons (img : Bytes) (g : Nat) (c : List Nat) :
    streamOf img (g :: c) = granuleBytes img g ++ streamOf img c := by
  simp [streamOf]

theorem streamOf_length {img : Bytes} (hb : img.length = 161280) (c : List Nat) (hlt : ∀ g ∈ c, g < 68) :
    (streamOf img c).length = c.length * 2304 := by
  induction c with
  | nil => simp [streamOf]
  | cons g c ih =>
    rw [streamOf_cons, List.length_append, granuleBytes_length hb (hlt g List.mem_cons_self),
      ih (fun x hx => hlt x (List.mem_cons_of_mem _ hx))]
    simp; omega

/-- the first granule of the chain is where `preamble.read` looks -/
theorem at0_getD {img : Bytes} (hb : img.length = 161280) {g0 : Nat} {tail : List Nat} (hg : g0 < 68)
    (i : Nat) (hi : i < 2304) :
    (img.drop (seek g0)).getD i 0 = (streamOf img (g0 :: tail)).getD i 0 := by
  rw [streamOf_cons, getD_append_lt _ _ _ _ (by rw [granuleBytes_length hb hg]; exact hi), granuleBytes_eq,
    slice_getD _ _ _ _ _ hi]
  simp [List.getD_eq_getElem?_getD]

theorem at0_length {img : Bytes} (hb : img.length = 161280) {g0 : Nat} (hg : g0 < 68) :
    2304 ≤ (img.drop (seek g0)).length := by
  have := seek_in g0 hg
  simp [List.length_drop]; omega

theorem pySlice_nat (s : Bytes) (a n : Nat) : pySlice s a (n : Int) = (s.drop a).take n := by
  unfold pySlice
  simp

/-- what the spec's reader and the model's chain reader see for a live slot with a valid chain -/
theorem slot_facts {img : Bytes} (hb : img.length = 161280) {k : Nat} {c : List Nat} {s : Nat}
    (hchain : chainOf img k = some (c, s)) {st : Bytes} (hss : storedStream img k = some st) :
    ∃ tail tl, c = entFirst (dirEntry img k) :: tail ∧ entFirst (dirEntry img k) < 68 ∧ s ≤ 9 ∧
      readChain img ((img.drop FAT).take 256) (entFirst (dirEntry img k)) = .ok (streamOf img c, c, 0xC0 + s) ∧
      streamOf img c = st ++ tl ∧
      st.length = impliedLength c.length s (entLastBytes (dirEntry img k)) := by
  unfold chainOf at hchain
  obtain ⟨tail, hc, hlt, hs, hrd⟩ := readChainF_walk hb 68 _ [] [] c s hchain
  simp only [List.reverse_nil, List.nil_append] at hc hrd
  unfold storedStream at hss
  rw [show chainOf img k = some (c, s) from hchain] at hss
  simp only [] at hss
  split at hss
  · rename_i hle
    cases hss
    have hlen : (streamOf img c).length = c.length * 2304 := by
      rw [hc]; exact streamOf_length hb _ hlt
    refine ⟨tail, (streamOf img c).drop (impliedLength c.length s (entLastBytes (dirEntry img k))), hc,
      hlt _ List.mem_cons_self, hs, ?_, (List.take_append_drop _ _).symm, ?_⟩
    · unfold readChain; rw [hrd, hc]
    · rw [List.length_take, hlen]; unfold granuleSize at hle; omega
  · cases hss

theorem fileLength_eq (n s lb : Nat) (h9 : s ≤ 9) :
    fileLength n (0xC0 + s) lb = ((impliedLength n s lb : Nat) : Int) := by
  unfold fileLength impliedLength
  have hm : (0xC0 + s) % 32 = s := by omega
  rw [hm, G_eq, bytesPerSector_eq]
  by_cases hs0 : s = 0
  · rw [if_pos hs0, if_pos hs0]; omega
  · rw [if_neg hs0, if_neg hs0]; omega

theorem readEntry_slot {img : Bytes} (hb : img.length = 161280) {k : Nat} {d : DFile}
    {c : List Nat} {s : Nat}
    (hchain : chainOf img k = some (c, s))
    (hread : readSlot img k = some d)
    (hname : ∀ x ∈ d.name, x < 128) (hext : ∀ x ∈ d.ext, x < 128) :
    readEntry img ((img.drop FAT).take 256) (DIR + 32 * k) = .ok (ofDFile d) := by
  have he : (img.drop (DIR + 32 * k)).take 32 = dirEntry img k := by rw [dirEntry_eq, DIR_eq]
  unfold readSlot at hread
  cases hss : storedStream img k with
  | none => rw [hss] at hread; cases hread
  | some st =>
    rw [hss] at hread
    simp only [] at hread
    obtain ⟨tail, tl, hc, hg0, hs9, hrc, hstream, hstlen⟩ := slot_facts hb hchain hss
    have hat := fun i hi => at0_getD hb (g0 := entFirst (dirEntry img k)) (tail := tail) hg0 i hi
    rw [← hc, hstream] at hat
    have hatlen := at0_length hb hg0
    unfold entFirst at hat hatlen hrc
    unfold readEntry
    by_cases h2 : entFtype (dirEntry img k) = 0x02
    · -- machine language
      rw [if_pos h2] at hread
      obtain ⟨⟨l, dat, x⟩, hp, hd⟩ := Option.map_eq_some_iff.mp hread
      obtain ⟨lh, ll, ah, al, eh, el, hst, hdl, rfl, rfl⟩ := parseML_some hp
      subst hd
      simp only [] at hname hext
      have hkind : kindOf ((dirEntry img k).getD 11 0) ((dirEntry img k).getD 12 0) = .ml := kindOf_ml _ h2
      have hl5 : ¬ (img.drop (seek ((dirEntry img k).getD 13 0))).length < 5 := by omega
      subst hst
      simp only [he, Cas.utf8Decode_ascii _ hname, Cas.utf8Decode_ascii _ hext, hkind, hl5, hat 0 (by omega),
        hat 1 (by omega), hat 2 (by omega), hat 3 (by omega), hat 4 (by omega), List.cons_append, List.nil_append,
        List.getD_cons_zero, List.getD_cons_succ, hrc, hstream, if_false, ne_eq, not_true_eq_false]
      have h50 : ¬ (5 : Nat) = 0 := by decide
      have l1 : ((0 :: lh :: ll :: ah :: al :: (dat ++ 255 :: 0 :: 0 :: eh :: el :: tl)).drop 5).take dat.length = dat := by
        simp
      have l2 : (0 :: lh :: ll :: ah :: al :: (dat ++ 255 :: 0 :: 0 :: eh :: el :: tl)).drop (5 + dat.length)
          = 255 :: 0 :: 0 :: eh :: el :: tl := by
        rw [Nat.add_comm, ← List.drop_drop]; simp
      simp only [h50, if_false, ← hdl, pySlice_nat, Int.toNat_natCast, List.cons_append, List.nil_append,
        List.append_assoc, l1, l2]
      simp [ofDFile, entFtype, entAscii]
    · rw [if_neg h2] at hread
      by_cases hff : entAscii (dirEntry img k) = 0xFF
      · -- ASCII
        rw [if_pos hff] at hread
        simp only [Option.some.injEq] at hread
        subst hread
        simp only [] at hname hext
        have hkind : kindOf ((dirEntry img k).getD 11 0) ((dirEntry img k).getD 12 0) = .ascii :=
          kindOf_ascii h2 hff
        have hfl := fileLength_eq c.length s (entLastBytes (dirEntry img k)) hs9
        rw [← hstlen] at hfl
        unfold entLastBytes at hfl
        have l1 : (st ++ tl).take st.length = st := List.take_left' rfl
        simp only [he, Cas.utf8Decode_ascii _ hname, Cas.utf8Decode_ascii _ hext, hkind, hrc,
          hstream, if_true, hfl, pySlice_nat, List.drop_zero, l1]
        simp [ofDFile, entFtype, entAscii]
      · -- BASIC
        rw [if_neg hff] at hread
        obtain ⟨dat, hp, hd⟩ := Option.map_eq_some_iff.mp hread
        obtain ⟨lh, ll, hst, hdl⟩ := parseBasic_some hp
        subst hd
        simp only [] at hname hext
        have hkind : kindOf ((dirEntry img k).getD 11 0) ((dirEntry img k).getD 12 0) = .basic :=
          kindOf_basic h2 hff
        have hl3 : ¬ (img.drop (seek ((dirEntry img k).getD 13 0))).length < 3 := by omega
        subst hst
        simp only [he, Cas.utf8Decode_ascii _ hname, Cas.utf8Decode_ascii _ hext, hkind, hl3, hat 0 (by omega),
          hat 1 (by omega), hat 2 (by omega), List.cons_append, List.nil_append, List.getD_cons_zero,
          List.getD_cons_succ, hrc, hstream, if_false, ne_eq, not_true_eq_false]
        have h30 : ¬ (3 : Nat) = 0 := by decide
        have l1 : ((255 :: lh :: ll :: (dat ++ tl)).drop 3).take dat.length = dat := by simp
        simp only [h30, if_false, ← hdl, pySlice_nat, l1]
        simp [ofDFile, entFtype, entAscii]

/-- the directory scan's test for a slot in use is the spec's -/
theorem live_eq_true_iff (e : Bytes) : live e = true ↔ ¬ (e.getD 0 0 = 0x00 ∨ e.getD 0 0 = 0xFF) := by
  simp [live, not_or]

/-- a 72-slot directory scan returns what the reference reader returns, slot by slot -/
theorem listFrom_spec {img : Bytes} (fat : Bytes) :
    ∀ (n k : Nat) (acc : List CFile) (ds : List DFile), k + n = 72 →
      ((List.range' k n).filter (fun j => live (dirEntry img j))).mapM (readSlot img) = some ds →
      (∀ j, k ≤ j → j < 72 → live (dirEntry img j) = true → ∀ d, readSlot img j = some d →
        ((∀ x ∈ d.name, x < 128) ∧ (∀ x ∈ d.ext, x < 128)) →
        readEntry img fat (DIR + 32 * j) = .ok (ofDFile d)) →
      (∀ d ∈ ds, (∀ x ∈ d.name, x < 128) ∧ (∀ x ∈ d.ext, x < 128)) →
      listFrom img fat n (DIR + 32 * k) acc = .ok (acc ++ ds.map ofDFile) := by
  intro n
  induction n with
  | zero =>
    intro k acc ds _ h _ _
    simp at h
    subst h
    simp [listFrom]
  | succ n ih =>
    intro k acc ds hk h hslot hascii
    have hnext : DIR + 32 * k + 32 = DIR + 32 * (k + 1) := by omega
    rw [listFrom, ← dirEntry_first, hnext]
    rw [List.range'_succ, List.filter_cons] at h
    by_cases hl : live (dirEntry img k) = true
    · rw [if_pos hl, List.mapM_cons] at h
      simp only [Option.bind_eq_bind, Option.bind_eq_some_iff, Option.pure_def, Option.some.injEq] at h
      obtain ⟨d, hrs, ds', hrest, rfl⟩ := h
      rw [if_neg ((live_eq_true_iff _).mp hl), hslot k (Nat.le_refl _) (by omega) hl d hrs (hascii d (by simp))]
      simp only []
      rw [ih (k + 1) (acc ++ [ofDFile d]) ds' (by omega) hrest (fun j hj => hslot j (by omega))
        (fun d' hd' => hascii d' (List.mem_cons_of_mem _ hd'))]
      simp
    · rw [if_neg hl] at h
      rw [if_pos (Classical.not_not.mp (mt (live_eq_true_iff _).mpr hl))]
      exact ih (k + 1) acc ds (by omega) h (fun j hj => hslot j (by omega)) hascii

theorem readSlot_chain {img : Bytes} {k : Nat} {d : DFile} (h : readSlot img k = some d) :
    ∃ c s, chainOf img k = some (c, s) := by
  unfold readSlot storedStream at h
  cases hc : chainOf img k with
  | none => simp [hc] at h
  | some cs => exact ⟨cs.1, cs.2, rfl⟩

/-- listing agrees with the reference reader wherever that one succeeds on an image of the right size, without
exclusion: a last-granule marker that says "0 sectors" is read as an empty last granule by both readers. Of the
consistency check `Fsck` only the size is used: disjointness of the chains, exactness of the table and the
untouched rest play no part in reading. -/
theorem list_eq_read_of_length {img : Bytes} {ds : List DFile} (hlen : img.length = 161280)
    (hr : Spec.DiskBasic.read img = some ds)
    (hascii : ∀ d ∈ ds, (∀ c ∈ d.name, c < 128) ∧ (∀ c ∈ d.ext, c < 128)) :
    Dsk.list img = .ok (ds.map ofDFile) := by
  unfold Dsk.list
  have hl : ¬ img.length < SIZE := by rw [SIZE_eq, hlen]; omega
  rw [if_neg hl]
  have h0 : (DIR : Nat) = DIR + 32 * 0 := by omega
  rw [h0]
  have := listFrom_spec (img := img) ((img.drop FAT).take 256) 72 0 [] ds (by omega)
    (by rw [← List.range_eq_range']; exact hr) ?_ hascii
  · simpa using this
  · intro j _ hj hlive d hrs hasc
    obtain ⟨c, s, hch⟩ := readSlot_chain hrs
    exact readEntry_slot hlen hch hrs hasc.1 hasc.2

end CoCo.Dsk
