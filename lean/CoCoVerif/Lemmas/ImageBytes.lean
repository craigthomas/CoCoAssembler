/-
Lemmas/ImageBytes.lean — the load address of the image.  `Assembly.origin` is `NoneValue` or the operand of an ORG: a
non-negative number of at most 16 bits (`Value.Good` of Lemmas/NoIntVal) with a size hint of 2 or 4 digits or none
(`NumHint`, kept by `resolve_symbols`), so that the address `main` derives from its hex string (`originAddr`) is below
65536.  That the image itself consists of bytes is `stmtBytes_lt` (Lemmas/HexEmit) on `FinalForm.mok`
(Lemmas/FinalForm).
-/
import CoCoVerif.Lemmas.NoIntPcr
import CoCoVerif.Lemmas.SizeFix
import CoCoVerif.Lemmas.VFAsm

namespace CoCo.Asm
open CoCo
open CoCo.Gen (InstrRow)

/-- a number carries one of the size hints the parser gives -/
def NumHint (v : Value) : Prop := ∀ i h m n, v = .numeric i h m n → HintOK h

theorem PV.numHint {v : Value} (h : PV v) : NumHint v := by
  intro i hh m n hv; subst hv; exact h

theorem resolve_numHint {t : SymTab} {v r : Value} (hv : NumHint v) (h : v.resolve t = .ok r) : NumHint r := by
  rcases resolve_result h with ⟨rfl, _⟩ | ⟨i, rfl⟩ | ⟨z, hz⟩ | ⟨s, m, hs⟩ | ⟨l', r', op, m, rfl⟩
  · exact hv
  · nofun
  · exact (numericOfInt_pv (.inl rfl) hz).numHint
  · exact (numericOfStr_pv (.inl rfl) hs).1.numHint
  · nofun

theorem resolveOperand_numHint {o o' : Operand} {row : InstrRow} {t : SymTab} (hv : NumHint o.value)
    (h : resolveOperand o row t = .ok o') : NumHint o'.value := by
  rcases (resolveOperand_graph h).value_src with e | hr | ⟨i, hi⟩
  · rw [e]; exact hv
  · exact resolve_numHint hv hr
  · exact (numericOfInt_pv (.inl rfl) hi).numHint

/-- what an origin is: `NoneValue`, or a non-negative number of 16 bits with one of the parser's size hints -/
def OrgVal (v : Value) : Prop := v = .none ∨ ∃ i h m, v = .numeric i h m false ∧ i ≤ 65535 ∧ HintOK h

theorem Stages.org_address {fs : Files} {lines : List Str} {a : Assembly} (st : Stages fs lines a)
    {i : Nat} {s : Stmt} (hs : a.stmts[i]? = some s) (hm : s.row.mnemonic = "ORG") : OrgVal s.pkg.address := by
  obtain ⟨s0, o, p, sz, mx, pb, hint, ad, vf, vw, v, c, rfl⟩ := st.compiled hs
  obtain ⟨_, _, rfl, hnum, hneg⟩ := c.org hm
  obtain ⟨txt, hcr⟩ := c.parsed.2
  obtain ⟨_, _, f5, _⟩ := c.parsed.rowFacts
  have hint : NumHint o.value := resolveOperand_numHint (createOperand_shape0 hcr f5).pv.numHint c.hres
  have hgood : o.value.Good st.ss0.length := c.stmtOK.val
  obtain ⟨n, hh, m, neg, hv⟩ := isNumeric_elim hnum
  show OrgVal o.value
  rw [hv] at hneg hgood ⊢
  obtain rfl : neg = false := hneg
  exact .inr ⟨n, hh, m, rfl, hgood, hint n hh m false hv⟩

/-- **the origin of an accepted program** is `NoneValue` or a non-negative 16-bit number -/
theorem assemble_origin_val {fs : Files} {lines : List Str} {a : Assembly} (h : assemble fs lines = .ok a) :
    OrgVal a.origin := by
  obtain ⟨st⟩ := assemble_stages h
  rw [assemble_origin h]
  rcases originScan_cases a.stmts Value.none with e | ⟨s, hs, ho, e⟩
  · rw [e]; exact .inl rfl
  · rw [e]
    obtain ⟨j, hj⟩ := List.mem_iff_getElem?.mp hs
    exact st.org_address hj ((st.isOrigin_iff hj).1 ho)

end CoCo.Asm

namespace CoCo.VF
open CoCo CoCo.Asm

theorem originAddr_lt_of {o : Value} (h : ∀ hx, o.hex? = some hx → HexStr hx ∧ hx.length ≤ 4) :
    originAddr o < 65536 := by
  have hh : HexStr ((o.hex?).getD []) ∧ ((o.hex?).getD []).length ≤ 4 := by
    cases hx : o.hex? with
    | none => exact ⟨HexStr.nil, by simp⟩
    | some x => exact h x hx
  unfold originAddr
  generalize (o.hex?).getD [] = hx at hh
  generalize (o.hexLen?).getD 0 = hl
  have h1 : byteAt (hx.take 2) < 256 :=
    byteAt_lt (fun c hc => hh.1 c (List.mem_of_mem_take hc)) (by simp; omega)
  have h2 : byteAt (hx.drop 2) < 256 :=
    byteAt_lt (fun c hc => hh.1 c (List.mem_of_mem_drop hc)) (by simp; omega)
  dsimp only
  generalize byteAt (hx.take 2) = x at h1 ⊢
  generalize byteAt (hx.drop 2) = y at h2 ⊢
  have hhi : (if hl ≤ 2 then 0 else x) ≤ 255 := by split <;> omega
  have hlo : (if hl = 0 then 0 else if hl ≤ 2 then x else y) ≤ 255 := by
    split
    · omega
    · split <;> omega
  generalize (if hl ≤ 2 then 0 else x) = a at hhi ⊢
  generalize (if hl = 0 then 0 else if hl ≤ 2 then x else y) = b at hlo ⊢
  omega

/-- **the load address** `main` derives from the origin of an accepted program is a 16-bit address -/
theorem originAddr_lt {fs : Files} {lines : List Str} {a : Assembly} (h : assemble fs lines = .ok a) :
    originAddr a.origin < 65536 := by
  apply originAddr_lt_of
  intro hx hhx
  rcases assemble_origin_val h with e | ⟨i, hh, m, e, hi, hhint⟩
  · rw [e] at hhx; cases hhx; exact ⟨HexStr.nil, by simp⟩
  · rw [e] at hhx
    cases hhx
    exact ⟨numHex_hexStr _ _ _ _, numHex_length_le (by omega) hhint⟩

end CoCo.VF
