/-
Lemmas/OrgFirst.lean — fix f9c374f (finding B1): what the check `orgOK` made in the address loop (`orgOK_before`,
Lemmas/LayoutPasses.lean) gives for an accepted program: every statement before an ORG emits nothing and carries no address
label; hence after a statement that emits bytes or carries an address label there is no ORG (`no_org_after_laid`).
Also: the statement that enters `fix_addresses` for a branch (`Stages.branch_pre`), where the statement indices inside
operands come from (`Stages.address_entry`: the symbol table binds `.address b` only to a labelled statement that is not an
EQU), and that a branch and a `label,PCR` statement have a size (`Stages.relative_size_pos`, `Stages.choices_size_pos`).
-/
import CoCoVerif.Lemmas.NoAddr
import CoCoVerif.Lemmas.StagesTrace

namespace CoCo.Asm
open CoCo
open CoCo.Gen (InstrRow)

/-- what is known of a final statement `s` with a relative operand: `s4` is the statement that enters `fixAll` at its
index, `s1` the statement after `fixOne`, `s` that after `fitWidth`; the field of `s4` is the operand value, a statement
index; the row is a branch row of the instruction table, the op code is that of the row, there is no post byte -/
structure BranchPre (ss4 : List Stmt) (i : Nat) (s s4 s1 : Stmt) : Prop where
  h4 : ss4[i]? = some s4
  hfix : fixOne ss4 i s4 = .ok s1
  hfit : fitWidth s1 = .ok s
  same1 : SameButAdditional s4 s1
  same : SameButAdditional s4 s
  addl : s4.pkg.additional = s.operand.value
  isAddr : s.operand.value.isAddress = true
  rowMem : s4.row ∈ Gen.instructions
  branch : (s4.row.isShortBranch || s4.row.isLongBranch) = true
  opCode : opVal s4.row.rel = .ok s4.pkg.opCode
  noPost : s4.pkg.postByte = .none
  size : s4.pkg.size = s4.row.relSz

theorem Stages.branch_pre {fs : Files} {lines : List Str} {a : Assembly} (st : Stages fs lines a)
    {i : Nat} {s : Stmt} (hs : a.stmts[i]? = some s) (hk : s.operand.kind = .relative) :
    ∃ s4 s1, BranchPre st.ss4 i s s4 s1 := by
  obtain ⟨s0, o, p, sz, mx, pb, hint, ad, vf, vw, v, c, rfl⟩ := st.compiled hs
  -- the parsed operand is relative as well, so the row is a branch row
  have hk0 : s0.operand.kind = .relative := (resolveOperand_relative c.hres hk).1
  obtain ⟨txt, hcr⟩ := c.parsed.2
  obtain ⟨t1, t2, t3, t4, t5, _, t7⟩ := translate_relative c.htr hk
  obtain ⟨rfl, _, rfl, _⟩ := c.fixed t7
  -- the field is a number after `fixOne`: the pass over the FCB / FDB lists leaves the statement alone
  obtain ⟨_, rfl⟩ := c.numeric (fixOne_relative_isNumeric (s := laidOut s0 o p _ _ _ hint ad p.additional) hk c.hfix)
  exact ⟨_, _, c.h4, c.hfix, c.hfit, ⟨vf, rfl⟩, ⟨v, rfl⟩, t1, t2, c.parsed.1, createOperand_relative hcr hk0, t4, t5, t3⟩

theorem orgOK_spec {ss : List Stmt} (h : orgOK ss false = true) {j k : Nat} {sj sk : Stmt}
    (hjk : j < k) (hj : ss[j]? = some sj) (hk : ss[k]? = some sk) (ho : sk.row.isOrigin = true) :
    sj.pkg.size = 0 ∧ (sj.label.isEmpty = true ∨ sj.row.isPseudoDefine = true) :=
  Stmt.lays_false (orgOK_before h hjk hj hk ho)

theorem table_isOrigin : ∀ r ∈ Gen.instructions, (r.isOrigin == (r.mnemonic == "ORG")) = true := by decide +kernel

theorem isOrigin_iff {r : InstrRow} (h : r ∈ Gen.instructions) : r.isOrigin = true ↔ r.mnemonic = "ORG" := by
  have := table_isOrigin r h
  simp only [beq_iff_eq] at this
  rw [this]
  simp

theorem table_pseudoDefine_pseudo : ∀ r ∈ Gen.instructions, r.isPseudoDefine = true → r.isPseudo = true := by
  decide +kernel

theorem table_relSz : ∀ r ∈ Gen.instructions, (r.isShortBranch || r.isLongBranch) = true → 0 < r.relSz := by
  decide +kernel

namespace Stages
variable {fs : Files} {lines : List Str} {a : Assembly}

/-- the check was made before address assignment; it does not read the address -/
theorem orgOK_final (st : Stages fs lines a) : orgOK a.stmts false = true :=
  (orgOK_lockstep st.ss3 a.stmts false
    (st.placed.mono (by rintro s s' ⟨_, _, rfl⟩; exact ⟨rfl, rfl, rfl⟩))).trans st.horg

/-- an ORG comes before the first label and the first byte: in an accepted program, a statement that comes before
an ORG emits nothing and carries no address label -/
theorem org_before (st : Stages fs lines a) {j k : Nat} {sj sk : Stmt} (hjk : j < k)
    (hj : a.stmts[j]? = some sj) (hk : a.stmts[k]? = some sk) (ho : sk.row.isOrigin = true) : sj.lays = false :=
  orgOK_before st.orgOK_final hjk hj hk ho

theorem isOrigin_iff (st : Stages fs lines a) {k : Nat} {s : Stmt} (hs : a.stmts[k]? = some s) :
    s.row.isOrigin = true ↔ s.row.mnemonic = "ORG" :=
  CoCo.Asm.isOrigin_iff (st.row_mem hs)

theorem no_org_after (st : Stages fs lines a) {j k : Nat} {s u : Stmt} (hjk : j < k) (hs : a.stmts[j]? = some s)
    (hl : s.lays = true) (hu : a.stmts[k]? = some u) : u.row.mnemonic ≠ "ORG" := by
  intro ho
  have := st.org_before hjk hs hu ((st.isOrigin_iff hu).2 ho)
  rw [hl] at this
  cases this

/-- no ORG between two statements that lay, whichever comes first: after either there is none -/
theorem no_org_between (st : Stages fs lines a) {i b : Nat} {s t : Stmt} (hs : a.stmts[i]? = some s)
    (ht : a.stmts[b]? = some t) (hls : s.lays = true) (hlt : t.lays = true) :
    ∀ j u, min b i < j → j ≤ max b i → a.stmts[j]? = some u → u.row.mnemonic ≠ "ORG" := by
  intro j u h1 _ hu
  rcases Nat.le_total b i with h | h
  · rw [Nat.min_eq_left h] at h1; exact st.no_org_after h1 ht hlt hu
  · rw [Nat.min_eq_right h] at h1; exact st.no_org_after h1 hs hls hu

/-- the distance between two statements that lay, counted in sizes as `fix_addresses` does, is the distance between
their addresses -/
theorem disp_eq (st : Stages fs lines a) {i b : Nat} {s t : Stmt} (hs : a.stmts[i]? = some s)
    (ht : a.stmts[b]? = some t) (hls : s.lays = true) (hlt : t.lays = true) {x y : Nat} (hx : addrNat s = some x)
    (hy : addrNat t = some y) : branchDisp a.stmts i b = (y : Int) - (x + s.pkg.size) :=
  st.disp_of hs ht (st.no_org_between hs ht hls hlt) hx hy

theorem ss0_notAddr (st : Stages fs lines a) : ∀ s ∈ st.ss0, s.operand.value.isAddress = false :=
  expand_parseLines_forall (fun _ _ h => parseLine_notAddr h) st.hparse st.hexpand

/-- the label table binds `.address b` only to statement `b`, which carries a label and is not an EQU -/
theorem address_entry (st : Stages fs lines a) {k : Str} {b : Nat} {m : Mode}
    (h : st.t.get? k = some (.address b m)) :
    ∃ t, a.stmts[b]? = some t ∧ t.label.isEmpty = false ∧ t.row.isPseudoDefine = false := by
  obtain ⟨htab, _⟩ := buildSymTab_some st.hsym
  have hkv := get?_mem_key h
  rw [htab] at hkv
  obtain ⟨j, s0, e, hs0, h1, h2⟩ := symEntries_address st.ss0_notAddr hkv
  rw [Nat.zero_add] at e
  subst e
  obtain ⟨t, ht, hk⟩ := st.keep05.get hs0
  exact ⟨t, ht, by rw [hk.1]; exact h1, by rw [hk.2]; exact h2⟩

/-- the target of a relative statement of an accepted program carries an address label -/
theorem relative_target (st : Stages fs lines a) {i b : Nat} {m : Mode} {s : Stmt} (hs : a.stmts[i]? = some s)
    (hk : s.operand.kind = .relative) (hv : s.operand.value = .address b m) :
    ∃ t, a.stmts[b]? = some t ∧ t.label.isEmpty = false ∧ t.row.isPseudoDefine = false := by
  obtain ⟨s0, o, p, sz, mx, pb, hint, ad, vf, vw, v, c, rfl⟩ := st.compiled hs
  obtain ⟨_, hres⟩ := resolveOperand_relative c.hres hk
  rw [show o.value = _ from hv] at hres
  obtain ⟨k, m', hg⟩ := resolve_address hres (st.ss0_notAddr s0 (List.mem_of_getElem? c.h0))
  exact st.address_entry hg

/-- the statement an indexed operand's left-hand side names carries an address label -/
theorem left_target (st : Stages fs lines a) {i b : Nat} {m : Mode} {s : Stmt} (hs : a.stmts[i]? = some s)
    (hl : s.operand.left = .val (.address b m)) :
    ∃ t, a.stmts[b]? = some t ∧ t.label.isEmpty = false ∧ t.row.isPseudoDefine = false := by
  obtain ⟨s0, o, p, sz, mx, pb, hint, ad, vf, vw, v, c, rfl⟩ := st.compiled hs
  obtain ⟨txt, hcr⟩ := c.parsed.2
  obtain ⟨l, hl'⟩ := resolveOperand_left c.hres (createOperand_left hcr) hl
  obtain ⟨k, m', hg⟩ := resolveLeft_address hl'
  exact st.address_entry hg

/-- a statement with post byte choices (a `label,PCR` operand) has a size of at least 1: the size loop settled it -/
theorem choices_size_pos (st : Stages fs lines a) {i : Nat} {s : Stmt} (hs : a.stmts[i]? = some s)
    (hc : s.pkg.choices ≠ []) : 0 < s.pkg.size := by
  obtain ⟨s0, o, p, sz, mx, pb, hint, ad, vf, vw, v, c, rfl⟩ := st.compiled hs
  exact c.size_pos hc

theorem relative_size_pos (st : Stages fs lines a) {i : Nat} {s : Stmt} (hs : a.stmts[i]? = some s)
    (hk : s.operand.kind = .relative) : 0 < s.pkg.size := by
  obtain ⟨s4, s1, pre⟩ := st.branch_pre hs hk
  have : s.pkg.size = s4.pkg.size := by obtain ⟨v, rfl⟩ := pre.same; rfl
  rw [this, pre.size]
  exact table_relSz _ pre.rowMem pre.branch

end Stages

/-- in an accepted program, after a statement that emits bytes (`size > 0`) or carries an address
label (a label, on a statement that is not an EQU) there is no ORG -/
theorem no_org_after_laid {fs : Files} {lines : List Str} {a : Assembly} (h : assemble fs lines = .ok a)
    {j : Nat} {s : Stmt} (hs : a.stmts[j]? = some s)
    (hl : 0 < s.pkg.size ∨ (s.label.isEmpty = false ∧ s.row.isPseudoDefine = false)) :
    ∀ k u, j < k → a.stmts[k]? = some u → u.row.mnemonic ≠ "ORG" := by
  intro k u hjk hu
  obtain ⟨st⟩ := assemble_stages h
  exact st.no_org_after hjk hs (Stmt.lays_iff.2 hl) hu

end CoCo.Asm
