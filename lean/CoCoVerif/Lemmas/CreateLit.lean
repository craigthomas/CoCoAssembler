/-
Lemmas/CreateLit.lean — the texts `Value.create_from_str` (`Asm.create`) takes in one piece, read forwards: a decimal
literal (`IsDecLit`), a negative one, `$` and hex digits (`IsHexLit`), a word of `[\w@]`.  What `NumericValue(str)` makes
of a text is decided by its first character (`numericOfStr_plain`, `_minus`, `_dollar`).  All but the negative literal
are operands of EXPRESSION_REGEX (`Rename.AtomShape`: dollars, then `[\w@]+`), and of that shape it is shown once that
it has no mode prefix, bracket or comma and that the regex finds no operator in it, alone or before `,right`
(`atomShape_operandHead`, `atomShape_noComma`, `atomShape_noExpr`); with these `create` is `numericOfStr`, or a symbol
(`createTail_atomShape`, `create_atomShape` over `createTail_atom` of Lemmas/CreateGraph.lean).  Then `create` on the
literal spellings and on `left,right`.  Upper-case hex rendering (`hex2`, `hex4`) against `parseBase 16` gives the hex
literals of the witnesses.
Last: what `"{}".format(n)` prints for a natural number (`decStr`) and what the decimal branch of `NumericValue(str)` reads
back (`numericOfStr_decStr`; `ExpressionValue.resolve` goes through the STRING constructor).
-/
import CoCoVerif.Lemmas.CreateGraph
import CoCoVerif.Lemmas.HexEmit

namespace CoCo.Asm
open CoCo

def IsDecLit (x : Str) : Prop := x ≠ [] ∧ x.all isDigit = true

instance (x : Str) : Decidable (IsDecLit x) := by unfold IsDecLit; infer_instance

/-- a string of exactly `n` hex digits (either case) -/
def IsHexLit (n : Nat) (hs : Str) : Prop := hs.length = n ∧ hs.all isHexD = true

instance (n : Nat) (hs : Str) : Decidable (IsHexLit n hs) := by unfold IsHexLit; infer_instance

/-- `"{:04X}".format(v)` : the four upper-case hex digits of a word (`byteHex` gives the two of a byte) -/
abbrev hex4 (v : Nat) : Str := wordHex v
/-- `"{:02X}".format(v)` -/
abbrev hex2 (v : Nat) : Str := byteHex v

theorem isHexD_hexChar : ∀ d, d < 16 → isHexD (hexChar d) = true := by decide

theorem isHexLit_hex2 {v : Nat} (h : v < 256) : IsHexLit 2 (hex2 v) := by
  refine ⟨rfl, ?_⟩
  simp [byteHex, isHexD_hexChar (v / 16) (by omega), isHexD_hexChar (v % 16) (by omega)]

theorem isHexLit_hex4 {v : Nat} (h : v < 65536) : IsHexLit 4 (hex4 v) := by
  refine ⟨rfl, ?_⟩
  simp [wordHex, byteHex, isHexD_hexChar (v / 256 / 16) (by omega), isHexD_hexChar (v / 256 % 16) (by omega),
    isHexD_hexChar (v % 256 / 16) (by omega), isHexD_hexChar (v % 16) (by omega)]

theorem parseBase_hex2 {v : Nat} (h : v < 256) : parseBase 16 (hex2 v) = v := by
  simp only [byteHex, parseBase, List.foldl_cons, List.foldl_nil,
    digitVal_hexChar (v / 16) (by omega), digitVal_hexChar (v % 16) (by omega)]
  omega

theorem parseBase_hex4 {v : Nat} (h : v < 65536) : parseBase 16 (hex4 v) = v := by
  simp only [wordHex, byteHex, parseBase, List.cons_append, List.nil_append, List.foldl_cons, List.foldl_nil,
    digitVal_hexChar (v / 256 / 16) (by omega), digitVal_hexChar (v / 256 % 16) (by omega),
    digitVal_hexChar (v % 256 / 16) (by omega), digitVal_hexChar (v % 256 % 16) (by omega)]
  omega

theorem _root_.CoCo.Props.hex2_lit {n : Nat} (h : n < 256) : ∃ hs, hex2 n = hs ∧ IsHexLit 2 hs ∧ parseBase 16 hs = n :=
  ⟨_, rfl, isHexLit_hex2 h, parseBase_hex2 h⟩

theorem _root_.CoCo.Props.hex4_lit {n : Nat} (h : n < 65536) : ∃ hs, hex4 n = hs ∧ IsHexLit 4 hs ∧ parseBase 16 hs = n :=
  ⟨_, rfl, isHexLit_hex4 h, parseBase_hex4 h⟩

theorem parseBase_hexLit {n : Nat} {hs : Str} (h : IsHexLit n hs) : parseBase 16 hs < 16 ^ n :=
  h.1 ▸ parseBase_bound 16 hs fun c hc => digitVal_lt_16 (List.all_eq_true.mp h.2 c hc)

theorem parseBase_hexLit2 {hs : Str} (h : IsHexLit 2 hs) : parseBase 16 hs < 256 := parseBase_hexLit h

theorem parseBase_hexLit4 {hs : Str} (h : IsHexLit 4 hs) : parseBase 16 hs < 65536 := parseBase_hexLit h

theorem Rename.isSym_ne {c : Char} (h : isSym c = true) :
    c ≠ apos ∧ c ≠ '%' ∧ c ≠ '$' ∧ c ≠ '-' ∧ c ≠ ',' ∧ c ≠ '<' ∧ c ≠ '>' ∧ c ≠ '#' := by
  refine ⟨?_, ?_, ?_, ?_, ?_, ?_, ?_, ?_⟩ <;> (rintro rfl; revert h; decide)

theorem isDigit_isSym {c : Char} (h : isDigit c = true) : isSym c = true := by simp [isSym, isWord, h]

theorem isHexD_isWord {c : Char} (h : isHexD c = true) : isWord c = true := by
  simp only [isHexD, isDigit, Bool.or_eq_true, Bool.and_eq_true, decide_eq_true_eq, char_le_iff] at h
  simp only [isWord, isDigit, isAlpha, Bool.or_eq_true, Bool.and_eq_true, decide_eq_true_eq, char_le_iff, beq_iff_eq]
  have e0 : '0'.toNat = 48 := rfl
  have e9 : '9'.toNat = 57 := rfl
  have ea : 'a'.toNat = 97 := rfl
  have ef : 'f'.toNat = 102 := rfl
  have ez : 'z'.toNat = 122 := rfl
  have eA : 'A'.toNat = 65 := rfl
  have eF : 'F'.toNat = 70 := rfl
  have eZ : 'Z'.toNat = 90 := rfl
  rw [e0, e9, ea, ef, eA, eF] at h
  rw [e0, e9, ea, ez, eA, eZ]
  omega

theorem fmtHex4_operandCh {n : Nat} (h : n < 65536) : (fmtHex 4 n).all isOperandCh = true := by
  rw [fmtHex_word h]
  refine List.all_eq_true.mpr fun c hc => ?_
  simp [isOperandCh, isHexD_isWord (List.all_eq_true.mp (isHexLit_hex4 h).2 c hc)]

theorem IsDecLit.cond {x : Str} (hx : IsDecLit x) : (x != [] && x.all isDigit) = true := by
  simpa [IsDecLit] using hx

/-- a text that does not begin with `'`, `%`, `$` or `-` is read as a decimal number -/
theorem numericOfStr_plain {a : Char} (h1 : a ≠ apos) (h2 : a ≠ '%') (h3 : a ≠ '$') (h4 : a ≠ '-') (t : Str)
    (sizeHint : Option Nat) (mode : Mode) :
    numericOfStr (a :: t) sizeHint mode =
      if ((a :: t).all isDigit) = true then
        (if parseBase 10 (a :: t) > 65535 then .error .valueType
         else .ok (.numeric (parseBase 10 (a :: t)) (postInit (parseBase 10 (a :: t)) (initHint sizeHint mode) mode).1
            (postInit (parseBase 10 (a :: t)) (initHint sizeHint mode) mode).2 false))
      else .error .valueType := by
  unfold numericOfStr
  simp only []
  split
  · rename_i v hc
    split at hc
    · rename_i q c heq
      cases heq
      simp [h1] at hc
    · cases hc
  · split
    · rename_i heq; cases heq; exact absurd rfl h2
    · rename_i heq; cases heq; exact absurd rfl h3
    · rename_i heq; cases heq; exact absurd rfl h4
    · simp

/-- a text that begins with `-` is read as a negative decimal number -/
theorem numericOfStr_minus (ds : Str) (sizeHint : Option Nat) (mode : Mode) :
    numericOfStr ('-' :: ds) sizeHint mode =
      if (ds != [] && ds.all isDigit) = true then
        (if parseBase 10 ds > 32768 then .error .valueType
         else .ok (.numeric (parseBase 10 ds) (initHint sizeHint mode) mode true))
      else .error .valueType := by
  have hap : ('-' == apos) = false := by decide
  unfold numericOfStr
  simp only []
  split
  · rename_i v hc
    split at hc
    · rename_i q c heq
      cases heq
      simp [hap] at hc
    · cases hc
  · rfl

/-- a text that begins with `$` is read as a hexadecimal number of at most four digits; two digits without a size
hint and without `>` make a one-byte (direct) number -/
theorem numericOfStr_dollar (hs : Str) (sizeHint : Option Nat) (mode : Mode) :
    numericOfStr ('$' :: hs) sizeHint mode =
      if (hs != [] && hs.all isHexD) = true then
        (if hs.length > 4 then .error .valueType
         else
          let hm := if (hs.length == 2 && sizeHint.isNone && mode != .explExtended) = true
                    then (some 2, if mode != .immediate then Mode.direct else mode) else (initHint sizeHint mode, mode)
          .ok (.numeric (parseBase 16 hs) hm.1 (if hm.2 == .none then .extended else hm.2) false))
      else .error .valueType := by
  have hap : ('$' == apos) = false := by decide
  unfold numericOfStr
  simp only []
  split
  · rename_i v hc
    split at hc
    · rename_i q c heq
      cases heq
      simp [hap] at hc
    · cases hc
  · rfl

/-- `NumericValue` of a run of digits: the number, refused from 65536 on -/
theorem numericOfStr_decLit {x : Str} (hx : IsDecLit x) (sizeHint : Option Nat) (mode : Mode) :
    numericOfStr x sizeHint mode =
      if parseBase 10 x > 65535 then .error .valueType
      else .ok (.numeric (parseBase 10 x) (postInit (parseBase 10 x) (initHint sizeHint mode) mode).1
            (postInit (parseBase 10 x) (initHint sizeHint mode) mode).2 false) := by
  cases x with
  | nil => exact absurd rfl hx.1
  | cons a t =>
    obtain ⟨h1, h2, h3, h4, _⟩ := Rename.isSym_ne (isDigit_isSym (List.all_eq_true.mp hx.2 a (by simp)))
    rw [numericOfStr_plain h1 h2 h3 h4, if_pos hx.2]

theorem numericOfStr_dec {x : Str} (hx : IsDecLit x) (sizeHint : Option Nat) (mode : Mode)
    (hv : parseBase 10 x < 65536) :
    numericOfStr x sizeHint mode =
      .ok (.numeric (parseBase 10 x) (postInit (parseBase 10 x) (initHint sizeHint mode) mode).1
            (postInit (parseBase 10 x) (initHint sizeHint mode) mode).2 false) := by
  rw [numericOfStr_decLit hx, if_neg (by omega)]

theorem numericOfStr_dec_big {x : Str} (hx : IsDecLit x) (sizeHint : Option Nat) (mode : Mode)
    (hv : 65536 ≤ parseBase 10 x) : numericOfStr x sizeHint mode = .error .valueType := by
  rw [numericOfStr_decLit hx, if_pos (by omega)]

theorem numericOfStr_neg {ds : Str} (hx : IsDecLit ds) (sizeHint : Option Nat) (mode : Mode)
    (hv : parseBase 10 ds ≤ 32768) :
    numericOfStr ('-' :: ds) sizeHint mode = .ok (.numeric (parseBase 10 ds) (initHint sizeHint mode) mode true) := by
  rw [numericOfStr_minus, if_pos hx.cond, if_neg (by omega)]

/-- `$hh` : two digits.  Without a size hint (and without `>`) the value is DIRECT with hint 2 (immediate stays
immediate) -/
theorem numericOfStr_hex2 {hs : Str} (h : IsHexLit 2 hs) (sizeHint : Option Nat) (mode : Mode) :
    numericOfStr ('$' :: hs) sizeHint mode =
      .ok (.numeric (parseBase 16 hs)
        (if sizeHint.isNone ∧ mode ≠ .explExtended then some 2 else initHint sizeHint mode)
        (let m := if sizeHint.isNone ∧ mode ≠ .explExtended then (if mode != .immediate then Mode.direct else mode) else mode
         if m == .none then .extended else m) false) := by
  have hne : hs ≠ [] := by rintro rfl; cases h.1
  rw [numericOfStr_dollar, if_pos (by simp [hne, h.2]), if_neg (by rw [h.1]; decide)]
  cases sizeHint <;> by_cases hm : mode = .explExtended <;> simp [h.1, hm]

theorem numericOfStr_hex4 {hs : Str} (h : IsHexLit 4 hs) (sizeHint : Option Nat) (mode : Mode) :
    numericOfStr ('$' :: hs) sizeHint mode =
      .ok (.numeric (parseBase 16 hs) (initHint sizeHint mode) (if mode == .none then .extended else mode) false) := by
  have hne : hs ≠ [] := by rintro rfl; cases h.1
  rw [numericOfStr_dollar, if_pos (by simp [hne, h.2]), if_neg (by rw [h.1]; decide)]
  simp [h.1]

/-- the first character is none of the mode prefixes -/
def PlainHead (s : Str) : Prop := ∀ c ∈ s.head?, c ≠ '<' ∧ c ≠ '>' ∧ c ≠ '#'

/-- the first character is none of the mode prefixes and not an opening bracket -/
def OperandHead (s : Str) : Prop := ∀ c ∈ s.head?, c ≠ '<' ∧ c ≠ '>' ∧ c ≠ '#' ∧ c ≠ '['

theorem OperandHead.plain {s : Str} (h : OperandHead s) : PlainHead s :=
  fun c hc => ⟨(h c hc).1, (h c hc).2.1, (h c hc).2.2.1⟩

theorem OperandHead.noBracket {s : Str} (h : OperandHead s) : s.head? ≠ some '[' := by
  intro e
  exact (h '[' (by simp [e])).2.2.2 rfl

theorem operandHead_cons {c : Char} (s : Str) (h : c ≠ '<' ∧ c ≠ '>' ∧ c ≠ '#' ∧ c ≠ '[') : OperandHead (c :: s) := by
  intro d hd
  simp only [List.head?_cons, Option.mem_def, Option.some.injEq] at hd
  subst hd
  exact h

theorem OperandHead.append {s : Str} (h : OperandHead s) (hne : s ≠ []) (t : Str) : OperandHead (s ++ t) := by
  cases s with
  | nil => exact absurd rfl hne
  | cons c u => exact operandHead_cons _ (h c (by simp))

theorem operandHead_minus (s : Str) : OperandHead ('-' :: s) := operandHead_cons s (by decide)
theorem operandHead_comma (s : Str) : OperandHead (',' :: s) := operandHead_cons s (by decide)

/-- not a string row: `create` is `createTail` on what the mode prefix leaves -/
theorem create_modePrefix {fuel : Nat} {c : Char} {rest value : Str} {is16 defExt : Bool} {mode : Mode}
    (hp : modePrefix defExt c rest = (mode, value)) :
    create (fuel + 1) (c :: rest) false is16 defExt = createTail fuel is16 mode value := by
  rw [create_cons, if_neg (by simp), hp]

/-- without mode prefix: the whole text in the default mode -/
theorem create_noPrefix {x : Str} (hh : PlainHead x) (hne : x ≠ []) (fuel : Nat) (is16 defExt : Bool) :
    create (fuel + 1) x false is16 defExt = createTail fuel is16 (if defExt then Mode.extended else Mode.none) x := by
  cases x with
  | nil => exact absurd rfl hne
  | cons c t =>
    obtain ⟨n1, n2, n3⟩ := hh c (by simp)
    exact create_modePrefix (modePrefix_plain n1 n2 n3 t)

/-! ### an operand of EXPRESSION_REGEX

Dollars, then `[\w@]+`: a decimal, `$` and hex digits, a name.  That such a text has no mode prefix, no bracket, no
comma, and that EXPRESSION_REGEX finds no operator in it, alone or in front of `,right`, is read off this shape once. -/

namespace Rename

theorem isSym_not_dollar {c : Char} (h : isSym c = true) : (c == '$') = false := by
  simpa using (isSym_ne h).2.2.1

theorem isHexD_isSym {c : Char} (h : isHexD c = true) : isSym c = true := by
  simp [isSym, isHexD_isWord h]

/-- an operand of EXPRESSION_REGEX: dollars, then at least one `[\w@]` -/
def AtomShape (a : Str) : Prop :=
  ∃ d w, a = d ++ w ∧ (∀ c ∈ d, (c == '$') = true) ∧ w ≠ [] ∧ (∀ c ∈ w, isSym c = true)

theorem atomShape_syms {x : Str} (hne : x ≠ []) (h : ∀ c ∈ x, isSym c = true) : AtomShape x :=
  ⟨[], x, rfl, by simp, hne, h⟩

theorem atomShape_dec {x : Str} (hx : IsDecLit x) : AtomShape x :=
  atomShape_syms hx.1 fun c hc => isDigit_isSym (List.all_eq_true.mp hx.2 c hc)

theorem atomShape_hex {hs : Str} (hne : hs ≠ []) (h : hs.all isHexD = true) : AtomShape ('$' :: hs) :=
  ⟨['$'], hs, rfl, by simp, hne, fun c hc => isHexD_isSym (List.all_eq_true.mp h c hc)⟩

theorem atomShape_ne_nil {a : Str} (h : AtomShape a) : a ≠ [] := by
  obtain ⟨d, w, rfl, _, hw, _⟩ := h
  intro hc
  exact hw (List.append_eq_nil_iff.mp hc).2

theorem atomShape_head {a : Str} (h : AtomShape a) (rest : Str) :
    ∃ c t, a ++ rest = c :: t ∧ (isSym c = true ∨ c = '$') := by
  obtain ⟨d, w, rfl, hd, hw, hs⟩ := h
  cases d with
  | nil =>
    cases w with
    | nil => exact absurd rfl hw
    | cons c t => exact ⟨c, t ++ rest, rfl, .inl (hs c (by simp))⟩
  | cons c t => exact ⟨c, t ++ w ++ rest, by simp, .inr (by simpa using hd c (by simp))⟩

theorem atomShape_operandHead {a : Str} (h : AtomShape a) : OperandHead a := by
  obtain ⟨c, t, e, hc⟩ := atomShape_head h []
  rw [List.append_nil] at e
  subst e
  refine operandHead_cons t ?_
  rcases hc with hc | rfl
  · exact ⟨(isSym_ne hc).2.2.2.2.2.1, (isSym_ne hc).2.2.2.2.2.2.1, (isSym_ne hc).2.2.2.2.2.2.2,
      by rintro rfl; revert hc; decide⟩
  · decide

theorem atomShape_noComma {a : Str} (h : AtomShape a) : ',' ∉ a := by
  obtain ⟨d, w, rfl, hd, _, hs⟩ := h
  intro hm
  rcases List.mem_append.mp hm with hm | hm
  · exact absurd (hd _ hm) (by decide)
  · exact (isSym_ne (hs _ hm)).2.2.2.2.1 rfl

/-- after the operand, the end or a character that neither continues it nor is an operator: no expression -/
theorem atomShape_noExpr {a : Str} (h : AtomShape a) {rest : Str}
    (hr : ∀ c ∈ rest.head?, isSym c = false ∧ opChar c = false) : splitExpr (a ++ rest) = none := by
  obtain ⟨d, w, rfl, hd, hw, hs⟩ := h
  have st : Stops isSym rest := fun c hc => (hr c hc).1
  have e1 : (d ++ w ++ rest).dropWhile (· == '$') = w ++ rest := by
    rw [List.append_assoc]
    exact dropWhile_all_stops hd (stops_of_all hw hs fun x hx => isSym_not_dollar hx)
  have e2 : (w ++ rest).takeWhile isSym = w := takeWhile_all_stops hs st
  have e3 : (w ++ rest).dropWhile isSym = rest := dropWhile_all_stops hs st
  have hw' : (w == []) = false := beq_eq_false_iff_ne.mpr hw
  simp only [splitExpr, e1, e2, e3, hw', Bool.false_eq_true, if_false]
  cases rest with
  | nil => rfl
  | cons c r => simp [(hr c (by simp)).2]

theorem atomShape_splitExpr {a : Str} (h : AtomShape a) : splitExpr a = none := by
  simpa using atomShape_noExpr h (rest := []) (by simp)

theorem atomShape_splitExpr_comma {a : Str} (h : AtomShape a) (r : Str) : splitExpr (a ++ ',' :: r) = none :=
  atomShape_noExpr h (by simp; decide)

theorem atomShape_hexLit {n : Nat} {hs : Str} (h : IsHexLit (n + 1) hs) : AtomShape ('$' :: hs) :=
  atomShape_hex (by rintro rfl; cases h.1) h.2

/-- such a text after the mode prefix: a number if `NumericValue` takes it, else a symbol if it is a word -/
theorem createTail_atomShape {a : Str} (h : AtomShape a) (fuel : Nat) (is16 : Bool) (mode : Mode) :
    createTail fuel is16 mode a =
      match numericOfStr a (if is16 then some 4 else none) mode with
      | .ok v => .ok v
      | .error _ => if (a != [] && a.all isSym) = true then .ok (.symbol a mode) else .error .valueType :=
  createTail_atom (atomShape_splitExpr h) (by simpa using atomShape_noComma h) fuel is16 mode

/-- … and as the whole text: it has no mode prefix -/
theorem create_atomShape {a : Str} (h : AtomShape a) (fuel : Nat) (is16 defExt : Bool) :
    create (fuel + 1) a false is16 defExt = createTail fuel is16 (if defExt then Mode.extended else Mode.none) a :=
  create_noPrefix (atomShape_operandHead h).plain (atomShape_ne_nil h) fuel is16 defExt

end Rename

theorem splitExpr_dec {x : Str} (hx : IsDecLit x) : splitExpr x = none :=
  Rename.atomShape_splitExpr (Rename.atomShape_dec hx)

theorem decLit_no_comma {x : Str} (hx : IsDecLit x) : ',' ∉ x :=
  Rename.atomShape_noComma (Rename.atomShape_dec hx)

theorem splitExpr_head_nonword (c : Char) (s : Str) (h1 : c ≠ '$') (h2 : isSym c = false) :
    splitExpr (c :: s) = none := by
  have hd : (c == '$') = false := by simpa using h1
  simp [splitExpr, hd, h2]

theorem splitExpr_neg (ds : Str) : splitExpr ('-' :: ds) = none :=
  splitExpr_head_nonword '-' ds (by decide) (by decide)

/-- a run of digits through `Value.create_from_str`: no string, no mode prefix, no operator, no comma; it is a number
if `NumericValue` takes it and a symbol of that name if not -/
theorem create_decLit {x : Str} (hx : IsDecLit x) (fuel : Nat) (is16 defExt : Bool) :
    create (fuel + 1) x false is16 defExt =
      match numericOfStr x (if is16 then some 4 else none) (if defExt then Mode.extended else Mode.none) with
      | .ok v => .ok v
      | .error _ => .ok (.symbol x (if defExt then Mode.extended else Mode.none)) := by
  have sh := Rename.atomShape_dec hx
  have hsym : (x != [] && x.all isSym) = true := by
    simp only [Bool.and_eq_true, bne_iff_ne, ne_eq, List.all_eq_true]
    exact ⟨hx.1, fun c hc => isDigit_isSym (List.all_eq_true.mp hx.2 c hc)⟩
  rw [Rename.create_atomShape sh, Rename.createTail_atomShape sh, if_pos hsym]

/-- a minus sign and a run of digits through `Value.create_from_str`: a number if `NumericValue` takes it, else
refused (a minus sign is no symbol character) -/
theorem create_negLit {ds : Str} (hx : IsDecLit ds) (fuel : Nat) (is16 defExt : Bool) :
    create (fuel + 1) ('-' :: ds) false is16 defExt =
      match numericOfStr ('-' :: ds) (if is16 then some 4 else none) (if defExt then Mode.extended else Mode.none) with
      | .ok v => .ok v
      | .error _ => .error .valueType := by
  have hsym : ¬ (('-' :: ds) != [] && ('-' :: ds).all isSym) = true := by
    have : isSym '-' = false := by decide
    simp [this]
  rw [create_noPrefix (operandHead_minus ds).plain (by simp), createTail_atom (splitExpr_neg ds)
    (by simp [decLit_no_comma hx]), if_neg hsym]
  rfl

/-- a decimal literal as the whole operand: mode EXTENDED forces hint 4 — also for a value below 256 -/
theorem createV_decLit {x : Str} (hx : IsDecLit x) (hv : parseBase 10 x < 65536) (is16 : Bool) :
    createV x false is16 = .ok (.numeric (parseBase 10 x) (some 4) .extended false) := by
  rw [createV, create_decLit hx, numericOfStr_dec hx _ _ hv]
  cases is16 <;> simp [initHint, postInit]

theorem createV_neg {ds : Str} (hx : IsDecLit ds) (hv : parseBase 10 ds ≤ 32768) :
    createV ('-' :: ds) false false = .ok (.numeric (parseBase 10 ds) (some 4) .extended true) := by
  rw [createV, create_negLit hx]
  simp [numericOfStr_neg hx none .extended hv, initHint]

theorem createV_hex4 {hs : Str} (h : IsHexLit 4 hs) (is16 : Bool) :
    createV ('$' :: hs) false is16 = .ok (.numeric (parseBase 16 hs) (some 4) .extended false) := by
  have sh := Rename.atomShape_hexLit h
  rw [createV, Rename.create_atomShape sh, Rename.createTail_atomShape sh, numericOfStr_hex4 h]
  cases is16 <;> rfl

/-- `$hh`: DIRECT with hint 2 on a row without `is_16_bit`; on an `is_16_bit` row the size hint 4 of the row wins and
the value stays EXTENDED -/
theorem createV_hex2 {hs : Str} (h : IsHexLit 2 hs) (is16 : Bool) :
    createV ('$' :: hs) false is16 =
      .ok (.numeric (parseBase 16 hs) (if is16 then some 4 else some 2) (if is16 then .extended else .direct) false) := by
  have sh := Rename.atomShape_hexLit h
  rw [createV, Rename.create_atomShape sh, Rename.createTail_atomShape sh, numericOfStr_hex2 h]
  cases is16 <;> rfl

def orgRowR : Gen.InstrRow :=
  ⟨"ORG", none, 0, none, 0, none, 0, none, 0, none, 0, none, 0, true, false, false, false, false, false, false,
    true, false, false, false, false, false⟩

theorem createOperand_org {n : Nat} (h : n < 65536) :
    createOperand ('$' :: fmtHex 4 n) orgRowR
      = .ok { kind := .pseudo, text := '$' :: fmtHex 4 n, value := .numeric n (some 4) .extended false } := by
  have e : fmtHex 4 n = hex4 n := fmtHex_word h
  have hv := createV_hex4 (isHexLit_hex4 h) false
  rw [parseBase_hex4 h] at hv
  unfold createOperand
  simp [orgRowR, e, hv]

/-- `left,right` with exactly one comma and no expression on the left -/
theorem create_leftRight {fuel : Nat} {l r : Str} {is16 defExt : Bool}
    (hh : PlainHead (l ++ ',' :: r)) (hs : splitExpr (l ++ ',' :: r) = none) (hl : ',' ∉ l) (hr : ',' ∉ r) :
    create (fuel + 1) (l ++ ',' :: r) false is16 defExt =
      .ok (.leftRight l r (if defExt then .extended else .none)) := by
  have hsp : splitOn ',' (l ++ ',' :: r) = [l, r] := by
    rw [splitOn_append_sep ',' l r hl, splitOn_noSep ',' r hr]
  have hcomma : (l ++ ',' :: r).contains ',' = true := by simp
  rw [create_noPrefix hh (by simp)]
  simp only [createTail, hs, hcomma, hsp, if_true]

abbrev decStr (n : Nat) : Str := (toString n).toList

theorem decStr_eq (n : Nat) : decStr n = Nat.toDigits 10 n := by
  simp [decStr]

theorem decStr_ne_nil (n : Nat) : decStr n ≠ [] := by
  rw [decStr_eq]; exact Nat.toDigits_ne_nil

theorem isDigit_of_core {c : Char} (h : c.isDigit = true) : isDigit c = true := by
  simp only [Char.isDigit, Bool.and_eq_true, decide_eq_true_eq] at h
  simp only [isDigit, Bool.and_eq_true, decide_eq_true_eq]
  exact ⟨Char.le_def.mpr (by simpa using h.1), Char.le_def.mpr (by simpa using h.2)⟩

theorem decStr_all_isDigit (n : Nat) : (decStr n).all isDigit = true := by
  rw [List.all_eq_true, decStr_eq]
  exact fun c hc => isDigit_of_core (Nat.isDigit_of_mem_toDigits (by decide) (by decide) hc)

theorem digitVal_digitChar : ∀ d, d < 10 → digitVal (Nat.digitChar d) = d := by decide

theorem parseBase_append (b : Nat) (xs : Str) (c : Char) :
    parseBase b (xs ++ [c]) = parseBase b xs * b + digitVal c := by
  simp [parseBase, List.foldl_append]

theorem parseBase_toDigits (n : Nat) : parseBase 10 (Nat.toDigits 10 n) = n := by
  induction n using Nat.strongRecOn with
  | _ n ih =>
    by_cases h : n < 10
    · rw [Nat.toDigits_of_lt_base h]
      simp [parseBase, digitVal_digitChar n h]
    · rw [Nat.toDigits_of_base_le (by decide) (by omega), parseBase_append,
        ih (n / 10) (by omega), digitVal_digitChar _ (Nat.mod_lt _ (by decide))]
      omega

theorem parseBase_decStr (n : Nat) : parseBase 10 (decStr n) = n := by
  rw [decStr_eq]; exact parseBase_toDigits n

theorem decStr_decLit (n : Nat) : IsDecLit (decStr n) := ⟨decStr_ne_nil n, decStr_all_isDigit n⟩

/-- `NumericValue("{}".format(n), mode=m)` for a natural number: the decimal branch -/
theorem numericOfStr_decStr (n : Nat) (m : Mode) :
    numericOfStr (decStr n) none m =
      (if n > 65535 then .error .valueType
       else .ok (.numeric n (postInit n (initHint none m) m).1 (postInit n (initHint none m) m).2 false)) := by
  rw [numericOfStr_decLit (decStr_decLit n), parseBase_decStr]

/-- `NumericValue("-{}".format(n), mode=m)`: the negative branch (no `postInit`, bound 32768) -/
theorem numericOfStr_neg_decStr (n : Nat) (m : Mode) :
    numericOfStr ('-' :: decStr n) none m =
      (if n > 32768 then .error .valueType else .ok (.numeric n (initHint none m) m true)) := by
  rw [numericOfStr_minus, if_pos (decStr_decLit n).cond, parseBase_decStr]

end CoCo.Asm
