/-
Lemmas/FrontEndAtom.lean — the text that stands for a number in an operand: `Atom t a i neg md`, a literal of any
spelling (decimal, `-n`, `$hh`, `$hhhh`) or the name of a symbol bound in `t`.  The front end (`createOperand` then
`resolveOperand`) is computed once per POSITION of the atom in the operand text (`#a  >a  <a  a  [a]  a,R  [a,R]`),
for every atom.
-/
import CoCoVerif.Lemmas.FrontEndOperand
import CoCoVerif.Lemmas.FrontEndSymbol

namespace CoCo.Asm
open CoCo
open CoCo.Gen (InstrRow)

/-- how the mode `m0` of the created value and the mode `m` of the resolved value answer to the mode the prefix set:
`#` and `>` are kept; `<` is kept or has already made a direct-page number; without a prefix nothing explicit appears -/
def ModeOK : Mode → Mode → Mode → Prop
  | .immediate, m0, _ => m0 = .immediate
  | .explExtended, m0, _ => m0 = .explExtended
  | .explDirect, m0, m => m0 = .explDirect ∨ (m0 = .direct ∧ m = .direct)
  | .extended, m0, _ => m0 = .extended ∨ m0 = .direct
  | _, _, _ => True

theorem modeOK_self (mode m : Mode) : ModeOK mode mode m := by cases mode <;> simp [ModeOK]

/-- what the front end needs to know of the spelling of an atom `a`: no mode prefix and no bracket of its own, no comma,
and no operator in `a,right` for EXPRESSION_REGEX to find -/
structure AtomText (a : Str) : Prop where
  head : OperandHead a
  ne : a ≠ []
  noComma : ',' ∉ a
  noExprComma : ∀ r, splitExpr (a ++ ',' :: r) = none

/-- an operand of EXPRESSION_REGEX: a decimal, `$` and hex digits, a name -/
theorem atomText_shape {a : Str} (h : Rename.AtomShape a) : AtomText a :=
  ⟨Rename.atomShape_operandHead h, Rename.atomShape_ne_nil h, Rename.atomShape_noComma h,
    Rename.atomShape_splitExpr_comma h⟩

theorem atomText_neg {x : Str} (hx : IsDecLit x) : AtomText ('-' :: x) :=
  ⟨operandHead_minus x, by simp, by simpa using decLit_no_comma hx,
    fun _ => splitExpr_head_nonword '-' _ (by decide) (by decide)⟩

/-- the text `a` stands for the number `i` (negative if `neg`) wherever an operand may hold a number:
`create_from_str` (after the mode prefix: `createTail`) followed by `resolve` under `t` reads it, in every mode a prefix
can set and on rows with and without `is_16_bit`, as that number.  `md is16 mode` is the mode the number then carries
(it matters twice: an unprefixed operand is direct iff it is DIRECT, and an offset from the program counter takes 16
bits if it is EXTENDED). -/
structure Atom (t : SymTab) (a : Str) (i : Nat) (neg : Bool) (md : Bool → Mode → Mode) : Prop extends AtomText a where
  reads : ∀ is16 mode, ∃ v0 h, createTail 3 is16 mode a = .ok v0 ∧
    v0.resolve t = .ok (.numeric i h (md is16 mode) neg) ∧
    (v0 = .numeric i h (md is16 mode) neg ∨ v0.isSymbol = true) ∧ ModeOK mode v0.mode (md is16 mode)

theorem postInit_modeOK (n : Nat) (is16 : Bool) (mode : Mode) :
    ModeOK mode (postInit n (initHint (if is16 then some 4 else none) mode) mode).2
      (postInit n (initHint (if is16 then some 4 else none) mode) mode).2 := by
  cases mode with
  | immediate => exact postInit_mode_kept _ _ (.inl rfl)
  | explExtended => exact postInit_mode_kept _ _ (.inr rfl)
  | extended => exact .inl rfl
  | explDirect => cases is16 <;> by_cases h : n < 256 <;> simp [ModeOK, postInit, initHint, h]
  | _ => trivial

/-- decimal `n` -/
theorem atom_dec (t : SymTab) {x : Str} (hx : IsDecLit x) (hv : parseBase 10 x < 65536) :
    Atom t x (parseBase 10 x) false
      (fun is16 mode => (postInit (parseBase 10 x) (initHint (if is16 then some 4 else none) mode) mode).2) :=
  have sh := Rename.atomShape_dec hx
  ⟨atomText_shape sh, fun is16 mode =>
    ⟨_, _, by rw [Rename.createTail_atomShape sh, numericOfStr_dec hx _ _ hv], rfl, .inl rfl, postInit_modeOK _ is16 mode⟩⟩

/-- a bare decimal is never direct … -/
theorem decMode_not_direct (n : Nat) (is16 : Bool) :
    (postInit n (initHint (if is16 then some 4 else none) .extended) .extended).2 ≠ .direct := by
  rw [initHint_extended, postInit_hint]
  decide

/-- … but as the left part of `n,R` it is, below 256 on a row without size hint -/
theorem decMode_left (n : Nat) (is16 : Bool) :
    (postInit n (initHint (if is16 then some 4 else none) .none) .none).2 =
      if is16 then .extended else if n < 256 then .direct else .extended := by
  cases is16 <;> by_cases h : n < 256 <;> simp [postInit, initHint, h]

/-- `-n` -/
theorem atom_neg (t : SymTab) {x : Str} (hx : IsDecLit x) (hv : parseBase 10 x ≤ 32768) :
    Atom t ('-' :: x) (parseBase 10 x) true (fun _ mode => mode) :=
  ⟨atomText_neg hx, fun is16 mode =>
    ⟨_, _, by rw [createTail_atom (splitExpr_neg x) (by simpa using decLit_no_comma hx), numericOfStr_neg hx _ _ hv],
      rfl, .inl rfl, modeOK_self mode mode⟩⟩

/-- the mode of `$hh`: direct on a row without size hint, unless `>` or `#` say otherwise -/
def hex2Mode (is16 : Bool) (mode : Mode) : Mode :=
  if is16 then (if mode == .none then .extended else mode)
  else if mode == .explExtended ∨ mode == .immediate then mode else .direct

/-- `$hh` -/
theorem atom_hex2 (t : SymTab) {hs : Str} (h : IsHexLit 2 hs) : Atom t ('$' :: hs) (parseBase 16 hs) false hex2Mode :=
  have sh := Rename.atomShape_hexLit h
  ⟨atomText_shape sh, fun is16 mode => by
    obtain ⟨hh, e⟩ : ∃ hh, numericOfStr ('$' :: hs) (if is16 then some 4 else none) mode =
        .ok (.numeric (parseBase 16 hs) hh (hex2Mode is16 mode) false) := by
      rw [numericOfStr_hex2 h]
      cases is16 <;> cases mode <;> exact ⟨_, rfl⟩
    have hm : ModeOK mode (hex2Mode is16 mode) (hex2Mode is16 mode) := by
      cases is16 <;> cases mode <;> simp [ModeOK, hex2Mode]
    exact ⟨_, hh, by rw [Rename.createTail_atomShape sh, e], rfl, .inl rfl, hm⟩⟩

/-- `$hhhh` -/
theorem atom_hex4 (t : SymTab) {hs : Str} (h : IsHexLit 4 hs) :
    Atom t ('$' :: hs) (parseBase 16 hs) false (fun _ mode => if mode == .none then .extended else mode) :=
  have sh := Rename.atomShape_hexLit h
  ⟨atomText_shape sh, fun is16 mode =>
    ⟨_, _, by rw [Rename.createTail_atomShape sh, numericOfStr_hex4 h], rfl, .inl rfl,
      by cases mode <;> simp [ModeOK, Value.mode]⟩⟩

/-- the name of a symbol bound to the number `z`: `resolve` rebuilds `NumericValue(z)`, direct below 256 -/
theorem atom_sym {t : SymTab} {nm : Str} {z : Int} (hn : IsSymName nm) (hb : Binds t nm z) (hz : z ≤ 65535) :
    Atom t nm z.natAbs (decide (z < 0)) (fun _ _ => if z.natAbs < 256 then .direct else .extended) :=
  ⟨atomText_shape (Rename.atomShape_symName hn), fun is16 mode =>
    ⟨.symbol nm mode, _, Rename.createTail_symName hn 3 is16 mode, resolve_symbol_binds hb hz mode, .inr rfl,
      modeOK_self mode _⟩⟩

theorem _root_.CoCo.Props.atom_sym_nat {t : SymTab} {nm : Str} {n : Nat} (hn : IsSymName nm) (hb : Binds t nm n) (hz : n < 65536) :
    Atom t nm n false (fun _ _ => if n < 256 then .direct else .extended) := by
  have A := atom_sym hn hb (by omega)
  rwa [Int.natAbs_natCast, show decide ((n : Int) < 0) = false by simp] at A

theorem value_notLeftRight {v0 v : Value} (h : v0 = v ∨ v0.isSymbol = true) (hv : v.isNumeric = true) :
    v0.isLeftRight = false ∧ v0.isNone = false := by
  rcases h with rfl | h
  · cases v0 <;> first | exact ⟨rfl, rfl⟩ | cases hv
  · cases v0 <;> first | exact ⟨rfl, rfl⟩ | cases h

section positions
variable {row : InstrRow} (hf : InstrFlags row) {t : SymTab} {a : Str} {i : Nat} {neg : Bool} {md : Bool → Mode → Mode}
  (A : Atom t a i neg md)
include hf A

omit hf in
/-- the value of the bare atom: the default mode -/
theorem Atom.createV_bare (is16 defExt : Bool) :
    create 4 a false is16 defExt = createTail 3 is16 (if defExt then .extended else .none) a :=
  create_noPrefix A.head.plain A.ne 3 is16 defExt

omit A in
theorem createOperand_value {s : Str} {v : Value} (hne : s ≠ []) (hb : s.head? ≠ some '[')
    (hv : createV s false row.is16Bit = .ok v) (hlr : v.isLeftRight = false) :
    createOperand s row = .ok { kind := if v.isImmediate then .immediate else .unknown, text := s, value := v } := by
  rw [createOperand_plain hf hne hb hv]
  cases v <;> first | rfl | cases hlr

/-- `#a` : immediate, the number as written or as bound -/
theorem Atom.frontEnd_imm :
    ∃ h m, frontEndT t row ('#' :: a) = .ok { kind := .immediate, text := '#' :: a, value := .numeric i h m neg } := by
  obtain ⟨v0, h, hc, hres, hv0, hm⟩ := A.reads row.is16Bit .immediate
  have him : v0.isImmediate = true := by simpa [Value.isImmediate, ModeOK] using hm
  have hcv : createV ('#' :: a) false row.is16Bit = createTail 3 row.is16Bit .immediate a := create_modePrefix rfl
  refine ⟨h, md row.is16Bit .immediate, ?_⟩
  rw [frontEndT, createOperand_value hf (by simp) (by simp) (hcv.trans hc) (value_notLeftRight hv0 rfl).1, him]
  exact Resolved.sound (.value (.inr (.inr (.inl rfl))) hres)

/-- an operand text of unknown kind (a prefix other than `#`, or none): `resolve_symbols` decides the kind -/
theorem Atom.frontEnd_unknown {s : Str} {mode : Mode} (hne : s ≠ []) (hb : s.head? ≠ some '[')
    (hcv : createV s false row.is16Bit = createTail 3 row.is16Bit mode a)
    (hmode : mode = .explExtended ∨ mode = .explDirect ∨ mode = .extended) :
    ∃ v0 h, v0.resolve t = .ok (.numeric i h (md row.is16Bit mode) neg) ∧ ModeOK mode v0.mode (md row.is16Bit mode) ∧
      ∀ k w, UnknownKind v0 (.numeric i h (md row.is16Bit mode) neg) k w →
        frontEndT t row s = .ok { kind := k, text := s, value := w } := by
  obtain ⟨v0, h, hc, hres, hv0, hm⟩ := A.reads row.is16Bit mode
  have him : v0.isImmediate = false := by
    unfold Value.isImmediate
    rcases hmode with rfl | rfl | rfl
    · rw [show v0.mode = .explExtended from hm]; rfl
    · rcases hm with hm | ⟨hm, _⟩ <;> rw [hm] <;> rfl
    · rcases hm with hm | hm <;> rw [hm] <;> rfl
  refine ⟨v0, h, hres, hm, fun k w hu => ?_⟩
  rw [frontEndT, createOperand_value hf hne hb (hcv.trans hc) (value_notLeftRight hv0 rfl).1, him]
  exact Resolved.sound (.unknown rfl hres hu)

/-- `>a` : extended -/
theorem Atom.frontEnd_gt :
    ∃ h m, frontEndT t row ('>' :: a) = .ok { kind := .extended, text := '>' :: a, value := .numeric i h m neg } := by
  obtain ⟨v0, h, _, hm, hk⟩ := A.frontEnd_unknown hf (s := '>' :: a) (mode := .explExtended) (by simp) (by simp)
    (create_modePrefix rfl) (.inl rfl)
  exact ⟨h, _, hk _ _ (.explExt (by simpa [Value.isExplicitExtended, ModeOK] using hm))⟩

/-- `<a` for a number that is not negative: direct, the value rebuilt (hint 2 below 256, none above) -/
theorem Atom.frontEnd_lt (hneg : neg = false) (hi : i < 65536) :
    frontEndT t row ('<' :: a) =
      .ok { kind := .direct, text := '<' :: a, value := .numeric i (if i < 256 then some 2 else none) .direct false } := by
  subst hneg
  obtain ⟨v0, h, _, hm, hk⟩ := A.frontEnd_unknown hf (s := '<' :: a) (mode := .explDirect) (by simp) (by simp)
    (create_modePrefix rfl) (.inr (.inl rfl))
  refine hk _ _ (.directNum ?_ rfl ?_ (numericOfInt_direct hi))
  · rcases hm with hm | ⟨hm, _⟩ <;> simp [Value.isExplicitExtended, hm]
  · rcases hm with hm | ⟨_, hm⟩
    · simp [Value.isExplicitDirect, hm]
    · simp [Value.isDirect, Value.mode, hm]

/-- `a` alone, not negative and DIRECT after `resolve`: a direct operand, the value rebuilt -/
theorem Atom.frontEnd_dir (hneg : neg = false) (hd : md row.is16Bit .extended = .direct) (hi : i < 65536) :
    frontEndT t row a =
      .ok { kind := .direct, text := a, value := .numeric i (if i < 256 then some 2 else none) .direct false } := by
  subst hneg
  obtain ⟨v0, h, _, hm, hk⟩ := A.frontEnd_unknown hf (s := a) (mode := .extended) A.ne A.head.noBracket
    (A.createV_bare _ true) (.inr (.inr rfl))
  refine hk _ _ (.directNum ?_ rfl (by simp [Value.isDirect, Value.mode, hd]) (numericOfInt_direct hi))
  rcases hm with hm | hm <;> simp [Value.isExplicitExtended, hm]

/-- `a` alone, negative or not DIRECT after `resolve`: an extended operand carrying the number -/
theorem Atom.frontEnd_ext (hd : neg = true ∨ md row.is16Bit .extended ≠ .direct) :
    ∃ h m, frontEndT t row a = .ok { kind := .extended, text := a, value := .numeric i h m neg } := by
  obtain ⟨v0, h, _, hm, hk⟩ := A.frontEnd_unknown hf (s := a) (mode := .extended) A.ne A.head.noBracket
    (A.createV_bare _ true) (.inr (.inr rfl))
  refine ⟨h, _, hk _ _ (.extNum ?_ rfl ?_)⟩
  · rcases hm with hm | hm <;> simp [Value.isExplicitExtended, hm]
  · rcases hd with rfl | hd
    · rfl
    · have : v0.isExplicitDirect = false := by rcases hm with hm | hm <;> simp [Value.isExplicitDirect, hm]
      simp [Value.isDirect, Value.mode, hd, this]

/-- `[a]` : extended indirect, the number as written or as bound -/
theorem Atom.frontEnd_bracket :
    ∃ h m, frontEndT t row ('[' :: (a ++ [']'])) =
      .ok { kind := .extIndirect, text := '[' :: (a ++ [']']), value := .numeric i h m neg } := by
  obtain ⟨v0, h, hc, hres, hv0, _⟩ := A.reads row.is16Bit .extended
  obtain ⟨hlr, hnn⟩ := value_notLeftRight hv0 rfl
  refine ⟨h, md row.is16Bit .extended, ?_⟩
  have hco : createOperand ('[' :: (a ++ [']'])) row = .ok { kind := .extIndirect, text := '[' :: (a ++ [']']), value := v0 } := by
    rw [createOperand_bracket hf (inner := a) ((A.createV_bare _ true).trans hc)]
    cases v0 <;> first | rfl | cases hlr
  rw [frontEndT, hco]
  exact Resolved.sound (.extValue rfl (by simp [hlr, hnn]) hres)

omit hf in
/-- the left part of `a,R`: read in the default mode NONE -/
theorem Atom.resolveLeft (hsd : row.isStringDefine = false) :
    ∃ h, resolveLeft a row t = .ok (.numeric i h (md row.is16Bit .none) neg) := by
  obtain ⟨v0, h, hc, hres, _, _⟩ := A.reads row.is16Bit .none
  refine ⟨h, ?_⟩
  rw [resolveLeft_eq, hsd, (A.createV_bare row.is16Bit false).trans hc]
  exact hres

/-- `a,right` and `[a,right]` : the left text becomes the number -/
theorem Atom.frontEnd_idx (hab : isABD a = false) {r : Str} (hr : ',' ∉ r) :
    ∃ h, frontEndT t row (a ++ ',' :: r) = .ok (idxOperand a r (.val (.numeric i h (md row.is16Bit .none) neg))) ∧
      frontEndT t row ('[' :: ((a ++ ',' :: r) ++ [']'])) =
        .ok (indOperand a r (.val (.numeric i h (md row.is16Bit .none) neg))) := by
  obtain ⟨h, hl⟩ := A.resolveLeft hf.notStr
  have hh := A.head.append A.ne (',' :: r)
  have hn : (a != [] && !isABD a) = true := by simp [A.ne, hab]
  exact ⟨h, frontEndT_indexed hf hh (A.noExprComma r) A.noComma hr (.left hn hl),
    frontEndT_bracket hf hh (A.noExprComma r) A.noComma hr (.left hn hl)⟩

end positions

end CoCo.Asm
