/-
Lemmas/AssembleStages.lean — the stages of `assemble`, named.  Each function is the `Outcome.bind` of its parts:
`front` parses, then expands (`front_eq`), `assemble = front ; back` (`assemble_eq`), `back = layout ; finish` (`back_eq`),
`layout` is written as its six steps, `finish` is four (`finish_eq`); `back_chain` is `back` as one sequence, down to
`finish`.  So a statement about a whole run is proved one step at a time with the lemmas on `bind` of
Lemmas/OutcomeBasics.lean: an accepted run of one is an accepted run of each part (`assemble_ok`, `front_eq_ok`, `back_ok`,
`layout_ok`, `finish_ok`).  Put together they give `Stages`, the stage equations of an accepted program (`assemble_stages`).
The origin of an accepted program is `originScan` of its statements (`assemble_origin`): the address of the last ORG
(`originScan_last`), the start value without one (`originScan_none`).
-/
import CoCoVerif.Model.Program
import CoCoVerif.Lemmas.OutcomeBasics

namespace CoCo.Asm
open CoCo Outcome

/-- parse and expand -/
def front (fs : Files) (lines : List Str) : Outcome (List Stmt) :=
  match parseLines lines with
  | .ok parsed => expand fs (includeFuel fs) [] parsed
  | o => o

/-- everything after INCLUDE expansion: a function of the expanded list only -/
def back (ss0 : List Stmt) : Outcome Assembly :=
  match buildSymTab ss0 0 [] with
  | none => .diag
  | some t =>
    match resolveAll t ss0 with
    | none => .diag
    | some ss1 =>
      match translateAll ss1 with
      | none => .diag
      | some ss2 =>
        match pcrLoop (ss2.length + 1) ss2 with
        | .ok ss3 =>
          if !orgOK ss3 false then .diag else
          match assignAddrs ss3 0 with
          | .ok ss4 =>
            match fixAllL t ss4 with
            | .ok ss5 =>
              match evalSyms ss5 t t with
              | .ok t1 =>
                match finalSymTab ss5 t1 with
                | .ok t' =>
                  let origin := ss5.foldl (fun o s => if s.row.isOrigin then s.pkg.address else o) Value.none
                  let name := ss5.foldl (fun o s => if s.row.isName then some s.operand.text else o) none
                  .ok { stmts := ss5, symtab := t', origin := origin, name := name }
                | .diag => .diag
                | .internal => .internal
                | .diverged => .diverged
              | .diag => .diag
              | .internal => .internal
              | .diverged => .diverged
            | .diag => .diag
            | .internal => .internal
            | .diverged => .diverged
          | .diag => .diag
          | .internal => .internal
          | .diverged => .diverged
        | .diag => .diag
        | .internal => .internal
        | .diverged => .diverged

/-- `back` up to and including address assignment: the symbol table and the statements with their
sizes and addresses (the `additional` fields are patched afterwards by `fixAll`) -/
def layout (ss0 : List Stmt) : Outcome (SymTab × List Stmt) :=
  (ofOption (buildSymTab ss0 0 [])).bind fun t =>
  (ofOption (resolveAll t ss0)).bind fun ss1 =>
  (ofOption (translateAll ss1)).bind fun ss2 =>
  (pcrLoop (ss2.length + 1) ss2).bind fun ss3 =>
  (guard (orgOK ss3 false)).bind fun _ =>
  (assignAddrs ss3 0).bind fun ss4 => .ok (t, ss4)

/-- the rest of `back`: `fix_addresses`, the final symbol table, origin and name -/
def finish (t : SymTab) (ss4 : List Stmt) : Outcome Assembly :=
  match fixAllL t ss4 with
  | .ok ss5 =>
    match evalSyms ss5 t t with
    | .ok t1 =>
      match finalSymTab ss5 t1 with
      | .ok t' =>
        let origin := ss5.foldl (fun o s => if s.row.isOrigin then s.pkg.address else o) Value.none
        let name := ss5.foldl (fun o s => if s.row.isName then some s.operand.text else o) none
        .ok { stmts := ss5, symtab := t', origin := origin, name := name }
      | .diag => .diag
      | .internal => .internal
      | .diverged => .diverged
    | .diag => .diag
    | .internal => .internal
    | .diverged => .diverged
  | .diag => .diag
  | .internal => .internal
  | .diverged => .diverged

/-- `assemble` after INCLUDE expansion; the same function as `back` (`assembleFrom_eq_back`), under the name the evaluators use -/
def assembleFrom (ss0 : List Stmt) : Outcome Assembly :=
  match buildSymTab ss0 0 [] with
  | none => .diag
  | some t =>
    match resolveAll t ss0 with
    | none => .diag
    | some ss1 =>
      match translateAll ss1 with
      | none => .diag
      | some ss2 =>
        match pcrLoop (ss2.length + 1) ss2 with
        | .ok ss3 =>
          if !orgOK ss3 false then .diag else
          match assignAddrs ss3 0 with
          | .ok ss4 =>
            match fixAllL t ss4 with
            | .ok ss5 =>
              match evalSyms ss5 t t with
              | .ok t1 =>
                match finalSymTab ss5 t1 with
                | .ok t' =>
                  let origin := ss5.foldl (fun o s => if s.row.isOrigin then s.pkg.address else o) Value.none
                  let name := ss5.foldl (fun o s => if s.row.isName then some s.operand.text else o) none
                  .ok { stmts := ss5, symtab := t', origin := origin, name := name }
                | .diag => .diag
                | .internal => .internal
                | .diverged => .diverged
              | .diag => .diag
              | .internal => .internal
              | .diverged => .diverged
            | .diag => .diag
            | .internal => .internal
            | .diverged => .diverged
          | .diag => .diag
          | .internal => .internal
          | .diverged => .diverged
        | .diag => .diag
        | .internal => .internal
        | .diverged => .diverged

/-- the intermediate results of an accepted run of `assemble` -/
structure Stages (fs : Files) (lines : List Str) (a : Assembly) where
  parsed : List Stmt
  ss0 : List Stmt
  t : SymTab
  ss1 : List Stmt
  ss2 : List Stmt
  ss3 : List Stmt
  ss4 : List Stmt
  /-- the table with every EQU defined by an expression evaluated -/
  t1 : SymTab
  hparse : parseLines lines = .ok parsed
  hexpand : expand fs (includeFuel fs) [] parsed = .ok ss0
  hsym : buildSymTab ss0 0 [] = some t
  hresolve : resolveAll t ss0 = some ss1
  htranslate : translateAll ss1 = some ss2
  hpcr : pcrLoop (ss2.length + 1) ss2 = .ok ss3
  haddr : assignAddrs ss3 0 = .ok ss4
  hfix : fixAllL t ss4 = .ok a.stmts
  heval : evalSyms a.stmts t t = .ok t1
  hfinal : finalSymTab a.stmts t1 = .ok a.symtab
  /-- an ORG comes before the first label and the first byte (fix f9c374f) -/
  horg : orgOK ss3 false = true

/-- the origin scan of `assemble`: the address of the last ORG row -/
def originScan (ss : List Stmt) (o : Value) : Value :=
  ss.foldl (fun o s => if s.row.isOrigin then s.pkg.address else o) o

theorem front_eq (fs : Files) (lines : List Str) :
    front fs lines = (parseLines lines).bind (expand fs (includeFuel fs) []) := by
  unfold front
  cases parseLines lines <;> rfl

theorem assemble_eq (fs : Files) (lines : List Str) : assemble fs lines = (front fs lines).bind back := by
  unfold assemble front back
  cases parseLines lines with
  | ok p => dsimp only; cases expand fs (includeFuel fs) [] p <;> rfl
  | _ => rfl

theorem assembleFrom_eq_back : assembleFrom = back := rfl

theorem back_eq (ss0 : List Stmt) : back ss0 = (layout ss0).bind fun p => finish p.1 p.2 := by
  unfold back layout finish
  cases buildSymTab ss0 0 [] with
  | none => rfl
  | some t =>
    dsimp only [ofOption, Outcome.bind]
    cases resolveAll t ss0 with
    | none => rfl
    | some ss1 =>
      dsimp only
      cases translateAll ss1 with
      | none => rfl
      | some ss2 =>
        dsimp only
        cases pcrLoop (ss2.length + 1) ss2 with
        | ok ss3 =>
          dsimp only
          cases orgOK ss3 false with
          | false => rfl
          | true =>
          simp only [Bool.not_true, Bool.false_eq_true, if_false]
          cases assignAddrs ss3 0 <;> rfl
        | _ => rfl

/-- `back` as one sequence of steps, for what is carried from the layout into `finish` -/
theorem back_chain (ss0 : List Stmt) :
    back ss0 = (ofOption (buildSymTab ss0 0 [])).bind fun t => (ofOption (resolveAll t ss0)).bind fun ss1 =>
      (ofOption (translateAll ss1)).bind fun ss2 => (pcrLoop (ss2.length + 1) ss2).bind fun ss3 =>
      (guard (orgOK ss3 false)).bind fun _ => (assignAddrs ss3 0).bind fun ss4 => finish t ss4 := by
  rw [back_eq, layout]
  simp only [bind_assoc]
  rfl

/-- `finish` as a sequence of four steps -/
theorem finish_eq (t : SymTab) (ss4 : List Stmt) :
    finish t ss4 = (fixAllL t ss4).bind fun ss5 => (evalSyms ss5 t t).bind fun t1 => (finalSymTab ss5 t1).bind fun t' =>
      .ok { stmts := ss5, symtab := t'
            origin := ss5.foldl (fun o s => if s.row.isOrigin then s.pkg.address else o) Value.none
            name := ss5.foldl (fun o s => if s.row.isName then some s.operand.text else o) none } := by
  unfold finish
  cases fixAllL t ss4 with
  | ok ss5 =>
    dsimp only [Outcome.bind]
    cases evalSyms ss5 t t with
    | ok t1 => dsimp only; cases finalSymTab ss5 t1 <;> rfl
    | _ => rfl
  | _ => rfl

theorem assemble_ok {fs : Files} {ls : List Str} {A : Assembly} (h : assemble fs ls = .ok A) :
    ∃ r, front fs ls = .ok r ∧ back r = .ok A :=
  Outcome.bind_eq_ok (assemble_eq fs ls ▸ h)

theorem front_of_parse_ok {fs : Files} {lines : List Str} {parsed : List Stmt} (hp : parseLines lines = .ok parsed) :
    front fs lines = expand fs (includeFuel fs) [] parsed := by
  unfold front; rw [hp]

theorem front_of_parse_diag {fs : Files} {a : List Str} (h : parseLines a = .diag) : front fs a = .diag := by
  unfold front; rw [h]

theorem front_eq_ok {fs : Files} {lines : List Str} {ss0 : List Stmt} :
    front fs lines = .ok ss0 ↔
      ∃ parsed, parseLines lines = .ok parsed ∧ expand fs (includeFuel fs) [] parsed = .ok ss0 := by
  rw [front_eq]
  exact ⟨bind_eq_ok, fun ⟨parsed, hp, he⟩ => by rw [hp]; exact he⟩

theorem back_ok {ss0 : List Stmt} {A : Assembly} (h : back ss0 = .ok A) :
    ∃ t ss4, layout ss0 = .ok (t, ss4) ∧ finish t ss4 = .ok A := by
  obtain ⟨⟨t, ss4⟩, hl, hf⟩ := Outcome.bind_eq_ok (back_eq ss0 ▸ h)
  exact ⟨t, ss4, hl, hf⟩

theorem layout_ok {ss0 : List Stmt} {t : SymTab} {ss4 : List Stmt} (h : layout ss0 = .ok (t, ss4)) :
    ∃ ss1 ss2 ss3, buildSymTab ss0 0 [] = some t ∧ resolveAll t ss0 = some ss1 ∧
      translateAll ss1 = some ss2 ∧ pcrLoop (ss2.length + 1) ss2 = .ok ss3 ∧ orgOK ss3 false = true ∧
      assignAddrs ss3 0 = .ok ss4 := by
  unfold layout at h
  obtain ⟨t', h0, h⟩ := bind_eq_ok h
  obtain ⟨ss1, h1, h⟩ := bind_eq_ok h
  obtain ⟨ss2, h2, h⟩ := bind_eq_ok h
  obtain ⟨ss3, h3, h⟩ := bind_eq_ok h
  obtain ⟨_, hq, h⟩ := bind_eq_ok h
  obtain ⟨ss4', h4, h⟩ := bind_eq_ok h
  cases h
  exact ⟨ss1, ss2, ss3, ofOption_eq_ok h0, ofOption_eq_ok h1, ofOption_eq_ok h2, h3, guard_eq_ok hq, h4⟩

theorem finish_ok {t : SymTab} {ss4 : List Stmt} {A : Assembly} (h : finish t ss4 = .ok A) :
    fixAllL t ss4 = .ok A.stmts ∧
      (∃ t1, evalSyms A.stmts t t = .ok t1 ∧ finalSymTab A.stmts t1 = .ok A.symtab) ∧
      A.origin = originScan A.stmts Value.none := by
  rw [finish_eq] at h
  obtain ⟨ss5, h1, h⟩ := Outcome.bind_eq_ok h
  obtain ⟨t1, h2, h⟩ := Outcome.bind_eq_ok h
  obtain ⟨t', h3, h⟩ := Outcome.bind_eq_ok h
  cases h
  exact ⟨h1, ⟨t1, h2, h3⟩, rfl⟩

theorem assemble_inv {fs : Files} {lines : List Str} {a : Assembly} (h : assemble fs lines = .ok a) :
    Nonempty (Stages fs lines a) ∧ a.origin = originScan a.stmts Value.none := by
  obtain ⟨ss0, hf, hb⟩ := assemble_ok h
  obtain ⟨parsed, hparse, hexpand⟩ := front_eq_ok.1 hf
  obtain ⟨t, ss4, hl, hfin⟩ := back_ok hb
  obtain ⟨ss1, ss2, ss3, hsym, hresolve, htranslate, hpcr, horg, haddr⟩ := layout_ok hl
  obtain ⟨hfix, ⟨t1, heval, hfinal⟩, horigin⟩ := finish_ok hfin
  exact ⟨⟨{ parsed, ss0, t, ss1, ss2, ss3, ss4, t1, hparse, hexpand, hsym, hresolve, htranslate, hpcr, haddr, hfix, heval,
            hfinal, horg }⟩, horigin⟩

theorem assemble_stages {fs : Files} {lines : List Str} {a : Assembly} (h : assemble fs lines = .ok a) :
    Nonempty (Stages fs lines a) := (assemble_inv h).1

/-- the origin scan returns its start value or the address of an ORG statement of the list -/
theorem originScan_cases (ss : List Stmt) (o : Value) :
    originScan ss o = o ∨ ∃ s ∈ ss, s.row.isOrigin = true ∧ originScan ss o = s.pkg.address := by
  induction ss generalizing o with
  | nil => exact .inl rfl
  | cons s rest ih =>
    have e : originScan (s :: rest) o = originScan rest (if s.row.isOrigin then s.pkg.address else o) := rfl
    rw [e]
    rcases ih (if s.row.isOrigin then s.pkg.address else o) with h | ⟨x, hx, hxo, h⟩
    · by_cases ho : s.row.isOrigin = true
      · right
        refine ⟨s, by simp, ho, ?_⟩
        rw [h, if_pos ho]
      · left
        rw [h, if_neg ho]
    · exact .inr ⟨x, by simp [hx], hxo, h⟩

theorem originScan_none {ss : List Stmt} (h : ∀ s ∈ ss, s.row.isOrigin = false) (o : Value) : originScan ss o = o :=
  (originScan_cases ss o).elim id fun ⟨s, hs, ho, _⟩ => by rw [h s hs] at ho; cases ho

theorem originScan_last {ss : List Stmt} {k : Nat} {sk : Stmt} (hk : ss[k]? = some sk) (ho : sk.row.isOrigin = true)
    (hlast : ∀ j u, k < j → ss[j]? = some u → u.row.isOrigin = false) (o : Value) :
    originScan ss o = sk.pkg.address := by
  obtain ⟨hlen, hsk⟩ := List.getElem_of_getElem? hk
  have hsplit : ss = ss.take k ++ sk :: ss.drop (k + 1) := by
    rw [← hsk]; simp
  have hrest : ∀ s ∈ ss.drop (k + 1), s.row.isOrigin = false := by
    intro s hs
    obtain ⟨j, hj⟩ := List.mem_iff_getElem?.mp hs
    rw [List.getElem?_drop] at hj
    exact hlast _ s (by omega) hj
  unfold originScan
  rw [hsplit, List.foldl_append, List.foldl_cons, ho]
  exact originScan_none hrest _

theorem assemble_origin {fs : Files} {lines : List Str} {a : Assembly} (h : assemble fs lines = .ok a) :
    a.origin = originScan a.stmts Value.none := (assemble_inv h).2

theorem assemble_eq_from {fs : Files} {lines : List Str} {parsed ss0 : List Stmt}
    (hp : parseLines lines = .ok parsed) (he : expand fs (includeFuel fs) [] parsed = .ok ss0) :
    assemble fs lines = assembleFrom ss0 := by
  rw [assemble_eq, front_eq_ok.2 ⟨parsed, hp, he⟩]
  rfl

theorem assemble_congr {fs fs' : Files} {a b : List Str} (h : front fs a = front fs' b) :
    assemble fs a = assemble fs' b := by
  rw [assemble_eq, assemble_eq, h]

theorem front_internal {fs : Files} {a : List Str} (h : front fs a = .internal) :
    assemble fs a = .internal := by
  rw [assemble_eq, h]; rfl

theorem front_ne_internal {fs : Files} {a : List Str} (h : assemble fs a ≠ .internal) :
    front fs a ≠ .internal := fun hc => h (front_internal hc)

theorem front_diag {fs : Files} {a : List Str} (h : front fs a = .diag) : assemble fs a = .diag := by
  rw [assemble_eq, h]; rfl

end CoCo.Asm
