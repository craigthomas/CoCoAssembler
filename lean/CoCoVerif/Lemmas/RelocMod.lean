/-
Lemmas/RelocMod.lean — relocation (C18-R1): the two statement classes whose four-digit field moves modulo `$10000`.

`MovedMod`: `label + N` / `label - N` (SIGNED `N`) with no more side condition than acceptance in both layouts needs — as
the operand (`MovedModRef`: `FDB A+N`, `LDX #A-N`, `LDA [A+N]`) or as constant offset of a pointer register (`MovedModAbs`:
`LDA A+N,X`).  The field holds the value modulo `$10000` (`addrCombine_pm_eq`) and moves by `D` modulo `$10000`
(`Stmt.shiftAdditionalMod`).

`MovedNeg`: `number - label` (`FDB 5-L`, `LDX #$4000-L`).  `calculate_address_offset` combines its operands in the written
order, so `5-L` is five MINUS the address: the value is `(c - a) mod $10000`, and the field moves by MINUS `D` modulo
`$10000` (`Stmt.shiftAdditionalNeg`).  `number * label` and `number / label` are outside all classes, like `label * k`
(`reloc_no_claim_b3` of Props/C18RelocText.lean).
-/
import CoCoVerif.Lemmas.RelocOne

namespace CoCo.Asm
open CoCo

/-- `label + N` / `label - N` as the OPERAND (no PCR) in a four-digit field that `fit_operand_width` looks at; the
value `a ± c`, moved by `D`, is at most `$FFFF` (so that both layouts accept it).  There is no lower bound. -/
def MovedModRef (D : Nat) (as : List Stmt) (s : Stmt) : Prop :=
  (s.operand.kind == .relative) = false ∧ s.pkg.needsRes = false ∧ Field4 s ∧
  ModExpr D as s.operand.value

/-- `label + N` / `label - N` as CONSTANT OFFSET of a pointer register (`LDA A+N,X`, `LDD [A-N,U]`): no label in the
operand value, `needsRes` without post byte choices, the expression sits in `additional` -/
def MovedModAbs (D : Nat) (as : List Stmt) (s : Stmt) : Prop :=
  (s.operand.kind == .relative) = false ∧ s.operand.value ≠ .pyNone ∧ s.operand.value.isAddrExpr = false ∧
  s.operand.value.isAddress = false ∧ s.pkg.needsRes = true ∧ s.pkg.choices.isEmpty = true ∧ s.isIdx = true ∧
  Field4 s ∧ ModExpr D as s.pkg.additional

def MovedMod (D : Nat) (as : List Stmt) (s : Stmt) : Prop := MovedModRef D as s ∨ MovedModAbs D as s

/-- so the statement is not an ORG -/
theorem MovedMod.not_numeric {D : Nat} {as : List Stmt} {s : Stmt} (h : MovedMod D as s) :
    s.operand.value.isNumeric = false ∨ s.pkg.needsRes = true := by
  rcases h with ⟨_, _, _, he⟩ | h
  · left
    obtain ⟨l, r, op, m, hv⟩ := he.isAddrExpr
    rw [hv]; rfl
  · exact .inr h.2.2.2.2.1

section
variable {D : Nat} {as as' : List Stmt}

theorem fixFit_movedMod_aux (h : PW (AddrShiftI D) as as') (i : Nat) {s : Stmt} (hc : MovedMod D as s) :
    ∃ x, x < 65536 ∧ fixFit as i s = .ok (withAdditional s (.numeric x (some 4) .extended false)) ∧
      fixFit as' i s = .ok (withAdditional s (.numeric ((x + D) % 65536) (some 4) .extended false)) := by
  rcases hc with ⟨hk, hn, hf, he⟩ | ⟨hk, hv, hE, hA, hn, hcc, hidx, hf, he⟩
  · obtain ⟨x, hx, e1, e2⟩ := he.reloc h
    obtain ⟨l, r, op, m, t, a, k, nn, hv, _, hb⟩ := he
    have e := fun ss => fixFit_expr_pm (ss := ss) i hk hn hf hv
    rw [hv] at e1 e2
    exact ⟨x, hx, by rw [e, e1]; rfl, by rw [e, e2]; rfl⟩
  · obtain ⟨x, hx, e1, e2⟩ := he.reloc h
    obtain ⟨l, r, op, m, t, a, k, nn, hadd, _, hb⟩ := he
    have e := fun ss => fixFit_abs_pm (ss := ss) i hk hv hE hA hn hcc hidx hf hadd
    rw [hadd] at e1 e2
    exact ⟨x, hx, by rw [e, e1]; rfl, by rw [e, e2]; rfl⟩

theorem fixFit_movedMod (h : PW (AddrShiftI D) as as') (i : Nat) {s : Stmt} (hc : MovedMod D as s) :
    fixFit as' i s = (fixFit as i s).map (Stmt.shiftAdditionalMod D) := by
  obtain ⟨x, _, e1, e2⟩ := fixFit_movedMod_aux h i hc
  rw [e1, e2]; rfl

end

structure NumLabel (as : List Stmt) (l r : Value) (t a k : Nat) (nn : Bool) : Prop where
  num : ∃ hh mm, l = .numeric k hh mm nn
  lab : r.isAddress = true
  idx : r.int? = some t
  addr : addrIntOf as t = some a

theorem NumLabel.mk' {as : List Stmt} {t a k : Nat} {m0 : Mode} {hh : Option Nat} {mm : Mode} {nn : Bool}
    (h : addrIntOf as t = some a) : NumLabel as (.numeric k hh mm nn) (.address t m0) t a k nn :=
  ⟨⟨hh, mm, rfl⟩, rfl, rfl, h⟩

theorem NumLabel.reloc {D : Nat} {as as' : List Stmt} {l r : Value} {t a k : Nat} {nn : Bool}
    (hpw : PW (AddrShiftI D) as as') (h : NumLabel as l r t a k nn) : NumLabel as' l r t (a + D) k nn :=
  ⟨h.num, h.lab, h.idx, by rw [addrIntOf_reloc hpw, h.addr]; rfl⟩

theorem addrOffset_numLabel {as : List Stmt} {l r : Value} {t a k : Nat} {nn : Bool}
    (h : NumLabel as l r t a k nn) (op : Char) (m : Mode) (ae : Bool) :
    addrOffset as (.expr l r op m ae) = addrCombine op (signedK k nn) a := by
  obtain ⟨⟨hh, mm, rfl⟩, hlab, hi, ha⟩ := h
  rw [addrOffset_expr, addrOperand_numeric_signed, addrOperand_label hlab hi ha]

def shiftVneg (D : Nat) : Value → Value
  | .numeric a h m n => .numeric ((a + (65536 - D % 65536)) % 65536) h m n
  | v => v

def Stmt.shiftAdditionalNeg (D : Nat) (s : Stmt) : Stmt :=
  { s with pkg := { s.pkg with additional := shiftVneg D s.pkg.additional } }

/-- `c - a ≤ $FFFF` holds of every constant from source text -/
theorem addrCombine_numLabel_minus {D a : Nat} {c : Int} (h1 : c - (a : Int) ≤ 65535) :
    ∃ x : Nat, x < 65536 ∧ (x : Int) = (c - (a : Int)) % 65536 ∧
      addrCombine '-' c a = .ok (.numeric x (some 4) .extended false) ∧
      addrCombine '-' c ((a + D : Nat) : Int) =
        .ok (.numeric ((x + (65536 - D % 65536)) % 65536) (some 4) .extended false) := by
  have p0 : 0 ≤ (c - (a : Int)) % 65536 := Int.emod_nonneg _ (by decide)
  have p1 : (c - (a : Int)) % 65536 < 65536 := Int.emod_lt_of_pos _ (by decide)
  refine ⟨((c - (a : Int)) % 65536).toNat, by omega, by omega, ?_, ?_⟩
  · rw [addrCombine_minus_int, if_pos h1]
  · rw [addrCombine_minus_int, if_pos (by omega)]
    congr 2
    omega

/-- `number - label`, accepted in the layout `as` (the expression of the statement class `MovedNeg`) -/
def NegExpr (as : List Stmt) (e : Value) : Prop :=
  ∃ l r m t a k nn, e = .expr l r '-' m true ∧ NumLabel as l r t a k nn ∧ signedK k nn - (a : Int) ≤ 65535

theorem NegExpr.reloc {D : Nat} {as as' : List Stmt} (h : PW (AddrShiftI D) as as') {e : Value} (he : NegExpr as e) :
    ∃ x, x < 65536 ∧ addrOffset as e = .ok (.numeric x (some 4) .extended false) ∧
      addrOffset as' e = .ok (.numeric ((x + (65536 - D % 65536)) % 65536) (some 4) .extended false) := by
  obtain ⟨l, r, m, t, a, k, nn, rfl, hl, hb⟩ := he
  obtain ⟨x, hx, _, e1, e2⟩ := addrCombine_numLabel_minus (D := D) hb
  exact ⟨x, hx, by rw [addrOffset_numLabel hl, e1], by rw [addrOffset_numLabel (hl.reloc h), e2]⟩

theorem addrOffset_negExpr {D : Nat} {as as' : List Stmt} (h : PW (AddrShiftI D) as as') {x : Value}
    (hc : NegExpr as x) :
    addrOffset as' x = (addrOffset as x).map (shiftVneg D) := by
  obtain ⟨x0, _, e1, e2⟩ := hc.reloc h
  rw [e1, e2]; rfl

/-- `number - label` as the OPERAND (no PCR) in a four-digit field that `fit_operand_width` looks at, accepted in the
original layout (`c - a ≤ $FFFF`): the operand value is a `NegExpr` -/
def MovedNeg (as : List Stmt) (s : Stmt) : Prop :=
  (s.operand.kind == .relative) = false ∧ s.pkg.needsRes = false ∧ Field4 s ∧
  ∃ l r m t a k nn, s.operand.value = .expr l r '-' m true ∧ NumLabel as l r t a k nn ∧
    signedK k nn - (a : Int) ≤ 65535

theorem MovedNeg.not_numeric {as : List Stmt} {s : Stmt} (h : MovedNeg as s) :
    s.operand.value.isNumeric = false ∨ s.pkg.needsRes = true := by
  obtain ⟨_, _, _, l, r, m, _, _, _, _, hv, _⟩ := h
  left; rw [hv]; rfl

section
variable {D : Nat} {as as' : List Stmt}

theorem fixFit_movedNeg_aux (h : PW (AddrShiftI D) as as') (i : Nat) {s : Stmt} (hc : MovedNeg as s) :
    ∃ x, x < 65536 ∧ fixFit as i s = .ok (withAdditional s (.numeric x (some 4) .extended false)) ∧
      fixFit as' i s =
        .ok (withAdditional s (.numeric ((x + (65536 - D % 65536)) % 65536) (some 4) .extended false)) := by
  obtain ⟨hk, hn, hf, he⟩ := hc
  obtain ⟨x, hx, e1, e2⟩ := NegExpr.reloc h he
  obtain ⟨l, r, m, _, _, _, _, hv, _⟩ := he
  have e := fun ss => fixFit_expr_pm (ss := ss) i hk hn hf hv
  rw [hv] at e1 e2
  exact ⟨x, hx, by rw [e, e1]; rfl, by rw [e, e2]; rfl⟩

theorem fixFit_movedNeg (h : PW (AddrShiftI D) as as') (i : Nat) {s : Stmt} (hc : MovedNeg as s) :
    fixFit as' i s = (fixFit as i s).map (Stmt.shiftAdditionalNeg D) := by
  obtain ⟨x, _, e1, e2⟩ := fixFit_movedNeg_aux h i hc
  rw [e1, e2]; rfl

end

end CoCo.Asm
