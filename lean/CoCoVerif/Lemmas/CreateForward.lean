/-
Lemmas/CreateForward.lean — the forward half of Lemmas/CreateGraph.lean: what `Value.create_from_str` (`create`) returns on
three shapes of text.  A symbol name (`isSymName`) is read as that symbol (`create_symName`); a decimal that fits 16 bits
or `$` with one to four hex digits (`decLit`, `hexLit`) as a number (`create_lit`); `atom op atom`, the atoms being
operands of EXPRESSION_REGEX (`AtomShape` of Lemmas/CreateLit.lean), as the expression of what the atoms are read as
(`splitExpr_atoms`, `create_exprText`; `splitExpr_sound` is the converse of the split).  These are the shapes
`Rename.SimpleLeft` allows in an index left part, hence the namespace.
-/
import CoCoVerif.Lemmas.CreateLit

namespace CoCo.Asm.Rename
open CoCo

/-- a symbol as `create_from_str` reads it: not empty, made of `[\w@]`, not a string of digits -/
def isSymName (x : Str) : Bool := x != [] && x.all isSym && !x.all isDigit

/-- a decimal literal that fits 16 bits -/
def decLit (x : Str) : Bool := x != [] && x.all isDigit && decide (parseBase 10 x < 65536)

/-- `$` and one to four hex digits -/
def hexLit (x : Str) : Bool :=
  match x with
  | '$' :: hs => hs != [] && hs.all isHexD && decide (hs.length ≤ 4)
  | _ => false

theorem isSym_not_op {c : Char} (h : isSym c = true) : opChar c = false := by
  cases ho : opChar c with
  | false => rfl
  | true =>
    simp only [opChar, Bool.or_eq_true, beq_iff_eq] at ho
    rcases ho with ((rfl | rfl) | rfl) | rfl <;> (revert h; decide)

theorem isSymName_iff {x : Str} : isSymName x = true ↔ x ≠ [] ∧ (∀ c ∈ x, isSym c = true) ∧ x.all isDigit = false := by
  unfold isSymName
  rw [Bool.and_eq_true, Bool.and_eq_true, bne_iff_ne, List.all_eq_true, Bool.not_eq_true']
  exact and_assoc

/-- a text that starts neither like a character, binary or negative literal, is not `$` and hex digits, and is not all
digits, is not a number -/
theorem numericOfStr_error {c : Char} {t : Str} (h1 : c ≠ apos) (h2 : c ≠ '%') (h3 : c ≠ '-')
    (hx : c = '$' → t.all isHexD = false) (hd : (c :: t).all isDigit = false) (hint : Option Nat) (m : Mode) :
    ∃ e, numericOfStr (c :: t) hint m = .error e := by
  by_cases hc : c = '$'
  · subst hc
    exact ⟨_, by rw [numericOfStr_dollar, if_neg (by simp [hx rfl])]⟩
  · exact ⟨_, by rw [numericOfStr_plain h1 h2 hc h3, if_neg (by simp [hd])]⟩

theorem numericOfStr_symName {x : Str} (h : isSymName x = true) (hint : Option Nat) (m : Mode) :
    ∃ e, numericOfStr x hint m = .error e := by
  obtain ⟨hne, hall, hnd⟩ := isSymName_iff.mp h
  cases x with
  | nil => exact absurd rfl hne
  | cons a t =>
    obtain ⟨h1, h2, h3, h4, _⟩ := isSym_ne (hall a (by simp))
    exact numericOfStr_error h1 h2 h4 (fun e => absurd e h3) hnd hint m

theorem atomShape_symName {x : Str} (h : isSymName x = true) : AtomShape x :=
  atomShape_syms (isSymName_iff.mp h).1 (isSymName_iff.mp h).2.1

theorem createTail_symName {x : Str} (h : isSymName x = true) (fuel : Nat) (is16 : Bool) (mode : Mode) :
    createTail fuel is16 mode x = .ok (.symbol x mode) := by
  obtain ⟨hne, hall, _⟩ := isSymName_iff.mp h
  obtain ⟨e, he⟩ := numericOfStr_symName h (if is16 then some 4 else none) mode
  rw [createTail_atomShape (atomShape_symName h), he]
  exact if_pos (by simpa using ⟨hne, hall⟩)

theorem decLit_iff {x : Str} : decLit x = true ↔ IsDecLit x ∧ parseBase 10 x < 65536 := by
  unfold decLit IsDecLit
  rw [Bool.and_eq_true, Bool.and_eq_true, bne_iff_ne, decide_eq_true_iff]

/-- `hexLit` in the terms of Lemmas/CreateLit.lean -/
theorem hexLit_elim {x : Str} (h : hexLit x = true) :
    ∃ hs, x = '$' :: hs ∧ hs ≠ [] ∧ hs.length ≤ 4 ∧ IsHexLit hs.length hs := by
  unfold hexLit at h
  split at h
  · rename_i hs
    simp only [Bool.and_eq_true, bne_iff_ne, decide_eq_true_iff] at h
    exact ⟨hs, rfl, h.1.1, h.2, rfl, h.1.2⟩
  · cases h

theorem atomShape_lit {x : Str} (h : decLit x = true ∨ hexLit x = true) : AtomShape x := by
  rcases h with h | h
  · exact atomShape_dec (decLit_iff.mp h).1
  · obtain ⟨hs, rfl, h1, _, hh⟩ := hexLit_elim h
    exact atomShape_hex h1 hh.2

theorem createTail_lit {x : Str} (h : decLit x = true ∨ hexLit x = true) (fuel : Nat) (is16 : Bool) (mode : Mode) :
    ∃ v, createTail fuel is16 mode x = .ok v ∧ v.isNumeric = true := by
  have key : ∃ v, numericOfStr x (if is16 then some 4 else none) mode = .ok v := by
    rcases h with h | h
    · obtain ⟨hd, hv⟩ := decLit_iff.mp h
      exact ⟨_, numericOfStr_dec hd _ _ hv⟩
    · obtain ⟨hs, rfl, h1, h3, hh⟩ := hexLit_elim h
      exact ⟨_, by rw [numericOfStr_dollar, if_pos (by simp [h1, hh.2]), if_neg (by omega)]⟩
  obtain ⟨v, hv⟩ := key
  exact ⟨v, by rw [createTail_atomShape (atomShape_lit h), hv], numericOfStr_isNumeric hv⟩

theorem create_symName {x : Str} (h : isSymName x = true) (fuel : Nat) (is16 defExt : Bool) :
    create (fuel + 1) x false is16 defExt = .ok (.symbol x (if defExt then Mode.extended else Mode.none)) :=
  (create_atomShape (atomShape_symName h) fuel is16 defExt).trans (createTail_symName h _ _ _)

theorem create_lit {x : Str} (h : decLit x = true ∨ hexLit x = true) (fuel : Nat) (is16 defExt : Bool) :
    ∃ v, create (fuel + 1) x false is16 defExt = .ok v ∧ v.isNumeric = true := by
  rw [create_atomShape (atomShape_lit h)]
  exact createTail_lit h _ _ _

theorem splitExpr_sound {l a b : Str} {op : Char} (h : splitExpr l = some (a, op, b)) :
    l = a ++ op :: b ∧ opChar op = true := by
  unfold splitExpr at h
  simp only [] at h
  split at h
  · cases h
  · split at h
    · rename_i op' r3 hr2
      split at h
      · rename_i hop
        split at h
        · simp only [Option.some.injEq, Prod.mk.injEq] at h
          obtain ⟨rfl, rfl, rfl⟩ := h
          refine ⟨?_, hop⟩
          have e1 := List.takeWhile_append_dropWhile (p := (· == '$')) (l := l)
          have e2 := List.takeWhile_append_dropWhile (p := isSym) (l := l.dropWhile (· == '$'))
          have e3 := List.takeWhile_append_dropWhile (p := (· == '$')) (l := r3)
          rw [hr2] at e2
          calc l = l.takeWhile (· == '$') ++ l.dropWhile (· == '$') := e1.symm
            _ = l.takeWhile (· == '$') ++ ((l.dropWhile (· == '$')).takeWhile isSym ++ op' :: r3) := by rw [e2]
            _ = _ := by rw [← e3]; simp
        · cases h
      · cases h
    · cases h

theorem splitExpr_atoms {a b : Str} {op : Char} (ha : AtomShape a) (hb : AtomShape b) (hop : opChar op = true) :
    splitExpr (a ++ op :: b) = some (a, op, b) := by
  obtain ⟨d1, w1, rfl, hd1, hw1, hs1⟩ := ha
  obtain ⟨d2, w2, rfl, hd2, hw2, hs2⟩ := hb
  have hopd : (op == '$') = false := by
    cases h : op == '$' with
    | false => rfl
    | true => have : op = '$' := by simpa using h
              subst this; revert hop; decide
  have hops : isSym op = false := by
    cases h : isSym op with
    | false => rfl
    | true => rw [isSym_not_op h] at hop; cases hop
  have st1 : Stops (· == '$') (w1 ++ op :: (d2 ++ w2)) :=
    stops_of_all hw1 hs1 (fun x hx => isSym_not_dollar hx)
  have e1 : (d1 ++ w1 ++ op :: (d2 ++ w2)).takeWhile (· == '$') = d1 := by
    rw [List.append_assoc]; exact takeWhile_all_stops hd1 st1
  have e2 : (d1 ++ w1 ++ op :: (d2 ++ w2)).dropWhile (· == '$') = w1 ++ op :: (d2 ++ w2) := by
    rw [List.append_assoc]; exact dropWhile_all_stops hd1 st1
  have st2 : Stops isSym (op :: (d2 ++ w2)) := stops_cons hops
  have e3 : (w1 ++ op :: (d2 ++ w2)).takeWhile isSym = w1 := takeWhile_all_stops hs1 st2
  have e4 : (w1 ++ op :: (d2 ++ w2)).dropWhile isSym = op :: (d2 ++ w2) := dropWhile_all_stops hs1 st2
  have st3 : Stops (· == '$') w2 := by
    cases w2 with
    | nil => exact absurd rfl hw2
    | cons x xs => exact stops_cons (isSym_not_dollar (hs2 x (by simp)))
  have e5 : (d2 ++ w2).takeWhile (· == '$') = d2 := takeWhile_all_stops hd2 st3
  have e6 : (d2 ++ w2).dropWhile (· == '$') = w2 := dropWhile_all_stops hd2 st3
  have hw1' : (w1 == []) = false := beq_eq_false_iff_ne.mpr hw1
  have hw2' : (w2 != []) = true := bne_iff_ne.mpr hw2
  have hs2' : w2.all isSym = true := List.all_eq_true.mpr hs2
  simp only [splitExpr, e1, e2, e3, e4, e5, e6, hw1', hop, hw2', hs2', Bool.false_eq_true, if_false, if_true,
    Bool.and_self]

theorem create_exprText {a b : Str} {op : Char} {lv rv : Value} (ha : AtomShape a) (hb : AtomShape b)
    (hop : opChar op = true) (fuel : Nat)
    (hla : create (fuel + 1) a false false false = .ok lv) (hlb : create (fuel + 1) b false false false = .ok rv)
    (is16 defExt : Bool) :
    create (fuel + 2) (a ++ op :: b) false is16 defExt
      = .ok (.expr lv rv op
          (if (if defExt then Mode.extended else Mode.none) == .none && (lv.isExtendedLike || rv.isExtendedLike)
            then Mode.extended else (if defExt then Mode.extended else Mode.none)) false) := by
  rw [create_noPrefix ((atomShape_operandHead ha).append (atomShape_ne_nil ha) _).plain (by simp)]
  simp only [createTail, splitExpr_atoms ha hb hop, hla, hlb]

end CoCo.Asm.Rename
