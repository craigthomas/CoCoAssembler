/-
Lemmas/AppendPcr.lean — C18-R4 in the presence of PCR-sized statements: the size loop `pcrLoop` on `a ++ b` simulates
the loop on `a` with stuttering (`pcrLoop_prefix`).  One pass over `a ++ b` is the pass over `a` followed by a pass
over the rest that leaves the first part alone (`pcrPass_prefix`, `pcrPass_tail`); a round in which `a` makes no
progress but `b` does is a stutter; `forceFirst` hits `a` exactly when `a` still has an undecided statement.
-/
import CoCoVerif.Lemmas.AppendFinish
import CoCoVerif.Lemmas.AppendLayout
import CoCoVerif.Lemmas.OrgFirst

namespace CoCo.Asm
open CoCo

theorem determine_append {a b : List Stmt} {i : Nat} {s s' : Stmt} (hi : i < a.length)
    (h : determine a i s = .ok s') : determine (a ++ b) i s = .ok s' := by
  unfold determine at h ⊢
  split
  · rename_i c0 c1 hch
    rw [hch] at h
    dsimp only at h ⊢
    -- the early 16-bit branch (`exprForces`) does not look at the statement list
    by_cases hfo : exprForces s.pkg.additional = true
    · rw [if_pos hfo] at h ⊢; exact h
    rw [if_neg hfo] at h ⊢
    cases hr : relIndex s.pkg.additional with
    | none => rw [hr] at h; cases h
    | some rel =>
      rw [hr] at h
      dsimp only at h ⊢
      by_cases hgt : rel > a.length
      · rw [if_pos hgt] at h; cases h
      · rw [if_neg hgt] at h
        rw [if_neg (by simp; omega)]
        rw [sumSizes_append (show i ≤ a.length by omega), sumSizes_append (show rel ≤ a.length by omega)]
        exact h
  · rename_i hch; rw [hch] at h; exact h
  · rename_i h1 h2
    split at h
    · rename_i c0 c1 hch; exact absurd hch (h1 c0 c1)
    · rename_i hch; exact absurd hch h2
    · exact h

theorem pcrPass_take {n : Nat} {ss : List Stmt} {i : Nat} {p : Bool} {r : List Stmt} {p' : Bool}
    (h : pcrPass n ss i p = .ok (r, p')) : r.take i = ss.take i := by
  refine pcrPass_ind (fun ss i _ r _ => r.take i = ss.take i) ?_ ?_ ?_ n ss i p r p' h
  · intro _ _ _; rfl
  · intro ss i _ r _ _ _ _ ih
    have := congrArg (List.take i) ih
    simpa [List.take_take, Nat.min_eq_left (Nat.le_succ i)] using this
  · intro ss i _ r _ _ s' _ _ _ ih
    have := congrArg (List.take i) ih
    simp only [List.take_take, Nat.min_eq_left (Nat.le_succ i)] at this
    rw [this, List.take_set_of_le (Nat.le_refl i)]

theorem pcrPass_allFixed {ss : List Stmt} (hall : allFixed ss = true) :
    ∀ (n i : Nat) (p : Bool), pcrPass n ss i p = .ok (ss, p) := by
  intro n
  induction n with
  | zero => intro i p; rfl
  | succ n ih =>
    intro i p
    cases hs : ss[i]? with
    | none => exact pcrPass_end hs
    | some s =>
      rw [pcrPass_step hs, if_pos (allFixed_mem hall (List.mem_of_getElem? hs))]
      exact ih _ _

/-- the pass over `a ++ b` treats the statements of `a` as the pass over `a` does, then goes on
with the statements of `b` -/
theorem pcrPass_prefix {b : List Stmt} {m : Nat} : ∀ (k : Nat) (a : List Stmt) (i : Nat) (p : Bool)
    (a' : List Stmt) (pa : Bool), i + k = a.length → pcrPass k a i p = .ok (a', pa) →
    pcrPass (k + m) (a ++ b) i p = pcrPass m (a' ++ b) a.length pa := by
  intro k
  induction k with
  | zero =>
    intro a i p a' pa hik h
    simp [pcrPass] at h
    obtain ⟨rfl, rfl⟩ := h
    rw [Nat.zero_add, ← hik, Nat.add_zero]
  | succ k ih =>
    intro a i p a' pa hik h
    have hi : i < a.length := by omega
    have hs : a[i]? = some a[i] := List.getElem?_eq_getElem hi
    have hs' : (a ++ b)[i]? = some a[i] := getElem?_append_some hs
    rw [show k + 1 + m = (k + m) + 1 by omega, pcrPass_step hs']
    rw [pcrPass_step hs] at h
    cases hf : a[i].fixedSize with
    | true =>
      rw [hf] at h
      simp only [if_true] at h ⊢
      exact ih a (i + 1) p a' pa (by omega) h
    | false =>
      rw [hf] at h
      simp only [Bool.false_eq_true, if_false] at h ⊢
      cases hd : determine a i a[i] with
      | ok s' =>
        rw [hd] at h
        rw [determine_append hi hd]
        dsimp only at h ⊢
        rw [List.set_append_left _ _ hi]
        have := ih (a.set i s') (i + 1) (p || s'.fixedSize) a' pa (by simp; omega) h
        simpa using this
      | _ => rw [hd] at h; cases h

theorem forceFirst_append_fixed : ∀ {a : List Stmt} (b : List Stmt), allFixed a = true →
    forceFirst (a ++ b) = (forceFirst b).map (a ++ ·) := by
  intro a
  induction a with
  | nil => intro b _; simp
  | cons s rest ih =>
    intro b h
    simp only [allFixed, List.all_cons, Bool.and_eq_true] at h
    rw [List.cons_append, forceFirst, if_pos h.1, ih b (by simpa [allFixed] using h.2)]
    cases forceFirst b <;> rfl

theorem forceFirst_append_not : ∀ {a : List Stmt} (b : List Stmt), allFixed a = false →
    forceFirst (a ++ b) = (forceFirst a).map (· ++ b) := by
  intro a
  induction a with
  | nil => intro b h; simp [allFixed] at h
  | cons s rest ih =>
    intro b h
    rw [List.cons_append, forceFirst, forceFirst]
    cases hf : s.fixedSize with
    | true =>
      simp only [if_true]
      have : allFixed rest = false := by simpa [allFixed, hf] using h
      rw [ih b this]
      cases forceFirst rest <;> rfl
    | false =>
      simp only [Bool.false_eq_true, if_false]
      split
      · cases settle s 2 4 _ <;> rfl
      · rfl

theorem pcrPass_tail {a' b r : List Stmt} {m : Nat} {pa p' : Bool}
    (h : pcrPass m (a' ++ b) a'.length pa = .ok (r, p')) : ∃ b', r = a' ++ b' := by
  have ht := pcrPass_take h
  rw [List.take_left' rfl] at ht
  refine ⟨r.drop a'.length, ?_⟩
  have := (List.take_append_drop a'.length r).symm
  rw [ht] at this; exact this

/-- stuttering simulation: the size loop on `a ++ b` ends with the result of the loop on `a`
followed by something -/
theorem pcrLoop_prefix : ∀ (f' : Nat) (a b : List Stmt) (f : Nat) (ra rab : List Stmt),
    pcrLoop f a = .ok ra → pcrLoop f' (a ++ b) = .ok rab → ∃ rb, rab = ra ++ rb := by
  intro f'
  have hdone : ∀ (a b : List Stmt) (f : Nat) (ra : List Stmt), pcrLoop f a = .ok ra →
      allFixed (a ++ b) = true → ∃ rb, a ++ b = ra ++ rb := by
    intro a b f ra ha hall
    rw [allFixed_append, Bool.and_eq_true] at hall
    rw [pcrLoop_allFixed hall.1] at ha
    cases ha
    exact ⟨b, rfl⟩
  induction f' with
  | zero =>
    intro a b f ra rab ha hab
    obtain ⟨hall, rfl⟩ := pcrLoop_zero_ok hab
    exact hdone a b f ra ha hall
  | succ f' ih =>
    intro a b f ra rab ha hab
    by_cases hall : allFixed (a ++ b) = true
    · rw [pcrLoop_allFixed hall] at hab; cases hab; exact hdone a b f ra ha hall
    obtain ⟨r, p', n, hp, hn, hab⟩ := pcrLoop_succ_ok hall hab
    rw [List.length_append] at hp
    by_cases hfa : allFixed a = true
    · -- the prefix is finished; the longer run only works on `b`
      rw [pcrPass_prefix a.length a 0 false a false (by simp) (pcrPass_allFixed hfa _ _ _)] at hp
      obtain ⟨b', rfl⟩ := pcrPass_tail hp
      cases p' with
      | true => cases hn; exact ih a b' f ra rab ha hab
      | false =>
        rw [if_neg (by simp), forceFirst_append_fixed b' hfa] at hn
        obtain ⟨b'', _, rfl⟩ := Option.map_eq_some_iff.1 hn
        exact ih a b'' f ra rab ha hab
    · -- the prefix run makes a pass as well
      cases f with
      | zero => exact absurd (pcrLoop_zero_ok ha).1 hfa
      | succ f0 =>
        obtain ⟨a', pa, na, hpa, hna, ha'⟩ := pcrLoop_succ_ok hfa ha
        rw [pcrPass_prefix a.length a 0 false a' pa (by simp) hpa, ← pcrPass_length hpa] at hp
        obtain ⟨b', rfl⟩ := pcrPass_tail hp
        cases pa with
        | true =>
          cases (pcrPass_noprogress hp).1 rfl
          cases hn; cases hna
          exact ih a' b' f0 ra rab ha' hab
        | false =>
          cases (pcrPass_noprogress hpa).2 rfl
          cases p' with
          | true => cases hn; exact ih a b' (f0 + 1) ra rab ha hab
          | false =>
            rw [if_neg (by simp)] at hn hna
            rw [forceFirst_append_not b' (by simpa using hfa), hna] at hn
            cases hn
            exact ih na b' f0 ra rab ha' hab

theorem layout_prefix_gen {a b : List Stmt} {t1 t2 : SymTab} {la lab : List Stmt}
    (ha : layout a = .ok (t1, la)) (hab : layout (a ++ b) = .ok (t2, lab)) :
    (∃ d, t2 = t1 ++ d) ∧ (∃ lb, lab = la ++ lb) := by
  obtain ⟨a1, a2, a3, hA0, hA1, hA2, hA3, _, hA4⟩ := layout_ok ha
  obtain ⟨s1, s2, s3, hB0, hB1, hB2, hB3, _, hB4⟩ := layout_ok hab
  obtain ⟨hd, _, b1, b2, rfl, rfl⟩ := stages_append hA0 hA1 hA2 hB0 hB1 hB2
  obtain ⟨rb3, rfl⟩ := pcrLoop_prefix _ _ _ _ _ _ hA3 hB3
  obtain ⟨ra, rb, h1, h2⟩ := assignAddrs_append_ok _ _ _ _ hB4
  obtain rfl : la = ra := Outcome.ok.inj (hA4.symm.trans h1)
  exact ⟨hd, rb, h2⟩

/-- every relative branch of an accepted program aims at a statement of the program -/
theorem Stages.branchInside {fs : Files} {lines : List Str} {a : Assembly} (st : Stages fs lines a) :
    BranchInside st.ss4.length st.ss4 := by
  intro s4 hs4 hk b hb
  obtain ⟨i, hi⟩ := List.getElem?_of_mem hs4
  obtain ⟨s, hs, hsame⟩ := (fixAllL_pw st.hfix).get hi
  have hk' : s.operand.kind = .relative := by obtain ⟨v, rfl⟩ := hsame; exact hk
  obtain ⟨s4', _, pre⟩ := st.branch_pre hs hk'
  obtain rfl : s4' = s4 := Option.some.inj (pre.h4.symm.trans hi)
  have haddr := pre.isAddr
  rw [pre.addl] at hb
  cases hv : s.operand.value with
  | address j m =>
    rw [hv] at hb
    obtain rfl : j = b := Option.some.inj hb
    obtain ⟨t, ht, _⟩ := st.relative_target hs hk' hv
    have := lt_of_getElem? ht
    rw [(fixAllL_pw st.hfix).length_eq] at this
    omega
  | _ => rw [hv] at haddr; cases haddr

theorem Stages.layout_eq {fs : Files} {lines : List Str} {a : Assembly} (st : Stages fs lines a) :
    layout st.ss0 = .ok (st.t, st.ss4) := by
  unfold layout
  rw [st.hsym]; dsimp only [Outcome.ofOption, Outcome.bind]
  rw [st.hresolve]; dsimp only
  rw [st.htranslate]; dsimp only
  rw [st.hpcr]; dsimp only
  rw [st.horg]; dsimp only [Outcome.guard]
  rw [st.haddr]

/-- C18-R4 in full: appending lines to a program that assembles, when the longer program assembles
too, leaves the statements, symbols and bytes of the shorter program in place. -/
theorem assemble_prefix_gen {fs : Files} {ls ext : List Str} {A B : Assembly}
    (hA : assemble fs ls = .ok A) (hB : assemble fs (ls ++ ext) = .ok B) :
    (∃ r, B.stmts = A.stmts ++ r) ∧ (∃ d, B.symtab = A.symtab ++ d) ∧
    (∀ ib, B.image = some ib → ∃ ia rest, A.image = some ia ∧ ib = ia ++ rest) := by
  obtain ⟨st⟩ := assemble_stages hA
  obtain ⟨ra, hfa, hba⟩ := assemble_ok hA
  obtain ⟨rab, hfab, hbab⟩ := assemble_ok hB
  obtain ⟨ra', rx, h1, _, rfl⟩ := front_append_ok hfab
  obtain rfl : ra = ra' := Outcome.ok.inj (hfa.symm.trans h1)
  obtain rfl : st.ss0 = ra := Outcome.ok.inj ((front_eq_ok.2 ⟨_, st.hparse, st.hexpand⟩).symm.trans hfa)
  obtain ⟨t1, la, hla, hfin⟩ := back_ok hba
  obtain ⟨t2, lab, hlab, hfb⟩ := back_ok hbab
  obtain ⟨rfl, rfl⟩ : st.t = t1 ∧ st.ss4 = la := by
    have := st.layout_eq.symm.trans hla
    simpa using this
  obtain ⟨⟨d, rfl⟩, ⟨lb, rfl⟩⟩ := layout_prefix_gen hla hlab
  obtain ⟨⟨r, hr⟩, hd⟩ := finish_prefix hfin hfb st.branchInside
  exact ⟨⟨r, hr⟩, hd, fun ib hib => image_prefix hr hib⟩

end CoCo.Asm
