/-
Lemmas/EncodeExpr.lean — `ExpressionValue.resolve` and `calculate_address_offset` in closed form.
The resolve path prints the Python int with `"{}".format` and re-reads it with the
STRING constructor of NumericValue; Lemmas/CreateLit.lean shows that round trip is the identity.
-/
import CoCoVerif.Lemmas.CreateLit
import CoCoVerif.Lemmas.FinishPasses
import CoCoVerif.Lemmas.ResolveValue

namespace CoCo.Asm
open CoCo

/-- the mode `ExpressionValue.resolve` hands to the NumericValue constructor -/
def exprMode (ma mb : Mode) : Mode :=
  if (ma == .extended || ma == .explExtended) || (mb == .extended || mb == .explExtended)
  then .extended else .direct

theorem exprMode_cases (ma mb : Mode) : exprMode ma mb = .extended ∨ exprMode ma mb = .direct := by
  unfold exprMode; split <;> simp

/-- the mode of the RESULT: a value above 255 computed from direct-page operands is extended (fix 03f5b0d) -/
def resMode (ma mb : Mode) (z : Int) : Mode := if z > 255 then .extended else exprMode ma mb

theorem resMode_cases (ma mb : Mode) (z : Int) : resMode ma mb z = .extended ∨ resMode ma mb z = .direct := by
  unfold resMode; split
  · exact Or.inl rfl
  · exact exprMode_cases ma mb

theorem resMode_of_gt {ma mb : Mode} {z : Int} (h : 255 < z) : resMode ma mb z = .extended := if_pos h

theorem resMode_of_le {ma mb : Mode} {z : Int} (h : z ≤ 255) : resMode ma mb z = exprMode ma mb := if_neg (by omega)

theorem resMode_eq (ma mb : Mode) (z : Int) :
    (if (decide (z > 255) && exprMode ma mb == Mode.direct) = true then Mode.extended else exprMode ma mb) = resMode ma mb z := by
  unfold resMode
  by_cases hz : z > 255
  · rcases exprMode_cases ma mb with h | h <;> simp [hz, h]
  · simp [hz]

/-- the non-negative result value the model builds for mode `m` (extended or direct) -/
def posNum (m : Mode) (n : Nat) : Value :=
  .numeric n (if m = .extended then some 4 else if n < 256 then some 2 else none) m false

/-- the negative result value (magnitude `n`) the model builds for mode `m` -/
def negNum (m : Mode) (n : Nat) : Value :=
  .numeric n (if m = .extended then some 4 else none) m true

/-- `NumericValue("{}".format(z), mode=m)` with every exception mapped to `other`, as `resolve` does -/
def numResult (m : Mode) (z : Int) : R Value :=
  if z < 0 then (if z.natAbs > 32768 then .error .other else .ok (negNum m z.natAbs))
  else (if z.natAbs > 65535 then .error .other else .ok (posNum m z.natAbs))

/-- `NumericValue.signed()`: the Python int a magnitude and its minus flag stand for -/
def sInt (n : Nat) (neg : Bool) : Int := if neg then -(n : Int) else n

@[simp] theorem sInt_false (n : Nat) : sInt n false = (n : Int) := rfl
@[simp] theorem sInt_true (n : Nat) : sInt n true = -(n : Int) := rfl

/-- the Python int the model computes from the two SIGNED operands (fix 74ec239: the minus flags are
consulted; division is `int(left / right)`, truncation towards zero) -/
def modelArith (op : Char) (a b : Int) : Option Int :=
  if op == '+' then some (a + b)
  else if op == '-' then some (a - b)
  else if op == '*' then some (a * b)
  else if op == '/' then (if b = 0 then none else some (Int.tdiv a b))
  else some 0

theorem numericOfStr_int (m : Mode) (hm : m = .extended ∨ m = .direct) (z : Int) :
    (match numericOfStr (if z < 0 then '-' :: (toString z.natAbs).toList else (toString z.natAbs).toList)
        none m with
      | .ok nv => (.ok nv : R Value)
      | .error _ => .error .other) = numResult m z := by
  unfold numResult
  by_cases hz : z < 0
  · simp only [hz, if_true]
    have := numericOfStr_neg_decStr z.natAbs m
    simp only [decStr] at this
    rw [this]
    by_cases h : z.natAbs > 32768 <;> rcases hm with rfl | rfl <;> simp [h, negNum, initHint]
  · simp only [hz, if_false]
    have := numericOfStr_decStr z.natAbs m
    simp only [decStr] at this
    rw [this]
    by_cases h : z.natAbs > 65535 <;> rcases hm with rfl | rfl
    · simp [h]
    · simp [h]
    · simp [h, posNum, initHint, postInit]
    · by_cases h' : z.natAbs < 256 <;> simp [h, posNum, initHint, postInit, h']

/-- closed form of one level of `resolve` on an expression whose two operands are numeric literals, whatever the lookup -/
theorem resolveStep_expr_numeric (gs : Str → R Value) (a b : Nat) (ha hb : Option Nat) (ma mb : Mode) (na nb : Bool)
    (op : Char) (m : Mode) (ae : Bool) :
    resolveStep gs (Value.expr (.numeric a ha ma na) (.numeric b hb mb nb) op m ae) =
      (match modelArith op (sInt a na) (sInt b nb) with
       | none => .error .other
       | some z => numResult (resMode ma mb z) z) := by
  change (match modelArith op (sInt a na) (sInt b nb) with
    | none => (.error .other : R Value)
    | some z => match numericOfStr (if z < 0 then '-' :: (toString z.natAbs).toList else (toString z.natAbs).toList)
        none (if (decide (z > 255) && exprMode ma mb == Mode.direct) = true then Mode.extended else exprMode ma mb) with
      | .ok nv => (.ok nv : R Value)
      | .error _ => .error .other) = _
  cases modelArith op (sInt a na) (sInt b nb) with
  | none => rfl
  | some z =>
    simp only [resMode_eq]
    exact numericOfStr_int _ (resMode_cases ma mb z) z

theorem resolve_expr_numeric (a b : Nat) (ha hb : Option Nat) (ma mb : Mode) (na nb : Bool)
    (op : Char) (m : Mode) (ae : Bool) (t : SymTab) :
    (Value.expr (.numeric a ha ma na) (.numeric b hb mb nb) op m ae).resolve t =
      (match modelArith op (sInt a na) (sInt b nb) with
       | none => .error .other
       | some z => numResult (resMode ma mb z) z) :=
  (resolve_eq_step _ t).trans (resolveStep_expr_numeric _ a b ha hb ma mb na nb op m ae)

/-! Symbols inside expressions: a symbol whose table entry is an EQU EXPRESSION (`isExpression`) is evaluated where it
is used (fix 0f280be); an entry of any other kind is taken as it is. -/

theorem lookStep_symbol_plain {n : Nat} {t : SymTab} {x : Str} {mx : Mode} {s : Value} (hx : t.get? x = some s)
    (he : s.isExpression = false) (hs : s.isSymbol = false) :
    lookStep (getSymF n t) (.symbol x mx) = lookStep (getSymF n t) s := by
  rw [lookStep_symbol, getSymF_plain hx he, lookStep_atom _ _ hs]

/-- an expression depends on its operands only through what their lookup gives -/
theorem resolve_expr_congr_look {l l' r r' : Value} {t : SymTab} (op : Char) (m : Mode) (ae : Bool)
    (hl : lookStep (getSymF t.length t) l = lookStep (getSymF t.length t) l')
    (hr : lookStep (getSymF t.length t) r = lookStep (getSymF t.length t) r') :
    (Value.expr l r op m ae).resolve t = (Value.expr l' r' op m ae).resolve t := by
  rw [resolve_eq_step, resolve_eq_step]
  simp only [resolveStep, hl, hr]

theorem resolve_expr_symbol_left (x : Str) (mx : Mode) (s r : Value) (op : Char) (m : Mode) (ae : Bool)
    (t : SymTab) (hx : t.get? x = some s) (hs : s.isSymbol = false) (he : s.isExpression = false) :
    (Value.expr (.symbol x mx) r op m ae).resolve t = (Value.expr s r op m ae).resolve t :=
  resolve_expr_congr_look op m ae (lookStep_symbol_plain hx he hs) rfl

theorem resolve_expr_symbol_right (x : Str) (mx : Mode) (s l : Value) (op : Char) (m : Mode) (ae : Bool)
    (t : SymTab) (hx : t.get? x = some s) (hs : s.isSymbol = false) (he : s.isExpression = false) :
    (Value.expr l (.symbol x mx) op m ae).resolve t = (Value.expr l s op m ae).resolve t :=
  resolve_expr_congr_look op m ae rfl (lookStep_symbol_plain hx he hs)

theorem resolve_expr_undefined_left (x : Str) (mx : Mode) (r : Value) (op : Char) (m : Mode) (ae : Bool)
    (t : SymTab) (hx : t.get? x = none) :
    (Value.expr (.symbol x mx) r op m ae).resolve t = .error .other := by
  rw [resolve_eq_step]
  simp only [resolveStep, lookStep_symbol, getSymF_none hx]

theorem resolve_expr_undefined_right (x : Str) (mx : Mode) (l : Value) (op : Char) (m : Mode) (ae : Bool)
    (t : SymTab) (hx : t.get? x = none) :
    (Value.expr l (.symbol x mx) op m ae).resolve t = .error .other := by
  rw [resolve_eq_step]
  simp only [resolveStep, lookStep_symbol, getSymF_none hx]
  split <;> simp_all

/-- a symbol whose table entry is an EQU EXPRESSION, as an operand: its lookup is the value of that expression
(when that value is not a symbol — it never is: `resolve` returns numbers, labels and label expressions) -/
theorem lookStep_symbol_expr {t : SymTab} {x : Str} {mx : Mode} {s s' : Value} (hx : t.get? x = some s)
    (he : s.isExpression = true) (hr : resolveF t.length s t = .ok s') (hs : s'.isSymbol = false) :
    lookStep (getSymF t.length t) (.symbol x mx) = lookStep (getSymF t.length t) s' := by
  rw [lookStep_symbol, getSymF_expr hx he, hr, lookStep_atom _ _ hs]

theorem resolve_expr_symbol_left_expr (x : Str) (mx : Mode) (s s' r : Value) (op : Char) (m : Mode) (ae : Bool)
    (t : SymTab) (hx : t.get? x = some s) (he : s.isExpression = true) (hr : resolveF t.length s t = .ok s')
    (hs : s'.isSymbol = false) :
    (Value.expr (.symbol x mx) r op m ae).resolve t = (Value.expr s' r op m ae).resolve t :=
  resolve_expr_congr_look op m ae (lookStep_symbol_expr hx he hr hs) rfl

theorem resolve_expr_symbol_right_expr (x : Str) (mx : Mode) (s s' l : Value) (op : Char) (m : Mode) (ae : Bool)
    (t : SymTab) (hx : t.get? x = some s) (he : s.isExpression = true) (hr : resolveF t.length s t = .ok s')
    (hs : s'.isSymbol = false) :
    (Value.expr l (.symbol x mx) op m ae).resolve t = (Value.expr l s' op m ae).resolve t :=
  resolve_expr_congr_look op m ae rfl (lookStep_symbol_expr hx he hr hs)

/-- the Python int `calculate_address_offset` computes from the LEFT operand value `a` and the RIGHT operand value `b`,
in the written order (fix bd9f69a; a label contributes its address, a constant its signed value) -/
def addrArith (op : Char) (a b : Int) : Option Int :=
  if op == '+' then some (a + b) else if op == '-' then some (a - b)
  else if op == '*' then some (a * b) else (if b = 0 then none else some (Int.tdiv a b))

/-- a result below zero is an address modulo 65536 (fix bd9f69a: for every operator) -/
def addrWrap (z : Int) : Int := if z < 0 then z % 65536 else z

theorem addrWrap_nonneg (z : Int) : 0 ≤ addrWrap z := by unfold addrWrap; split <;> omega
theorem addrWrap_of_nonneg {z : Int} (h : 0 ≤ z) : addrWrap z = z := by unfold addrWrap; split <;> omega
theorem addrWrap_of_neg {z : Int} (h : z < 0) : addrWrap z = z % 65536 := by unfold addrWrap; simp [h]
theorem addrWrap_neg_lt {z : Int} (h : z < 0) : addrWrap z < 65536 := by rw [addrWrap_of_neg h]; omega

/-- `NumericValue(z, size_hint=4, mode=EXTENDED)`; a value that does not fit is reported as a
TranslationError (`diag`; fix 8dc2b21/316e504) -/
def addrResult (z : Int) : Outcome Value :=
  if z > 65535 then .diag else .ok (.numeric z.natAbs (some 4) .extended (decide (z < 0)))

theorem numericOfInt_ext (z : Int) :
    (match numericOfInt z (some 4) .extended with | .ok nv => Outcome.ok nv | .error _ => .diag) =
      addrResult z := by
  unfold addrResult
  by_cases h : z > 65535
  · rw [numericOfInt_big h, if_pos h]
  · rw [numericOfInt_of_le (by omega), if_neg h]
    rfl

/-- the result value is never negative: the wrapped integer as a 16-bit extended number, or a diagnostic -/
theorem addrResult_wrap (z : Int) :
    addrResult (addrWrap z) =
      if addrWrap z > 65535 then .diag else .ok (.numeric (addrWrap z).toNat (some 4) .extended false) := by
  have := addrWrap_nonneg z
  unfold addrResult
  split
  · rfl
  · have h1 : decide (addrWrap z < 0) = false := by simp; omega
    have h2 : (addrWrap z).natAbs = (addrWrap z).toNat := by omega
    rw [h1, h2]

/-- `addrCombine` (the arithmetic half of `addrOffset`, see Lemmas/FinishPasses.lean) in closed form -/
theorem addrCombine_eq (op : Char) (a b : Int) :
    addrCombine op a b = (match addrArith op a b with | none => .diag | some z => addrResult (addrWrap z)) := by
  change (match addrArith op a b with
    | none => Outcome.diag
    | some z => (match numericOfInt (addrWrap z) (some 4) .extended with | .ok nv => Outcome.ok nv | .error _ => .diag)) = _
  cases addrArith op a b with
  | none => rfl
  | some z => exact numericOfInt_ext _

/-- what ONE operand of a label expression stands for: a label its statement's address, a number its signed value -/
inductive AddrOpd (ss : List Stmt) : Value → Int → Prop
  | label {ai a : Nat} {m : Mode} : addrIntOf ss ai = some a → AddrOpd ss (.address ai m) (a : Int)
  | num {k : Nat} {h : Option Nat} {m : Mode} {n : Bool} : AddrOpd ss (.numeric k h m n) (sInt k n)

theorem AddrOpd.operand {ss : List Stmt} {v : Value} {x : Int} (h : AddrOpd ss v x) : addrOperand ss v = .ok x := by
  cases h with
  | label h => rw [addrOperand_address, h]
  | num => rfl

/-- the written operation on the two operand values, as `NumericValue(int, size_hint=4, mode=EXTENDED)` -/
theorem addrOffset_opd_result {ss : List Stmt} {l r : Value} {x y : Int} (hl : AddrOpd ss l x) (hr : AddrOpd ss r y)
    (op : Char) (m : Mode) (ae : Bool) :
    addrOffset ss (.expr l r op m ae) =
      (match addrArith op x y with | none => .diag | some z => addrResult (addrWrap z)) := by
  rw [addrOffset_expr, hl.operand, hr.operand]
  exact addrCombine_eq op x y

theorem addrOffset_addr_num (ss : List Stmt) (ai a k : Nat) (ma mk m : Mode) (hk : Option Nat) (nk ae : Bool)
    (op : Char) (h : addrIntOf ss ai = some a) :
    addrOffset ss (.expr (.address ai ma) (.numeric k hk mk nk) op m ae) =
      (match addrArith op a (sInt k nk) with | none => .diag | some z => addrResult (addrWrap z)) :=
  addrOffset_opd_result (.label h) .num op m ae

/-- constant `op` label: the operands are taken in the written order (fix bd9f69a; `5-LABEL` is 5 minus
the address, `$4000/LABEL` divides by the address) -/
theorem addrOffset_num_addr (ss : List Stmt) (ai a k : Nat) (ma mk m : Mode) (hk : Option Nat) (nk ae : Bool)
    (op : Char) (h : addrIntOf ss ai = some a) :
    addrOffset ss (.expr (.numeric k hk mk nk) (.address ai ma) op m ae) =
      (match addrArith op (sInt k nk) a with | none => .diag | some z => addrResult (addrWrap z)) :=
  addrOffset_opd_result .num (.label h) op m ae

/-- label `op` label (fix 9045646): both operands are the ADDRESSES of the labels' statements, `a_i op a_j` -/
theorem addrOffset_addr_addr (ss : List Stmt) (ai aj a b : Nat) (ma mb m : Mode) (ae : Bool) (op : Char)
    (h : addrIntOf ss ai = some a) (h' : addrIntOf ss aj = some b) :
    addrOffset ss (.expr (.address ai ma) (.address aj mb) op m ae) =
      (match addrArith op (a : Int) (b : Int) with | none => .diag | some z => addrResult (addrWrap z)) :=
  addrOffset_opd_result (.label h) (.label h') op m ae

/-- `calculate_address_offset` in general (labels and numbers in any combination and order): the written
operation on the two operand values, below zero reduced modulo 65536, above 65535 a diagnostic -/
theorem addrOffset_opd {ss : List Stmt} {l r : Value} {x y : Int} (hl : AddrOpd ss l x) (hr : AddrOpd ss r y)
    (op : Char) (m : Mode) (ae : Bool) :
    addrOffset ss (.expr l r op m ae) =
      (match addrArith op x y with
       | none => .diag
       | some z => if addrWrap z > 65535 then .diag else .ok (.numeric (addrWrap z).toNat (some 4) .extended false)) := by
  rw [addrOffset_opd_result hl hr]
  simp only [addrResult_wrap]

/-- a label expression whose other operand is neither a number nor a label (a symbol that stayed a string, a
multi-byte value, ...): "unresolved expression", a diagnostic.  Label on the left (the label names a statement): -/
theorem addrOffset_addr_other (ss : List Stmt) (ai a : Nat) (ma m : Mode) (ae : Bool) (op : Char) (r : Value)
    (h : addrIntOf ss ai = some a) (hr1 : r.isAddress = false) (hr2 : r.isNumeric = false) :
    addrOffset ss (.expr (.address ai ma) r op m ae) = .diag := by
  rw [addrOffset_expr, addrOperand_address, h, addrOperand_other ss r hr1 hr2]

/-- ... and label (or anything else) on the right: whatever the statement list is -/
theorem addrOffset_other_addr (ss : List Stmt) (m : Mode) (ae : Bool) (op : Char) (l r : Value)
    (hl1 : l.isAddress = false) (hl2 : l.isNumeric = false) :
    addrOffset ss (.expr l r op m ae) = .diag := by
  rw [addrOffset_expr, addrOperand_other ss l hl1 hl2]

/-- a second label that names no statement is an internal error (it cannot happen after `buildSymTab`:
every `.address j` of the symbol table is a statement index) -/
theorem addrOffset_addr_addr_missing (ss : List Stmt) (ai aj : Nat) (ma mb m : Mode) (ae : Bool) (op : Char)
    (h' : addrIntOf ss aj = none) :
    addrOffset ss (.expr (.address ai ma) (.address aj mb) op m ae) = .internal := by
  rw [addrOffset_expr, addrOperand_address, addrOperand_address, h']
  cases addrIntOf ss ai <;> rfl

end CoCo.Asm
