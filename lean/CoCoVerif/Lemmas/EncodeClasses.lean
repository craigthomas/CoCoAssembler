/-
Lemmas/EncodeClasses.lean — `translateOperand` of every operand class computed symbolically, and the
encode/decode round trip per class, for a generic table row whose cells are known to the datasheet map.
-/
import CoCoVerif.Lemmas.EncodeLayout
import CoCoVerif.Lemmas.TranslateGraph

namespace CoCo.Asm
open CoCo CoCo.Spec.MC6809
open CoCo.Gen (InstrRow)

theorem lookup_zero : lookup 0 = some ("NEG", .dir) := by decide +kernel

theorem cell_ne_zero {c : Nat} {op : String} {am : AM} (h : lookup c = some (op, am)) (ham : am ≠ .dir) : c ≠ 0 := by
  rintro rfl
  rw [lookup_zero] at h
  simp at h
  exact ham h.2.symm

theorem enc_inherent {o : Operand} {r : InstrRow} {c : Nat} (hk : o.kind = .inherent) (hc : r.inh = some c)
    (hl : lookup c = some (opOf r.mnemonic, .inh)) (hs : r.inhSz = opcodeLen c) : Encodes o r .none := by
  have h0 := cell_ne_zero hl (by decide)
  have ht : translateOperand o r = .ok { opCode := opv c, size := r.inhSz, maxSize := r.inhSz } := by
    simp [translateOperand, hk, hc, h0, opVal_ok (cell_lt hl)]
    rfl
  exact PkgLayout.encodes (c := c) (am := .inh) (pb := []) (w := 0) ⟨hl, rfl, .none, by simp [hs], .inl ⟨rfl, rfl⟩⟩
    ht rfl rfl rfl

theorem translateOperand_imm {o : Operand} {r : InstrRow} {c : Nat} (hk : o.kind = .immediate) (hc : r.imm = some c)
    (h0 : c ≠ 0) (hc' : c < 65536) :
    translateOperand o r = .ok { opCode := opv c, additional := o.value, size := r.immSz, maxSize := r.immSz } := by
  simp [translateOperand, hk, hc, h0, opVal_ok hc']
  rfl

theorem translateOperand_dir {o : Operand} {r : InstrRow} {c : Nat} (hk : o.kind = .direct) (hc : r.dir = some c)
    (hc' : c < 65536) :
    translateOperand o r = .ok { opCode := opv c, additional := o.value, size := r.dirSz, maxSize := r.dirSz } := by
  simp [translateOperand, hk, hc, opVal_ok hc']
  rfl

theorem translateOperand_ext {o : Operand} {r : InstrRow} {c : Nat} (hk : o.kind = .extended) (hc : r.ext = some c)
    (h0 : c ≠ 0) (hc' : c < 65536) :
    translateOperand o r = .ok { opCode := opv c, additional := o.value, size := r.extSz, maxSize := r.extSz } := by
  simp [translateOperand, hk, hc, h0, opVal_ok hc']
  rfl

theorem hi_lo (v : Nat) : v / 256 * 256 + v % 256 = v := by omega

theorem fitsByte_pos {n : Nat} (h : n < 256) : fitsByte n false = true := decide_eq_true (Nat.le_of_lt_succ h)
theorem fitsWord_pos {n : Nat} (h : n < 65536) : fitsWord n false = true := decide_eq_true (Nat.le_of_lt_succ h)

section field
variable {o : Operand} {r : InstrRow} {c n : Nat} {h : Option Nat} {m : Mode} {neg : Bool}
  (hp : r.isPseudo = false) (hsp : r.isSpecial = false)
include hp hsp

/-- the package of the classes without post byte, for a number as value: op code cell `c` and a field of `w` bytes -/
theorem layout_field {am : AM} {sz w : Nat} (hl : lookup c = some (opOf r.mnemonic, am)) (hs : sz = opcodeLen c + w)
    (hw : w = 1 ∨ w = 2) (hv : o.value = .numeric n h m neg) :
    PkgLayout r { opCode := opv c, additional := o.value, size := sz, maxSize := sz } c am [] w :=
  ⟨hl, rfl, .none, by simp [hs], .inr ⟨hw, by rw [hv]; rfl, hp, hsp⟩⟩

/-- 8-bit immediate, every value −128..255 whatever its spelling: the two's complement byte -/
theorem enc_imm8_field (hk : o.kind = .immediate) (hc : r.imm = some c) (hl : lookup c = some (opOf r.mnemonic, .imm8))
    (hs : r.immSz = opcodeLen c + 1) (hv : o.value = .numeric n h m neg) (hf : fitsByte n neg = true) :
    Encodes o r (.imm 8 (byteField n neg)) :=
  (layout_field hp hsp hl hs (.inl rfl) hv).encodes (translateOperand_imm hk hc (cell_ne_zero hl (by decide)) (cell_lt hl)) rfl
    (hv ▸ fieldBytes_byte hf) rfl

/-- 16-bit immediate, every value −32768..65535 whatever its spelling -/
theorem enc_imm16_field (hk : o.kind = .immediate) (hc : r.imm = some c)
    (hl : lookup c = some (opOf r.mnemonic, .imm16)) (hs : r.immSz = opcodeLen c + 2)
    (hv : o.value = .numeric n h m neg) (hf : fitsWord n neg = true) : Encodes o r (.imm 16 (wordField n neg)) :=
  (layout_field hp hsp hl hs (.inr rfl) hv).encodes (translateOperand_imm hk hc (cell_ne_zero hl (by decide)) (cell_lt hl)) rfl
    (hv ▸ fieldBytes_word hf) (by simp [decodeTail, hi_lo])

theorem enc_direct (hk : o.kind = .direct) (hc : r.dir = some c) (hl : lookup c = some (opOf r.mnemonic, .dir))
    (hs : r.dirSz = opcodeLen c + 1) (hv : o.value = .numeric n h m false) (hv8 : n < 256) : Encodes o r (.dir n) :=
  (layout_field hp hsp hl hs (.inl rfl) hv).encodes (translateOperand_dir hk hc (cell_lt hl)) rfl
    (hv ▸ fieldBytes_byte (fitsByte_pos hv8)) rfl

/-- an extended address, every value −32768..65535: a negative one is the address modulo 65536 -/
theorem enc_ext_field (hk : o.kind = .extended) (hc : r.ext = some c) (hl : lookup c = some (opOf r.mnemonic, .ext))
    (hs : r.extSz = opcodeLen c + 2) (hv : o.value = .numeric n h m neg) (hf : fitsWord n neg = true) :
    Encodes o r (.ext (wordField n neg)) :=
  (layout_field hp hsp hl hs (.inr rfl) hv).encodes (translateOperand_ext hk hc (cell_ne_zero hl (by decide)) (cell_lt hl)) rfl
    (hv ▸ fieldBytes_word hf) (by simp [decodeTail, hi_lo])

end field

/-- `c` is the indexed-mode op code of row `r`, a machine instruction without register operand: the datasheet knows it
as the row's operation in indexed mode, and the row's size for that mode counts it and the post byte -/
structure IdxCell (r : InstrRow) (c : Nat) : Prop where
  ind : r.ind = some c
  cell : lookup c = some (opOf r.mnemonic, .idx)
  size : r.indSz = opcodeLen c + 1
  notPseudo : r.isPseudo = false
  notSpecial : r.isSpecial = false

theorem pcrNoOffset_notPcr {o : Operand} {right : Str} (h : (right == str "PCR") = false) :
    pcrNoOffset o right = false := by
  unfold pcrNoOffset
  rw [h]
  rfl

theorem pcrNoOffset_val {o : Operand} {right : Str} {v : Value} (h : o.left = .val v) :
    pcrNoOffset o right = false := by
  unfold pcrNoOffset
  rw [h]
  exact Bool.and_false _

theorem pcrNoOffset_bare {o : Operand} {l : Str} (hl : o.left = .text l) (hl' : l = [] ∨ isABD l = true) :
    pcrNoOffset o (str "PCR") = true := by
  rw [pcrNoOffset_text hl]
  rcases hl' with rfl | h
  · rfl
  · simp [h]

/-- every check `translateIndexed` makes before `idxBody` fails with the same exception: if `idxBody` fails with it too
(once the checks have passed), so does `translateIndexed` -/
theorem translateIndexed_reject {o : Operand} {r : InstrRow} {right : Str} (hr : o.right = some right)
    (h : validIndexReg right = true → pcrNoOffset o right = false → idxBody o r right = .error .operandType) :
    translateIndexed o r = .error .operandType := by
  rw [translateIndexed_eq, hr]
  split
  · rfl
  dsimp only
  split
  · rfl
  split
  · rfl
  · exact h (by simpa using ‹¬ (!validIndexReg right) = true›) (by simpa using ‹¬ pcrNoOffset o right = true›)

theorem translateExtIndirect_reject {o : Operand} {r : InstrRow} {c : Nat} {right : Str} (hc : r.ind = some c)
    (hc' : c < 65536) (hna : o.value.isAddress = false) (hne : o.value.isAddrExpr = false)
    (hnn : o.value.isNumeric = false) (hr : o.right = some right)
    (h : validIndexReg right = true → pcrNoOffset o right = false → extBody o r (opv c) right = .error .operandType) :
    translateExtIndirect o r = .error .operandType := by
  rw [translateExtIndirect_eq, hc, opVal_ok hc', hr]
  split
  · rfl
  simp only [hna, hne, hnn, Bool.or_false, Bool.false_eq_true, if_false]
  split
  · rfl
  split
  · rfl
  · exact h (by simpa using ‹¬ (!validIndexReg right) = true›) (by simpa using ‹¬ pcrNoOffset o right = true›)

theorem idxNoOffset_acc {o : Operand} {right l : Str} (hl : o.left = .text l) (habd : isABD l = true) :
    idxNoOffset o right = false := by
  rw [idxNoOffset_text hl]
  cases l with
  | nil => cases habd
  | cons a t => rfl

theorem extBody_plain {o : Operand} {r : InstrRow} {op : Value} {right : Str} (hno : idxNoOffset o right = true) :
    extBody o r op right = extPlain r op right := by
  unfold extBody
  rw [hno]
  rfl

theorem extBody_val {o : Operand} {r : InstrRow} {op : Value} {right : Str} {v : Value} (hl : o.left = .val v)
    (hno : idxNoOffset o right = false) :
    extBody o r op right = translateOffset true r v right (0x80 ||| regBits right) := by
  unfold extBody
  rw [hno, hl]
  rfl

theorem idxBody_acc_pm {o : Operand} {r : InstrRow} {c : Nat} {l right : Str} (hc : r.ind = some c) (hc' : c < 65536)
    (hl : o.left = .text l) (habd : isABD l = true) (hpm : (hasSub ['+'] right || hasSub ['-'] right) = true) :
    idxBody o r right = .error .operandType := by
  unfold idxBody
  rw [hc, opVal_ok hc', idxNoOffset_acc hl habd, hl]
  simp only [habd, hpm]
  rfl

theorem extBody_acc_pm {o : Operand} {r : InstrRow} {op : Value} {l right : Str}
    (hl : o.left = .text l) (habd : isABD l = true) (hpm : (hasSub ['+'] right || hasSub ['-'] right) = true) :
    extBody o r op right = .error .operandType := by
  unfold extBody
  rw [idxNoOffset_acc hl habd, hl]
  simp only [habd, hpm]
  rfl

def accCode (l : Str) : Nat := if l == ['A'] then 0x06 else if l == ['B'] then 0x05 else 0x0B

def accCodeInd (l : Str) : Nat := if l == ['A'] then 0x16 else if l == ['B'] then 0x15 else 0x1B

theorem indOp {row : InstrRow} {c : Nat} (hc : row.ind = some c) (hc' : c < 65536) : opVal row.ind = .ok (opv c) := by
  rw [hc]
  exact opVal_ok hc'

section idx
variable {o : Operand} {r : InstrRow} {c : Nat} (hI : IdxCell r c)
include hI

theorem IdxCell.lt : c < 65536 := cell_lt hI.cell

/-- the first check of `translateIndexed` / `translateExtIndirect` passes -/
theorem IdxCell.ok : ¬ (r.ind.isNone || r.ind == some 0) = true := by
  rw [hI.ind]
  simpa using cell_ne_zero hI.cell (by decide)

theorem IdxCell.opVal : opVal r.ind = .ok (opv c) :=
  indOp hI.ind hI.lt

/-- an indexed-mode package: op code cell `c`, post byte `p`, a field of `w` bytes -/
theorem IdxCell.layout {p w : Nat} {a : Value} (hp : p < 256)
    (hfld : (w = 0 ∧ a = .none) ∨ ((w = 1 ∨ w = 2) ∧ a.isNumeric = true)) :
    PkgLayout r { opCode := opv c, postByte := .numeric p (some 2) .direct false, additional := a, size := r.indSz + w,
                  maxSize := r.indSz + w } c .idx [p] w :=
  ⟨hI.cell, rfl, .byte hp, by simp [hI.size], hfld.imp id fun ⟨h1, h2⟩ => ⟨h1, h2, hI.notPseudo, hI.notSpecial⟩⟩

theorem translateExtInd_numeric (hn : o.value.isNumeric = true) :
    translateExtIndirect o r =
      .ok { opCode := opv c, postByte := .numeric 0x9F (some 2) .direct false, additional := o.value,
            size := r.indSz + 2, maxSize := r.indSz + 2 } := by
  rw [translateExtIndirect_eq, if_neg hI.ok, hI.opVal]
  simp only [hn, Bool.or_true, if_true, numV_byte (show 0x9F < 256 by omega)]

/-- `[address]`, every address 0..65535 whatever its spelling: always two address bytes -/
theorem enc_extInd {v : Nat} {h : Option Nat} {m : Mode} (hk : o.kind = .extIndirect)
    (hv : o.value = .numeric v h m false) (hv16 : v < 65536) : Encodes o r (.idx (.extInd v)) := by
  have ht := (translateOperand_extInd hk).trans (translateExtInd_numeric hI (o := o) (by rw [hv]; rfl))
  refine (hI.layout (w := 2) (by omega) (.inr ⟨.inr rfl, by rw [hv]; rfl⟩)).encodes_idx ht rfl
    (hv ▸ fieldBytes_word (fitsWord_pos hv16)) ?_
  simp [decodePostByte_cons, hi_lo, wordField]

theorem translateIndexed_body {right : Str} (hr : o.right = some right) (hvr : validIndexReg right = true)
    (hpc : pcrNoOffset o right = false) : translateIndexed o r = idxBody o r right := by
  rw [translateIndexed_eq, if_neg hI.ok, hr]
  simp only [hvr, hpc, Bool.not_true, Bool.false_eq_true, if_false]

theorem translateExtIndirect_body {right : Str} (hna : o.value.isAddress = false) (hne : o.value.isAddrExpr = false)
    (hnn : o.value.isNumeric = false) (hr : o.right = some right) (hvr : validIndexReg right = true)
    (hpc : pcrNoOffset o right = false) :
    translateExtIndirect o r = extBody o r (opv c) right := by
  rw [translateExtIndirect_eq, if_neg hI.ok, hI.opVal, hr]
  simp only [hna, hne, hnn, hvr, hpc, Bool.or_false, Bool.not_true, Bool.false_eq_true, if_false]

theorem idxBody_plain {right : Str} (hno : idxNoOffset o right = true) : idxBody o r right = idxPlain r (opv c) right := by
  unfold idxBody
  rw [hI.opVal]
  simp only [bind, Except.bind, hno, if_true]

theorem idxBody_val {right : Str} {v : Value} (hl : o.left = .val v) (hno : idxNoOffset o right = false) :
    idxBody o r right = translateOffset false r v right (regBits right) := by
  unfold idxBody
  rw [hI.opVal]
  simp only [bind, Except.bind, hno, hl, Bool.false_eq_true, if_false]

theorem translateIndexed_noOff {right : Str} (hl : o.left = .text []) (hr : o.right = some right)
    (hvr : validIndexReg right = true) (hpc : (right == str "PCR") = false) (hp : noOffPost right < 256) :
    translateIndexed o r = .ok { opCode := opv c, postByte := .numeric (noOffPost right) (some 2) .direct false,
                                 size := r.indSz, maxSize := r.indSz } := by
  rw [translateIndexed_body hI hr hvr (pcrNoOffset_notPcr hpc), idxBody_plain hI (idxNoOffset_text hl _), idxPlain_eq,
    numV_byte hp]
  rfl

theorem translateExtInd_noOff {right : Str} (hna : o.value.isAddress = false) (hne : o.value.isAddrExpr = false)
    (hnn : o.value.isNumeric = false) (hl : o.left = .text []) (hr : o.right = some right)
    (hvr : validIndexReg right = true) (hpc : (right == str "PCR") = false)
    (hbad : badIndirect right = false) (hp : extNoOffPost right < 256) :
    translateExtIndirect o r = .ok { opCode := opv c, postByte := .numeric (extNoOffPost right) (some 2) .direct false,
                                     size := r.indSz, maxSize := r.indSz } := by
  rw [translateExtIndirect_body hI hna hne hnn hr hvr (pcrNoOffset_notPcr hpc), extBody_plain (idxNoOffset_text hl _),
    extPlain_ok hbad, numV_byte hp]
  rfl

theorem translateExtInd_bad {right : Str} (hna : o.value.isAddress = false) (hne : o.value.isAddrExpr = false)
    (hnn : o.value.isNumeric = false) (hl : o.left = .text []) (hr : o.right = some right)
    (hvr : validIndexReg right = true) (hpc : (right == str "PCR") = false)
    (hpm : (hasSub ['-'] right || hasSub ['+'] right) = true) (hbad : badIndirect right = true) :
    translateExtIndirect o r = .error .operandType := by
  rw [translateExtIndirect_body hI hna hne hnn hr hvr (pcrNoOffset_notPcr hpc), extBody_plain (idxNoOffset_text hl _),
    extPlain_bad hpm hbad]

theorem translateIndexed_acc {l right : Str} (hl : o.left = .text l) (habd : isABD l = true)
    (hr : o.right = some right) (hvr : validIndexReg right = true) (hpc : (right == str "PCR") = false)
    (hpm : (hasSub ['+'] right || hasSub ['-'] right) = false)
    (hp : regBits right ||| 0x80 ||| accCode l < 256) :
    translateIndexed o r = .ok { opCode := opv c, postByte := .numeric (regBits right ||| 0x80 ||| accCode l) (some 2) .direct false,
                                 size := r.indSz, maxSize := r.indSz } := by
  have hn := numV_byte hp
  rw [translateIndexed_body hI hr hvr (pcrNoOffset_notPcr hpc)]
  unfold idxBody
  rw [hI.opVal, idxNoOffset_acc hl habd, hl]
  simp only [habd, hpm]
  unfold accCode at hn
  simp only [bind, Except.bind, hn]
  rfl

theorem translateExtInd_acc {l right : Str} (hna : o.value.isAddress = false) (hne : o.value.isAddrExpr = false)
    (hnn : o.value.isNumeric = false) (hl : o.left = .text l) (habd : isABD l = true)
    (hr : o.right = some right) (hvr : validIndexReg right = true) (hpc : (right == str "PCR") = false)
    (hpm : (hasSub ['+'] right || hasSub ['-'] right) = false)
    (hp : 0x80 ||| regBits right ||| accCodeInd l < 256) :
    translateExtIndirect o r = .ok { opCode := opv c, postByte := .numeric (0x80 ||| regBits right ||| accCodeInd l) (some 2) .direct false,
                                     size := r.indSz, maxSize := r.indSz } := by
  have hn := numV_byte hp
  rw [translateExtIndirect_body hI hna hne hnn hr hvr (pcrNoOffset_notPcr hpc)]
  unfold extBody
  rw [idxNoOffset_acc hl habd, hl]
  simp only [habd, hpm]
  unfold accCodeInd at hn
  simp only [bind, Except.bind, hn]
  rfl

end idx

end CoCo.Asm
