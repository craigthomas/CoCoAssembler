/-
Lemmas/SizeFix.lean — property C02 "bytes = size", the shapes of Lemmas/SizeShape and Lemmas/SizeTranslate on a statement
of an accepted run.  The `Parsed.*` lemmas start from a parsed statement and the success of `resolveOperand` and
`translateOperand` on it, which is what `Compiled` records: the resolved operand has `OpShape1`, the package `PkgShape`
or, in a row `fit_operand_width` skips, `PlainShape`.  The `Compiled.*` lemmas follow the package to the final
statement: op code and post byte stay numbers out of `numV`, a numeric field ends at the width the size leaves.
-/
import CoCoVerif.Lemmas.SizeTranslate
import CoCoVerif.Lemmas.StagesTrace

namespace CoCo.Asm
open CoCo
open CoCo.Gen (InstrRow)

theorem org_pseudo : ∀ r ∈ Gen.instructions, r.mnemonic = "ORG" → r.isPseudo = true := by decide +kernel

/-! ### a parsed statement `s0`, its operand resolved to `o`, translated to `p` -/

namespace Parsed
variable {s0 : Stmt} {t : SymTab} {o : Operand} {p : Pkg}

theorem rowFacts (hpar : Parsed s0) : RowFacts s0.row := rowFacts_all _ hpar.1

theorem shape1 (hpar : Parsed s0) (hres : resolveOperand s0.operand s0.row t = .ok o) : OpShape1 s0.row o := by
  obtain ⟨txt, hcr⟩ := hpar.2
  obtain ⟨_, f4, f5, _⟩ := hpar.rowFacts
  have h0 := createOperand_shape0 hcr f5
  refine resolveOperand_shape1 h0 (createOperand_left hcr) ?_ f4 hres
  intro hk
  apply f5
  cases hp : s0.row.isPseudo with
  | false => rfl
  | true => exact absurd ((createOperand_kind hcr).1 hp) hk

theorem pkgShape (hpar : Parsed s0) (hres : resolveOperand s0.operand s0.row t = .ok o)
    (htr : translateOperand o s0.row = .ok p) (hsk : fitSkipped s0.row = false) : PkgShape o p := by
  obtain ⟨txt, hcr⟩ := hpar.2
  have hrev := createOperand_kind_rev hcr
  refine translateOperand_shape hpar.rowFacts (hpar.shape1 hres) hsk
    (fun hk => hrev.1 ((resolveOperand_kind_pseudo hres).1 hk)) (fun hk => hrev.2 ?_) htr
  -- `resolve_symbols` changes the kind of an operand only to one of the addressing modes
  rcases resolveOperand_kind hres with h' | ⟨_, h' | h'⟩
  · rw [← h']; exact hk
  · rw [hk] at h'; cases h'
  · rw [hk] at h'; cases h'

/-- the rows `fitWidth` skips: PSHS / TFR ... (operand kind special), or a directive other than FCB / FDB -/
theorem skipped_kind (hpar : Parsed s0) (hres : resolveOperand s0.operand s0.row t = .ok o)
    (hsk : fitSkipped s0.row = true) :
    (s0.row.isSpecial = true ∧ o.kind = .special) ∨
    (s0.row.isPseudo = true ∧ s0.row.isMultiByte = false ∧ s0.row.isMultiWord = false ∧
      s0.operand.kind = .pseudo ∧ o.kind = .pseudo) := by
  obtain ⟨_, _, _, f6, _⟩ := hpar.rowFacts
  obtain ⟨txt, hcr⟩ := hpar.2
  obtain ⟨k1, k2, _, _⟩ := createOperand_kind hcr
  cases hsp : s0.row.isSpecial with
  | true =>
    have hk0 := k2 (f6 hsp) hsp
    rcases resolveOperand_kind hres with h' | ⟨h', _⟩
    · exact .inl ⟨rfl, by rw [h']; exact hk0⟩
    · rw [hk0] at h'; cases h'
  | false =>
    unfold fitSkipped at hsk
    rw [hsp] at hsk
    simp only [Bool.or_false, Bool.and_eq_true, Bool.not_eq_true', Bool.or_eq_false_iff] at hsk
    obtain ⟨hp, hmb, hmw⟩ := hsk
    exact .inr ⟨hp, hmb, hmw, k1 hp, (resolveOperand_kind_pseudo hres).2 (k1 hp)⟩

theorem plainShape (hpar : Parsed s0) (hres : resolveOperand s0.operand s0.row t = .ok o)
    (htr : translateOperand o s0.row = .ok p) (hsk : fitSkipped s0.row = true) : PlainShape o p := by
  obtain ⟨_, _, _, _, f7, f8, _⟩ := hpar.rowFacts
  rcases hpar.skipped_kind hres hsk with ⟨hsp, hk⟩ | ⟨_, hmb, hmw, _, hk⟩
  · rw [translateOperand_special hk] at htr
    exact translateSpecial_plain hpar.rowFacts hsp ((hpar.shape1 hres).nov (.inl hk)) htr
  · rw [translateOperand_pseudo hk] at htr
    refine translatePseudo_plain ?_ ?_ ((hpar.shape1 hres).plain hk) htr
    · intro hm; rw [f7 hm] at hmb; cases hmb
    · intro hm; rw [f8 hm] at hmw; cases hmw

/-- a list value is the parsed one, and only FCB / FDB rows parse lists: one item per element of the operand text -/
theorem list_count (hpar : Parsed s0) (hres : resolveOperand s0.operand s0.row t = .ok o) (hk : o.kind = .pseudo)
    {w : Nat} {mk : List Str → Value} {hs : List Str} (k : ListKind w mk) (hm : o.value = mk hs) :
    hs.length = (listElems o.text).length ∧ (s0.row.isMultiByte || s0.row.isMultiWord) = true := by
  obtain ⟨txt, hcr⟩ := hpar.2
  have hk0 : s0.operand.kind = .pseudo := (resolveOperand_kind_pseudo hres).1 hk
  have e := resolveOperand_multi_keep hres hk0 (by rw [hm]; cases k <;> simp [Value.isMultiByte, Value.isMultiWord])
  rw [e] at hm ⊢
  exact createOperand_multi_count hcr ((createOperand_kind_rev hcr).1 hk0) hs (by cases k; exact .inl hm; exact .inr hm)

theorem plain_nolist (hpar : Parsed s0) (hres : resolveOperand s0.operand s0.row t = .ok o)
    (htr : translateOperand o s0.row = .ok p) (hsk : fitSkipped s0.row = true) :
    (∀ hs, p.additional ≠ .multiByte hs) ∧ (∀ hs, p.additional ≠ .multiWord hs) := by
  rcases (hpar.plainShape hres htr hsk).nolist with e | e
  · have key : ∀ {w : Nat} {mk : List Str → Value} (_ : ListKind w mk) hs, o.value ≠ mk hs := by
      intro w mk k hs hm
      rcases hpar.skipped_kind hres hsk with ⟨_, hk⟩ | ⟨_, hmb, hmw, _, hk⟩
      · rw [(hpar.shape1 hres).nov (.inl hk)] at hm
        cases k <;> cases hm
      · have := (hpar.list_count hres hk k hm).2
        rw [hmb, hmw] at this
        cases this
    rw [e]
    exact ⟨key .byte, key .word⟩
  · exact e

end Parsed

/-- op code and post byte are absent or numbers out of `numV`: `translate` makes them so, `settle` keeps them so -/
theorem Compiled.codes {fs : Files} {lines : List Str} {a : Assembly} {st : Stages fs lines a} {i : Nat}
    {s0 : Stmt} {o : Operand} {p : Pkg} {sz mx : Nat} {pb : Value} {hint : Nat} {ad vf vw v : Value}
    (c : Compiled st i s0 o p sz mx pb hint ad vf vw v) : CodeVal p.opCode ∧ CodeVal pb :=
  ⟨(translateOperand_graph c.htr).codes.1, c.sized.postByte (translateOperand_graph c.htr).codes.2⟩

/-- a numeric field in a row `fitWidth` looks at: the final statement carries it at the width `w` that the size leaves
after op code and post byte (the list pass leaves a number alone) -/
theorem Compiled.numeric_final {fs : Files} {lines : List Str} {a : Assembly} {st : Stages fs lines a} {i : Nat}
    {s0 : Stmt} {o : Operand} {p : Pkg} {sz mx : Nat} {pb : Value} {hint : Nat} {ad vw v : Value} {n : Nat}
    {hh : Option Nat} {m : Mode} {neg : Bool} (c : Compiled st i s0 o p sz mx pb hint ad (.numeric n hh m neg) vw v)
    (hsk : fitSkipped s0.row = false) :
    ∃ w, (w = 2 ∨ w = 4) ∧ 2 * sz = hl p.opCode + hl pb + w ∧
      v = .numeric (signedK n neg % 2 ^ (4 * w)).toNat (some w) .extended false := by
  obtain ⟨a', b', w, ha, hb, hw, hsz, _, _, esw⟩ := fitWidth_numeric c.hfit hsk rfl
  obtain rfl : hl p.opCode = a' := Option.some.inj (c.codes.1.emits.1.symm.trans ha)
  obtain rfl : hl pb = b' := Option.some.inj (c.codes.2.emits.1.symm.trans hb)
  obtain ⟨_, rfl⟩ := c.numeric rfl
  exact ⟨w, hw, hsz, congrArg (·.pkg.additional) esw⟩

/-- an ORG statement: `translate` makes the operand value, a non-negative number, the address, and address assignment
keeps it -/
theorem Compiled.org {fs : Files} {lines : List Str} {a : Assembly} {st : Stages fs lines a} {i : Nat}
    {s0 : Stmt} {o : Operand} {p : Pkg} {sz mx : Nat} {pb : Value} {hint : Nat} {ad vf vw v : Value}
    (c : Compiled st i s0 o p sz mx pb hint ad vf vw v) (hm : s0.row.mnemonic = "ORG") :
    o.kind = .pseudo ∧ p = { address := o.value } ∧ ad = o.value ∧ o.value.isNumeric = true ∧
      o.value.isNegative = false := by
  obtain ⟨txt, hcr⟩ := c.parsed.2
  have hk : o.kind = .pseudo :=
    (resolveOperand_kind_pseudo c.hres).2 ((createOperand_kind hcr).1 (org_pseudo _ c.parsed.1 hm))
  obtain ⟨rfl, hnum, hneg⟩ := translate_org_eq hk hm c.htr
  obtain ⟨n, hh, m, neg, hv⟩ := isNumeric_elim hnum
  exact ⟨hk, rfl, c.preset_addr (by rw [hv]; rfl), hnum, hneg⟩

theorem Stages.addr4_numeric {fs : Files} {lines : List Str} {a : Assembly} (st : Stages fs lines a) :
    ∀ j v, addrOf st.ss4 j = some v → v.isNumeric = true := by
  intro j v hv
  obtain ⟨s4, hs4, rfl⟩ := Option.map_eq_some_iff.1 hv
  obtain ⟨s0, o, p, sz, mx, pb, hint, ad, vf, vw, v, c, rfl⟩ := st.compiled_ss4 hs4
  exact c.placed.numeric (translateOperand_addr (p := p) c.htr)

end CoCo.Asm
