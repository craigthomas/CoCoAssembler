/-
Lemmas/VFChain.lean — what a file looks like after going cassette → disk → cassette, and that each container's
listing satisfies the other container's input conditions.
-/
import CoCoVerif.Lemmas.DiskBytes
import CoCoVerif.Lemmas.VFCas
import CoCoVerif.Props.DiskDefs

namespace CoCo.VF
open CoCo CoCo.Props

/-- a file listed from a cassette is a valid input of the disk writer (if its data fits a 16-bit length) -/
theorem casNorm_validD {f : CFile} (hv : ValidFile f) (hn : AsciiName f.name) (hl : f.data.length ≤ 65535) :
    ValidDFile (Cas.norm f) := by
  obtain ⟨_, ht, hdt, hlo, hex, hd⟩ := hv
  refine ⟨toTape_ascii hn, ?_, ht, hdt, hlo, hex, hd, hl⟩
  · intro c hc
    simp only [Cas.norm] at hc
    split at hc <;> simp at hc <;> omega

/-- a file listed from a disk is a valid input of the cassette writer and reader (E1: if it has data) -/
theorem dskNorm_casOK {f : CFile} (hv : ValidDFile f) (hd : f.data ≠ []) :
    AsciiName (Dsk.norm f).name ∧ ValidFile (Dsk.norm f) ∧ K_C06_emptyData (Dsk.norm f).data = false := by
  obtain ⟨hn, _, ht, hdt, hlo, hex, hb, _⟩ := hv
  have hname : ∀ c ∈ (Dsk.norm f).name, c < 128 := by
    intro c hc
    simp only [Dsk.norm] at hc
    exact (Dsk.padUpper_mem 8 f.name hn c (List.mem_filter.mp hc).1).2
  refine ⟨hname, ⟨fun c hc => by have := hname c hc; omega, ht, hdt, ?_, ?_, hb⟩, ?_⟩
  · simp only [Dsk.norm]; split <;> omega
  · simp only [Dsk.norm]; split <;> omega
  · cases hdd : f.data with
    | nil => exact absurd hdd hd
    | cons _ _ => simp [Dsk.norm, K_C06_emptyData, hdd]

theorem validD_map_casNorm {l : List CFile} (hv : ∀ f ∈ l, ValidFile f) (hn : ∀ f ∈ l, AsciiName f.name)
    (hl : ∀ f ∈ l, f.data.length ≤ 65535) : ∀ g ∈ l.map Cas.norm, ValidDFile g :=
  List.forall_mem_map.mpr (fun f hf => casNorm_validD (hv f hf) (hn f hf) (hl f hf))

theorem casOK_map_dskNorm {l : List CFile} (hv : ∀ f ∈ l, ValidDFile f) (hd : ∀ f ∈ l, f.data ≠ []) :
    CasOK (l.map Dsk.norm) :=
  CasOK_iff.mpr (List.forall_mem_map.mpr fun f hf => dskNorm_casOK (hv f hf) (hd f hf))

theorem chain_name (f : CFile) (hs : NoSpace f) :
    (Cas.norm (Dsk.norm (Cas.norm f))).name = (Cas.padName f.name).map padCh := by
  show Cas.padName ((Dsk.padUpper 8 (Cas.padName f.name)).filter (· != 0x20)) = _
  rw [padUpper8_padName, filter_padUpper 8 f.name hs]
  unfold Cas.padName
  rw [List.map_append, List.length_map, List.length_take, ← List.map_take, List.take_take, Nat.min_self]
  congr 1
  rw [List.map_replicate, padCh_space]
  congr 1
  omega

/-- cassette → disk → cassette on one file: data, types and (for machine language) addresses are kept;
the name is upper-cased; BASIC / ASCII files lose their (unused) addresses -/
theorem chain_file (f : CFile) (hs : NoSpace f) :
    Cas.norm (Dsk.norm (Cas.norm f)) =
      { Cas.norm f with name := (Cas.padName f.name).map padCh,
                        load := if f.ftype = 2 then f.load else 0,
                        exec := if f.ftype = 2 then f.exec else 0 } := by
  have hn := chain_name f hs
  cases f with
  | mk name ext ftype dtype gaps load exec data =>
    simp only [Cas.norm, Dsk.norm, Dsk.kindOf_eq_ml_iff] at hn ⊢
    rw [hn]

/-- upper-case machine-language files come back exactly as a cassette lists them -/
theorem chain_file_fixed (f : CFile) (hup : ∀ c ∈ f.name, padCh c = c ∧ c ≠ 0x20) (hml : f.ftype = 2) :
    Cas.norm (Dsk.norm (Cas.norm f)) = Cas.norm f := by
  have hs : NoSpace f := by
    intro c hc
    refine ⟨(hup c hc).2, fun h0 => ?_⟩
    have := (hup c hc).1
    rw [h0] at this
    revert this
    decide
  rw [chain_file f hs]
  have hmap : (Cas.padName f.name).map padCh = Cas.padName f.name := by
    conv => rhs; rw [← List.map_id (Cas.padName f.name)]
    apply List.map_congr_left
    intro c hc
    simp only [Cas.padName, List.mem_append, List.mem_replicate] at hc
    rcases hc with hc | hc
    · exact (hup c (List.mem_of_mem_take hc)).1
    · rw [hc.2]; exact padCh_space
  cases f with
  | mk name ext ftype dtype gaps load exec data =>
    simp only [Cas.norm] at hmap hml ⊢
    simp [hmap, hml]

theorem chain_dcd_name (f : CFile) :
    (Dsk.norm (Cas.norm (Dsk.norm f))).name = (Dsk.norm f).name := by
  have hs := dskNorm_noSpace f
  show (Dsk.padUpper 8 (Cas.padName (Dsk.norm f).name)).filter (· != 0x20) = _
  rw [padUpper8_padName, filter_padUpper 8 _ hs]
  have hlen : (Dsk.norm f).name.length ≤ 8 := by
    show ((Dsk.padUpper 8 f.name).filter (· != 0x20)).length ≤ 8
    have := List.length_filter_le (· != 0x20) (Dsk.padUpper 8 f.name)
    rw [Dsk.padUpper_length] at this
    exact this
  rw [List.take_of_length_le hlen]
  conv => rhs; rw [← List.map_id (Dsk.norm f).name]
  apply List.map_congr_left
  intro c hc
  have : c ∈ Dsk.padUpper 8 f.name := (List.mem_filter.mp hc).1
  rw [padUpper_eq, List.mem_map] at this
  obtain ⟨x, _, rfl⟩ := this
  exact padCh_idem x

/-- disk → cassette → disk on one file: everything is kept except the extension, which a cassette does not
store (it comes back as BIN / BAS by file type) -/
theorem chain_dcd_file (f : CFile) :
    Dsk.norm (Cas.norm (Dsk.norm f)) =
      { Dsk.norm f with ext := if f.ftype = 2 then [66, 73, 78] else [66, 65, 83] } := by
  have hn := chain_dcd_name f
  have hext : Dsk.padUpper 3 (if f.ftype = 2 then [66, 73, 78] else [66, 65, 83]) =
      if f.ftype = 2 then [66, 73, 78] else [66, 65, 83] := by
    split <;> decide
  cases f with
  | mk name ext ftype dtype gaps load exec data =>
    simp only [Cas.norm, Dsk.norm] at hn hext ⊢
    rw [hn, hext]
    by_cases hk : Dsk.kindOf ftype dtype = .ml <;> simp [hk]

end CoCo.VF
