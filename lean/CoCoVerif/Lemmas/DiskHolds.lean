/-
Lemmas/DiskHolds.lean — the abstract view of a tool-written disk image: `Holds img fs`, "`img` holds exactly the
files `fs`, in directory order", is `Inv` with the ghost chains hidden. Free space is a function of `fs`
(`Holds.space`), `add_file` refines appending to `fs` while 68 granules and 72 slots last (`Holds.addFile`), and
the consistency check, both readers and the accounting of a whole write are read off it.
-/
import CoCoVerif.Lemmas.DiskFsck
import CoCoVerif.Lemmas.DiskList

namespace CoCo.Dsk
open CoCo Spec.DiskBasic CoCo.Props

def Holds (img : Bytes) (fs : List CFile) : Prop := ∃ abs, Inv img abs ∧ abs.map (·.file) = fs

theorem Holds.blank : Holds blank [] := ⟨[], Inv_blank, rfl⟩

theorem Holds.valid {img : Bytes} {fs : List CFile} (h : Holds img fs) : ∀ f ∈ fs, ValidDFile f := by
  obtain ⟨abs, hi, rfl⟩ := h
  exact List.forall_mem_map.mpr hi.valid

theorem Holds.space {img : Bytes} {fs : List CFile} (h : Holds img fs) :
    freeGranules img + (fs.map needs).sum = 68 ∧ freeSlots img + fs.length = 72 := by
  obtain ⟨abs, hi, rfl⟩ := h
  refine ⟨hi.freeGranules_eq, ?_⟩
  have := hi.slots
  unfold freeSlots
  rw [hi.liveSlots_eq, List.length_range, List.length_map]
  omega

/-- Stated for a variable image. With `blank` in the place of `img`, `omega`, `Nat.add_zero` under `simp only` or a
`rfl` lemma on `freeGranules blank + 0` make the kernel evaluate a list of 161,280 elements (minutes). -/
theorem Holds.space_nil {img : Bytes} (h : Holds img []) : freeGranules img = 68 ∧ freeSlots img = 72 := by
  simpa using h.space

theorem Holds.fsck {img : Bytes} {fs : List CFile} (h : Holds img fs) :
    Fsck img ∧ Spec.DiskBasic.read img = some (fs.map toDFile) := by
  obtain ⟨abs, hi, rfl⟩ := h
  exact ⟨hi.fsck, by rw [hi.read_eq, List.map_map]; rfl⟩

theorem toDFile_ascii {f : CFile} (hv : ValidDFile f) :
    (∀ c ∈ (toDFile f).name, c < 128) ∧ (∀ c ∈ (toDFile f).ext, c < 128) :=
  ⟨fun c hc => (padUpper_mem 8 f.name hv.1 c hc).2, fun c hc => (padUpper_mem 3 f.ext hv.2.1 c hc).2⟩

theorem ofDFile_toDFile (f : CFile) : ofDFile (toDFile f) = norm f := rfl

theorem Holds.list {img : Bytes} {fs : List CFile} (h : Holds img fs) : Dsk.list img = .ok (fs.map norm) := by
  rw [list_eq_read_of_length h.fsck.1.1 h.fsck.2
    (List.forall_mem_map.mpr (fun f hf => toDFile_ascii (h.valid f hf))), List.map_map]
  rfl

/-- **`add_file` refines appending to the list of stored files.** On an image holding `fs` it stores `f` into
granules that were free, giving an image that holds `fs ++ [f]`, or it is the diagnostic: then 72 files are
stored, or (with a fill order that offers every granule) `f` needs more granules than `fs` has left. -/
theorem Holds.addFile {order : List Nat} {img : Bytes} {fs : List CFile} {f : CFile} (h : Holds img fs)
    (ho : ValidOrder order) (hv : ValidDFile f) :
    (∃ img', Dsk.addFile order img f = .ok img' ∧ Holds img' (fs ++ [f]) ∧
        ∀ g, g < 68 → fatAt img g ≠ 0xFF → fatAt img' g = fatAt img g) ∨
    (Dsk.addFile order img f = .diag ∧
      (fs.length = 72 ∨ ((∀ g, g < 68 → g ∈ order) → 68 < (fs.map needs).sum + needs f))) := by
  obtain ⟨abs, hi, rfl⟩ := h
  rcases hi.addFile_cases ho hv with ⟨gs, b1, img', a, he, hok, eff⟩ | ⟨hd, hfull | hshort⟩
  · exact Or.inl ⟨img', hok, ⟨_, hi.extend a eff he hv, by simp⟩,
      fun g hg hne => eff.fat_other g hg (fun hin => hne (a.free g hin).2)⟩
  · exact Or.inr ⟨hd, Or.inl (by have := hi.slots; rw [List.length_map]; omega)⟩
  · exact Or.inr ⟨hd, Or.inr (fun hc => by have := hshort hc; have := hi.freeGranules_eq; omega)⟩

/-- `addFiles` on an image holding `fs0` stores the files one after the other until `add_file` refuses one with
the diagnostic -/
theorem Holds.addFiles {order : List Nat} (ho : ValidOrder order) :
    ∀ (fs : List CFile) {img : Bytes} {fs0 : List CFile}, Holds img fs0 → (∀ f ∈ fs, ValidDFile f) →
      (∃ img', Dsk.addFiles order img fs = .ok img' ∧ Holds img' (fs0 ++ fs)) ∨
      (Dsk.addFiles order img fs = .diag ∧ ∃ pre f post img1, fs = pre ++ f :: post ∧
        Dsk.addFiles order img pre = .ok img1 ∧ Holds img1 (fs0 ++ pre) ∧ Dsk.addFile order img1 f = .diag) := by
  intro fs
  induction fs with
  | nil => intro img fs0 h _; exact Or.inl ⟨img, rfl, by simpa using h⟩
  | cons f fs ih =>
    intro img fs0 h hv
    rcases h.addFile ho (hv f List.mem_cons_self) with ⟨img1, h1, hh, _⟩ | ⟨hd, _⟩
    · rw [addFiles_cons, h1]
      rcases ih hh (fun x hx => hv x (List.mem_cons_of_mem _ hx)) with
        ⟨img', hok, hh'⟩ | ⟨hdd, pre, g, post, img2, hsplit, hpre, hh2, hg⟩
      · exact Or.inl ⟨img', hok, by simpa using hh'⟩
      · exact Or.inr ⟨hdd, f :: pre, g, post, img2, by rw [hsplit]; rfl, by rw [addFiles_cons, h1]; exact hpre,
          by simpa using hh2, hg⟩
    · exact Or.inr ⟨by rw [addFiles_cons, hd]; rfl, [], f, fs, img, rfl, rfl, by simpa using h, hd⟩

/-- every image the tool writes holds the files it was given -/
theorem Holds.write {order : List Nat} {fs : List CFile} {img : Bytes} (ho : ValidOrder order)
    (hv : ∀ f ∈ fs, ValidDFile f) (hres : Dsk.write order fs = .ok img) : Holds img fs := by
  rcases Holds.addFiles ho fs Holds.blank hv with ⟨img', hok, hh⟩ | ⟨hd, _⟩
  · obtain rfl : img' = img := Outcome.ok.inj (hok.symm.trans hres)
    simpa using hh
  · rw [Dsk.write, hd] at hres; cases hres

theorem Inv.write {order : List Nat} {fs : List CFile} {img : Bytes} (ho : ValidOrder order)
    (hv : ∀ f ∈ fs, ValidDFile f) (hres : Dsk.write order fs = .ok img) :
    ∃ abs, Inv img abs ∧ abs.map (·.file) = fs :=
  Holds.write ho hv hres

/-- every file needs at least one granule -/
theorem length_le_sum_needs (fs : List CFile) : fs.length ≤ (fs.map needs).sum := by
  induction fs with
  | nil => simp
  | cons f fs ih =>
    have := needs_pos f
    simp only [List.map_cons, List.sum_cons, List.length_cons]
    omega

/-- a whole write of valid files: it succeeds when they need at most 68 granules and are at most 72; otherwise
it is the diagnostic (**disk full**), raised at a definite file -/
theorem write_cases {order : List Nat} {fs : List CFile} (hc : CompleteOrder order)
    (hv : ∀ f ∈ fs, ValidDFile f) :
    ((fs.map needs).sum ≤ 68 ∧ fs.length ≤ 72 ∧ ∃ img, Dsk.write order fs = .ok img) ∨
    ((68 < (fs.map needs).sum ∨ 72 < fs.length) ∧ Dsk.write order fs = .diag ∧
      ∃ pre f post img, fs = pre ++ f :: post ∧ Dsk.write order pre = .ok img ∧
        (freeGranules img < needs f ∨ freeSlots img = 0) ∧ Dsk.addFile order img f = .diag) := by
  rcases Holds.addFiles hc.1 fs Holds.blank hv with ⟨img, hok, hh⟩ | ⟨hd, pre, f, post, img, hsplit, hpre, hh, hf⟩
  · rw [List.nil_append] at hh
    have := hh.space
    exact Or.inl ⟨by omega, by omega, img, hok⟩
  · rw [List.nil_append] at hh
    have := hh.space
    -- `add_file` refused `f` on an image holding `pre`: `pre ++ [f]` is one file or some granules too many
    have hfull : pre.length = 72 ∨ 68 < (pre.map needs).sum + needs f := by
      rcases hh.addFile hc.1 (hv f (by rw [hsplit]; simp)) with ⟨_, hok, _⟩ | ⟨_, h72 | hshort⟩
      · rw [hf] at hok; cases hok
      · exact Or.inl h72
      · exact Or.inr (hshort hc.2)
    refine Or.inr ⟨?_, hd, pre, f, post, img, hsplit, hpre, by omega, hf⟩
    rw [hsplit]
    simp only [List.map_append, List.sum_append, List.map_cons, List.sum_cons, List.length_append, List.length_cons]
    omega

theorem write_fits {order : List Nat} {fs : List CFile} (hc : CompleteOrder order)
    (hv : ∀ f ∈ fs, ValidDFile f) (hg : (fs.map needs).sum ≤ 68) (hs : fs.length ≤ 72) :
    ∃ img, Dsk.write order fs = .ok img := by
  rcases write_cases hc hv with ⟨_, _, h⟩ | ⟨h, _⟩
  · exact h
  · omega

theorem write_ok_or_diag {order : List Nat} {fs : List CFile} (hc : CompleteOrder order)
    (hv : ∀ f ∈ fs, ValidDFile f) : (∃ img, Dsk.write order fs = .ok img) ∨ Dsk.write order fs = .diag := by
  rcases write_cases hc hv with ⟨_, _, h⟩ | ⟨_, h, _⟩
  · exact Or.inl h
  · exact Or.inr h

end CoCo.Dsk
