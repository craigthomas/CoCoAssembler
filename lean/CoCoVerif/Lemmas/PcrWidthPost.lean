/-
Lemmas/PcrWidthPost.lean — the post byte of a `label,PCR` statement and the width hint of the size loop.

The theorems of Props/C03Width speak of `pcrHint = 2` (the 8-bit form) and `pcrHint = 4` (the 16-bit form), a field of
the model's statement record.  This file ties the hint to the EMITTED post byte: a PCR statement with a label offset
leaves the size loop with `pcrHint = 2` and a post byte whose low nibble is `$C` (`1xx01100`, "8-bit offset from PC")
or with `pcrHint = 4` and low nibble `$D` (`1xx01101`, "16-bit offset from PC").
-/
import CoCoVerif.Lemmas.StagesTrace

namespace CoCo.Asm
open CoCo
open CoCo.Gen (InstrRow)

/-- the post byte of a translated package (before `fixedSize` is set) -/
structure PostPkg (p : Pkg) : Prop where
  /-- `label,PCR`: the low nibble is clear, the choices are `$xC` and `$xD` -/
  pcr : p.choices ≠ [] →
    ∃ raw c, p.postByte.int? = some raw ∧ p.choices = [c, c + 1] ∧ c % 16 = 12 ∧ raw % 16 = 0
  /-- a package `fix_addresses` resolves WITHOUT post byte choices (`LDA TABLE,X`): low nibble `9`, "16-bit constant
  offset from the register" (`1xx01001` / indirect `1xx11001`) -/
  abs : p.needsRes = true → p.choices = [] → ∃ raw, p.postByte.int? = some raw ∧ raw % 16 = 9

theorem PostPkg.plain {p : Pkg} (hc : p.choices = []) (hn : p.needsRes = false) : PostPkg p :=
  ⟨fun h => absurd hc h, fun h => by rw [hn] at h; cases h⟩

theorem OffPkg.post {ind : Bool} {row : InstrRow} {right : Str} {raw0 : Nat} {needs : Bool} {l : Value} {p : Pkg}
    (hraw : raw0 % 16 = 0) (h : OffPkg ind row right raw0 needs l p) : PostPkg p := by
  cases h with
  | pcrOpen _ _ _ hpb =>
    exact ⟨fun _ => ⟨raw0, offBase ind + 0x0C, numV_int hpb, rfl, offBase_add_mod16 ind (by decide), hraw⟩, nofun⟩
  | pcrNum => exact .plain rfl rfl
  | label _ _ hpb =>
    refine ⟨fun h => absurd rfl h, fun _ _ => ⟨_, numV_int hpb, ?_⟩⟩
    rw [or_mod16, hraw, Nat.zero_or]
    exact offBase_add_mod16 ind (by decide)
  | neg5 _ hn | neg8 _ hn | neg16 _ hn | pos5 _ hn | pos8 _ hn | pos16 _ hn => exact .plain rfl hn

theorem IdxPkg.post {ind : Bool} {row : InstrRow} {o : Operand} {p : Pkg} (h : IdxPkg ind row o p) :
    PostPkg p := by
  cases h with
  | abs | plain => exact .plain rfl rfl
  | offset _ _ _ hp | offsetText _ _ _ _ _ hp => exact hp.post (idxRaw_mod16 _ _)

theorem translateOperand_post {row : InstrRow} {o : Operand} {p : Pkg} (h : translateOperand o row = .ok p) :
    PostPkg p := by
  cases translateOperand_graph h with
  | indexed _ h | extIndirect _ h => exact h.post
  | pseudo _ h => cases h <;> exact .plain rfl rfl
  | _ => exact .plain rfl rfl

/-- the post byte of a final PCR statement: the low nibble `translate` left clear, the choice `settle` ored in (`$xC` on
the 8-bit form, `$xD` on the 16-bit form) -/
theorem Stages.pcr_postbyte {fs : Files} {lines : List Str} {a : Assembly} (st : Stages fs lines a)
    {i : Nat} {s : Stmt} (hs : a.stmts[i]? = some s) (hc : s.pkg.choices ≠ []) :
    ∃ pb, s.pkg.postByte.int? = some pb ∧
      ((s.pcrHint = 2 ∧ pb % 16 = 12) ∨ (s.pcrHint = 4 ∧ pb % 16 = 13)) := by
  obtain ⟨s0, o, p, sz, mx, pb, hint, ad, vf, vw, v, c, rfl⟩ := st.compiled hs
  obtain ⟨raw, k, h1, h2, h3, h4⟩ := (translateOperand_post c.htr).pcr hc
  generalize hs3 : laidOut s0 o p sz mx pb hint p.address p.additional = s3
  have hz := c.sized
  rw [hs3] at hz
  cases hz with
  | same =>
    have : p.choices.isEmpty = true := congrArg (·.fixedSize) hs3.symm
    rw [h2] at this
    cases this
  | @settled c0 c1 raw' e c pb' _ hch hraw hpb he =>
    obtain ⟨rfl, rfl⟩ : k = c0 ∧ k + 1 = c1 := by
      rw [show (mkTranslated s0 o p).pkg.choices = p.choices from rfl, h2] at hch; simpa using hch
    obtain rfl : raw = raw' := Option.some.inj (h1.symm.trans hraw)
    obtain rfl : pb = pb' := congrArg (·.pkg.postByte) hs3
    obtain rfl : hint = 2 * e := congrArg (·.pcrHint) hs3
    refine ⟨_, numV_int hpb, ?_⟩
    rw [or_mod16, h4, Nat.zero_or]
    rcases he with ⟨rfl, rfl, _⟩ | ⟨rfl, rfl⟩
    · exact .inl ⟨rfl, by omega⟩
    · exact .inr ⟨rfl, by omega⟩

/-- the label offset of a pointer register (`needsRes` without post byte choices) -/
theorem Stages.abs_postbyte {fs : Files} {lines : List Str} {a : Assembly} (st : Stages fs lines a)
    {i : Nat} {s : Stmt} (hs : a.stmts[i]? = some s) (hn : s.pkg.needsRes = true) (hc : s.pkg.choices = []) :
    ∃ pb, s.pkg.postByte.int? = some pb ∧ pb % 16 = 9 := by
  obtain ⟨s0, o, p, sz, mx, pb, hint, ad, vf, vw, v, c, rfl⟩ := st.compiled hs
  obtain ⟨_, _, rfl, _⟩ := c.fixed hc
  exact (translateOperand_post c.htr).abs hn hc

end CoCo.Asm
