/-
Lemmas/RelocListProg.lean — relocation (C18-R1): LABEL elements of FCB / FDB lists, whole program.

The pass `evalLists` over all statements and `fixAllL` (`fixAll`, then `evalLists` on its result): when the original
program gets through the list pass, so does the program moved by `D`, and the results are related statement by statement
by `ListStep`.  ONE DIRECTION only (original program accepted → moved program accepted): in an FCB list an element
`label ± N` that has more than two digits in the original program may wrap to a two-digit value in the moved one, so "same
outcome kind" is not a theorem for `ListsCovered`.  `ListsCovered` looks at the ADDRESSES of the layout only
(`ListsCovered.sameAddr`), so it goes from the statements that enter `fixAll` to those that leave it.
-/
import CoCoVerif.Lemmas.RelocEqu
import CoCoVerif.Lemmas.RelocListLabel

namespace CoCo.Asm
open CoCo

/-- a pair of statements after the list pass (original program: layout `ssA`, moved program: layout `ssB`): they come from
a pair `x`, `x'` related by `R`; `y'` is `x'` itself when `x` is no list, and `x'` with the field `movedList D ssA t y`
when it is -/
def ListStep (R : Stmt → Stmt → Prop) (D : Nat) (ssA ssB : List Stmt) (t : SymTab) (y y' : Stmt) : Prop :=
  ∃ x x', R x x' ∧ ListsCovered D ssA t x ∧ evalList1 t ssA x = .ok y ∧ evalList1 t ssB x' = .ok y' ∧
    y' = (if x.pkg.additional.isList then { x' with pkg := { x'.pkg with additional := movedList D ssA t y } } else x')

section
variable {D : Nat} {ssA ssB : List Stmt} {R : Stmt → Stmt → Prop}

theorem evalList1_step (hR : ListStable R) (h : PW (AddrShiftAny D) ssA ssB) (t : SymTab) {x x' y : Stmt}
    (hx : R x x') (hc : ListsCovered D ssA t x) (hA : evalList1 t ssA x = .ok y) :
    ∃ y', evalList1 t ssB x' = .ok y' ∧ ListStep R D ssA ssB t y y' :=
  ⟨_, evalList1_reloc hR h t hx hc hA, x, x', hx, hc, hA, evalList1_reloc hR h t hx hc hA, rfl⟩

/-- the list pass over the statements `gs` of the original program and `gs'` of the moved one (related
statement by statement by a `ListStable` relation, the layouts `D` apart): when the pass succeeds on the original program
it succeeds on the moved one, and the results are related by `ListStep` -/
theorem evalLists_reloc (hR : ListStable R) (h : PW (AddrShiftAny D) ssA ssB) (t : SymTab) :
    ∀ (gs gs' ys : List Stmt), (∀ x ∈ gs, ListsCovered D ssA t x) → PW R gs gs' → evalLists t ssA gs = .ok ys →
      ∃ ys', evalLists t ssB gs' = .ok ys' ∧ PW (ListStep R D ssA ssB t) ys ys' := by
  intro gs
  induction gs with
  | nil =>
    intro gs' ys _ hp hA
    rw [evalLists_nil] at hA
    cases hA
    rw [hp.nil_left, evalLists_nil]
    exact ⟨[], rfl, .nil⟩
  | cons x rest ih =>
    intro gs' ys hc hp hA
    obtain ⟨x', rest', rfl, hx, hr⟩ := hp.cons_left
    obtain ⟨y, r, h1, h2, rfl⟩ := Outcome.consM_eq_ok (evalLists_cons_consM .. ▸ hA)
    obtain ⟨y', e1, s1⟩ := evalList1_step hR h t hx (hc x (by simp)) h1
    obtain ⟨r', e2, s2⟩ := ih rest' r (fun z hz => hc z (by simp [hz])) hr h2
    exact ⟨y' :: r', by rw [evalLists_cons_consM, e1, e2]; rfl, .cons s1 s2⟩

/-- `fixAll` and then the list pass: when the original program gets through both, so does the moved
program; `fs`, `fs'` are what `fixAll` gives, the results of the list pass are related by `ListStep` on those layouts -/
theorem fixAllL_reloc (hR : ListStable R) (hS : ∀ x x', R x x' → AddrShiftAny D x x') (t : SymTab) {as as' : List Stmt}
    (h : OutRel (PW R) (fixAll as 0 as) (fixAll as' 0 as'))
    (hc : ∀ fs, fixAll as 0 as = .ok fs → ∀ x ∈ fs, ListsCovered D fs t x)
    {ys : List Stmt} (hA : fixAllL t as = .ok ys) :
    ∃ fs fs' ys', fixAll as 0 as = .ok fs ∧ fixAll as' 0 as' = .ok fs' ∧ PW R fs fs' ∧ evalLists t fs fs = .ok ys ∧
      fixAllL t as' = .ok ys' ∧ PW (ListStep R D fs fs' t) ys ys' := by
  obtain ⟨fs, hf, he⟩ := fixAllL_ok.mp hA
  rw [hf] at h
  generalize hf' : fixAll as' 0 as' = o' at h
  cases h with
  | ok hr =>
    rename_i fs'
    obtain ⟨ys', e, s⟩ := evalLists_reloc hR (hr.mono hS) t fs fs' ys (hc fs hf) hr he
    exact ⟨fs, fs', ys', hf, rfl, hr, he, fixAllL_ok.mpr ⟨fs', hf', e⟩, s⟩

end

section same
variable {as fs : List Stmt}

theorem elemVal_sameAddr (h : PW SameAddr as fs) (t : SymTab) (x : Str) : elemVal fs t x = elemVal as t x := by
  unfold elemVal
  simp only [elemNum_column (addrOf_sameAddr h)]

theorem ModExpr.sameAddr {D : Nat} (h : PW SameAddr as fs) {e : Value} (he : ModExpr D as e) : ModExpr D fs e := by
  obtain ⟨l, r, op, m, t, a, k, nn, rfl, hl, hb⟩ := he
  exact ⟨l, r, op, m, t, a, k, nn, rfl, ⟨hl.other, hl.side, hl.idx, by rw [addrIntOf_sameAddr h]; exact hl.addr⟩, hb⟩

theorem ValueCovered.sameAddr {D : Nat} (h : PW SameAddr as fs) {r : Value} (hc : ValueCovered D as r) :
    ValueCovered D fs r := by
  rcases hc with hc | hc | hc | hc
  · exact .inl hc
  · exact .inr (.inl hc)
  · exact .inr (.inr (.inl (hc.sameAddr h)))
  · exact .inr (.inr (.inr hc))

theorem ElemCovered.sameAddr {D : Nat} (h : PW SameAddr as fs) {t : SymTab} {x : Str} (hc : ElemCovered D as t x) :
    ElemCovered D fs t x := fun v r hv hr => (hc v r hv hr).sameAddr h

theorem ElemFits.sameAddr {D : Nat} (h : PW SameAddr as fs) {t : SymTab} {w : Nat} {x : Str} (hc : ElemFits D as t w x) :
    ElemFits D fs t w x := by
  intro hm z hz
  rw [elemVal_sameAddr h] at hz
  exact hc hm z hz

theorem ListsCovered.sameAddr {D : Nat} (h : PW SameAddr as fs) {t : SymTab} {s : Stmt} (hc : ListsCovered D as t s) :
    ListsCovered D fs t s :=
  ⟨fun hs e x hx hp => ⟨(hc.1 hs e x hx hp).1.sameAddr h, (hc.1 hs e x hx hp).2.sameAddr h⟩,
   fun hs e x hx hp => (hc.2 hs e x hx hp).sameAddr h⟩

theorem movedElem_sameAddr {D : Nat} (h : PW SameAddr as fs) (t : SymTab) (w : Nat) (x g : Str) :
    movedElem D fs t w x g = movedElem D as t w x g := by
  unfold movedElem
  rw [elemVal_sameAddr h]

theorem movedDigits_sameAddr {D : Nat} (h : PW SameAddr as fs) (t : SymTab) (w : Nat) : ∀ (xs gs : List Str),
    movedDigits D fs t w xs gs = movedDigits D as t w xs gs := by
  intro xs gs
  induction xs, gs using zipInduction with
  | nil_left gs => rw [movedDigits_nil_left, movedDigits_nil_left]
  | nil_right xs => rw [movedDigits_nil_right, movedDigits_nil_right]
  | cons x xs g gs ih => rw [movedDigits_cons, movedDigits_cons, ih, movedElem_sameAddr h]

/-- `movedList` may be computed on any layout with the same addresses — e.g. on the final statements -/
theorem movedList_sameAddr {D : Nat} (h : PW SameAddr as fs) (t : SymTab) (y : Stmt) :
    movedList D fs t y = movedList D as t y := by
  unfold movedList
  simp only [movedDigits_sameAddr h]

end same

theorem fixFit_listsCovered {D : Nat} {L : List Stmt} {t : SymTab} {ss : List Stmt} {i : Nat} {s u : Stmt}
    (hss : ∀ j v, addrOf ss j = some v → v.isNumeric = true) (h : fixFit ss i s = .ok u) (hc : ListsCovered D L t s) :
    ListsCovered D L t u := by
  obtain ⟨r1, r2⟩ := fixFit_list_rev hss h
  obtain ⟨v, rfl⟩ := fixFit_same h
  exact ⟨fun hs e => hc.1 hs (r1 hs e), fun hs e => hc.2 hs (r2 hs e)⟩

theorem fixAll_listsCovered {D : Nat} {t : SymTab} {as fs : List Stmt}
    (hss : ∀ j v, addrOf as j = some v → v.isNumeric = true)
    (hc : ∀ (i : Nat) (s : Stmt), as[i]? = some s → ListsCovered D as t s) (h : fixAll as 0 as = .ok fs) :
    ∀ x ∈ fs, ListsCovered D fs t x := by
  intro x hx
  obtain ⟨j, s, hs, hf⟩ := fixAll_mem h hx
  exact (fixFit_listsCovered hss hf (hc j s hs)).sameAddr (fixAll_sameAddr h)

end CoCo.Asm
