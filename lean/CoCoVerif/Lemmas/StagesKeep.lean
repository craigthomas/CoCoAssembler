/-
Lemmas/StagesKeep.lean — what every stage of an accepted run (`Stages`) preserves: label and row (`KeepRel`, `Stages.keep*`;
`keepRel_sized` for the stages up to the size loop as `back` runs them, `Rename.preLists` those up to `fixAll`),
operand, operand field and `needsRes` from translation to address assignment (`AddlRel`, `Stages.addl24`), what address
assignment leaves (`Stages.placed`, `Stages.chained`, `Stages.telescope`; `Stages.disp_of`: the displacement between two
statements with no ORG between them; `Stages.addrIntOf4`: the addresses looked up in the statements that enter `fixAll` are
the final ones), the sizes after the size loop (`Stages.sumSize_final`); and the symbol table of an accepted run: what a
label is bound to at the end (`Stages.symtab_get`, `Stages.label_entry`).  The digits in `keep01`, `keep35`, `addl24`,
`addrIntOf4` index the lists `ss0` .. `ss4` of `Stages`; 5 stands for `a.stmts`.
-/
import CoCoVerif.Lemmas.AssembleStages
import CoCoVerif.Lemmas.EvalLists
import CoCoVerif.Lemmas.FixBranch
import CoCoVerif.Lemmas.TranslateGraph

namespace CoCo.Asm
open CoCo

/-- label and row are kept; every other field may differ -/
def KeepRel (s s' : Stmt) : Prop := s'.label = s.label ∧ s'.row = s.row

theorem KeepRel.trans {a b c : Stmt} (h1 : KeepRel a b) (h2 : KeepRel b c) : KeepRel a c :=
  ⟨h2.1.trans h1.1, h2.2.trans h1.2⟩

/-- `s'` is `s` up to `pkg.address` and `pkg.additional` (not the graph `Placed` of address assignment) -/
def PlacedRel (s s' : Stmt) : Prop := ∃ x v, s' = { s with pkg := { s.pkg with address := x, additional := v } }

/-- operand, row, `pkg.additional` and `pkg.needsRes` are kept; every other field may differ (under `SameButAdditional`
it is `pkg.additional` alone that may) -/
def AddlRel (s s' : Stmt) : Prop :=
  s'.operand = s.operand ∧ s'.row = s.row ∧ s'.pkg.additional = s.pkg.additional ∧ s'.pkg.needsRes = s.pkg.needsRes

theorem AddlRel.trans {a b c : Stmt} (h1 : AddlRel a b) (h2 : AddlRel b c) : AddlRel a c :=
  ⟨h2.1.trans h1.1, h2.2.1.trans h1.2.1, h2.2.2.1.trans h1.2.2.1, h2.2.2.2.trans h1.2.2.2⟩

theorem KeepRel.of_resolve {t : SymTab} {ss ss1 : List Stmt} (h : resolveAll t ss = some ss1) : PW KeepRel ss ss1 :=
  (resolveAll_pw h).mono (by rintro s s' ⟨o, _, rfl⟩; exact ⟨rfl, rfl⟩)
theorem KeepRel.of_translate {ss1 ss2 : List Stmt} (h : translateAll ss1 = some ss2) : PW KeepRel ss1 ss2 :=
  (translateAll_pw h).mono (by rintro s s' ⟨o, _, rfl⟩; exact ⟨rfl, rfl⟩)
theorem KeepRel.of_pcrLoop {n : Nat} {ss2 ss3 : List Stmt} (h : pcrLoop n ss2 = .ok ss3) : PW KeepRel ss2 ss3 :=
  (pcrLoop_pw _ _ h).mono (by rintro s s' ⟨_, _, _, _, _, rfl⟩; exact ⟨rfl, rfl⟩)

/-- label and row of the statements that enter the ORG check are those of the statements given to `back` -/
theorem keepRel_sized {t : SymTab} {n : Nat} {ss ss1 ss2 ss3 : List Stmt} (h1 : resolveAll t ss = some ss1)
    (h2 : translateAll ss1 = some ss2) (h3 : pcrLoop n ss2 = .ok ss3) : PW KeepRel ss ss3 :=
  ((KeepRel.of_resolve h1).trans (KeepRel.of_translate h2) fun _ _ _ => KeepRel.trans).trans (KeepRel.of_pcrLoop h3)
    fun _ _ _ => KeepRel.trans

/-- the statements as they reach the evaluation of the FCB / FDB lists: the stages of `back` up to and including
`fixAll` (the ORG check left out) -/
def Rename.preLists (ss : List Stmt) : Option (List Stmt) :=
  match buildSymTab ss 0 [] with
  | none => none
  | some t =>
    match resolveAll t ss with
    | none => none
    | some ss1 =>
      match translateAll ss1 with
      | none => none
      | some ss2 =>
        match pcrLoop (ss2.length + 1) ss2 with
        | .ok ss3 =>
          (match assignAddrs ss3 0 with
           | .ok ss4 => (match fixAll ss4 0 ss4 with | .ok x => some x | _ => none)
           | _ => none)
        | _ => none

namespace Stages
variable {fs : Files} {lines : List Str} {a : Assembly}

/-- the statements after `fixAll`, before the FCB / FDB lists are evaluated -/
theorem fix_split (st : Stages fs lines a) :
    ∃ ss5a, fixAll st.ss4 0 st.ss4 = .ok ss5a ∧ evalLists st.t ss5a ss5a = .ok a.stmts := fixAllL_ok.1 st.hfix

theorem keep01 (st : Stages fs lines a) : PW KeepRel st.ss0 st.ss1 := KeepRel.of_resolve st.hresolve
theorem keep12 (st : Stages fs lines a) : PW KeepRel st.ss1 st.ss2 := KeepRel.of_translate st.htranslate
theorem keep23 (st : Stages fs lines a) : PW KeepRel st.ss2 st.ss3 := KeepRel.of_pcrLoop st.hpcr

/-- after the size loop only `pkg.address` (address assignment) and `pkg.additional` (`fix_addresses`, the FCB / FDB
lists) change -/
theorem placed (st : Stages fs lines a) : PW PlacedRel st.ss3 a.stmts :=
  (assignAddrs_pw st.haddr).trans (fixAllL_pw st.hfix) (by rintro s _ _ ⟨x, rfl⟩ ⟨v, rfl⟩; exact ⟨x, v, rfl⟩)

theorem keep35 (st : Stages fs lines a) : PW KeepRel st.ss3 a.stmts :=
  st.placed.mono (by rintro s s' ⟨_, _, rfl⟩; exact ⟨rfl, rfl⟩)

theorem keep05 (st : Stages fs lines a) : PW KeepRel st.ss0 a.stmts :=
  (keepRel_sized st.hresolve st.htranslate st.hpcr).trans st.keep35 (fun _ _ _ => KeepRel.trans)

theorem preset_org (st : Stages fs lines a) {j : Nat} {s : Stmt} (hs : st.ss3[j]? = some s)
    (hp : s.preset = true) : s.row.mnemonic = "ORG" := by
  obtain ⟨s2, hs2, sz, mx, pb, hint, fx, rfl⟩ := (pcrLoop_pw _ _ st.hpcr).get' hs
  obtain ⟨s1, hs1, p, htr, rfl⟩ := (translateAll_pw st.htranslate).get' hs2
  refine translate_preset htr ?_
  intro hnone
  simp [Stmt.preset, hnone, Value.isNone] at hp

/-- the final value of a symbol of an accepted program: its entry in the table built from the labels goes
through `evalSym` (an EQU defined by an expression is evaluated), then statement indices are replaced by addresses -/
theorem symtab_get (st : Stages fs lines a) {k : Str} {v : Value} (hk : st.t.get? k = some v) :
    ∃ v1 v', evalSym a.stmts st.t v = .ok v1 ∧ a.symtab.get? k = some v' ∧ finalVal a.stmts v1 = some v' := by
  obtain ⟨v1, h2, h1⟩ := evalSyms_get? st.heval hk
  obtain ⟨v', hv', hfin⟩ := finalSymTab_get st.hfinal h2
  exact ⟨v1, v', h1, hv', hfin⟩

theorem label_entry (st : Stages fs lines a) {i : Nat} {s : Stmt} (hs : a.stmts[i]? = some s)
    (hl : s.label.isEmpty = false) :
    ∃ s0, st.ss0[i]? = some s0 ∧ KeepRel s0 s ∧
      st.t.get? s.label = some (if s.row.isPseudoDefine then s0.operand.value else .address i .none) := by
  obtain ⟨htab, hnodup⟩ := buildSymTab_some st.hsym
  obtain ⟨s0, hs0, hk⟩ := st.keep05.get' hs
  have hmem := symEntries_mem (i := 0) hs0 (by rw [← hk.1]; exact hl)
  rw [Nat.zero_add, ← List.nil_append (symEntries _ _), ← htab] at hmem
  refine ⟨s0, hs0, hk, ?_⟩
  rw [hk.1, hk.2]
  exact get?_of_mem (hnodup (by simp [SymTab.keys])) hmem

theorem chained (st : Stages fs lines a) : Chained (st.ss3.map Stmt.preset) a.stmts 0 :=
  (assignAddrs_chained st.haddr).congr
    ((fixAllL_pw st.hfix).mono (by rintro s s' ⟨_, rfl⟩; exact ⟨rfl, rfl⟩))

/-- the addresses `fix_addresses` looks up in the statements that enter it are those of the final statements -/
theorem addrIntOf4 (st : Stages fs lines a) {j : Nat} {t : Stmt} (ht : a.stmts[j]? = some t) :
    addrIntOf st.ss4 j = addrNat t := by
  obtain ⟨t4, ht4, v, rfl⟩ := (fixAllL_pw st.hfix).get' ht
  rw [addrIntOf_eq, ht4]
  rfl

theorem addrIntOf4_some (st : Stages fs lines a) {j y : Nat} (h : addrIntOf st.ss4 j = some y) :
    ∃ t, a.stmts[j]? = some t ∧ addrNat t = some y := by
  obtain ⟨t4, h4, hy⟩ := addrIntOf_eq_some.1 h
  obtain ⟨t, ht, v, rfl⟩ := (fixAllL_pw st.hfix).get h4
  exact ⟨_, ht, hy⟩

theorem flag_false (st : Stages fs lines a) {j : Nat} {t : Stmt} (ht : a.stmts[j]? = some t)
    (hm : t.row.mnemonic ≠ "ORG") : (st.ss3.map Stmt.preset)[j]? = some false := by
  obtain ⟨s3, hs3, hk⟩ := st.keep35.get' ht
  rw [List.getElem?_map, hs3]
  cases hp : s3.preset with
  | false => simp [hp]
  | true => exact absurd (by rw [hk.2]; exact st.preset_org hs3 hp) hm

/-- with no ORG after statement `lo` up to statement `hi`, the address of `hi` is that of `lo` plus the sizes in between -/
theorem telescope (st : Stages fs lines a) {lo hi : Nat} (hle : lo ≤ hi) {s t : Stmt} (hs : a.stmts[lo]? = some s)
    (ht : a.stmts[hi]? = some t) (hno : ∀ j u, lo < j → j ≤ hi → a.stmts[j]? = some u → u.row.mnemonic ≠ "ORG")
    {x : Nat} (hx : addrNat s = some x) : addrNat t = some (x + sumSize a.stmts lo hi) := by
  refine st.chained.telescope hle hs ht (fun j h1 h2 => ?_) hx
  have hu := List.getElem?_eq_getElem (show j < a.stmts.length by have := lt_of_getElem? ht; omega)
  exact st.flag_false hu (hno j _ h1 h2 hu)

/-- the sizes are final once the size loop is left: the statements that leave it and those that enter
`fix_addresses` have the sums of the final ones -/
theorem sumSize_final (st : Stages fs lines a) (lo hi : Nat) :
    sumSize st.ss3 lo hi = sumSize a.stmts lo hi ∧ sumSize st.ss4 lo hi = sumSize a.stmts lo hi :=
  ⟨(sumSize_congr (st.placed.mono (by rintro s s' ⟨_, _, rfl⟩; rfl)) lo hi).symm,
    (sumSize_congr ((fixAllL_pw st.hfix).mono (by rintro s s' ⟨_, rfl⟩; rfl)) lo hi).symm⟩

/-- `Chained.disp` for the statements of an accepted program with no ORG between the two -/
theorem disp_of (st : Stages fs lines a) {i b : Nat} {s t : Stmt} (hs : a.stmts[i]? = some s)
    (ht : a.stmts[b]? = some t)
    (hno : ∀ j u, min b i < j → j ≤ max b i → a.stmts[j]? = some u → u.row.mnemonic ≠ "ORG")
    {x y : Nat} (hx : addrNat s = some x) (hy : addrNat t = some y) :
    branchDisp a.stmts i b = (y : Int) - (x + s.pkg.size) := by
  refine st.chained.disp hs ht (fun j h1 h2 => ?_) hx hy
  have hlen : j < a.stmts.length := by
    have := lt_of_getElem? hs
    have := lt_of_getElem? ht
    omega
  have hu := List.getElem?_eq_getElem hlen
  exact st.flag_false hu (hno j _ h1 h2 hu)

end Stages

theorem Stages.addl24 {fs : Files} {lines : List Str} {a : Assembly} (st : Stages fs lines a) :
    PW AddlRel st.ss2 st.ss4 := by
  have h23 : PW AddlRel st.ss2 st.ss3 :=
    (pcrLoop_pw _ _ st.hpcr).mono (by rintro s s' ⟨_, _, _, _, _, rfl⟩; exact ⟨rfl, rfl, rfl, rfl⟩)
  have h34 : PW AddlRel st.ss3 st.ss4 :=
    (assignAddrs_pw st.haddr).mono (by rintro s s' ⟨_, rfl⟩; exact ⟨rfl, rfl, rfl, rfl⟩)
  exact h23.trans h34 (fun _ _ _ => AddlRel.trans)

end CoCo.Asm
