/-
Lemmas/FixOne.lean — `fixOne` cut into its steps (`fixOne_eq`: `fixBranch` for a relative branch, else `fixPart1`,
`fixPart2`, `fixPart3`), with the equations of the steps on each form of statement and each step as a chain of `bind` and
`map` (`fixBranch_eq`, `fixPart1_eq`, `fixPart2_eq`, `fixRelTarget_bind`, `fixPartAbs_bind`, `fixPart3_eq`,
`fixNonRel_bind`): what is proved of every run of `fixOne`, or of two runs side by side, goes link by link along these
and does not unfold a step again.  A statement whose operand mentions no label (`LabelFree`) goes to the last step as it is
(`fixOne_eq_fixPart3`).  The target of a PCR operand (`fixRel_target_plain`, `fixRel_target_expr_pm`) and the signed 16-bit
distance stored for it (`sdist16`, `pcrDist_eq`, `pcrOut_range`).  Each step once more along its chain, for what it cannot do (`fixBranch_meets`, `fixPart1_meets`,
`fixPart2_meets`, `fixPart3_meets`, `fitWidth_meets`: `Outcome.Meets c`): it does not diverge, it raises Python's exception
only in the cases named, and it changes at most `pkg.additional` (`SameButAdditional`); whence the frame property
(`fixOne_out`, `fixOne_same`, `fitWidth_same`, `fixFit_same`, `fixAll_pw`) and that `fixAll` does not diverge.
-/
import CoCoVerif.Lemmas.FinishPasses
import CoCoVerif.Lemmas.FitWidth
import CoCoVerif.Lemmas.PcrLoop

namespace CoCo.Asm
open CoCo

def fixBranch (ss : List Stmt) (i : Nat) (s : Stmt) : Outcome Stmt :=
  match s.pkg.additional.int? with
  | none => .internal
  | some b =>
    let short := s.row.isShortBranch
    let hint := if short then 2 else 4
    if b ≤ i then
      let len := 1 + sumSize ss b (i + 1)
      if (short ∧ len > 129) ∨ len > 0x10000 then .diag
      else match numericOfInt ((if short then (0x101 : Int) else 0x10001) - len) (some hint) .none with
        | .ok v => .ok { s with pkg := { s.pkg with additional := v } }
        | .error _ => .internal
    else
      let len := sumSize ss (i + 1) b
      if (short ∧ len > 127) ∨ len > 0xFFFF then .diag
      else match numericOfInt len (some hint) .none with
        | .ok v => .ok { s with pkg := { s.pkg with additional := v } }
        | .error _ => .internal

def fixPart1 (ss : List Stmt) (s : Stmt) (ov : Value) : Outcome Stmt :=
  if ov.isAddrExpr then
    (match addrOffset ss ov with
     | .ok v => .ok { s with pkg := { s.pkg with additional := v } }
     | .diag => .diag | .internal => .internal | .diverged => .diverged)
  else .ok s

def fixPart2 (ss : List Stmt) (ov : Value) (s1 : Stmt) : Outcome Stmt :=
  if ov.isAddress then
    match ov.int? with
    | some t => (match addrOf ss t with
                 | some a => .ok { s1 with pkg := { s1.pkg with additional := a } }
                 | none => .internal)
    | none => .internal
  else .ok s1

def fixRelTarget (ss : List Stmt) (s2 : Stmt) : Outcome Nat :=
  let idx := s2.operand.kind == .indexed || s2.operand.kind == .extIndirect
  let leftV : Option Value := match s2.pkg.additional with | .expr _ _ _ _ true => some s2.pkg.additional | _ => none
  match idx, leftV with
  | true, some e => (match addrOffset ss e with
                     | .ok v => (match v.int? with | some n => .ok n | none => .internal)
                     | .diag => .diag | .internal => .internal | .diverged => .diverged)
  | _, _ => (match s2.pkg.additional.int? with
             | some t => (match addrIntOf ss t with | some a => .ok a | none => .internal)
             | none => .internal)

def fixRel (ss : List Stmt) (s2 : Stmt) : Outcome Nat :=
  let idx := s2.operand.kind == .indexed || s2.operand.kind == .extIndirect
  let leftV : Option Value := match s2.pkg.additional with | .expr _ _ _ _ true => some s2.pkg.additional | _ => none
  match idx, leftV with
  | true, some e => (match addrOffset ss e with | .ok v => (match v.int? with | some n => .ok n | none => .internal) | .diag => .diag | .internal => .internal | .diverged => .diverged)
  | _, _ => (match s2.pkg.additional.int? with
             | some t => (match addrIntOf ss t with | some a => .ok a | none => .internal)
             | none => .internal)

/-- `fixRel` is the name in the statements about the PCR field; the steps of `fixOne` and their equations use
`fixRelTarget` -/
theorem fixRel_eq : fixRel = fixRelTarget := rfl

def pcrJump (s2 : Stmt) (r start : Nat) : Int :=
  let jump : Int := (r : Int) - start - s2.pkg.size
  let jump : Int := (jump + 0x8000) % 0x10000 - 0x8000
  if s2.pcrHint = 4 then jump % 0x10000 else jump

/-- the signed 16-bit distance from the end of the statement to the target -/
def pcrDist (s2 : Stmt) (r start : Nat) : Int :=
  ((r : Int) - start - s2.pkg.size + 0x8000) % 0x10000 - 0x8000

/-- the range check of the 8-bit form (only possible across a later ORG) -/
def pcrOut (s2 : Stmt) (r start : Nat) : Prop :=
  s2.pcrHint ≠ 4 ∧ (pcrDist s2 r start < -128 ∨ pcrDist s2 r start > 127)

instance (s2 : Stmt) (r start : Nat) : Decidable (pcrOut s2 r start) := by unfold pcrOut; infer_instance

theorem pcrJump_eq_dist (s2 : Stmt) (r start : Nat) :
    pcrJump s2 r start = if s2.pcrHint = 4 then pcrDist s2 r start % 0x10000 else pcrDist s2 r start := rfl

theorem pcrJump_hint2 {s : Stmt} (hh : s.pcrHint = 2) (r start : Nat) : pcrJump s r start = pcrDist s r start := by
  unfold pcrJump pcrDist
  simp [hh]

/-- the signed 16-bit reading of an integer distance -/
def sdist16 (z : Int) : Int := (z + 0x8000) % 0x10000 - 0x8000

theorem pcrDist_eq (s : Stmt) (t x : Nat) : pcrDist s t x = sdist16 ((t : Int) - x - s.pkg.size) := rfl

theorem sdist16_of_range {z : Int} (h1 : -32768 ≤ z) (h2 : z ≤ 32767) : sdist16 z = z := by
  unfold sdist16; omega

theorem sdist16_mod (z : Int) : sdist16 (z % 65536) = sdist16 z := by
  unfold sdist16; omega

theorem sdist16_range (z : Int) : -32768 ≤ sdist16 z ∧ sdist16 z ≤ 32767 ∧ (sdist16 z - z) % 65536 = 0 := by
  unfold sdist16; omega

/-- the range check of `fix_addresses` -/
theorem pcrOut_range {s : Stmt} {t x : Nat} (hh : s.pcrHint = 2) (h : ¬ pcrOut s t x) :
    -128 ≤ pcrDist s t x ∧ pcrDist s t x ≤ 127 := by
  have hd : ¬ (pcrDist s t x < -128 ∨ pcrDist s t x > 127) := fun hd => h ⟨by rw [hh]; decide, hd⟩
  omega

/-- a label as constant offset of a pointer register (`LDA TABLE,X`): `needsRes` without post byte choices; the target
address itself becomes the 16-bit offset -/
def fixPartAbs (ss : List Stmt) (s2 : Stmt) : Outcome Stmt :=
  match fixRelTarget ss s2 with
  | .ok r => (match numericOfInt r (some 4) .none with
              | .ok v => .ok { s2 with pkg := { s2.pkg with additional := v } }
              | .error _ => .internal)
  | .diag => .diag
  | _ => .internal

def fixPart3 (ss : List Stmt) (i : Nat) (s2 : Stmt) : Outcome Stmt :=
  if s2.pkg.needsRes then
    if s2.pkg.choices.isEmpty then fixPartAbs ss s2 else
    match fixRelTarget ss s2, addrIntOf ss i with
    | .ok r, some start =>
      let jump : Int := (r : Int) - start - s2.pkg.size
      let jump : Int := (jump + 0x8000) % 0x10000 - 0x8000
      if s2.pcrHint ≠ 4 ∧ (jump < -128 ∨ jump > 127) then .diag else
      let jump : Int := if s2.pcrHint = 4 then jump % 0x10000 else jump
      (match numericOfInt jump (some s2.pcrHint) .none with
       | .ok v => .ok { s2 with pkg := { s2.pkg with additional := v } }
       | .error _ => .internal)
    | .ok _, none => .internal
    | .diag, _ => .diag
    | _, _ => .internal
  else .ok s2

def fixNonRel (ss : List Stmt) (i : Nat) (s : Stmt) (ov : Value) : Outcome Stmt :=
  match fixPart1 ss s ov with
  | .ok s1 =>
    (match fixPart2 ss ov s1 with
     | .ok s2 => fixPart3 ss i s2
     | o => o)
  | o => o

theorem fixOne_eq (ss : List Stmt) (i : Nat) (s : Stmt) :
    fixOne ss i s =
      if s.operand.kind == .relative then fixBranch ss i s
      else match s.operand.value with
        | .pyNone => .internal
        | ov => fixNonRel ss i s ov := by
  rfl

theorem fixOne_relative {ss : List Stmt} {i : Nat} {s : Stmt} (hk : s.operand.kind = .relative) :
    fixOne ss i s = fixBranch ss i s := by
  rw [fixOne_eq, if_pos (by rw [hk]; rfl)]

theorem fixOne_nonrel_eq (ss : List Stmt) (i : Nat) (s : Stmt) (hk : (s.operand.kind == .relative) = false)
    (hv : s.operand.value ≠ .pyNone) : fixOne ss i s = fixNonRel ss i s s.operand.value := by
  rw [fixOne_eq, if_neg (by simp [hk])]
  split
  · rename_i hp; exact absurd hp hv
  · rfl

theorem fixOne_pyNone (ss : List Stmt) (i : Nat) (s : Stmt) (hk : (s.operand.kind == .relative) = false)
    (hv : s.operand.value = .pyNone) : fixOne ss i s = .internal := by
  rw [fixOne_eq, if_neg (by simp [hk]), hv]

/-! ### the parts, each as a chain of `bind` and `map`, and their equations on each form of statement

Every part computes a value and writes it into the operand field (`x.map (withAdditional s)`); a lookup or a construction
that fails is Python's exception (`ofOptionI`, `ofRI`). -/

theorem fixNonRel_bind (ss : List Stmt) (i : Nat) (s : Stmt) (ov : Value) :
    fixNonRel ss i s ov = (fixPart1 ss s ov).bind (fun s1 => (fixPart2 ss ov s1).bind (fixPart3 ss i)) := by
  unfold fixNonRel
  cases fixPart1 ss s ov with
  | ok s1 => dsimp only [Outcome.bind]; cases fixPart2 ss ov s1 <;> rfl
  | _ => rfl

theorem fixPart1_eq (ss : List Stmt) (s : Stmt) (ov : Value) :
    fixPart1 ss s ov = if ov.isAddrExpr then (addrOffset ss ov).map (withAdditional s) else .ok s := by
  unfold fixPart1
  split
  · cases addrOffset ss ov <;> rfl
  · rfl

theorem fixPart2_eq (ss : List Stmt) (ov : Value) (s1 : Stmt) :
    fixPart2 ss ov s1 =
      if ov.isAddress then
        ((Outcome.ofOptionI ov.int?).bind fun t => Outcome.ofOptionI (addrOf ss t)).map (withAdditional s1)
      else .ok s1 := by
  unfold fixPart2
  split
  · cases ov.int? with
    | none => rfl
    | some t => dsimp only [Outcome.ofOptionI, Outcome.bind]; cases addrOf ss t <;> rfl
  · rfl

theorem fixPart1_nonexpr (ss : List Stmt) (s : Stmt) {ov : Value} (hE : ov.isAddrExpr = false) :
    fixPart1 ss s ov = .ok s := by
  rw [fixPart1_eq, if_neg (by simp [hE])]

theorem fixPart2_nonaddr (ss : List Stmt) (s1 : Stmt) {ov : Value} (hA : ov.isAddress = false) :
    fixPart2 ss ov s1 = .ok s1 := by
  rw [fixPart2_eq, if_neg (by simp [hA])]

theorem fixPart3_noRes (ss : List Stmt) (i : Nat) {s2 : Stmt} (hn : s2.pkg.needsRes = false) :
    fixPart3 ss i s2 = .ok s2 := by
  unfold fixPart3; simp [hn]

/-- part 3 of a `needsRes` statement WITHOUT post byte choices — a label as constant offset of a pointer register
(`LDA TABLE,X`): the target address itself becomes the 16-bit offset -/
theorem fixPart3_abs (ss : List Stmt) (i : Nat) {s2 : Stmt} (hn : s2.pkg.needsRes = true)
    (hc : s2.pkg.choices.isEmpty = true) : fixPart3 ss i s2 = fixPartAbs ss s2 := by
  unfold fixPart3; rw [if_pos hn, if_pos hc]

/-- part 3 of a PCR statement (`needsRes` with post byte choices), in terms of `pcrOut` and `pcrJump` -/
theorem fixPart3_pcr (ss : List Stmt) (i : Nat) {s2 : Stmt} (hn : s2.pkg.needsRes = true)
    (hc : s2.pkg.choices.isEmpty = false) :
    fixPart3 ss i s2 =
      (match fixRelTarget ss s2, addrIntOf ss i with
       | .ok r, some start =>
         if pcrOut s2 r start then .diag else
         (match numericOfInt (pcrJump s2 r start) (some s2.pcrHint) .none with
          | .ok v => .ok { s2 with pkg := { s2.pkg with additional := v } }
          | .error _ => .internal)
       | .ok _, none => .internal
       | .diag, _ => .diag
       | _, _ => .internal) := by
  unfold fixPart3
  rw [if_pos hn, if_neg (by simp [hc])]
  rfl

theorem fixNonRel_plain (ss : List Stmt) (i : Nat) (s : Stmt) {ov : Value}
    (hE : ov.isAddrExpr = false) (hA : ov.isAddress = false) : fixNonRel ss i s ov = fixPart3 ss i s := by
  rw [fixNonRel_bind, fixPart1_nonexpr ss s hE, Outcome.ok_bind, fixPart2_nonaddr ss s hA, Outcome.ok_bind]

/-- an operand that mentions no label: not a branch, and its value is neither a label, nor a label expression,
nor Python `None` -/
structure LabelFree (o : Operand) : Prop where
  notRel : o.kind ≠ .relative
  notNone : o.value ≠ .pyNone
  notAddrExpr : o.value.isAddrExpr = false
  notAddr : o.value.isAddress = false

/-- the operand of an indexed statement (`left,right`) -/
theorem LabelFree.of_leftRight {o : Operand} (hk : o.kind ≠ .relative) (hv : o.value.isLeftRight = true) :
    LabelFree o := by
  cases e : o.value with
  | leftRight => exact ⟨hk, by rw [e]; nofun, by rw [e]; rfl, by rw [e]; rfl⟩
  | _ => rw [e] at hv; cases hv

/-- such a statement goes to the last step of `fix_addresses` as it is -/
theorem fixOne_eq_fixPart3 {ss : List Stmt} {i : Nat} {s : Stmt} (h : LabelFree s.operand) :
    fixOne ss i s = fixPart3 ss i s := by
  rw [fixOne_nonrel_eq ss i s (beq_false_of_ne h.notRel) h.notNone, fixNonRel_plain ss i s h.notAddrExpr h.notAddr]

theorem fixOne_inert (ss : List Stmt) (i : Nat) (s : Stmt) (hk : (s.operand.kind == .relative) = false)
    (hv : s.operand.value ≠ .pyNone) (hE : s.operand.value.isAddrExpr = false)
    (hA : s.operand.value.isAddress = false) (hn : s.pkg.needsRes = false) : fixOne ss i s = .ok s := by
  rw [fixOne_eq_fixPart3 ⟨ne_of_beq_false hk, hv, hE, hA⟩, fixPart3_noRes ss i hn]

theorem fixOne_still {ss : List Stmt} {i : Nat} {s sf : Stmt} (hk : (s.operand.kind == .relative) = false)
    (hn : s.pkg.needsRes = false) (h1 : s.operand.value.isAddress = false)
    (h2 : s.operand.value.isAddrExpr = false) (h : fixOne ss i s = .ok sf) : sf = s := by
  by_cases hv : s.operand.value = .pyNone
  · rw [fixOne_pyNone ss i s hk hv] at h
    cases h
  · rw [fixOne_inert ss i s hk hv h2 h1 hn] at h
    cases h; rfl

/-- what `fixOne` does to a statement with a label as constant offset of a pointer register
(`LDA TABLE,X`: no label in the operand VALUE, `needsRes`, no post byte choices): the target address becomes the
16-bit offset -/
theorem fixOne_abs_eq (ss : List Stmt) (i : Nat) (s : Stmt) (hk : (s.operand.kind == .relative) = false)
    (hv : s.operand.value ≠ .pyNone)
    (hE : s.operand.value.isAddrExpr = false) (hA : s.operand.value.isAddress = false)
    (hn : s.pkg.needsRes = true) (hc : s.pkg.choices.isEmpty = true) : fixOne ss i s = fixPartAbs ss s := by
  rw [fixOne_eq_fixPart3 ⟨ne_of_beq_false hk, hv, hE, hA⟩, fixPart3_abs _ _ hn hc]

def Stmt.isIdx (s : Stmt) : Bool := s.operand.kind == .indexed || s.operand.kind == .extIndirect

/-- the PCR target is a statement index (not a label expression) -/
theorem fixRelTarget_plain (ss : List Stmt) (s2 : Stmt)
    (hp : s2.isIdx = false ∨ s2.pkg.additional.isAddrExpr = false) :
    fixRelTarget ss s2 =
      (match s2.pkg.additional.int? with
       | some t => (match addrIntOf ss t with | some a => .ok a | none => .internal)
       | none => .internal) := by
  unfold fixRelTarget
  dsimp only
  split
  · rename_i e hidx heq
    exfalso
    rcases hp with hp | hp
    · simp [Stmt.isIdx, hidx] at hp
    · split at heq
      · rename_i h2; rw [h2] at hp; simp [Value.isAddrExpr] at hp
      · cases heq
  · rfl

/-- the PCR target is a label expression -/
theorem fixRelTarget_expr (ss : List Stmt) (s2 : Stmt) {l r : Value} {op : Char} {m : Mode}
    (hidx : s2.isIdx = true) (he : s2.pkg.additional = .expr l r op m true) :
    fixRelTarget ss s2 =
      (match addrOffset ss (.expr l r op m true) with
       | .ok v => (match v.int? with | some n => .ok n | none => .internal)
       | .diag => .diag | .internal => .internal | .diverged => .diverged) := by
  unfold fixRelTarget
  unfold Stmt.isIdx at hidx
  simp only [he, hidx]

theorem fixRel_target_plain {ss : List Stmt} {s2 : Stmt} {b target : Nat}
    (he : s2.pkg.additional.isAddrExpr = false) (hr : relIndex s2.pkg.additional = some b)
    (h : fixRel ss s2 = .ok target) : addrIntOf ss b = some target := by
  rw [relIndex_plain he] at hr
  rw [fixRel_eq, fixRelTarget_plain ss s2 (.inr he), hr] at h
  dsimp only at h
  cases ha : addrIntOf ss b with
  | none => rw [ha] at h; cases h
  | some y => rw [ha] at h; cases h; rfl

/-- `label ± c`, `c ± label` (left `op` right in the written order, reduced modulo 65536): the expression names the
statement `b` of its label (`relIndex`); for `+` the target is `(address(label) + c) mod 65536`; for `-` it is
`(address(label) − c) mod 65536` when the label stands on the left, and `(c − address(label)) mod 65536` when it stands on
the right (`5-L`).  `c` is the SIGNED constant (`exprExtra`, which widens the estimates of the size loop, is its
magnitude).  `hlr`: one of the two sides is a label (true of every value the front end builds with the
address-expression flag); `hop`, `hoth` follow from `exprForces = false` (`exprForces_false`), which says more:
`number - label` is forced to the 16-bit form -/
theorem fixRel_target_expr_pm {ss : List Stmt} {s2 : Stmt} {l r : Value} {op : Char} {m : Mode} {target k : Nat}
    {hh : Option Nat} {mm : Mode} {nn : Bool}
    (hidx : (s2.operand.kind == .indexed || s2.operand.kind == .extIndirect) = true)
    (ha : s2.pkg.additional = .expr l r op m true) (hlr : l.isAddress = true ∨ r.isAddress = true)
    (hop : op = '+' ∨ op = '-') (hoth : (if l.isAddress then r else l) = .numeric k hh mm nn)
    (h : fixRel ss s2 = .ok target) :
    ∃ b y, relIndex s2.pkg.additional = some b ∧ addrIntOf ss b = some y ∧
      ((op = '+' ∧ (target : Int) = ((y : Int) + signedK k nn) % 65536) ∨
       (op = '-' ∧ l.isAddress = true ∧ (target : Int) = ((y : Int) - signedK k nn) % 65536) ∨
       (op = '-' ∧ l.isAddress = false ∧ (target : Int) = (signedK k nn - (y : Int)) % 65536)) := by
  rw [fixRel_eq, fixRelTarget_expr ss s2 hidx ha] at h
  rw [ha]
  cases ho : addrOffset ss (.expr l r op m true) with
  | ok v =>
    rw [ho] at h
    dsimp only at h
    cases hv : v.int? with
    | none => rw [hv] at h; cases h
    | some t =>
      rw [hv] at h
      cases h
      -- `a`, `c`: the values of the two sides
      obtain ⟨a, c, h1, h2, h3⟩ := addrOffset_ok.1 ho
      have hval := addrCombine_pm hop h3 hv
      rcases addrExpr_sides hlr hoth with ⟨b, mj, rfl, rfl⟩ | ⟨b, mj, rfl, rfl⟩
      · obtain ⟨y, hy, rfl⟩ := addrOperand_address_ok h1
        obtain rfl : signedK k nn = c := Outcome.ok.inj h2
        refine ⟨b, y, rfl, hy, ?_⟩
        rcases hval with ⟨rfl, hval⟩ | ⟨rfl, hval⟩
        · exact .inl ⟨rfl, hval⟩
        · exact .inr (.inl ⟨rfl, rfl, hval⟩)
      · obtain ⟨y, hy, rfl⟩ := addrOperand_address_ok h2
        obtain rfl : signedK k nn = a := Outcome.ok.inj h1
        refine ⟨b, y, rfl, hy, ?_⟩
        rcases hval with ⟨rfl, hval⟩ | ⟨rfl, hval⟩
        · exact .inl ⟨rfl, by rw [hval, Int.add_comm]⟩
        · exact .inr (.inr ⟨rfl, rfl, hval⟩)
  | diag => rw [ho] at h; cases h
  | internal => rw [ho] at h; cases h
  | diverged => rw [ho] at h; cases h

theorem fixPartAbs_eq (ss : List Stmt) (s2 : Stmt) :
    fixPartAbs ss s2 =
      (match fixRelTarget ss s2 with
       | .ok r => if r ≤ 65535 then .ok { s2 with pkg := { s2.pkg with additional := .numeric r (some 4) .extended false } }
                  else .internal
       | .diag => .diag | .internal => .internal | .diverged => .internal) := by
  unfold fixPartAbs
  cases fixRelTarget ss s2 with
  | ok r =>
    dsimp only
    by_cases hr : r ≤ 65535
    · rw [if_pos hr, numericOfInt_hint 4 (by omega)]
    · rw [if_neg hr, numericOfInt_big (by omega)]
  | _ => rfl

theorem writeNum_eq (s : Stmt) (x : R Value) :
    (match x with
     | .ok v => Outcome.ok { s with pkg := { s.pkg with additional := v } }
     | .error _ => .internal) = (Outcome.ofRI x).map (withAdditional s) := by
  cases x <;> rfl

theorem fixBranch_eq (ss : List Stmt) (i : Nat) (s : Stmt) :
    fixBranch ss i s = (Outcome.ofOptionI s.pkg.additional.int?).bind fun b =>
      if b ≤ i then
        if (s.row.isShortBranch = true ∧ 1 + sumSize ss b (i + 1) > 129) ∨ 1 + sumSize ss b (i + 1) > 0x10000 then .diag
        else (Outcome.ofRI (numericOfInt ((if s.row.isShortBranch = true then (0x101 : Int) else 0x10001)
          - (1 + sumSize ss b (i + 1) : Nat)) (some (if s.row.isShortBranch = true then 2 else 4)) .none)).map (withAdditional s)
      else
        if (s.row.isShortBranch = true ∧ sumSize ss (i + 1) b > 127) ∨ sumSize ss (i + 1) b > 0xFFFF then .diag
        else (Outcome.ofRI (numericOfInt (sumSize ss (i + 1) b : Nat) (some (if s.row.isShortBranch = true then 2 else 4))
          .none)).map (withAdditional s) := by
  unfold fixBranch
  simp only [writeNum_eq]
  cases s.pkg.additional.int? <;> rfl

/-- the target of a PCR statement or of a label offset: a label expression is evaluated, a statement index looked up -/
theorem fixRelTarget_bind (ss : List Stmt) (s : Stmt) :
    fixRelTarget ss s =
      if s.isIdx = true ∧ s.pkg.additional.isAddrExpr = true then
        (addrOffset ss s.pkg.additional).bind fun v => Outcome.ofOptionI v.int?
      else (Outcome.ofOptionI s.pkg.additional.int?).bind fun t => Outcome.ofOptionI (addrIntOf ss t) := by
  split
  · rename_i h
    obtain ⟨l, r, op, m, he⟩ := Value.eq_addrExpr h.2
    rw [fixRelTarget_expr ss s h.1 he, he]
    cases addrOffset ss (.expr l r op m true) with
    | ok v => dsimp only [Outcome.bind]; cases v.int? <;> rfl
    | _ => rfl
  · rename_i h
    rw [fixRelTarget_plain ss s (by
      cases h1 : s.isIdx <;> cases h2 : s.pkg.additional.isAddrExpr <;> simp_all)]
    cases s.pkg.additional.int? with
    | none => rfl
    | some t => dsimp only [Outcome.bind, Outcome.ofOptionI]; cases addrIntOf ss t <;> rfl

theorem fixRelTarget_ne_diverged (ss : List Stmt) (s : Stmt) : fixRelTarget ss s ≠ .diverged := by
  rw [fixRelTarget_bind]
  split
  · exact Outcome.bind_ne_diverged (addrOffset_not_diverged _ _) fun _ _ => Outcome.ofOptionI_ne_diverged _
  · exact Outcome.bind_ne_diverged (Outcome.ofOptionI_ne_diverged _) fun _ _ => Outcome.ofOptionI_ne_diverged _

theorem fixPartAbs_bind (ss : List Stmt) (s : Stmt) :
    fixPartAbs ss s =
      (fixRelTarget ss s).bind fun r => (Outcome.ofRI (numericOfInt r (some 4) .none)).map (withAdditional s) := by
  unfold fixPartAbs
  simp only [writeNum_eq]
  cases h : fixRelTarget ss s with
  | diverged => exact absurd h (fixRelTarget_ne_diverged ss s)
  | _ => rfl

theorem fixPart3_pcr_bind (ss : List Stmt) (i : Nat) {s : Stmt} (hn : s.pkg.needsRes = true)
    (hc : s.pkg.choices.isEmpty = false) :
    fixPart3 ss i s =
      (fixRelTarget ss s).bind fun r => (Outcome.ofOptionI (addrIntOf ss i)).bind fun start =>
        if pcrOut s r start then .diag
        else (Outcome.ofRI (numericOfInt (pcrJump s r start) (some s.pcrHint) .none)).map (withAdditional s) := by
  rw [fixPart3_pcr ss i hn hc]
  simp only [writeNum_eq]
  cases h : fixRelTarget ss s with
  | diverged => exact absurd h (fixRelTarget_ne_diverged ss s)
  | _ => cases addrIntOf ss i <;> rfl

/-- part 3 in one piece: the target; then the address itself as a 16-bit offset, or the distance from the end of the
statement, range-checked for the 8-bit form -/
theorem fixPart3_eq (ss : List Stmt) (i : Nat) (s : Stmt) :
    fixPart3 ss i s =
      if s.pkg.needsRes then
        (fixRelTarget ss s).bind fun r =>
          if s.pkg.choices.isEmpty then (Outcome.ofRI (numericOfInt r (some 4) .none)).map (withAdditional s)
          else (Outcome.ofOptionI (addrIntOf ss i)).bind fun start =>
            if pcrOut s r start then .diag
            else (Outcome.ofRI (numericOfInt (pcrJump s r start) (some s.pcrHint) .none)).map (withAdditional s)
      else .ok s := by
  cases hn : s.pkg.needsRes with
  | false => exact fixPart3_noRes ss i hn
  | true =>
    cases hc : s.pkg.choices.isEmpty with
    | true => rw [fixPart3_abs ss i hn hc, fixPartAbs_bind]; rfl
    | false => rw [fixPart3_pcr_bind ss i hn hc]; rfl

/-- `s'` is `s` up to `pkg.additional` -/
def SameButAdditional (s s' : Stmt) : Prop := ∃ v, s' = { s with pkg := { s.pkg with additional := v } }

theorem SameButAdditional.refl (s : Stmt) : SameButAdditional s s := ⟨s.pkg.additional, rfl⟩
theorem SameButAdditional.trans {a b c : Stmt} (h1 : SameButAdditional a b) (h2 : SameButAdditional b c) :
    SameButAdditional a c := by
  obtain ⟨v, rfl⟩ := h1; obtain ⟨w, rfl⟩ := h2; exact ⟨w, rfl⟩

/-! What is proved below of every step of `fix_addresses` on `s`: it does not fail as `c`, and a result differs from `s` in
the operand field only.  At `c = .diverged` nothing is assumed (`fixOne_out`); what keeps a step from raising Python's
exception stands under `c = .internal → ..` (discharged from the invariant of C13 in Lemmas/NoIntFix.lean). -/

section
open CoCo.Outcome (Meets)
variable {c : Fail} {ss : List Stmt}

/-- steps one after the other, each of which changes at most the operand field -/
theorem _root_.CoCo.Outcome.Meets.step {s : Stmt} {o : Outcome Stmt} {f : Stmt → Outcome Stmt}
    (h : o.Meets c (SameButAdditional s))
    (hf : ∀ s', o = .ok s' → SameButAdditional s s' → (f s').Meets c (SameButAdditional s')) :
    (o.bind f).Meets c (SameButAdditional s) :=
  h.bind fun s' hs' h' => (hf s' hs' h').mono fun _ _ => h'.trans

/-- the leaf of every step: a number written into the operand field; only a number above 65535 raises -/
theorem writeNum_meets (s : Stmt) {z : Int} (h : Option Nat) (m : Mode) (hz : c = .internal → z ≤ 65535) :
    ((Outcome.ofRI (numericOfInt z h m)).map (withAdditional s)).Meets c (SameButAdditional s) := by
  by_cases hle : z ≤ 65535
  · rw [numericOfInt_of_le hle]
    exact .ok ⟨_, rfl⟩
  · rw [numericOfInt_big (by omega)]
    exact .internal fun e => hle (hz e)

/-- a branch raises only without a target, or (after fix 145359a) at the distance 65536 of a long backward branch over
statements without a size -/
theorem fixBranch_meets (i : Nat) (s : Stmt)
    (h : c = .internal → ∃ b, s.pkg.additional.int? = some b ∧
      (s.row.isShortBranch = false → b ≤ i → 1 ≤ sumSize ss b (i + 1))) :
    (fixBranch ss i s).Meets c (SameButAdditional s) := by
  rw [fixBranch_eq]
  refine (Meets.ofOptionI fun e => ?_).bind fun b _ hb => ?_
  · obtain ⟨b, hb, _⟩ := h e
    rw [hb]
    rfl
  refine .ite (fun hbi => .ite (fun _ => .diag) fun _ => writeNum_meets s _ _ fun e => ?_)
    fun _ => .ite (fun _ => .diag) fun hc => writeNum_meets s _ _ fun _ => by omega
  obtain ⟨b', hb', hpos⟩ := h e
  cases hb.symm.trans hb'
  cases hsb : s.row.isShortBranch
  · have := hpos hsb hbi
    simp
    omega
  · simp
    omega

theorem fixPart1_meets (s : Stmt) {ov : Value} (h : c = .internal → ov.isAddrExpr = true → addrOffset ss ov ≠ .internal) :
    (fixPart1 ss s ov).Meets c (SameButAdditional s) := by
  rw [fixPart1_eq]
  exact .ite (fun hae => (Meets.of_ne (Outcome.ne_out (fun e => h e hae) fun _ => addrOffset_not_diverged _ _)).map
    fun x _ _ => ⟨x, rfl⟩) fun _ => .ok (.refl s)

theorem fixPart2_meets (s : Stmt) {ov : Value}
    (h : c = .internal → ov.isAddress = true → ∃ t, ov.int? = some t ∧ (addrOf ss t).isSome) :
    (fixPart2 ss ov s).Meets c (SameButAdditional s) := by
  rw [fixPart2_eq]
  refine .ite (fun ha => Meets.map (P := fun _ => True) ?_ fun x _ _ => ⟨x, rfl⟩) fun _ => .ok (.refl s)
  refine (Meets.ofOptionI fun e => ?_).bind fun t _ ht => (Meets.ofOptionI fun e => ?_).mono fun _ _ _ => trivial
  · obtain ⟨t, ht, _⟩ := h e ha
    rw [ht]
    rfl
  · obtain ⟨t', ht', hs⟩ := h e ha
    cases ht.symm.trans ht'
    exact hs

/-- the last step raises only if the target does, if the target used as a 16-bit offset is above 65535, or if the
statement itself has no address -/
theorem fixPart3_meets (i : Nat) (s : Stmt)
    (h : c = .internal → s.pkg.needsRes = true →
      (fixRelTarget ss s).Meets .internal (· ≤ 65535) ∧ (addrIntOf ss i).isSome) :
    (fixPart3 ss i s).Meets c (SameButAdditional s) := by
  rw [fixPart3_eq]
  refine .ite (fun hn => ?_) fun _ => .ok (.refl s)
  have ht : (fixRelTarget ss s).Meets c fun r => c = .internal → r ≤ 65535 :=
    ⟨Outcome.ne_out (fun e => (h e hn).1.1) fun _ => fixRelTarget_ne_diverged ss s, fun r hr e => (h e hn).1.2 r hr⟩
  refine ht.bind fun r _ hr => .ite (fun _ => writeNum_meets s _ _ fun e => by have := hr e; omega) fun _ =>
    (Meets.ofOptionI fun e => (h e hn).2).bind fun start _ _ => .ite (fun _ => .diag) fun _ => writeNum_meets s _ _ fun _ => ?_
  unfold pcrJump
  dsimp only
  split <;> omega

/-- `fit_operand_width` raises only on the `hex_len()` of a Python `None` -/
theorem fitWidth_meets (s : Stmt) (h : c = .internal → s.pkg.opCode.hexLen? ≠ none ∧ s.pkg.postByte.hexLen? ≠ none) :
    (fitWidth s).Meets c (SameButAdditional s) := by
  obtain ⟨o, g, e⟩ := fitWidth_outcome s
  rw [e]
  cases g with
  | skipped | noNumber => exact .ok (.refl s)
  | fitted => exact .ok ⟨_, rfl⟩
  | noRoom | misfit => exact .diag
  | noLen _ _ hl => exact .internal fun e => hl.elim (h e).1 (h e).2

theorem fixOne_out (ss : List Stmt) (i : Nat) (s : Stmt) : (fixOne ss i s).Meets .diverged (SameButAdditional s) := by
  rw [fixOne_eq]
  refine .ite (fun _ => fixBranch_meets i s nofun) fun _ => ?_
  split
  · exact .internal nofun
  · rw [fixNonRel_bind]
    exact .step (fixPart1_meets s nofun) fun s1 _ _ => .step (fixPart2_meets s1 nofun) fun s2 _ _ => fixPart3_meets i s2 nofun

theorem fixNonRel_address (ss : List Stmt) (i : Nat) (s : Stmt) {ov : Value}
    (hA : ov.isAddress = true) (hn : s.pkg.needsRes = false) : fixNonRel ss i s ov = fixPart2 ss ov s := by
  have hE : ov.isAddrExpr = false := by cases ov <;> simp_all [Value.isAddress, Value.isAddrExpr]
  rw [fixNonRel_bind, fixPart1_nonexpr ss s hE, Outcome.ok_bind]
  refine Outcome.bind_eq_self fun s2 h2 => ?_
  obtain ⟨v, rfl⟩ := (fixPart2_meets (c := .diverged) s nofun).get h2
  exact fixPart3_noRes ss i hn

theorem fixNonRel_expr (ss : List Stmt) (i : Nat) (s : Stmt) (l r : Value) (op : Char) (m : Mode)
    (hn : s.pkg.needsRes = false) :
    fixNonRel ss i s (.expr l r op m true) = fixPart1 ss s (.expr l r op m true) := by
  rw [fixNonRel_bind]
  refine Outcome.bind_eq_self fun s1 h1 => ?_
  rw [fixPart2_nonaddr ss s1 (show (Value.expr l r op m true).isAddress = false from rfl), Outcome.ok_bind]
  obtain ⟨v, rfl⟩ := (fixPart1_meets (c := .diverged) s nofun).get h1
  exact fixPart3_noRes ss i hn

theorem fitWidth_same {s s' : Stmt} (h : fitWidth s = .ok s') : SameButAdditional s s' :=
  (fitWidth_meets (c := .diverged) s nofun).get h

theorem fixOne_same {ss : List Stmt} {i : Nat} {s s' : Stmt} (h : fixOne ss i s = .ok s') : SameButAdditional s s' :=
  (fixOne_out ss i s).get h

theorem fixFit_out (ss : List Stmt) (i : Nat) (s : Stmt) : (fixFit ss i s).Meets .diverged (SameButAdditional s) := by
  rw [fixFit_eq]
  exact (fixOne_out ss i s).step fun s1 _ _ => fitWidth_meets s1 nofun

theorem fixFit_same {ss : List Stmt} {i : Nat} {s s' : Stmt} (h : fixFit ss i s = .ok s') : SameButAdditional s s' :=
  (fixFit_out ss i s).get h

theorem fixAll_out (ss : List Stmt) (i : Nat) (l : List Stmt) : (fixAll ss i l).Meets .diverged (PW SameButAdditional l) := by
  rw [fixAll_eq_traverse]
  exact Outcome.traverse_meets fun j s _ => fixFit_out ss (i + j) s

theorem fixAll_not_diverged (ss : List Stmt) (i : Nat) (l : List Stmt) : fixAll ss i l ≠ .diverged :=
  (fixAll_out ss i l).ne_diverged

theorem fixAll_pw {ss l l' : List Stmt} {i : Nat} (h : fixAll ss i l = .ok l') : PW SameButAdditional l l' :=
  (fixAll_out ss i l).get h

end

end CoCo.Asm
