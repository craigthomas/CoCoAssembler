/-
Lemmas/DiskWitness.lean — a concrete consistent image (blank + one ASCII entry whose last-granule marker
says 0 sectors). Before the repair of `calculate_file_length` the tool listed 2048 bytes of $FF for it where the
reference reader finds an empty file; with the repair the tool lists exactly what the reference reader finds.
Built from splices of the blank image, so nothing evaluates a 161,280-element list.
-/
import CoCoVerif.Lemmas.DiskList
namespace CoCo.Dsk
open CoCo Spec.DiskBasic CoCo.Props

namespace Witness

/-- directory entry: "A       .TXT", type 1, ASCII flag $FF, first granule 0, 0 bytes in the last sector -/
def E : Bytes := [65, 32, 32, 32, 32, 32, 32, 32, 84, 88, 84, 1, 0xFF, 0, 0, 0,
                  0, 0, 0, 0, 0, 0, 0, 0, 0, 0, 0, 0, 0, 0, 0, 0]

/-- a blank image with that entry in slot 0 and the table entry of granule 0 saying "last granule, 0 sectors" -/
def img : Bytes := splice (splice blank 78592 [0xC0]) 78848 E

theorem len1 : (splice blank 78592 [0xC0]).length = 161280 := by
  rw [splice_length (by rw [blank_length]; simp), blank_length]

theorem get (i : Nat) : img[i]? =
    if 78848 ≤ i ∧ i < 78848 + 32 then E[i - 78848]? else if i = 78592 then some 0xC0 else blank[i]? := by
  unfold img
  by_cases h1 : 78848 ≤ i ∧ i < 78848 + 32
  · obtain ⟨j, rfl⟩ : ∃ j, i = 78848 + j := ⟨i - 78848, by omega⟩
    rw [if_pos h1, Nat.add_sub_cancel_left]
    exact splice_inside (by rw [len1]; omega) j (by show j < 32; omega)
  · rw [if_neg h1, splice_frame (by rw [len1]; omega) i (by show i < 78848 ∨ 78848 + 32 ≤ i; omega)]
    by_cases h2 : i = 78592
    · subst h2
      exact splice_inside (xs := [0xC0]) (by rw [blank_length]; omega) 0 (by simp)
    · rw [if_neg h2]
      exact splice_frame (by rw [blank_length]; omega) i (by simp; omega)

theorem get_blank (i : Nat) (h1 : i < 78848 ∨ 78880 ≤ i) (h2 : i ≠ 78592) : img[i]? = blank[i]? := by
  rw [get, if_neg (by omega), if_neg h2]

theorem slice_blank (q n : Nat) (hq : q + n ≤ 161280) (h1 : q + n ≤ 78592 ∨ 78880 ≤ q) :
    (img.drop q).take n = List.replicate n 0xFF := by
  rw [← blank_slice q n hq]
  apply slice_congr
  intro i hi1 hi2
  apply get_blank <;> omega

def d0 : DFile :=
  { name := [65, 32, 32, 32, 32, 32, 32, 32], ext := [84, 88, 84], ftype := 1, ascii := 0xFF, load := 0, exec := 0,
    data := [] }

theorem listFrom_prefix (b fat : Bytes) : ∀ (n p : Nat) (acc r : List CFile),
    listFrom b fat n p acc = .ok r → ∃ t, r = acc ++ t := by
  intro n
  induction n with
  | zero => intro p acc r h; rw [listFrom] at h; cases h; exact ⟨[], by simp⟩
  | succ n ih =>
    intro p acc r h
    rw [listFrom] at h
    split at h
    · exact ih _ _ _ h
    · split at h
      · obtain ⟨t, ht⟩ := ih _ _ _ h
        exact ⟨_ :: t, by simpa using ht⟩
      all_goals cases h

/-- the facts about the witness image that the rest of the argument uses (stated for a variable image so
that the kernel never evaluates the 161,280-element list) -/
structure W (b : Bytes) : Prop where
  len : b.length = 161280
  fat0 : fatAt b 0 = 0xC0
  fatOther : ∀ g, g < 68 → g ≠ 0 → fatAt b g = 0xFF
  dir0 : dirEntry b 0 = E
  dirOther : ∀ k, k < 72 → k ≠ 0 → dirEntry b k = List.replicate 32 0xFF
  gran : ∀ g, g < 68 → granuleBytes b g = List.replicate 2304 0xFF
  t17a : (b.drop 78336).take 256 = List.replicate 256 0xFF
  t17b : (b.drop 81152).take 1792 = List.replicate 1792 0xFF

theorem wimg : W img where
  len := by
    unfold img; rw [splice_length (by rw [len1]; decide), len1]
  fat0 := by
    unfold fatAt fatOff
    rw [List.getD_eq_getElem?_getD, get]
    simp
  fatOther g hg h0 := by
    rw [← blank_fatAt g hg]
    apply fatAt_congr
    rw [FAT_eq]
    apply get_blank <;> omega
  dir0 := by
    rw [dirEntry_eq]
    exact splice_read (xs := E) (by rw [len1]; omega)
  dirOther k hk h0 := by
    rw [dirEntry_eq]
    exact slice_blank _ _ (by omega) (by omega)
  gran g hg := by
    rw [granuleBytes_eq]
    have h1 := seek_in g hg
    have h2 := seek_track17 g hg
    exact slice_blank _ _ h1 (by omega)
  t17a := slice_blank _ _ (by omega) (by omega)
  t17b := slice_blank _ _ (by omega) (by omega)

section generic
variable {b : Bytes} (w : W b)
include w

theorem live_iff (k : Nat) (hk : k < 72) : live (dirEntry b k) = decide (k < 1) := by
  by_cases h0 : k = 0
  · subst h0; rw [w.dir0]; rfl
  · rw [w.dirOther k hk h0]
    have : ¬ k < 1 := by omega
    simp [this, live]

theorem liveSlots_eq : liveSlots b = [0] := by
  unfold liveSlots
  have : (List.range 72).filter (fun k => live (dirEntry b k)) = (List.range 72).filter (fun k => decide (k < 1)) := by
    apply List.filter_congr
    intro k hk
    exact live_iff w k (List.mem_range.mp hk)
  rw [this, filter_range_lt 1 72 (by omega)]
  rfl

theorem chain0 : chainOf b 0 = some ([0], 0) := by
  unfold chainOf
  rw [w.dir0]
  have : entFirst E = 0 := rfl
  rw [this, walk]
  simp [w.fat0]

theorem allGranules_eq : allGranules b = [0] := by
  unfold allGranules
  rw [liveSlots_eq w]
  simp [chain0 w]

theorem stored0 : storedStream b 0 = some [] := by
  unfold storedStream
  rw [chain0 w, w.dir0]
  simp [impliedLength]

theorem fsck : Fsck b := by
  refine ⟨w.len, ?_, ?_, ?_, ?_, ?_⟩
  · intro k hk
    rw [liveSlots_eq w] at hk
    simp at hk; subst hk
    rw [chain0 w]; rfl
  · unfold disjointOK; rw [allGranules_eq w]; simp
  · unfold exactOK exactOKWith; rw [allGranules_eq w]
    intro g hg hne
    by_cases h0 : g = 0
    · simp [h0]
    · exact absurd (w.fatOther g hg h0) hne
  · intro k hk
    rw [liveSlots_eq w] at hk
    simp at hk; subst hk
    unfold lengthOK
    rw [stored0 w, w.dir0]
    rfl
  · unfold untouched untouchedWith
    refine ⟨fun g hg _ => w.gran g hg, w.t17a, ?_⟩
    unfold dirEnd
    exact w.t17b

theorem read_eq : Spec.DiskBasic.read b = some [d0] := by
  unfold Spec.DiskBasic.read
  rw [liveSlots_eq w]
  have : readSlot b 0 = some d0 := by
    unfold readSlot
    rw [stored0 w, w.dir0]
    rfl
  simp [this]

/-- the tool lists what the reference reader finds (the witness is a consistent image) -/
theorem list_eq_general : Dsk.list b = .ok ([d0].map ofDFile) := by
  have hasc : ∀ d ∈ [d0], (∀ c ∈ d.name, c < 128) ∧ (∀ c ∈ d.ext, c < 128) := by
    intro d hd
    simp at hd
    subst hd
    exact ⟨by decide, by decide⟩
  exact list_eq_read_of_length w.len (read_eq w) hasc

/-- a statement of C07 (b) under the hypothesis `K_C07_zeroSectorAscii img = false` says nothing about the witness -/
theorem K_true : K_C07_zeroSectorAscii b = true := by
  unfold K_C07_zeroSectorAscii
  rw [liveSlots_eq w]
  simp only [List.any_cons, List.any_nil, Bool.or_false, w.dir0, chain0 w]
  decide

end generic

end Witness
end CoCo.Dsk
