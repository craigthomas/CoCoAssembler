/-
C18-R2 (renaming): `translateOperand` / `translateAll` commute with a renaming:
the code package of the renamed operand is the renamed package (`rnPkg`: the values in `address` and `additional`
renamed; op code and post byte are numbers).

The renaming changes neither a test on a value (`rnValue_isNumeric`, `rnValue_mode`, ...) nor a number, so the renamed
operand takes the same path through `translate`; a package that holds only numbers is its own renaming (`rnPkg_fixed`).
-/
import CoCoVerif.Lemmas.RenameResolve
import CoCoVerif.Lemmas.TranslateGraph

namespace CoCo.Asm.Rename
open CoCo
open CoCo.Gen (InstrRow)

variable {ρ : Ren}

theorem rnPkg_fixed {p : Pkg} (h1 : rnValue ρ p.address = p.address) (h2 : rnValue ρ p.additional = p.additional) :
    rnPkg ρ p = p := by
  unfold rnPkg
  rw [h1, h2]

theorem rnPkg_plain {p : Pkg} (h1 : p.address = .none) (h2 : p.additional = .none) : rnPkg ρ p = p :=
  rnPkg_fixed (by rw [h1]; rfl) (by rw [h2]; rfl)

theorem translatePseudo_rn (o : Operand) (row : InstrRow) :
    translatePseudo (rnOperand ρ o) row = (translatePseudo o row).map (rnPkg ρ) := by
  unfold translatePseudo
  simp only [bind, Except.bind, pure, Except.pure, throw, throwThe, MonadExceptOf.throw, rnOperand_value,
    rnValue_isMultiByte, rnValue_isMultiWord, rnValue_byteLen?, rnValue_isNumeric, rnValue_isNegative, rnValue_int?]
  -- one line per mnemonic (FCB, FDB, RMB, ORG, FCC, the others); `?none` is the check for `None`, which looks at the
  -- renamed value
  refine
    ite_app_congr (bind_map_congr ?none fun _ => ite_app_congr (bind_map_congr rfl fun _ => rfl) rfl) <|
    ite_app_congr (bind_map_congr ?none fun _ => ite_app_congr (bind_map_congr rfl fun _ => rfl) rfl) <|
    ite_app_congr (bind_map_congr ?none fun _ => ite_app_congr rfl ?rmb) <|
    ite_app_congr (bind_map_congr ?none fun _ => ite_app_congr rfl rfl) <|
    ite_app_congr (bind_map_congr rfl fun _ => rfl) rfl
  case none => cases o.value <;> rfl
  case rmb =>
    cases o.value.int? with
    | none => rfl
    | some n =>
      dsimp only
      cases ha : numericOfInt 0 (some (n * 2)) .none with
      | error e => rfl
      | ok a => exact congrArg Except.ok (rnPkg_fixed rfl (numericOfInt_ok_rn ha)).symm

theorem translateSpecial_rn (o : Operand) (row : InstrRow) (ht : ρ.txt o.text = o.text) :
    translateSpecial (rnOperand ρ o) row = (translateSpecial o row).map (rnPkg ρ) := by
  rw [translateSpecial_text (rnOperand ρ o) o row ht,
    Except.map_eq_self fun p hp => rnPkg_plain (translateSpecial_plain hp).1 (translateSpecial_plain hp).2]

theorem offPkg_fixed {ind : Bool} {row : InstrRow} {right : Str} {raw0 : Nat} {needs : Bool} {l : Value} {p : Pkg}
    (h : OffPkg ind row right raw0 needs l p) (hl : rnValue ρ l = l) : rnPkg ρ p = p := by
  cases h with
  | pcrOpen | pcrNum | label | pos8 => exact rnPkg_fixed rfl hl
  | neg5 | pos5 => rfl
  | neg8 _ _ _ _ _ ha => exact rnPkg_fixed rfl (numV_ok_rn ha)
  | neg16 _ _ _ _ ha | pos16 _ _ _ _ ha => exact rnPkg_fixed rfl (numericOfInt_ok_rn ha)

theorem offBody_rn (ind : Bool) (row : InstrRow) (right : Str) (raw0 : Nat) (needs : Bool) (l : Value) :
    offBody ind row right raw0 needs (rnValue ρ l) = (offBody ind row right raw0 needs l).map (rnPkg ρ) := by
  by_cases hnum : l.isNumeric = true
  · rw [rnValue_of_numeric hnum]
    exact (Except.map_eq_self fun p hp => offPkg_fixed (offBody_graph hp) (rnValue_of_numeric hnum)).symm
  · -- not a number: only the forms that take the offset as it is (`needs`, or `,PCR` with `>`) are left
    unfold offBody
    simp only [bind, Except.bind, pure, Except.pure, throw, throwThe, MonadExceptOf.throw, rnValue_mode]
    cases opVal row.ind with
    | error e => rfl
    | ok op =>
      dsimp only
      refine ite_app_congr (ite_app_congr ?_ (ite_app_congr ?_ ?_)) (ite_app_congr ?_ ?_)
      · cases numV raw0 <;> rfl
      · cases numV _ <;> rfl
      · cases l <;> first | rfl | exact absurd rfl hnum
      · cases numV _ <;> rfl
      · cases l <;> first | rfl | exact absurd rfl hnum

theorem translateOffset_rn (ind : Bool) (row : InstrRow) (v : Value) (right : Str) (raw0 : Nat) :
    translateOffset ind row (rnValue ρ v) right raw0 = (translateOffset ind row v right raw0).map (rnPkg ρ) := by
  rw [translateOffset_eq, translateOffset_eq]
  refine ite_app_congr rfl ?_
  cases v with
  | pyNone => rfl
  | address i m =>
    -- a label is replaced by its statement index, a number
    dsimp only [rnValue]
    cases hn : numV i with
    | error e => rfl
    | ok l =>
      have := offBody_rn (ρ := ρ) ind row right raw0 true l
      rw [numV_ok_rn hn] at this
      exact this
  | expr l r op m ae =>
    cases ae <;> exact offBody_rn (ρ := ρ) ind row right raw0 _ (.expr l r op m _)
  | _ => exact offBody_rn (ρ := ρ) ind row right raw0 _ _

theorem pcrNoOffset_rn {o : Operand} {row : InstrRow} (hok : SideOK ρ row o.left) (right : Str) :
    pcrNoOffset (rnOperand ρ o) right = pcrNoOffset o right := by
  cases hl : o.left with
  | text l =>
    rw [pcrNoOffset_text (rnOperand_left_text hl), pcrNoOffset_text hl, (hok.of_text hl).isEmpty, (hok.of_text hl).abd]
  | _ => unfold pcrNoOffset; rw [rnOperand_left, hl]; rfl

theorem idxNoOffset_rn {o : Operand} {row : InstrRow} (hok : SideOK ρ row o.left) (right : Str) :
    idxNoOffset (rnOperand ρ o) right = idxNoOffset o right := by
  cases hl : o.left with
  | text l => rw [idxNoOffset_text (rnOperand_left_text hl), idxNoOffset_text hl, (hok.of_text hl).isEmpty]
  | val v => unfold idxNoOffset; rw [rnOperand_left, hl]; cases v <;> rfl
  | noneV => unfold idxNoOffset; rw [rnOperand_left, hl]; rfl

theorem idxPlain_fixed (row : InstrRow) (op : Value) (right : Str) :
    (idxPlain row op right).map (rnPkg ρ) = idxPlain row op right :=
  Except.map_eq_self fun p hp => by
    obtain ⟨n, pb, _, _, rfl⟩ := idxPlain_graph hp
    rfl

theorem extPlain_fixed (row : InstrRow) (op : Value) (right : Str) :
    (extPlain row op right).map (rnPkg ρ) = extPlain row op right :=
  Except.map_eq_self fun p hp => by
    obtain ⟨n, pb, _, _, rfl⟩ := extPlain_graph hp
    rfl

theorem idxBody_rn {o : Operand} {row : InstrRow} (hok : SideOK ρ row o.left) (right : Str) :
    idxBody (rnOperand ρ o) row right = (idxBody o row right).map (rnPkg ρ) := by
  unfold idxBody
  simp only [bind, Except.bind, pure, Except.pure, throw, throwThe, MonadExceptOf.throw]
  rw [idxNoOffset_rn hok, rnOperand_left]
  refine bind_map_congr rfl fun op => ite_app_congr (idxPlain_fixed row op right).symm ?_
  cases hl : o.left with
  | text l =>
    have hlok := hok.of_text hl
    dsimp only [rnSide]
    rw [hlok.abd]
    by_cases hb : isABD l = true
    · rw [if_pos hb, if_pos hb, hlok.abd_eq hb]
      exact ite_app_congr rfl (bind_map_congr rfl fun _ => rfl)
    · rw [if_neg hb, if_neg hb]; rfl
  | val v => exact translateOffset_rn false row v right _
  | noneV => rfl

theorem translateIndexed_rn (o : Operand) (row : InstrRow) (hok : SideOK ρ row o.left) :
    translateIndexed (rnOperand ρ o) row = (translateIndexed o row).map (rnPkg ρ) := by
  rw [translateIndexed_eq, translateIndexed_eq, rnOperand_right]
  refine ite_app_congr rfl ?_
  cases o.right with
  | none => rfl
  | some right =>
    dsimp only
    rw [pcrNoOffset_rn hok]
    exact ite_app_congr rfl (ite_app_congr rfl (idxBody_rn hok right))

theorem isABD_nil : isABD [] = false := rfl

theorem extBody_rn {o : Operand} {row : InstrRow} (hok : SideOK ρ row o.left) (op : Value) (right : Str) :
    extBody (rnOperand ρ o) row op right = (extBody o row op right).map (rnPkg ρ) := by
  unfold extBody
  simp only [bind, Except.bind, pure, Except.pure, throw, throwThe, MonadExceptOf.throw]
  rw [idxNoOffset_rn hok, rnOperand_left]
  by_cases hno : idxNoOffset o right = true
  · rw [if_pos hno, if_pos hno, extPlain_fixed]
  · rw [if_neg hno, if_neg hno]
    cases hl : o.left with
    | text l =>
      have hlok := hok.of_text hl
      dsimp only [rnSide]
      rw [hlok.abd]
      by_cases hb : isABD l = true
      · rw [if_pos hb, if_pos hb, hlok.abd_eq hb]
        exact ite_app_congr rfl (bind_map_congr rfl fun _ => rfl)
      · -- the text is parsed here (not reachable after `resolve_symbols`)
        have hne : l ≠ [] := by
          intro hc; rw [idxNoOffset_text hl, hc] at hno; exact hno rfl
        rw [if_neg hb, if_neg hb, hlok.createI hne (Bool.eq_false_iff.mpr hb)]
        cases createV l false false with
        | error e => rfl
        | ok v => exact translateOffset_rn true row v right _
    | val v => exact translateOffset_rn true row v right _
    | noneV => rfl

theorem translateExtIndirect_rn (o : Operand) (row : InstrRow) (hok : SideOK ρ row o.left) :
    translateExtIndirect (rnOperand ρ o) row = (translateExtIndirect o row).map (rnPkg ρ) := by
  rw [translateExtIndirect_eq, translateExtIndirect_eq, rnOperand_right, rnOperand_value, rnValue_isAddress,
    rnValue_isAddrExpr, rnValue_isNumeric]
  refine ite_app_congr rfl ?_
  cases opVal row.ind with
  | error e => rfl
  | ok op =>
    dsimp only
    refine ite_app_congr ?_ ?_
    · cases numV 0x9F <;> rfl
    · cases o.right with
      | none => rfl
      | some right =>
        dsimp only
        rw [pcrNoOffset_rn hok]
        exact ite_app_congr rfl (ite_app_congr rfl (extBody_rn hok op right))

theorem translateOperand_rn (o : Operand) (row : InstrRow) (hok : SideOK ρ row o.left)
    (hsp : o.kind = .special → ρ.txt o.text = o.text) :
    translateOperand (rnOperand ρ o) row = (translateOperand o row).map (rnPkg ρ) := by
  unfold translateOperand
  rw [rnOperand_kind]
  cases hk : o.kind with
  | pseudo => exact translatePseudo_rn o row
  | special => exact translateSpecial_rn o row (hsp hk)
  | extIndirect => exact translateExtIndirect_rn o row hok
  | indexed => exact translateIndexed_rn o row hok
  | unknown => rfl
  | relative =>
    simp only [rnOperand_value, bind, Except.bind, pure, Except.pure, throw, throwThe, MonadExceptOf.throw]
    exact bind_map_congr rfl fun op => by cases o.value <;> rfl
  | inherent | immediate | direct | extended =>
    simp only [rnOperand_value, bind, Except.bind, pure, Except.pure, throw, throwThe, MonadExceptOf.throw]
    exact ite_app_congr rfl (bind_map_congr rfl fun _ => rfl)

theorem rnStmt_withPkg (s : Stmt) (p : Pkg) (b : Bool) :
    rnStmt ρ { s with pkg := p, fixedSize := b } = { renameStmt ρ s with pkg := rnPkg ρ p, fixedSize := b } := rfl

theorem translateAll_rn : ∀ (ss : List Stmt), (∀ s ∈ ss, StmtOK ρ s) →
    translateAll (ss.map (renameStmt ρ)) = (translateAll ss).map (List.map (rnStmt ρ)) := by
  intro ss hok
  rw [translateAll_eq_mapM, translateAll_eq_mapM]
  refine mapM_map _ _ fun s hs => ?_
  have e1 : (renameStmt ρ s).operand = rnOperand ρ s.operand := rfl
  have e2 : (renameStmt ρ s).row = s.row := rfl
  rw [translate1, e1, e2, translateOperand_rn s.operand s.row (hok s hs).side (hok s hs).special, translate1]
  cases translateOperand s.operand s.row <;> rfl

end CoCo.Asm.Rename
