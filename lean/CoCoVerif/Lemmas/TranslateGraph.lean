/-
Lemmas/TranslateGraph.lean — the graph of `Operand.translate()`: every package `translateOperand` can return, as an
inductive relation with one constructor per `return` of the model (`Translated`), and the same for the constant-offset
forms (`OffPkg`).  An invariant of translated packages is proved by `cases` on the graph, one line per constructor,
instead of unfolding the model functions again.  In the other direction, from the path conditions to the package,
go `translateOffset_of_arg` and the equations `offBody_*`.
The preset address: `translateOperand` leaves `pkg.address` empty except in the ORG branch of `translatePseudo`
(`Translated.address`); consequently a statement enters `assignAddrs` with an address only if it is an ORG
(`translate_preset`, `translate_org_eq`).  Op code and post byte of a translated package are absent or numbers out of
`numV` (`Translated.codes`).
-/
import CoCoVerif.Lemmas.NumValue
import CoCoVerif.Lemmas.OutcomeBasics

namespace CoCo.Asm
open CoCo
open CoCo.Gen (InstrRow)

/-- post-byte base of the constant-offset forms: `1xx0....`, in brackets `1xx1....` -/
def offBase (ind : Bool) : Nat := if ind then 0x90 else 0x80

/-- `translateOffset` after the offset value `l` and the flag `needs` have been determined -/
def offBody (ind : Bool) (row : InstrRow) (right : Str) (raw0 : Nat) (needs : Bool) (l : Value) : R Pkg := do
  let base := offBase ind
  let op ← opVal row.ind
  let size := row.indSz
  if hasSub (str "PCR") right then
    if needs then
      let pb ← numV raw0
      return { opCode := op, postByte := pb, additional := l, size := size, maxSize := size + 2, needsRes := true,
               choices := [base + 0x0C, base + 0x0D] }
    else
      let e ← if l.mode == .extended then pure true else
        (match l with
         | .numeric i _ _ neg => pure (!(is4Bit i neg || is8Bit i neg))
         | _ => throw .other)
      let sz := size + (if e then 2 else 1)
      let pb ← numV (raw0 ||| (if e then base + 0x0D else base + 0x0C))
      return { opCode := op, postByte := pb, additional := l, size := sz, maxSize := sz }
  else if needs then
    let pb ← numV (raw0 ||| (base + 0x09))
    return { opCode := op, postByte := pb, additional := l, size := size + 2, maxSize := size + 2, needsRes := true }
  else
    match l with
    | .numeric i _ _ neg =>
      if neg then
        if !ind && is4Bit i neg then
          let pb ← numV (raw0 ||| 0x10 ||| (0x10 - i))
          return { opCode := op, postByte := pb, additional := .none, size := size, maxSize := size, needsRes := needs }
        else if is8Bit i neg then
          let pb ← numV (raw0 ||| (base + 0x08))
          let a ← numV (0x100 - i)
          return { opCode := op, postByte := pb, additional := a, size := size + 1, maxSize := size + 1, needsRes := needs }
        else
          let pb ← numV (raw0 ||| (base + 0x09))
          let a ← numericOfInt ((0x10000 : Int) - i) none .none
          return { opCode := op, postByte := pb, additional := a, size := size + 2, maxSize := size + 2, needsRes := needs }
      else if !ind && is4Bit i neg then
        let pb ← numV (raw0 ||| i)
        return { opCode := op, postByte := pb, additional := .none, size := size, maxSize := size, needsRes := needs }
      else if is8Bit i neg then
        let pb ← numV (raw0 ||| (base + 0x08))
        return { opCode := op, postByte := pb, additional := l, size := size + 1, maxSize := size + 1, needsRes := needs }
      else
        let pb ← numV (raw0 ||| (base + 0x09))
        let a ← numericOfInt i (some 4) .none
        return { opCode := op, postByte := pb, additional := a, size := size + 2, maxSize := size + 2, needsRes := needs }
    | _ => throw .other

theorem translateOffset_eq (ind : Bool) (row : InstrRow) (left : Value) (right : Str) (raw0 : Nat) :
    translateOffset ind row left right raw0 =
      if (hasSub ['+'] right || hasSub ['-'] right) = true then .error .operandType
      else match left with
        | .pyNone => .error .other
        | .address i _ => (match numV i with | .ok l => offBody ind row right raw0 true l | .error e => .error e)
        | v => offBody ind row right raw0 (v.isExpression || v.isAddrExpr) v := by
  -- test by test both sides are the same `if`, and a guard that throws reduces to the error: `rfl` sees that; the
  -- cases are those where a `match` stands under a bind
  unfold translateOffset
  cases left with
  | address i m =>
    dsimp only [bind, Except.bind]
    cases numV i with
    | error e => rfl
    | ok l =>
      dsimp only
      -- `needs` is set already: the two `if .. then needs := true` change nothing
      rw [ite_self, ite_self]
      rfl
  | expr l r op m ae => cases ae <;> rfl
  | _ => rfl

/-- a number is handed to `offBody` as it is -/
theorem translateOffset_numeric {ind : Bool} {row : InstrRow} {right : Str} {raw0 i : Nat} {h : Option Nat} {m : Mode}
    {neg : Bool} (hpm : (hasSub ['+'] right || hasSub ['-'] right) = false) :
    translateOffset ind row (.numeric i h m neg) right raw0 = offBody ind row right raw0 false (.numeric i h m neg) := by
  rw [translateOffset_eq, hpm]
  rfl

/-! `offBody` return by return: the equation for each path through its tests (`op` is the op code of the row's
indexed cell). -/

section offBody
variable {ind : Bool} {row : InstrRow} {right : Str} {raw0 : Nat} {op : Value} {i : Nat} {h : Option Nat} {m : Mode}
  {neg : Bool} (hop : opVal row.ind = .ok op)
include hop

theorem offBody_pcrNum (hpcr : hasSub (str "PCR") right = true) :
    offBody ind row right raw0 false (.numeric i h m neg) = do
      let e := m == .extended || !(is4Bit i neg || is8Bit i neg)
      let pb ← numV (raw0 ||| (if e then offBase ind + 0x0D else offBase ind + 0x0C))
      return { opCode := op, postByte := pb, additional := .numeric i h m neg, size := row.indSz + (if e then 2 else 1),
               maxSize := row.indSz + (if e then 2 else 1) } := by
  unfold offBody
  rw [hop, hpcr]
  cases m <;> rfl

theorem offBody_label (hpcr : hasSub (str "PCR") right = false) (l : Value) :
    offBody ind row right raw0 true l = do
      let pb ← numV (raw0 ||| (offBase ind + 0x09))
      return { opCode := op, postByte := pb, additional := l, size := row.indSz + 2, maxSize := row.indSz + 2,
               needsRes := true } := by
  unfold offBody
  rw [hop, hpcr]
  rfl

theorem offBody_off5 (hpcr : hasSub (str "PCR") right = false) (h5 : is4Bit i neg = true) :
    offBody false row right raw0 false (.numeric i h m neg) = do
      let pb ← numV (if neg then raw0 ||| 0x10 ||| (0x10 - i) else raw0 ||| i)
      return { opCode := op, postByte := pb, additional := .none, size := row.indSz, maxSize := row.indSz } := by
  unfold offBody
  rw [hop, hpcr]
  dsimp only
  rw [h5]
  cases neg <;> rfl

theorem offBody_off8 (hpcr : hasSub (str "PCR") right = false) (h5 : (!ind && is4Bit i neg) = false)
    (h8 : is8Bit i neg = true) :
    offBody ind row right raw0 false (.numeric i h m neg) = do
      let pb ← numV (raw0 ||| (offBase ind + 0x08))
      let a ← if neg then numV (0x100 - i) else pure (.numeric i h m neg)
      return { opCode := op, postByte := pb, additional := a, size := row.indSz + 1, maxSize := row.indSz + 1 } := by
  unfold offBody
  rw [hop, hpcr]
  dsimp only
  rw [h5, h8]
  cases neg <;> rfl

theorem offBody_off16 (hpcr : hasSub (str "PCR") right = false) (h5 : (!ind && is4Bit i neg) = false)
    (h8 : is8Bit i neg = false) :
    offBody ind row right raw0 false (.numeric i h m neg) = do
      let pb ← numV (raw0 ||| (offBase ind + 0x09))
      let a ← if neg then numericOfInt ((0x10000 : Int) - i) none .none else numericOfInt i (some 4) .none
      return { opCode := op, postByte := pb, additional := a, size := row.indSz + 2, maxSize := row.indSz + 2 } := by
  unfold offBody
  rw [hop, hpcr]
  dsimp only
  rw [h5, h8]
  cases neg <;> rfl

end offBody

/-- The packages `offBody` returns, one constructor per `return`.  `offBase ind` is the post-byte base (`$80`, in
brackets `$90`); the register bits `raw0` are or-ed with the form bits. -/
inductive OffPkg (ind : Bool) (row : InstrRow) (right : Str) (raw0 : Nat) (needs : Bool) (l : Value) : Pkg → Prop
  /-- `label,PCR`: 8 or 16 bits, decided by the size loop -/
  | pcrOpen {op pb : Value} (hop : opVal row.ind = .ok op) (hpcr : hasSub (str "PCR") right = true)
      (hn : needs = true) (hpb : numV raw0 = .ok pb) :
      OffPkg ind row right raw0 needs l
        { opCode := op, postByte := pb, additional := l, size := row.indSz, maxSize := row.indSz + 2, needsRes := true,
          choices := [offBase ind + 0x0C, offBase ind + 0x0D] }
  /-- `n,PCR` with a number: `e` = the 16-bit form -/
  | pcrNum {op pb : Value} {e : Bool} (hop : opVal row.ind = .ok op) (hpcr : hasSub (str "PCR") right = true)
      (hn : needs = false)
      (he : ((l.mode == .extended) = true ∧ e = true) ∨
        ∃ i h m neg, l = .numeric i h m neg ∧ e = !(is4Bit i neg || is8Bit i neg))
      (hpb : numV (raw0 ||| (if e then offBase ind + 0x0D else offBase ind + 0x0C)) = .ok pb) :
      OffPkg ind row right raw0 needs l
        { opCode := op, postByte := pb, additional := l, size := row.indSz + (if e then 2 else 1),
          maxSize := row.indSz + (if e then 2 else 1) }
  /-- a label (expression) as offset of a pointer register: 16 bits, resolved after layout -/
  | label {op pb : Value} (hop : opVal row.ind = .ok op) (hn : needs = true)
      (hpb : numV (raw0 ||| (offBase ind + 0x09)) = .ok pb) :
      OffPkg ind row right raw0 needs l
        { opCode := op, postByte := pb, additional := l, size := row.indSz + 2, maxSize := row.indSz + 2,
          needsRes := true }
  | neg5 {op pb : Value} {i : Nat} {h : Option Nat} {m : Mode} (hop : opVal row.ind = .ok op) (hn : needs = false)
      (hl : l = .numeric i h m true) (hind : ind = false) (hi : is4Bit i true = true)
      (hpb : numV (raw0 ||| 0x10 ||| (0x10 - i)) = .ok pb) :
      OffPkg ind row right raw0 needs l
        { opCode := op, postByte := pb, additional := .none, size := row.indSz, maxSize := row.indSz, needsRes := needs }
  | neg8 {op pb a : Value} {i : Nat} {h : Option Nat} {m : Mode} (hop : opVal row.ind = .ok op) (hn : needs = false)
      (hl : l = .numeric i h m true) (hi : is8Bit i true = true)
      (hpb : numV (raw0 ||| (offBase ind + 0x08)) = .ok pb) (ha : numV (0x100 - i) = .ok a) :
      OffPkg ind row right raw0 needs l
        { opCode := op, postByte := pb, additional := a, size := row.indSz + 1, maxSize := row.indSz + 1,
          needsRes := needs }
  | neg16 {op pb a : Value} {i : Nat} {h : Option Nat} {m : Mode} (hop : opVal row.ind = .ok op) (hn : needs = false)
      (hl : l = .numeric i h m true) (hpb : numV (raw0 ||| (offBase ind + 0x09)) = .ok pb)
      (ha : numericOfInt ((0x10000 : Int) - i) none .none = .ok a) :
      OffPkg ind row right raw0 needs l
        { opCode := op, postByte := pb, additional := a, size := row.indSz + 2, maxSize := row.indSz + 2,
          needsRes := needs }
  | pos5 {op pb : Value} {i : Nat} {h : Option Nat} {m : Mode} (hop : opVal row.ind = .ok op) (hn : needs = false)
      (hl : l = .numeric i h m false) (hind : ind = false) (hi : is4Bit i false = true)
      (hpb : numV (raw0 ||| i) = .ok pb) :
      OffPkg ind row right raw0 needs l
        { opCode := op, postByte := pb, additional := .none, size := row.indSz, maxSize := row.indSz, needsRes := needs }
  | pos8 {op pb : Value} {i : Nat} {h : Option Nat} {m : Mode} (hop : opVal row.ind = .ok op) (hn : needs = false)
      (hl : l = .numeric i h m false) (hi : is8Bit i false = true)
      (hpb : numV (raw0 ||| (offBase ind + 0x08)) = .ok pb) :
      OffPkg ind row right raw0 needs l
        { opCode := op, postByte := pb, additional := l, size := row.indSz + 1, maxSize := row.indSz + 1,
          needsRes := needs }
  | pos16 {op pb a : Value} {i : Nat} {h : Option Nat} {m : Mode} (hop : opVal row.ind = .ok op) (hn : needs = false)
      (hl : l = .numeric i h m false) (hpb : numV (raw0 ||| (offBase ind + 0x09)) = .ok pb)
      (ha : numericOfInt i (some 4) .none = .ok a) :
      OffPkg ind row right raw0 needs l
        { opCode := op, postByte := pb, additional := a, size := row.indSz + 2, maxSize := row.indSz + 2,
          needsRes := needs }

theorem offBody_graph {ind : Bool} {row : InstrRow} {right : Str} {raw0 : Nat} {needs : Bool} {l : Value} {p : Pkg}
    (h : offBody ind row right raw0 needs l = .ok p) : OffPkg ind row right raw0 needs l p := by
  unfold offBody at h
  obtain ⟨op, hop, h⟩ := Except.bind_eq_ok h
  rcases ite_cases h with ⟨hpcr, h⟩ | ⟨hpcr, h⟩
  · rcases ite_cases h with ⟨hn, h⟩ | ⟨hn, h⟩
    · obtain ⟨pb, hpb, h⟩ := Except.bind_eq_ok h
      cases h
      exact .pcrOpen hop hpcr hn hpb
    rcases ite_cases h with ⟨hm, h⟩ | ⟨hm, h⟩
    · obtain ⟨e, he, h⟩ := Except.bind_eq_ok h
      obtain ⟨pb, hpb, h⟩ := Except.bind_eq_ok h
      cases he
      cases h
      exact .pcrNum hop hpcr (eq_false_of_ne_true hn) (.inl ⟨hm, rfl⟩) hpb
    · obtain ⟨e, he, h⟩ := Except.bind_eq_ok h
      obtain ⟨pb, hpb, h⟩ := Except.bind_eq_ok h
      cases h
      refine .pcrNum hop hpcr (eq_false_of_ne_true hn) (.inr ?_) hpb
      cases l with
      | numeric i hh m neg => cases he; exact ⟨_, _, _, _, rfl, rfl⟩
      | _ => cases he
  rcases ite_cases h with ⟨hn, h⟩ | ⟨hn, h⟩
  · obtain ⟨pb, hpb, h⟩ := Except.bind_eq_ok h
    cases h
    exact .label hop hn hpb
  have hn := eq_false_of_ne_true hn
  cases l with
  | numeric i hh m neg =>
    rcases ite_cases h with ⟨rfl, h⟩ | ⟨hneg, h⟩
    · rcases ite_cases h with ⟨h5, h⟩ | ⟨-, h⟩
      · obtain ⟨pb, hpb, h⟩ := Except.bind_eq_ok h
        cases h
        obtain ⟨hind, hi⟩ : ind = false ∧ is4Bit i true = true := by simpa using h5
        exact .neg5 hop hn rfl hind hi hpb
      rcases ite_cases h with ⟨h8, h⟩ | ⟨-, h⟩
      · obtain ⟨pb, hpb, h⟩ := Except.bind_eq_ok h
        obtain ⟨a, ha, h⟩ := Except.bind_eq_ok h
        cases h
        exact .neg8 hop hn rfl h8 hpb ha
      · obtain ⟨pb, hpb, h⟩ := Except.bind_eq_ok h
        obtain ⟨a, ha, h⟩ := Except.bind_eq_ok h
        cases h
        exact .neg16 hop hn rfl hpb ha
    obtain rfl := eq_false_of_ne_true hneg
    rcases ite_cases h with ⟨h5, h⟩ | ⟨-, h⟩
    · obtain ⟨pb, hpb, h⟩ := Except.bind_eq_ok h
      cases h
      obtain ⟨hind, hi⟩ : ind = false ∧ is4Bit i false = true := by simpa using h5
      exact .pos5 hop hn rfl hind hi hpb
    rcases ite_cases h with ⟨h8, h⟩ | ⟨-, h⟩
    · obtain ⟨pb, hpb, h⟩ := Except.bind_eq_ok h
      cases h
      exact .pos8 hop hn rfl h8 hpb
    · obtain ⟨pb, hpb, h⟩ := Except.bind_eq_ok h
      obtain ⟨a, ha, h⟩ := Except.bind_eq_ok h
      cases h
      exact .pos16 hop hn rfl hpb ha
  | _ => cases h

/-- the offset value and the flag `needs` that `translateOffset` hands to `offBody`: a label is replaced by its
statement index (a number), and it, an expression and a label expression need `fix_addresses` -/
inductive OffArg : Value → Bool → Value → Prop
  | label {i : Nat} {m : Mode} {l : Value} (h : numV i = .ok l) : OffArg (.address i m) true l
  | other {v : Value} (h1 : v ≠ .pyNone) (h2 : ∀ i m, v ≠ .address i m) : OffArg v (v.isExpression || v.isAddrExpr) v

/-- ... and with them, unless the register text carries an auto increment / decrement sign, it is `offBody` -/
theorem translateOffset_of_arg {ind : Bool} {row : InstrRow} {left l : Value} {right : Str} {raw0 : Nat} {needs : Bool}
    (ha : OffArg left needs l) (hpm : (hasSub ['+'] right || hasSub ['-'] right) = false) :
    translateOffset ind row left right raw0 = offBody ind row right raw0 needs l := by
  rw [translateOffset_eq, hpm]
  cases ha with
  | label hn => dsimp only; rw [hn]; rfl
  | other h1 h2 => cases left <;> first | rfl | exact absurd rfl h1 | exact absurd rfl (h2 _ _)

theorem translateOffset_graph {ind : Bool} {row : InstrRow} {left : Value} {right : Str} {raw0 : Nat} {p : Pkg}
    (h : translateOffset ind row left right raw0 = .ok p) :
    ∃ needs l, OffArg left needs l ∧ OffPkg ind row right raw0 needs l p := by
  rw [translateOffset_eq] at h
  split at h
  · cases h
  · split at h
    · cases h
    · split at h
      · rename_i l hl; exact ⟨_, _, .label hl, offBody_graph h⟩
      · cases h
    · rename_i h1 h2; exact ⟨_, _, .other (fun e => h1 e) (fun i m e => h2 i m e), offBody_graph h⟩

/-- "PCR needs an offset": the check of `translateIndexed` / `translateExtIndirect` -/
def pcrNoOffset (o : Operand) (right : Str) : Bool :=
  right == str "PCR" && (match o.left with | .text l => l.isEmpty || isABD l | _ => false)

/-- no offset at all: `,R` or a literal `0,R` (`0,PCR` is an offset of 0 from the PC) -/
def idxNoOffset (o : Operand) (right : Str) : Bool :=
  match o.left with
  | .text [] => true
  | .val (.numeric 0 _ _ _) => !(hasSub (str "PCR") right)
  | _ => false

/-- the no-offset forms `,R` `,R+` `,R++` `,-R` `,--R` of `translateIndexed` -/
def idxPlain (row : InstrRow) (op : Value) (right : Str) : R Pkg := do
  let mut raw := regBits right ||| 0x80
  if hasSub ['-'] right || hasSub ['+'] right then
    if hasSub (str "++") right then raw := raw ||| 0x01
    if hasSub ['-'] right then raw := raw ||| 0x02
    if hasSub (str "--") right then raw := raw ||| 0x03
  else raw := raw ||| 0x04
  let pb ← numV raw
  return { opCode := op, postByte := pb, size := row.indSz, maxSize := row.indSz }

/-- `translateIndexed` after the checks on the index register -/
def idxBody (o : Operand) (row : InstrRow) (right : Str) : R Pkg := do
  let raw := regBits right
  let op ← opVal row.ind
  if idxNoOffset o right then idxPlain row op right
  else
    match o.left with
    | .text l =>
      if isABD l then
        if hasSub ['+'] right || hasSub ['-'] right then throw .operandType
        let raw := raw ||| 0x80 ||| (if l == ['A'] then 0x06 else if l == ['B'] then 0x05 else 0x0B)
        let pb ← numV raw
        return { opCode := op, postByte := pb, size := row.indSz, maxSize := row.indSz }
      else throw .other
    | .val v => translateOffset false row v right raw
    | .noneV => throw .other

theorem translateIndexed_eq (o : Operand) (row : InstrRow) :
    translateIndexed o row =
      if (row.ind.isNone || row.ind == some 0) = true then .error .operandType else
      match o.right with
      | none => .error .other
      | some right =>
        if (!validIndexReg right) = true then .error .operandType
        else if pcrNoOffset o right = true then .error .operandType
        else idxBody o row right := by
  unfold translateIndexed
  cases o.right <;> rfl

/-- the no-offset forms `[,R]` `[,R++]` `[,--R]` of `translateExtIndirect` -/
def extPlain (row : InstrRow) (op : Value) (right : Str) : R Pkg := do
  let mut raw := 0x80 ||| regBits right
  if hasSub ['-'] right || hasSub ['+'] right then
    if right == str "X+" || right == str "Y+" || right == str "U+" || right == str "S+" then throw .operandType
    if right == str "-X" || right == str "-Y" || right == str "-U" || right == str "-S" then throw .operandType
    if hasSub (str "++") right then raw := raw ||| 0x11
    if hasSub (str "--") right then raw := raw ||| 0x13
  else raw := raw ||| 0x14
  let pb ← numV raw
  return { opCode := op, postByte := pb, size := row.indSz, maxSize := row.indSz }

/-- `translateExtIndirect` after the checks on the index register -/
def extBody (o : Operand) (row : InstrRow) (op : Value) (right : Str) : R Pkg := do
  let raw := 0x80 ||| regBits right
  if idxNoOffset o right then extPlain row op right
  else
    match o.left with
    | .text l =>
      if isABD l then
        if hasSub ['+'] right || hasSub ['-'] right then throw .operandType
        let raw := raw ||| (if l == ['A'] then 0x16 else if l == ['B'] then 0x15 else 0x1B)
        let pb ← numV raw
        return { opCode := op, postByte := pb, size := row.indSz, maxSize := row.indSz }
      else
        let v ← createV l false false
        translateOffset true row v right raw
    | .val v => translateOffset true row v right raw
    | .noneV => throw .other

theorem translateExtIndirect_eq (o : Operand) (row : InstrRow) :
    translateExtIndirect o row =
      if (row.ind.isNone || row.ind == some 0) = true then .error .operandType else
      match opVal row.ind with
      | .error e => .error e
      | .ok op =>
        if (o.value.isAddress || o.value.isAddrExpr || o.value.isNumeric) = true then
          (match numV 0x9F with
           | .error e => .error e
           | .ok pb => .ok { opCode := op, postByte := pb, additional := o.value, size := row.indSz + 2,
                             maxSize := row.indSz + 2 })
        else
        match o.right with
        | none => .error .other
        | some right =>
          if (!validIndexReg right) = true then .error .operandType
          else if pcrNoOffset o right = true then .error .operandType
          else extBody o row op right := by
  unfold translateExtIndirect
  cases opVal row.ind with
  | error e => rfl
  | ok op => cases o.right <;> rfl

/-- the register bits are `0kk00000` whatever the text -/
theorem regBits_eq (r : Str) : ∃ k, k < 4 ∧ regBits r = 32 * k := by
  refine ⟨regBits r / 32, ?_, ?_⟩ <;> unfold regBits <;> split <;> split <;> split <;> decide

theorem or_mod16 (a b : Nat) : (a ||| b) % 16 = a % 16 ||| b % 16 := Nat.or_mod_two_pow (n := 4)

theorem regBits_mod16 (r : Str) : regBits r % 16 = 0 := by
  unfold regBits
  split <;> split <;> split <;> decide

/-- the form bits `k` are the low nibble of `offBase ind + k` -/
theorem offBase_add_mod16 (ind : Bool) {k : Nat} (hk : k < 16) : (offBase ind + k) % 16 = k := by
  unfold offBase
  split <;> omega

theorem regBits_lt (r : Str) : regBits r < 128 := by
  obtain ⟨k, hk, e⟩ := regBits_eq r
  omega

theorem or_lt_256 {a b : Nat} (ha : a < 256) (hb : b < 256) : a ||| b < 256 :=
  Nat.or_lt_two_pow (n := 8) ha hb

/-- register bits handed to `translateOffset`: in brackets bit 7 is set at once -/
def idxRaw (ind : Bool) (right : Str) : Nat := if ind then 0x80 ||| regBits right else regBits right

theorem idxRaw_lt (ind : Bool) (right : Str) : idxRaw ind right < 256 := by
  unfold idxRaw
  split
  · exact or_lt_256 (by decide) (Nat.lt_trans (regBits_lt _) (by decide))
  · exact Nat.lt_trans (regBits_lt _) (by decide)

theorem idxRaw_mod16 (ind : Bool) (r : Str) : idxRaw ind r % 16 = 0 := by
  unfold idxRaw
  split
  · rw [or_mod16, regBits_mod16]; rfl
  · exact regBits_mod16 r

/-- the form bits `q` (post byte `1kkqqqqq`, register `kk`) of the indexed forms that take no further byte,
`,R+ ,R++ ,-R ,--R ,R B,R A,R D,R`; in brackets (bit 4 of `q` set) all of these but `,R+` and `,-R` -/
def plainForms (ind : Bool) : List Nat := if ind then [17, 19, 20, 21, 22, 27] else [0, 1, 2, 3, 4, 5, 6, 11]

/-- `n` is the post byte of one of these forms -/
def PlainPost (ind : Bool) (n : Nat) : Bool :=
  decide (128 ≤ n) && decide (n < 256) && (plainForms ind).contains (n % 32)

theorem PlainPost.form {ind : Bool} {n : Nat} (h : PlainPost ind n = true) :
    ∃ k q, k < 4 ∧ q ∈ plainForms ind ∧ n = 128 + 32 * k + q := by
  simp only [PlainPost, Bool.and_eq_true, decide_eq_true_eq, List.contains_iff_mem] at h
  exact ⟨(n - 128) / 32, n % 32, by omega, h.2, by omega⟩

theorem PlainPost.lt {ind : Bool} {n : Nat} (h : PlainPost ind n = true) : n < 256 := by
  simp only [PlainPost, Bool.and_eq_true, decide_eq_true_eq] at h
  exact h.1.2

/-- The packages `translateIndexed` (`ind = false`) and `translateExtIndirect` (`ind = true`) return. -/
inductive IdxPkg (ind : Bool) (row : InstrRow) (o : Operand) : Pkg → Prop
  /-- `[label]`, `[label+1]`, `[number]`: extended indirect -/
  | abs {op pb : Value} (hind : ind = true) (hop : opVal row.ind = .ok op)
      (hv : (o.value.isAddress || o.value.isAddrExpr || o.value.isNumeric) = true) (hpb : numV 0x9F = .ok pb) :
      IdxPkg ind row o
        { opCode := op, postByte := pb, additional := o.value, size := row.indSz + 2, maxSize := row.indSz + 2 }
  /-- no offset, auto increment / decrement, accumulator offset: the post byte `n` alone -/
  | plain {op pb : Value} {n : Nat} (hop : opVal row.ind = .ok op) (hn : PlainPost ind n = true) (hpb : numV n = .ok pb)
      (hleft : ∀ v, o.left = .val v → ∃ h m ng, v = .numeric 0 h m ng) :
      IdxPkg ind row o { opCode := op, postByte := pb, size := row.indSz, maxSize := row.indSz }
  /-- a constant offset `v`: what `translateOffset` makes of it -/
  | offset {v l : Value} {right : Str} {needs : Bool} {p : Pkg} (hl : o.left = .val v) (hr : o.right = some right)
      (ha : OffArg v needs l) (hp : OffPkg ind row right (idxRaw ind right) needs l p) : IdxPkg ind row o p
  /-- a constant offset still in text form (`translateExtIndirect` only; not reachable after `resolve_symbols`) -/
  | offsetText {t : Str} {v l : Value} {right : Str} {needs : Bool} {p : Pkg} (hind : ind = true)
      (hl : o.left = .text t) (hr : o.right = some right) (hv : createV t false false = .ok v) (ha : OffArg v needs l)
      (hp : OffPkg ind row right (idxRaw ind right) needs l p) (habd : isABD t = false) : IdxPkg ind row o p

theorem idxNoOffset_val {o : Operand} {right : Str} {v : Value} (hv : o.left = .val v)
    (h : idxNoOffset o right = true) : ∃ h m ng, v = .numeric 0 h m ng := by
  unfold idxNoOffset at h
  rw [hv] at h
  split at h
  · rename_i e; cases e
  · rename_i e; cases e; exact ⟨_, _, _, rfl⟩
  · cases h

/-- the post byte `IndexedOperand.translate` computes for an empty left-hand side -/
def noOffPost (right : Str) : Nat :=
  let raw := regBits right ||| 0x80
  if hasSub ['-'] right || hasSub ['+'] right then
    let raw := if hasSub (str "++") right then raw ||| 0x01 else raw
    let raw := if hasSub ['-'] right then raw ||| 0x02 else raw
    if hasSub (str "--") right then raw ||| 0x03 else raw
  else raw ||| 0x04

theorem idxPlain_eq (row : InstrRow) (op : Value) (right : Str) :
    idxPlain row op right = do
      let pb ← numV (noOffPost right)
      return { opCode := op, postByte := pb, size := row.indSz, maxSize := row.indSz } := by
  unfold idxPlain noOffPost
  cases hasSub ['-'] right <;> cases hasSub ['+'] right <;> cases hasSub (str "++") right <;>
    cases hasSub (str "--") right <;> rfl

/-- whatever the register text, this is the post byte of one of `,R+ ,R++ ,-R ,--R ,R` -/
theorem noOffPost_plain (right : Str) : PlainPost false (noOffPost right) = true := by
  obtain ⟨k, hk, e⟩ := regBits_eq right
  unfold noOffPost
  rw [e]
  clear e
  cases hasSub ['-'] right <;> cases hasSub ['+'] right <;> cases hasSub (str "++") right <;>
    cases hasSub (str "--") right <;> (revert k; decide)

/-- the post byte `ExtendedIndexedOperand.translate` computes for `[,R]`, `[,R++]`, `[,--R]` -/
def extNoOffPost (right : Str) : Nat :=
  let raw := 0x80 ||| regBits right
  if hasSub ['-'] right || hasSub ['+'] right then
    let raw := if hasSub (str "++") right then raw ||| 0x11 else raw
    if hasSub (str "--") right then raw ||| 0x13 else raw
  else raw ||| 0x14

/-- `[,R+]` and `[,-R]` -/
def badIndirect (right : Str) : Bool :=
  right == str "X+" || right == str "Y+" || right == str "U+" || right == str "S+" ||
  right == str "-X" || right == str "-Y" || right == str "-U" || right == str "-S"

theorem extPlain_ok {row : InstrRow} {op : Value} {right : Str} (hbad : badIndirect right = false) :
    extPlain row op right = do
      let pb ← numV (extNoOffPost right)
      return { opCode := op, postByte := pb, size := row.indSz, maxSize := row.indSz } := by
  simp only [badIndirect, Bool.or_eq_false_iff] at hbad
  obtain ⟨⟨⟨⟨⟨⟨⟨b1, b2⟩, b3⟩, b4⟩, b5⟩, b6⟩, b7⟩, b8⟩ := hbad
  unfold extPlain extNoOffPost
  rw [b1, b2, b3, b4, b5, b6, b7, b8]
  cases hasSub ['-'] right <;> cases hasSub ['+'] right <;> cases hasSub (str "++") right <;>
    cases hasSub (str "--") right <;> rfl

theorem extPlain_bad {row : InstrRow} {op : Value} {right : Str}
    (hpm : (hasSub ['-'] right || hasSub ['+'] right) = true) (hbad : badIndirect right = true) :
    extPlain row op right = .error .operandType := by
  unfold extPlain
  rw [hpm]
  unfold badIndirect at hbad
  cases h1 : (right == str "X+" || right == str "Y+" || right == str "U+" || right == str "S+")
  · rw [h1] at hbad
    have h2 : (right == str "-X" || right == str "-Y" || right == str "-U" || right == str "-S") = true := by
      simpa only [Bool.false_or] using hbad
    rw [h2]
    rfl
  · rfl

/-- `[,R+]` and `[,-R]` carry the sign `extPlain` looks for before it refuses them -/
theorem badIndirect_pm {right : Str} (h : badIndirect right = true) :
    (hasSub ['-'] right || hasSub ['+'] right) = true := by
  simp only [badIndirect, Bool.or_eq_true, beq_iff_eq] at h
  rcases h with ((((((rfl | rfl) | rfl) | rfl) | rfl) | rfl) | rfl) | rfl <;> decide

/-- the 21 register texts INDEX_REGISTER_REGEX accepts -/
def validRegs : List Str :=
  [['X'], ['Y'], ['U'], ['S'], ['-', 'X'], ['-', 'Y'], ['-', 'U'], ['-', 'S'],
   ['-', '-', 'X'], ['-', '-', 'Y'], ['-', '-', 'U'], ['-', '-', 'S'], ['X', '+'], ['Y', '+'], ['U', '+'], ['S', '+'],
   ['X', '+', '+'], ['Y', '+', '+'], ['U', '+', '+'], ['S', '+', '+'], ['P', 'C', 'R']]

theorem isXYUS_cases {c : Char} (h : isXYUS c = true) : c = 'X' ∨ c = 'Y' ∨ c = 'U' ∨ c = 'S' := by
  simpa [isXYUS, or_assoc] using h

theorem validIndexReg_mem {right : Str} (h : validIndexReg right = true) : right ∈ validRegs := by
  unfold validIndexReg at h
  split at h
  · rcases isXYUS_cases h with rfl | rfl | rfl | rfl <;> decide
  · rcases isXYUS_cases h with rfl | rfl | rfl | rfl <;> decide
  · rcases isXYUS_cases h with rfl | rfl | rfl | rfl <;> decide
  · rcases isXYUS_cases h with rfl | rfl | rfl | rfl <;> decide
  · rcases isXYUS_cases h with rfl | rfl | rfl | rfl <;> decide
  · decide
  · cases h

/-- in brackets the text matters: of the accepted ones, all but `R+` and `-R` give one of `[,R++] [,--R] [,R]` -/
theorem extNoOffPost_plain : ∀ right ∈ validRegs, badIndirect right = false →
    PlainPost true (extNoOffPost right) = true := by decide +kernel

/-- the accumulator offsets `A,R B,R D,R` and `[A,R] [B,R] [D,R]`, whatever the register text -/
theorem accPost_plain (right l : Str) :
    PlainPost false (regBits right ||| 0x80 ||| (if l == ['A'] then 0x06 else if l == ['B'] then 0x05 else 0x0B)) = true ∧
    PlainPost true (0x80 ||| regBits right ||| (if l == ['A'] then 0x16 else if l == ['B'] then 0x15 else 0x1B)) = true := by
  obtain ⟨k, hk, e⟩ := regBits_eq right
  rw [e]
  clear e
  cases l == ['A'] <;> cases l == ['B'] <;> (revert k; decide)

theorem idxPlain_graph {row : InstrRow} {op : Value} {right : Str} {p : Pkg} (h : idxPlain row op right = .ok p) :
    ∃ n pb, PlainPost false n = true ∧ numV n = .ok pb ∧
      p = { opCode := op, postByte := pb, size := row.indSz, maxSize := row.indSz } := by
  rw [idxPlain_eq] at h
  cases hn : numV (noOffPost right) with
  | error e => rw [hn] at h; cases h
  | ok pb => rw [hn] at h; cases h; exact ⟨_, pb, noOffPost_plain right, hn, rfl⟩

theorem extPlain_graph {row : InstrRow} {op : Value} {right : Str} {p : Pkg} (h : extPlain row op right = .ok p) :
    ∃ n pb, (validIndexReg right = true → PlainPost true n = true) ∧ numV n = .ok pb ∧
      p = { opCode := op, postByte := pb, size := row.indSz, maxSize := row.indSz } := by
  cases hb : badIndirect right
  · rw [extPlain_ok hb] at h
    cases hn : numV (extNoOffPost right) with
    | error e => rw [hn] at h; cases h
    | ok pb => rw [hn] at h; cases h; exact ⟨_, pb, fun hv => extNoOffPost_plain right (validIndexReg_mem hv) hb, hn, rfl⟩
  · rw [extPlain_bad (badIndirect_pm hb) hb] at h
    cases h

theorem translateIndexed_graph {o : Operand} {row : InstrRow} {p : Pkg} (h : translateIndexed o row = .ok p) :
    IdxPkg false row o p := by
  rw [translateIndexed_eq] at h
  split at h
  · cases h
  split at h
  · cases h
  rename_i right hright
  split at h
  · cases h
  split at h
  · cases h
  unfold idxBody at h
  obtain ⟨op, hop, h⟩ := Except.bind_eq_ok h
  rcases ite_cases h with ⟨hno, h⟩ | ⟨-, h⟩
  · obtain ⟨n, pb, hn, hpb, rfl⟩ := idxPlain_graph h
    exact .plain hop hn hpb (fun v hv => idxNoOffset_val hv hno)
  split at h
  · rename_i l hl
    rcases ite_cases h with ⟨-, h⟩ | ⟨-, h⟩
    · obtain ⟨-, h⟩ := Except.guard_ok h
      obtain ⟨pb, hpb, h⟩ := Except.bind_eq_ok h
      cases h
      exact .plain hop (accPost_plain right l).1 hpb (fun v hv => by rw [hl] at hv; cases hv)
    · cases h
  · rename_i v hl
    obtain ⟨_, _, ha, hp⟩ := translateOffset_graph h
    exact .offset hl hright ha hp
  · cases h

theorem translateExtIndirect_graph {o : Operand} {row : InstrRow} {p : Pkg} (h : translateExtIndirect o row = .ok p) :
    IdxPkg true row o p := by
  rw [translateExtIndirect_eq] at h
  split at h
  · cases h
  split at h
  · cases h
  rename_i op hop
  split at h
  · rename_i hv
    split at h
    · cases h
    · rename_i pb hpb; cases h; exact .abs rfl hop hv hpb
  split at h
  · cases h
  rename_i right hright
  split at h
  · cases h
  rename_i hreg
  split at h
  · cases h
  unfold extBody at h
  rcases ite_cases h with ⟨hno, h⟩ | ⟨-, h⟩
  · obtain ⟨n, pb, hn, hpb, rfl⟩ := extPlain_graph h
    exact .plain hop (hn (by simpa using hreg)) hpb (fun v hv => idxNoOffset_val hv hno)
  split at h
  · rename_i l hl
    rcases ite_cases h with ⟨-, h⟩ | ⟨habd, h⟩
    · obtain ⟨-, h⟩ := Except.guard_ok h
      obtain ⟨pb, hpb, h⟩ := Except.bind_eq_ok h
      cases h
      exact .plain hop (accPost_plain right l).2 hpb (fun v hv => by rw [hl] at hv; cases hv)
    · obtain ⟨v, hv, h⟩ := Except.bind_eq_ok h
      obtain ⟨_, _, ha, hp⟩ := translateOffset_graph h
      exact .offsetText rfl hl hright hv ha hp (eq_false_of_ne_true habd)
  · rename_i v hl
    obtain ⟨_, _, ha, hp⟩ := translateOffset_graph h
    exact .offset hl hright ha hp
  · cases h

/-- both refuse a row without an indexed form -/
theorem translateIndexed_ind {o : Operand} {row : InstrRow} {p : Pkg} (h : translateIndexed o row = .ok p) :
    ¬ (row.ind.isNone || row.ind == some 0) = true := by
  rw [translateIndexed_eq] at h
  split at h
  · cases h
  · assumption

theorem translateExtIndirect_ind {o : Operand} {row : InstrRow} {p : Pkg} (h : translateExtIndirect o row = .ok p) :
    ¬ (row.ind.isNone || row.ind == some 0) = true := by
  rw [translateExtIndirect_eq] at h
  split at h
  · cases h
  · assumption

/-- each of the nine masks or-ed together is a constant below 256, or 0 -/
theorem regMask_lt (other r : Str) : regMaskPshPul other r < 256 := by
  unfold regMaskPshPul
  repeat' apply or_lt_256
  all_goals split <;> decide

theorem foldl_mask_lt (other : Str) : ∀ (regs : List Str) (a : Nat), a < 256 →
    regs.foldl (fun acc r => acc ||| regMaskPshPul other r) a < 256 := by
  intro regs
  induction regs with
  | nil => intro a h; exact h
  | cons r rest ih => intro a h; exact ih _ (or_lt_256 h (regMask_lt other r))

theorem tfrLegal_mem {x : Nat} (h : ¬ (!tfrLegal.contains x) = true) : x ∈ tfrLegal :=
  List.contains_iff_mem.mp (by simpa using h)

theorem tfrLegal_lt {x : Nat} (h : ¬ (!tfrLegal.contains x) = true) : x < 256 := by
  have hall : ∀ x ∈ tfrLegal, x < 256 := by decide
  exact hall x (tfrLegal_mem h)

/-- PSHS / PULS / PSHU / PULU / EXG / TFR: op code and a one-byte post byte, for EXG / TFR one of the legal pairs -/
theorem translateSpecial_graph {o : Operand} {row : InstrRow} {p : Pkg} (h : translateSpecial o row = .ok p) :
    ∃ op pb post, opVal row.imm = .ok op ∧ post < 256 ∧ numV post = .ok pb ∧
      ((row.mnemonic == "EXG" || row.mnemonic == "TFR") = true → post ∈ tfrLegal) ∧
      p = { opCode := op, postByte := pb, size := row.immSz, maxSize := row.immSz } := by
  unfold translateSpecial at h
  -- the join points of the `do` block: `ret () post` its last three lines, `pair () post` the block `if mn == "EXG" ..`
  -- and what follows, `stack ()` the push / pull block after its first guard
  extract_lets mn post0 ret pair regs stack at h
  obtain ⟨post, hlt, h⟩ : ∃ post, post < 256 ∧ pair () post = .ok p := by
    rcases ite_cases h with ⟨-, h⟩ | ⟨-, h⟩
    · obtain ⟨-, h⟩ := Except.guard_ok h
      dsimp only [stack] at h
      generalize (if (mn == "PSHS" || mn == "PULS") = true then (str "S", str "U") else (str "U", str "S")) = sp at h
      obtain ⟨own, other⟩ := sp
      obtain ⟨-, h⟩ := Except.guard_ok h
      exact ⟨_, foldl_mask_lt _ _ _ (by omega), h⟩
    · exact ⟨0, by omega, h⟩
  obtain ⟨post, hlt, hpair, h⟩ :
      ∃ post, post < 256 ∧ ((mn == "EXG" || mn == "TFR") = true → post ∈ tfrLegal) ∧ ret () post = .ok p := by
    dsimp only [pair] at h
    rcases ite_cases h with ⟨-, h⟩ | ⟨hm, h⟩
    · split at h
      · obtain ⟨-, h⟩ := Except.guard_ok h
        obtain ⟨hl, h⟩ := Except.guard_ok h
        exact ⟨_, tfrLegal_lt hl, fun _ => tfrLegal_mem hl, h⟩
      · cases h
    · exact ⟨post, hlt, fun hm' => absurd hm' hm, h⟩
  obtain ⟨op, hop, h⟩ := Except.bind_eq_ok h
  obtain ⟨pb, hpb, h⟩ := Except.bind_eq_ok h
  cases h
  exact ⟨op, pb, post, hop, hlt, hpb, hpair, rfl⟩

namespace Rename
theorem translateSpecial_plain {o : Operand} {row : InstrRow} {p : Pkg} (h : translateSpecial o row = .ok p) :
    p.address = .none ∧ p.additional = .none := by
  obtain ⟨op, pb, post, _, _, _, _, rfl⟩ := translateSpecial_graph h
  exact ⟨rfl, rfl⟩
end Rename

/-- The packages `translatePseudo` returns. -/
inductive PseudoPkg (row : InstrRow) (o : Operand) : Pkg → Prop
  /-- FCB / FDB with a list, FCC: the bytes of the value -/
  | bytes {n : Nat} (hm : (row.mnemonic = "FCB" ∧ o.value.isMultiByte = true) ∨
        (row.mnemonic = "FDB" ∧ o.value.isMultiWord = true) ∨ row.mnemonic = "FCC")
      (hn : o.value.byteLen? = some n) : PseudoPkg row o { additional := o.value, size := n, maxSize := n }
  /-- FCB / FDB with one value: one byte / two bytes, fitted after `fix_addresses` -/
  | one {n : Nat} (hv : o.value ≠ .pyNone) (hm : (row.mnemonic = "FCB" ∧ o.value.isMultiByte = false ∧ n = 1) ∨
        (row.mnemonic = "FDB" ∧ o.value.isMultiWord = false ∧ n = 2)) :
      PseudoPkg row o { additional := o.value, size := n, maxSize := n }
  | rmb {n : Nat} {a : Value} (hm : row.mnemonic = "RMB") (hnum : o.value.isNumeric = true)
      (hneg : o.value.isNegative = false) (hn : o.value.int? = some n)
      (ha : numericOfInt 0 (some (n * 2)) .none = .ok a) :
      PseudoPkg row o { additional := a, size := n, maxSize := n }
  | org (hm : row.mnemonic = "ORG") (hnum : o.value.isNumeric = true) (hneg : o.value.isNegative = false) :
      PseudoPkg row o { address := o.value }
  /-- EQU, END, NAM, SETDP, INCLUDE ... -/
  | nothing (hm : row.mnemonic ≠ "FCB" ∧ row.mnemonic ≠ "FDB" ∧ row.mnemonic ≠ "RMB" ∧ row.mnemonic ≠ "ORG" ∧
        row.mnemonic ≠ "FCC") : PseudoPkg row o {}

theorem translatePseudo_graph {o : Operand} {row : InstrRow} {p : Pkg} (h : translatePseudo o row = .ok p) :
    PseudoPkg row o p := by
  unfold translatePseudo at h
  extract_lets +onlyGivenNames mn noneGuard byteLen at h
  have guard : ∀ {u : Unit}, noneGuard = .ok u → o.value ≠ .pyNone := by
    intro u hu hv
    dsimp only [noneGuard] at hu
    rw [hv] at hu
    cases hu
  have len : ∀ {n : Nat}, byteLen = .ok n → o.value.byteLen? = some n := by
    intro n hn
    dsimp only [byteLen] at hn
    split at hn <;> cases hn
    assumption
  have num : ¬ (!o.value.isNumeric || o.value.isNegative) = true →
      o.value.isNumeric = true ∧ o.value.isNegative = false := by
    cases o.value.isNumeric <;> cases o.value.isNegative <;> simp
  have ne : ∀ {s : String}, ¬ (mn == s) = true → mn ≠ s := fun h e => h (beq_iff_eq.mpr e)
  clear_value noneGuard byteLen
  rcases ite_cases h with ⟨hfcb, h⟩ | ⟨hfcb, h⟩
  · obtain ⟨_, hv, h⟩ := Except.bind_eq_ok h
    rcases ite_cases h with ⟨hmb, h⟩ | ⟨hmb, h⟩
    · obtain ⟨n, hn, h⟩ := Except.bind_eq_ok h
      cases h
      exact .bytes (.inl ⟨eq_of_beq hfcb, hmb⟩) (len hn)
    · cases h
      exact .one (guard hv) (.inl ⟨eq_of_beq hfcb, eq_false_of_ne_true hmb, rfl⟩)
  rcases ite_cases h with ⟨hfdb, h⟩ | ⟨hfdb, h⟩
  · obtain ⟨_, hv, h⟩ := Except.bind_eq_ok h
    rcases ite_cases h with ⟨hmw, h⟩ | ⟨hmw, h⟩
    · obtain ⟨n, hn, h⟩ := Except.bind_eq_ok h
      cases h
      exact .bytes (.inr (.inl ⟨eq_of_beq hfdb, hmw⟩)) (len hn)
    · cases h
      exact .one (guard hv) (.inr ⟨eq_of_beq hfdb, eq_false_of_ne_true hmw, rfl⟩)
  rcases ite_cases h with ⟨hrmb, h⟩ | ⟨hrmb, h⟩
  · obtain ⟨_, -, h⟩ := Except.bind_eq_ok h
    obtain ⟨hnum, h⟩ := Except.guard_ok h
    split at h
    case h_2 => cases h
    rename_i n hn
    rw [pure_bind] at h
    obtain ⟨a, ha, h⟩ := Except.bind_eq_ok h
    cases h
    exact .rmb (eq_of_beq hrmb) (num hnum).1 (num hnum).2 hn ha
  rcases ite_cases h with ⟨horg, h⟩ | ⟨horg, h⟩
  · obtain ⟨_, -, h⟩ := Except.bind_eq_ok h
    obtain ⟨hnum, h⟩ := Except.guard_ok h
    cases h
    exact .org (eq_of_beq horg) (num hnum).1 (num hnum).2
  rcases ite_cases h with ⟨hfcc, h⟩ | ⟨hfcc, h⟩
  · obtain ⟨n, hn, h⟩ := Except.bind_eq_ok h
    cases h
    exact .bytes (.inr (.inr (eq_of_beq hfcc))) (len hn)
  cases h
  exact .nothing ⟨ne hfcb, ne hfdb, ne hrmb, ne horg, ne hfcc⟩

/-- an ORG statement's package is exactly its preset address, a non-negative number -/
theorem PseudoPkg.org_eq {row : InstrRow} {o : Operand} {p : Pkg} (hm : row.mnemonic = "ORG") (h : PseudoPkg row o p) :
    p = { address := o.value } ∧ o.value.isNumeric = true ∧ o.value.isNegative = false := by
  cases h with
  | org _ hnum hneg => exact ⟨rfl, hnum, hneg⟩
  | bytes h' => rw [hm] at h'; rcases h' with ⟨h', _⟩ | ⟨h', _⟩ | h' <;> exact absurd h' (by decide)
  | one _ h' => rw [hm] at h'; rcases h' with ⟨h', _⟩ | ⟨h', _⟩ <;> exact absurd h' (by decide)
  | rmb h' => rw [hm] at h'; exact absurd h' (by decide)
  | nothing h' => exact absurd hm h'.2.2.2.1

inductive Translated (row : InstrRow) (o : Operand) : Pkg → Prop
  | unknown (hk : o.kind = .unknown) : Translated row o { additional := o.value }
  | relative {op : Value} (hk : o.kind = .relative) (hop : opVal row.rel = .ok op) (hv : o.value.isAddress = true) :
      Translated row o { opCode := op, additional := o.value, size := row.relSz, maxSize := row.relSz }
  | inherent {op : Value} (hk : o.kind = .inherent) (hop : opVal row.inh = .ok op)
      (h0 : ¬ (row.inh.isNone || row.inh == some 0) = true) :
      Translated row o { opCode := op, size := row.inhSz, maxSize := row.inhSz }
  | immediate {op : Value} (hk : o.kind = .immediate) (hop : opVal row.imm = .ok op) :
      Translated row o { opCode := op, additional := o.value, size := row.immSz, maxSize := row.immSz }
  | direct {op : Value} (hk : o.kind = .direct) (hop : opVal row.dir = .ok op) :
      Translated row o { opCode := op, additional := o.value, size := row.dirSz, maxSize := row.dirSz }
  | extended {op : Value} (hk : o.kind = .extended) (hop : opVal row.ext = .ok op) :
      Translated row o { opCode := op, additional := o.value, size := row.extSz, maxSize := row.extSz }
  | special {op pb : Value} {post : Nat} (hk : o.kind = .special) (hop : opVal row.imm = .ok op) (hpost : post < 256)
      (hpb : numV post = .ok pb) (hpair : (row.mnemonic == "EXG" || row.mnemonic == "TFR") = true → post ∈ tfrLegal) :
      Translated row o { opCode := op, postByte := pb, size := row.immSz, maxSize := row.immSz }
  | pseudo {p : Pkg} (hk : o.kind = .pseudo) (h : PseudoPkg row o p) : Translated row o p
  | indexed {p : Pkg} (hk : o.kind = .indexed) (h : IdxPkg false row o p)
      (h0 : ¬ (row.ind.isNone || row.ind == some 0) = true) : Translated row o p
  | extIndirect {p : Pkg} (hk : o.kind = .extIndirect) (h : IdxPkg true row o p)
      (h0 : ¬ (row.ind.isNone || row.ind == some 0) = true) : Translated row o p

theorem translateOperand_graph {o : Operand} {row : InstrRow} {p : Pkg} (h : translateOperand o row = .ok p) :
    Translated row o p := by
  unfold translateOperand at h
  cases hk : o.kind <;> simp only [hk] at h
  case pseudo => exact .pseudo hk (translatePseudo_graph h)
  case special =>
    obtain ⟨op, pb, post, hop, hpost, hpb, hpair, rfl⟩ := translateSpecial_graph h
    exact .special hk hop hpost hpb hpair
  case indexed => exact .indexed hk (translateIndexed_graph h) (translateIndexed_ind h)
  case extIndirect => exact .extIndirect hk (translateExtIndirect_graph h) (translateExtIndirect_ind h)
  case unknown => cases h; exact .unknown hk
  case relative =>
    obtain ⟨op, hop, h⟩ := Except.bind_eq_ok h
    split at h
    · cases h
    · obtain ⟨ha, h⟩ := Except.guard_ok h
      cases h
      exact .relative hk hop (by simpa using ha)
  case inherent =>
    obtain ⟨h0, h⟩ := Except.guard_ok h
    obtain ⟨op, hop, h⟩ := Except.bind_eq_ok h
    cases h
    exact .inherent hk hop h0
  case immediate =>
    obtain ⟨-, h⟩ := Except.guard_ok h
    obtain ⟨op, hop, h⟩ := Except.bind_eq_ok h
    cases h
    exact .immediate hk hop
  case direct =>
    obtain ⟨-, h⟩ := Except.guard_ok h
    obtain ⟨op, hop, h⟩ := Except.bind_eq_ok h
    cases h
    exact .direct hk hop
  case extended =>
    obtain ⟨-, h⟩ := Except.guard_ok h
    obtain ⟨op, hop, h⟩ := Except.bind_eq_ok h
    cases h
    exact .extended hk hop

theorem translateSpecial_text (o o' : Operand) (row : InstrRow) (h : o.text = o'.text) :
    translateSpecial o row = translateSpecial o' row := by
  unfold translateSpecial
  rw [h]

theorem translateOperand_pseudo {o : Operand} {r : InstrRow} (hk : o.kind = .pseudo) :
    translateOperand o r = translatePseudo o r := by
  simp only [translateOperand, hk]

theorem translateOperand_special {o : Operand} {r : InstrRow} (hk : o.kind = .special) :
    translateOperand o r = translateSpecial o r := by
  simp only [translateOperand, hk]

theorem translateOperand_indexed {o : Operand} {r : InstrRow} (hk : o.kind = .indexed) :
    translateOperand o r = translateIndexed o r := by
  simp only [translateOperand, hk]

theorem translateOperand_extInd {o : Operand} {r : InstrRow} (hk : o.kind = .extIndirect) :
    translateOperand o r = translateExtIndirect o r := by
  simp only [translateOperand, hk]

theorem pcrNoOffset_text {o : Operand} {l : Str} (h : o.left = .text l) (right : Str) :
    pcrNoOffset o right = (right == str "PCR" && (l.isEmpty || isABD l)) := by
  unfold pcrNoOffset; rw [h]

theorem idxNoOffset_text {o : Operand} {l : Str} (h : o.left = .text l) (right : Str) :
    idxNoOffset o right = l.isEmpty := by
  unfold idxNoOffset; rw [h]; cases l <;> rfl

def AN (x : R Pkg) : Prop := ∀ p, x = .ok p → p.address = .none

theorem AN.ok (p : Pkg) (h : p.address = .none) : AN (.ok p) := by
  intro q hq; cases hq; exact h
theorem AN.error (e : Exn) : AN (.error e) := by intro q hq; cases hq

theorem OffPkg.address {ind : Bool} {row : InstrRow} {right : Str} {raw0 : Nat} {needs : Bool} {l : Value} {p : Pkg}
    (h : OffPkg ind row right raw0 needs l p) : p.address = .none := by
  cases h <;> rfl

theorem IdxPkg.address {ind : Bool} {row : InstrRow} {o : Operand} {p : Pkg} (h : IdxPkg ind row o p) :
    p.address = .none := by
  cases h with
  | abs | plain => rfl
  | offset _ _ _ hp | offsetText _ _ _ _ _ hp => exact hp.address

theorem PseudoPkg.address {row : InstrRow} {o : Operand} {p : Pkg} (h : PseudoPkg row o p) :
    p.address = .none ∨ (row.mnemonic = "ORG" ∧ o.value.isNumeric = true ∧ p.address = o.value) := by
  cases h with
  | org hm hnum => exact .inr ⟨hm, hnum, rfl⟩
  | _ => exact .inl rfl

theorem Translated.address {row : InstrRow} {o : Operand} {p : Pkg} (h : Translated row o p) :
    p.address = .none ∨ (row.mnemonic = "ORG" ∧ o.value.isNumeric = true ∧ p.address = o.value) := by
  cases h with
  | pseudo _ h => exact h.address
  | indexed _ h => exact .inl h.address
  | extIndirect _ h => exact .inl h.address
  | _ => exact .inl rfl

/-- the address `translate` presets is absent, or the number of an ORG -/
theorem translateOperand_addr {o : Operand} {row : InstrRow} {p : Pkg} (h : translateOperand o row = .ok p) :
    p.address = .none ∨ p.address.isNumeric = true :=
  (translateOperand_graph h).address.imp id (fun ⟨_, hn, e⟩ => e ▸ hn)

theorem translate_preset {o : Operand} {row : InstrRow} {p : Pkg} (h : translateOperand o row = .ok p)
    (hp : p.address ≠ .none) : row.mnemonic = "ORG" :=
  (translateOperand_graph h).address.elim (fun ha => absurd ha hp) (·.1)

theorem translateOperand_AN (o : Operand) (row : InstrRow) (h : (row.mnemonic == "ORG") = false) :
    AN (translateOperand o row) := by
  intro p hp
  rcases (translateOperand_graph hp).address with ha | ⟨hm, _⟩
  · exact ha
  · rw [hm] at h; cases h

theorem translate_org_eq {o : Operand} {row : InstrRow} {p : Pkg} (hk : o.kind = .pseudo) (hm : row.mnemonic = "ORG")
    (h : translateOperand o row = .ok p) :
    p = { address := o.value } ∧ o.value.isNumeric = true ∧ o.value.isNegative = false :=
  (translatePseudo_graph (translateOperand_pseudo hk ▸ h)).org_eq hm

theorem OffPkg.codes {ind : Bool} {row : InstrRow} {right : Str} {raw0 : Nat} {needs : Bool} {l : Value} {p : Pkg}
    (h : OffPkg ind row right raw0 needs l p) : CodeVal p.opCode ∧ CodeVal p.postByte := by
  cases h <;> exact ⟨opVal_codeVal ‹_›, numV_codeVal ‹_›⟩

/-- op code and post byte of a translated package are absent or numbers out of `numV` -/
theorem Translated.codes {row : InstrRow} {o : Operand} {p : Pkg} (h : Translated row o p) :
    CodeVal p.opCode ∧ CodeVal p.postByte := by
  have idx : ∀ {ind : Bool}, IdxPkg ind row o p → CodeVal p.opCode ∧ CodeVal p.postByte := by
    intro ind h
    cases h with
    | abs _ hop _ hpb | plain hop _ hpb => exact ⟨opVal_codeVal hop, numV_codeVal hpb⟩
    | offset _ _ _ hp | offsetText _ _ _ _ _ hp => exact hp.codes
  cases h with
  | unknown => exact ⟨.inl rfl, .inl rfl⟩
  | relative _ hop | inherent _ hop | immediate _ hop | direct _ hop | extended _ hop =>
    exact ⟨opVal_codeVal hop, .inl rfl⟩
  | special _ hop _ hpb => exact ⟨opVal_codeVal hop, numV_codeVal hpb⟩
  | pseudo _ h => cases h <;> exact ⟨.inl rfl, .inl rfl⟩
  | indexed _ h | extIndirect _ h => exact idx h

/-- `RMB` and `ORG` take a number: anything else is rejected by `translate` -/
theorem _root_.CoCo.Props.translate_rmb_org_numeric {o : Operand} {row : Gen.InstrRow} {p : Pkg} (hk : o.kind = .pseudo)
    (hm : (row.mnemonic == "RMB" || row.mnemonic == "ORG") = true) (h : translateOperand o row = .ok p) :
    o.value.isNumeric = true := by
  simp only [Bool.or_eq_true, beq_iff_eq] at hm
  cases translateOperand_graph h with
  | pseudo _ hp =>
    cases hp with
    | rmb _ hnum => exact hnum
    | org _ hnum => exact hnum
    | bytes hm' => rcases hm' with ⟨e, _⟩ | ⟨e, _⟩ | e <;> rw [e] at hm <;> rcases hm with hm | hm <;> exact absurd hm (by decide)
    | one _ hm' => rcases hm' with ⟨e, _⟩ | ⟨e, _⟩ <;> rw [e] at hm <;> rcases hm with hm | hm <;> exact absurd hm (by decide)
    | nothing hm' => rcases hm with hm | hm
                     · exact absurd hm hm'.2.2.1
                     · exact absurd hm hm'.2.2.2.1
  | _ hk' => rw [hk] at hk'; cases hk'

end CoCo.Asm
