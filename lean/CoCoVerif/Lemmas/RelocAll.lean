/-
Lemmas/RelocAll.lean — relocation (C18-R1): the two statement classes (`Unmoved`, `Moved`), the per-statement step
`fixFit` (`fix_addresses; fit_operand_width`) by class, `fixAll` as a whole, and the origin / name scan.
A `needsRes` statement WITH post byte choices is a PCR operand (`Unmoved` when its target moves by `D` or by `D` modulo
`$10000`); one WITHOUT choices is a label as constant offset of a pointer register, whose 16-bit offset field is the
label's address: `Moved = MovedRef ∨ MovedAbs`.
-/
import CoCoVerif.Lemmas.RelocOne

namespace CoCo.Asm
open CoCo

/-- `e` is `label + k`, `label - k` or `k + label` (one operand a number; `LabelSide`: the operands are combined in the
written order, so the label is the left operand unless the operator is `+`), whose value in the layout `as` still fits 16
bits after moving by `D`.  The value itself is `.numeric z (some 4) .extended false` with `z = (a ± k) mod $10000`
(`addrCombine_pm_eq`).  Without the bound the value moves by `D` modulo `$10000`, see `fixOne_reloc_expr_mod` and the class
`MovedMod` of Lemmas/RelocMod.lean.
The number is SIGNED: the other operand `.numeric k hh mm nn` contributes `signedK k nn`, i.e. `-k` when it was written or
defined (EQU) with a minus sign, so `label + N` with `N EQU -2` is `label - 2`.  In arithmetic terms: `numExpr_pm_iff`
(Lemmas/RelocSigned.lean). -/
def NumExpr (D : Nat) (as : List Stmt) (e : Value) : Prop :=
  ∃ l r op m k hh mm nn, e = .expr l r op m true ∧ (if l.isAddress then r else l) = .numeric k hh mm nn ∧
    (op = '+' ∨ op = '-') ∧ LabelSide l r op ∧
    ∀ v, addrOffset as e = .ok v → ∃ z, v = .numeric z (some 4) .extended false ∧ z + D ≤ 65535

/-- `label - label` -/
def DiffExpr (e : Value) : Prop :=
  ∃ l r m, e = .expr l r '-' m true ∧ (if l.isAddress then r else l).isAddress = true

/-- the target of a `needsRes` statement moves by `D`: it is a plain label (the statement index sits in
`additional`), or a `label ± k` expression in the class `NumExpr` -/
def TargetMoves (D : Nat) (as : List Stmt) (s : Stmt) : Prop :=
  s.isIdx = false ∨ s.pkg.additional.isAddrExpr = false ∨ (s.isIdx = true ∧ NumExpr D as s.pkg.additional)

/-- the target of a `needsRes` statement moves by `D` MODULO `$10000`: it is a `label ± N` expression that both
layouts accept (`ModExpr`; a negative `label + N` is reduced modulo `$10000`) -/
def TargetMovesMod (D : Nat) (as : List Stmt) (s : Stmt) : Prop :=
  s.isIdx = true ∧ ModExpr D as s.pkg.additional

/-- statements whose code must not change: branches; statements without a label in the operand (PCR
operands — `needsRes` WITH post byte choices — with a plain target or a `label ± k` target included; the target may
move by `D` or by `D` modulo `$10000`, the displacement is computed modulo `$10000`); `label - label` -/
def Unmoved (D : Nat) (as : List Stmt) (s : Stmt) : Prop :=
  s.operand.kind = .relative ∨
  ((s.operand.kind == .relative) = false ∧ s.operand.value.isAddrExpr = false ∧
    s.operand.value.isAddress = false ∧
    (s.pkg.needsRes = false ∨ (s.pkg.choices.isEmpty = false ∧ (TargetMoves D as s ∨ TargetMovesMod D as s)))) ∨
  ((s.operand.kind == .relative) = false ∧ s.pkg.needsRes = false ∧ DiffExpr s.operand.value)

/-- statements whose OPERAND is an absolute reference to a label of the program: `label`, `label + k`,
`label - k`, in a 16-bit operand field (`FieldWide`: extended, 16-bit immediate, `[label]`, `[label+1]`, FDB; NOT
`<label` or `FCB label`, where `fit_operand_width` accepts the value `x` and may reject `x + D`) -/
def MovedRef (D : Nat) (as : List Stmt) (s : Stmt) : Prop :=
  (s.operand.kind == .relative) = false ∧ s.pkg.needsRes = false ∧
  ((∃ t m, s.operand.value = .address t m) ∨ NumExpr D as s.operand.value) ∧ FieldWide s

/-- statements with a label or `label ± k` as CONSTANT OFFSET of a pointer register (`LDA TABLE,X`, `LDB TBL+1,Y`,
`LDD [TBL,U]`): no label in the operand value, `needsRes` WITHOUT post byte choices; the 16-bit offset field is the
target address itself -/
def MovedAbs (D : Nat) (as : List Stmt) (s : Stmt) : Prop :=
  (s.operand.kind == .relative) = false ∧ s.operand.value.isAddrExpr = false ∧
  s.operand.value.isAddress = false ∧ s.pkg.needsRes = true ∧ s.pkg.choices.isEmpty = true ∧
  TargetMoves D as s ∧ FieldWide s

def Moved (D : Nat) (as : List Stmt) (s : Stmt) : Prop := MovedRef D as s ∨ MovedAbs D as s

theorem Moved.fieldWide {D : Nat} {as : List Stmt} {s : Stmt} (h : Moved D as s) : FieldWide s := by
  rcases h with h | h
  · exact h.2.2.2
  · exact h.2.2.2.2.2.2

/-- so the statement is not an ORG -/
theorem Moved.not_numeric {D : Nat} {as : List Stmt} {s : Stmt} (h : Moved D as s) :
    s.operand.value.isNumeric = false ∨ s.pkg.needsRes = true := by
  rcases h with ⟨_, _, hv, _⟩ | h
  · left
    rcases hv with ⟨tg, m, hv⟩ | ⟨l, r, op, m, k, hh, mm, nn, hv, _⟩ <;> rw [hv] <;> rfl
  · exact .inr h.2.2.2.1

/-- under relocation the step `φ` (`fixOne`, `fixFit`) moves the operand field of `s` by `D`, and what the original
program stores there is a wide address value (two bytes, big endian) -/
def MovesBy (φ : List Stmt → Nat → Stmt → Outcome Stmt) (D : Nat) (as as' : List Stmt) (i : Nat) (s : Stmt) : Prop :=
  φ as' i s = (φ as i s).map (Stmt.shiftAdditional D) ∧
  ∀ t, φ as i s = .ok t → WideAddr D t.pkg.additional (shiftV D t.pkg.additional)

section
variable {D : Nat} {as as' : List Stmt}

theorem addrOffset_numExpr (h : PW (AddrShiftI D) as as') {x : Value} (hc : NumExpr D as x) :
    addrOffset as' x = (addrOffset as x).map (shiftV D) := by
  obtain ⟨l, r, op, m, k, hh, mm, nn, rfl, hother, hop, hside, hb⟩ := hc
  exact addrOffset_reloc_num h l r op m true hother hop hside hb

theorem addrOffset_diffExpr (h : PW (AddrShiftI D) as as') {x : Value} (hc : DiffExpr x) :
    addrOffset as' x = addrOffset as x := by
  obtain ⟨l, r, m, rfl, hother⟩ := hc
  exact addrOffset_reloc_diff h l r m true hother

theorem TargetMoves.reloc (h : PW (AddrShiftI D) as as') {s : Stmt} (hr : TargetMoves D as s) :
    fixRelTarget as' s = (fixRelTarget as s).map (· + D) := by
  rcases hr with hx | hx | ⟨hidx, l, r, op, m, k, hh, mm, nn, he, hother, hop, hside, hb⟩
  · exact fixRelTarget_reloc_plain h s (.inl hx)
  · exact fixRelTarget_reloc_plain h s (.inr hx)
  · rw [he] at hb
    exact fixRelTarget_reloc_num h s hidx he hother hop hside hb

theorem TargetMoves.bound (h : PW (AddrShiftAny D) as as') {s : Stmt} (hr : TargetMoves D as s) :
    ∀ r, fixRelTarget as s = .ok r → r + D ≤ 65535 := by
  intro r hrr
  have plain : (s.isIdx = false ∨ s.pkg.additional.isAddrExpr = false) → r + D ≤ 65535 := by
    intro hp
    rw [fixRelTarget_plain _ _ hp] at hrr
    cases hi : s.pkg.additional.int? with
    | none => rw [hi] at hrr; cases hrr
    | some t =>
      rw [hi] at hrr
      dsimp only at hrr
      cases ha : addrIntOf as t with
      | none => rw [ha] at hrr; cases hrr
      | some a =>
        rw [ha] at hrr
        cases hrr
        have := addrIntOf_bound h ha
        omega
  rcases hr with hx | hx | ⟨hidx, l, r', op, m, k, hh, mm, nn, he, _, _, _, hb⟩
  · exact plain (.inl hx)
  · exact plain (.inr hx)
  · rw [fixRelTarget_expr _ _ hidx he] at hrr
    rw [he] at hb
    cases ho : addrOffset as (.expr l r' op m true) with
    | ok v =>
      rw [ho] at hrr
      obtain ⟨z, rfl, hz⟩ := hb v ho
      cases hrr
      exact hz
    | _ => rw [ho] at hrr; cases hrr

theorem fixOne_unmoved (h : PW (AddrShiftI D) as as') (i : Nat) {s : Stmt} (hc : Unmoved D as s) :
    fixOne as' i s = fixOne as i s := by
  rcases hc with hk | ⟨hk, hE, hA, hr⟩ | ⟨hk, hn, l, r, m, hv, ho⟩
  · exact fixOne_reloc_relative h i s hk
  · rcases hr with hn | ⟨hc, hr⟩
    · exact fixOne_reloc_inert _ _ i s hk hE hA hn
    · rcases hr with hr | ⟨hidx, hr⟩
      · exact fixOne_reloc_pcr h i s hk hE hA hc (hr.reloc h)
      · obtain ⟨x, _, e1, e2⟩ := fixRelTarget_modExpr h hidx hr
        exact fixOne_reloc_pcr_mod h i s hk hE hA hc (by rw [e1, e2]; rfl)
  · exact fixOne_reloc_expr_diff h i s hk hv hn ho

/-- a plain label as operand: its address VALUE is copied, so the two layouts must render it alike -/
theorem fixOne_moved_label (h : PW (AddrShift D) as as') (i : Nat) {s : Stmt} {tg : Nat} {m : Mode}
    (hk : (s.operand.kind == .relative) = false) (hv : s.operand.value = .address tg m)
    (hn : s.pkg.needsRes = false) : MovesBy fixOne D as as' i s := by
  refine ⟨fixOne_reloc_address h i s hk hv hn, fun t ht => ?_⟩
  rw [fixOne_address_eq _ _ _ hk hv hn] at ht
  cases ha : addrOf as tg with
  | none => rw [ha] at ht; cases ht
  | some a =>
    rw [ha] at ht
    cases ht
    obtain ⟨x, hx, rfl⟩ := addrOf_eq_some.mp ha
    obtain ⟨x', _, _, hw⟩ := h.get hx
    exact hw.shiftV ▸ hw

/-- `label ± k` as operand: the value is made by `calculate_address_offset` from the label's NUMBER -/
theorem fixOne_moved_expr (h : PW (AddrShiftI D) as as') (i : Nat) {s : Stmt}
    (hk : (s.operand.kind == .relative) = false) (hn : s.pkg.needsRes = false)
    (hc : NumExpr D as s.operand.value) : MovesBy fixOne D as as' i s := by
  obtain ⟨l, r, op, m, k, hh, mm, nn, hv, hother, hop, hside, hb⟩ := hc
  rw [hv] at hb
  refine ⟨fixOne_reloc_expr_num h i s hk hv hn hother hop hside hb, fun t ht => ?_⟩
  rw [fixOne_expr_eq _ _ _ hk hv hn] at ht
  cases ho : addrOffset as (.expr l r op m true) with
  | ok v =>
    rw [ho] at ht
    cases ht
    obtain ⟨z, rfl, hz⟩ := hb v ho
    exact ⟨z, some 4, .extended, rfl, rfl, .inl rfl, by omega⟩
  | _ => rw [ho] at ht; cases ht

/-- a label as constant offset of a pointer register: the 16-bit offset is made from the target's NUMBER -/
theorem fixOne_moved_abs (h : PW (AddrShiftAny D) as as') (i : Nat) {s : Stmt} (hc : MovedAbs D as s) :
    MovesBy fixOne D as as' i s := by
  obtain ⟨hk, hE, hA, hn, hcc, hr, _⟩ := hc
  have hI : PW (AddrShiftI D) as as' := h.mono fun _ _ => AddrShiftAny.toI
  refine ⟨fixOne_reloc_abs i s hk hE hA hn hcc (hr.reloc hI) (hr.bound h), fun t ht => ?_⟩
  by_cases hv : s.operand.value = .pyNone
  · rw [fixOne_pyNone _ _ _ hk hv] at ht; cases ht
  · rw [fixOne_abs_eq _ _ _ hk hv hE hA hn hcc, fixPartAbs_eq] at ht
    cases hrr : fixRelTarget as s with
    | ok r =>
      rw [hrr] at ht
      have hb := hr.bound h r hrr
      dsimp only at ht
      rw [if_pos (by omega)] at ht
      cases ht
      exact ⟨r, some 4, .extended, rfl, rfl, .inl rfl, by omega⟩
    | _ => rw [hrr] at ht; cases ht

theorem fixOne_moved_aux (h : PW (AddrShift D) as as') (i : Nat) {s : Stmt} (hc : Moved D as s) :
    MovesBy fixOne D as as' i s := by
  rcases hc with ⟨hk, hn, hv, _⟩ | hc
  · rcases hv with ⟨tg, m, hv⟩ | hv
    · exact fixOne_moved_label h i hk hv hn
    · exact fixOne_moved_expr (h.mono fun _ _ => AddrShift.toI) i hk hn hv
  · exact fixOne_moved_abs (h.mono fun _ _ => AddrShift.toAny) i hc

theorem fixOne_moved (h : PW (AddrShift D) as as') (i : Nat) {s : Stmt} (hc : Moved D as s) :
    fixOne as' i s = (fixOne as i s).map (Stmt.shiftAdditional D) :=
  (fixOne_moved_aux h i hc).1

theorem fixFit_unmoved (h : PW (AddrShiftI D) as as') (i : Nat) {s : Stmt} (hc : Unmoved D as s) :
    fixFit as' i s = fixFit as i s := by
  rw [fixFit_eq, fixFit_eq, fixOne_unmoved h i hc]

theorem fixFit_unmoved_id (h : PW (AddrShiftI D) as as') (i : Nat) {s : Stmt} (hc : Unmoved D as s) :
    fixFit as' i s = (fixFit as i s).map (fun t => t) := by rw [fixFit_unmoved h i hc, Outcome.map_id']

theorem fixFit_of_fixOne_wide {i : Nat} {s : Stmt} (hf : FieldWide s) (h : MovesBy fixOne D as as' i s) :
    MovesBy fixFit D as as' i s := by
  obtain ⟨h1, h2⟩ := h
  unfold MovesBy
  rw [fixFit_eq, fixFit_eq, h1]
  cases ho : fixOne as i s with
  | ok t =>
    obtain ⟨t1, e1, e2, hw⟩ := fitWidth_wide (hf.same (fixOne_same ho)) (h2 t ho)
    simp only [Outcome.map_ok, Outcome.ok_bind]
    rw [e1, e2]
    refine ⟨rfl, fun t' ht' => ?_⟩
    cases ht'
    exact hw
  | _ => exact ⟨rfl, fun t ht => by cases ht⟩

theorem fixFit_moved_aux (h : PW (AddrShift D) as as') (i : Nat) {s : Stmt} (hc : Moved D as s) :
    MovesBy fixFit D as as' i s :=
  fixFit_of_fixOne_wide hc.fieldWide (fixOne_moved_aux h i hc)

theorem fixFit_moved (h : PW (AddrShift D) as as') (i : Nat) {s : Stmt} (hc : Moved D as s) :
    fixFit as' i s = (fixFit as i s).map (Stmt.shiftAdditional D) := (fixFit_moved_aux h i hc).1

theorem fixFit_moved_wide (h : PW (AddrShift D) as as') (i : Nat) {s t : Stmt} (hc : Moved D as s)
    (ht : fixFit as i s = .ok t) : WideAddr D t.pkg.additional (shiftV D t.pkg.additional) :=
  (fixFit_moved_aux h i hc).2 t ht

end

theorem fixAll_outRel {R : Stmt → Stmt → Prop} {as as' : List Stmt} : ∀ (l l' : List Stmt) (i : Nat),
    l'.length = l.length →
    (∀ j s s', l[j]? = some s → l'[j]? = some s' → OutRel R (fixFit as (i + j) s) (fixFit as' (i + j) s')) →
    OutRel (PW R) (fixAll as i l) (fixAll as' i l') := by
  intro l l' i hl hall
  rw [fixAll_eq_traverse, fixAll_eq_traverse]
  exact Outcome.traverse_outRel hl hall

/-- `fixAll` on two layouts whose statements are equal up to the addresses, which are related by `Rv`: when moving the
program applies some `f` to what `fixFit` makes of each statement, the results are related by `P` — whatever holds of `t`
and `f t` with another address — and their addresses by `Rv` again -/
theorem reloc_fixAll_of {Rv : Value → Value → Prop} {P : Stmt → Stmt → Prop} {as as' : List Stmt}
    (h : PW (fun s s' => s' = s.setAddress s'.pkg.address ∧ s'.pkg.size = s.pkg.size ∧
      Rv s.pkg.address s'.pkg.address) as as')
    (hstep : ∀ (i : Nat) (s : Stmt), as[i]? = some s → ∃ f : Stmt → Stmt, fixFit as' i s = (fixFit as i s).map f ∧
      (∀ t, (f t).pkg.size = t.pkg.size) ∧ ∀ t t', t' = (f t).setAddress t'.pkg.address → P t t') :
    OutRel (PW fun t t' => P t t' ∧ t'.pkg.size = t.pkg.size ∧ Rv t.pkg.address t'.pkg.address)
      (fixAll as 0 as) (fixAll as' 0 as') := by
  refine fixAll_outRel as as' 0 h.1 fun j s s' hs hs' => ?_
  rw [Nat.zero_add]
  obtain ⟨he, _, hR⟩ := h.2 j s s' hs hs'
  obtain ⟨f, hmv, hsz, hP⟩ := hstep j s hs
  refine OutRel.of_eq_map (step_setAddress fixFit_setAddress hmv he) fun t ht => ?_
  obtain ⟨v, rfl⟩ := fixFit_same ht
  exact ⟨hP _ _ rfl, hsz _, hR⟩

theorem origin_reloc {D : Nat} : ∀ (fs fs' : List Stmt) (o : Value),
    PW (fun s s' => s'.row = s.row ∧ s'.pkg.address = shiftV D s.pkg.address) fs fs' →
    fs'.foldl (fun o s => if s.row.isOrigin then s.pkg.address else o) (shiftV D o)
      = shiftV D (fs.foldl (fun o s => if s.row.isOrigin then s.pkg.address else o) o) :=
  fun fs fs' o h =>
    PW.foldl_last (Ro := fun a b => b = shiftV D a) (fun s => s.row.isOrigin) (fun s => s.row.isOrigin)
      (·.pkg.address) (·.pkg.address) (h.mono fun _ _ r => ⟨by rw [r.1], r.2⟩) rfl

theorem name_reloc : ∀ (fs fs' : List Stmt) (o : Option Str),
    PW (fun s s' => s'.row = s.row ∧ s'.operand = s.operand) fs fs' →
    fs'.foldl (fun o s => if s.row.isName then some s.operand.text else o) o
      = fs.foldl (fun o s => if s.row.isName then some s.operand.text else o) o :=
  fun fs fs' o h =>
    PW.foldl_last (Ro := fun a b => b = a) (fun s => s.row.isName) (fun s => s.row.isName)
      (fun s => some s.operand.text) (fun s => some s.operand.text) (h.mono fun _ _ r => ⟨by rw [r.1], by rw [r.2]⟩) rfl

end CoCo.Asm
