/-
Lemmas/LayoutPasses.lean — the passes of `layout`, one statement at a time.  `resolveAll` and `translateAll` are `List.mapM`
in `Option` of their steps `resolve1`, `translate1` (`resolveAll_eq_mapM`, `translateAll_eq_mapM`), with the pointwise
relation (`PW`, Lemmas/ListPass.lean) they establish between input and output and its length form.
Address assignment: its loop body `placeOne` (`set_address` on one statement, which hands the running address on:
`assignAddrs_cons_eq`), what it does to one statement (`Placed`, `assignAddrs_placed`), the chain
`address(next) = address + size` (`Chained`), the telescoping sum of sizes (`sumSize_*`, `Chained.telescope`); it does not
diverge, and raises an error only on a preset address that is Python's `None` (`assignAddrs_ne_internal`).  The lookups `addrOf`,
`addrIntOf` of later stages as `getElem?` and a projection (`addrOf_eq`, `addrIntOf_eq`).  The ORG check `orgOK`: a statement
in front of an ORG lays nothing (`Stmt.lays`, `orgOK_before`); what the check reads of a statement (`orgOK_lockstep`).  The binary image is the
concatenation of the statements' bytes (`image_eq`); the offset of a statement's bytes inside it (`prefix_length`).
The size loop between `translateAll` and `assignAddrs`: Lemmas/PcrLoop.lean.
-/
import CoCoVerif.Model.Program
import CoCoVerif.Lemmas.ListPass
import CoCoVerif.Lemmas.NumValue

namespace CoCo.Asm
open CoCo

/-! ### `resolveAll` and `translateAll` -/

def resolve1 (t : SymTab) (s : Stmt) : Option Stmt :=
  match resolveOperand s.operand s.row t with
  | .ok o => some { s with operand := o }
  | .error _ => none

def translate1 (s : Stmt) : Option Stmt :=
  match translateOperand s.operand s.row with
  | .ok p => some { s with pkg := p, fixedSize := p.choices.isEmpty }
  | .error _ => none

theorem resolveAll_eq_mapM (t : SymTab) (ss : List Stmt) : resolveAll t ss = ss.mapM (resolve1 t) := by
  induction ss with
  | nil => rfl
  | cons s rest ih =>
    rw [resolveAll, List.mapM_cons, ← ih, resolve1]
    cases resolveOperand s.operand s.row t with
    | error e => rfl
    | ok o => cases resolveAll t rest <;> rfl

theorem translateAll_eq_mapM (ss : List Stmt) : translateAll ss = ss.mapM translate1 := by
  induction ss with
  | nil => rfl
  | cons s rest ih =>
    rw [translateAll, List.mapM_cons, ← ih, translate1]
    cases translateOperand s.operand s.row with
    | error e => rfl
    | ok p => cases translateAll rest <;> rfl

theorem resolve1_eq_some {t : SymTab} {s s' : Stmt} :
    resolve1 t s = some s' ↔ ∃ o, resolveOperand s.operand s.row t = .ok o ∧ s' = { s with operand := o } := by
  unfold resolve1
  cases resolveOperand s.operand s.row t with
  | ok o => simp [eq_comm]
  | error e => simp

theorem translate1_eq_some {s s' : Stmt} :
    translate1 s = some s' ↔
      ∃ p, translateOperand s.operand s.row = .ok p ∧ s' = { s with pkg := p, fixedSize := p.choices.isEmpty } := by
  unfold translate1
  cases translateOperand s.operand s.row with
  | ok p => simp [eq_comm]
  | error e => simp

theorem resolveAll_pw {t : SymTab} {ss ss' : List Stmt} (h : resolveAll t ss = some ss') :
    PW (fun s s' => ∃ o, resolveOperand s.operand s.row t = .ok o ∧ s' = { s with operand := o }) ss ss' :=
  (mapM_some (resolveAll_eq_mapM t ss ▸ h)).1.mono fun _ _ => resolve1_eq_some.1

theorem translateAll_pw {ss ss' : List Stmt} (h : translateAll ss = some ss') :
    PW (fun s s' => ∃ p, translateOperand s.operand s.row = .ok p ∧
          s' = { s with pkg := p, fixedSize := p.choices.isEmpty }) ss ss' :=
  (mapM_some (translateAll_eq_mapM ss ▸ h)).1.mono fun _ _ => translate1_eq_some.1

theorem resolveAll_length {t : SymTab} {a r : List Stmt} (h : resolveAll t a = some r) : r.length = a.length :=
  (resolveAll_pw h).length_eq

theorem translateAll_length {a r : List Stmt} (h : translateAll a = some r) : r.length = a.length :=
  (translateAll_pw h).length_eq

/-- `set_address` on one statement at the running address `a`: the statement, and the running address behind it -/
def placeOne (s : Stmt) (a : Nat) : Outcome (Stmt × Nat) :=
  if s.pkg.address.isNone then
    match numV a with
    | .ok v => .ok ({ s with pkg := { s.pkg with address := v } }, a + s.pkg.size)
    | .error _ => .diag
  else
    match s.pkg.address.int? with
    | some a' => .ok (s, a' + s.pkg.size)
    | none => .internal

theorem assignAddrs_cons_eq (s : Stmt) (rest : List Stmt) (a : Nat) :
    assignAddrs (s :: rest) a = (placeOne s a).bind fun p => (assignAddrs rest p.2).map (p.1 :: ·) := by
  rw [assignAddrs, placeOne]
  split
  · cases numV a with
    | error e => rfl
    | ok v => dsimp only [Outcome.bind]; cases assignAddrs rest (a + s.pkg.size) <;> rfl
  · cases s.pkg.address.int? with
    | none => rfl
    | some a' => dsimp only [Outcome.bind]; cases assignAddrs rest (a' + s.pkg.size) <;> rfl

theorem placeOne_none {s : Stmt} (h : s.pkg.address = .none) (a : Nat) :
    placeOne s a =
      (Outcome.ofR (numV a)).map fun v => ({ s with pkg := { s.pkg with address := v } }, a + s.pkg.size) := by
  unfold placeOne
  rw [h]
  cases numV a <;> rfl

theorem placeOne_numeric {s : Stmt} {o : Nat} {hh : Option Nat} {m : Mode} {n : Bool}
    (h : s.pkg.address = .numeric o hh m n) (a : Nat) : placeOne s a = .ok (s, o + s.pkg.size) := by
  unfold placeOne
  rw [h]
  rfl

theorem placeOne_ne_diverged (s : Stmt) (a : Nat) : placeOne s a ≠ .diverged := by
  unfold placeOne
  split
  · cases numV a <;> nofun
  · cases s.pkg.address.int? <;> nofun

/-- only a preset address that is Python's `None` raises an error -/
theorem placeOne_ne_internal {s : Stmt} (h : s.pkg.address ≠ .pyNone) (a : Nat) : placeOne s a ≠ .internal := by
  unfold placeOne
  split
  · cases numV a <;> nofun
  · cases hv : s.pkg.address with
    | pyNone => exact absurd hv h
    | _ => nofun

theorem assignAddrs_ne_internal {l : List Stmt} (h : ∀ s ∈ l, s.pkg.address ≠ .pyNone) (a : Nat) :
    assignAddrs l a ≠ .internal := by
  induction l generalizing a with
  | nil => nofun
  | cons s rest ih =>
    rw [assignAddrs_cons_eq]
    exact Outcome.bind_ne_internal (placeOne_ne_internal (h s (by simp)) a) fun p _ =>
      Outcome.map_ne_internal (ih (fun x hx => h x (by simp [hx])) _)

theorem assignAddrs_not_diverged (l : List Stmt) (a : Nat) : assignAddrs l a ≠ .diverged := by
  induction l generalizing a with
  | nil => nofun
  | cons s rest ih =>
    rw [assignAddrs_cons_eq]
    exact Outcome.bind_ne_diverged (placeOne_ne_diverged s a) fun _ _ => Outcome.map_ne_diverged (ih _)

def addrNat (s : Stmt) : Option Nat := s.pkg.address.int?

/-- the statement carries an address before `assignAddrs` runs (only ORG does, see `translate_preset`) -/
def Stmt.preset (s : Stmt) : Bool := !s.pkg.address.isNone

/-- `s'` is `s` up to `pkg.address` -/
def AddrRel (s s' : Stmt) : Prop := ∃ v, s' = { s with pkg := { s.pkg with address := v } }

/-- what `assignAddrs` does to one statement: a statement with a preset address (ORG) is kept; any other gets
`NumericValue(a)` for the running address `a` -/
def Placed (s s' : Stmt) : Prop :=
  (s.preset = true ∧ s' = s) ∨
  (s.preset = false ∧ ∃ a v, numV a = .ok v ∧ s' = { s with pkg := { s.pkg with address := v } })

theorem Placed.addrRel {s s' : Stmt} (h : Placed s s') : AddrRel s s' := by
  rcases h with ⟨_, rfl⟩ | ⟨_, _, v, _, rfl⟩
  · exact ⟨_, rfl⟩
  · exact ⟨v, rfl⟩

theorem Placed.preset {s s' : Stmt} (h : Placed s s') (hp : s.preset = true) : s' = s := by
  rcases h with ⟨_, rfl⟩ | ⟨hp', _⟩
  · rfl
  · rw [hp] at hp'; cases hp'

theorem Placed.numeric {s s' : Stmt} (h : Placed s s') (hs : s.pkg.address = .none ∨ s.pkg.address.isNumeric = true) :
    s'.pkg.address.isNumeric = true := by
  rcases h with ⟨hp, rfl⟩ | ⟨_, _, v, hv, rfl⟩
  · rcases hs with hs | hs
    · simp [Stmt.preset, hs, Value.isNone] at hp
    · exact hs
  · exact numericOfInt_isNumeric hv

theorem placeOne_ok {s s' : Stmt} {a a1 : Nat} (h : placeOne s a = .ok (s', a1)) :
    ∃ a0, Placed s s' ∧ addrNat s' = some a0 ∧ (s.preset = false → a0 = a) ∧ a1 = a0 + s.pkg.size := by
  unfold placeOne at h
  split at h
  · rename_i hn
    split at h
    · rename_i v hv
      cases h
      exact ⟨a, .inr ⟨by simp [Stmt.preset, hn], a, v, hv, rfl⟩, numV_int hv, fun _ => rfl, rfl⟩
    · cases h
  · rename_i hn
    split at h
    · rename_i a' ha
      cases h
      exact ⟨a', .inl ⟨by simp [Stmt.preset, hn], rfl⟩, ha, fun hp => by simp [Stmt.preset, hn] at hp, rfl⟩
    · cases h

theorem assignAddrs_cons {s : Stmt} {rest l' : List Stmt} {a : Nat} (h : assignAddrs (s :: rest) a = .ok l') :
    ∃ s' r a0, l' = s' :: r ∧ Placed s s' ∧ addrNat s' = some a0 ∧ (s.preset = false → a0 = a) ∧
      assignAddrs rest (a0 + s.pkg.size) = .ok r := by
  rw [assignAddrs_cons_eq] at h
  obtain ⟨⟨s', a1⟩, hp, h⟩ := Outcome.bind_eq_ok h
  obtain ⟨r, hr, rfl⟩ := Outcome.map_eq_ok h
  obtain ⟨a0, hpl, ha, hpre, rfl⟩ := placeOne_ok hp
  exact ⟨s', r, a0, rfl, hpl, ha, hpre, hr⟩

theorem assignAddrs_placed {l l' : List Stmt} {a : Nat} (h : assignAddrs l a = .ok l') : PW Placed l l' := by
  induction l generalizing a l' with
  | nil => simp [assignAddrs] at h; subst h; exact .nil
  | cons s rest ih =>
    obtain ⟨s', r, a0, rfl, hp, _, _, hr⟩ := assignAddrs_cons h
    exact .cons hp (ih hr)

theorem assignAddrs_pw {l l' : List Stmt} {a : Nat} (h : assignAddrs l a = .ok l') : PW AddrRel l l' :=
  (assignAddrs_placed h).mono fun _ _ => Placed.addrRel

/-- `Chained ps l a`: every statement of `l` has a numeric address; a statement whose flag in `ps` is
`false` (not preset) sits at the running address `a`; the running address then advances by the size. -/
def Chained : List Bool → List Stmt → Nat → Prop
  | [], [], _ => True
  | p :: ps, s :: r, a => ∃ a0, addrNat s = some a0 ∧ (p = false → a0 = a) ∧ Chained ps r (a0 + s.pkg.size)
  | _, _, _ => False

theorem assignAddrs_chained {l l' : List Stmt} {a : Nat} (h : assignAddrs l a = .ok l') :
    Chained (l.map Stmt.preset) l' a := by
  induction l generalizing a l' with
  | nil => simp [assignAddrs] at h; subst h; simp [Chained]
  | cons s rest ih =>
    obtain ⟨s', r, a0, rfl, hpl, ha, hp, hr⟩ := assignAddrs_cons h
    obtain ⟨v, rfl⟩ := hpl.addrRel
    exact ⟨a0, ha, hp, ih hr⟩

theorem Chained.congr {ps : List Bool} {l l' : List Stmt} {a : Nat} (h : Chained ps l a)
    (hp : PW (fun s s' => s'.pkg.address = s.pkg.address ∧ s'.pkg.size = s.pkg.size) l l') : Chained ps l' a := by
  induction l generalizing ps l' a with
  | nil => rw [hp.nil_left]; exact h
  | cons s r ih =>
    cases l' with
    | nil => cases hp.1
    | cons s' r' =>
      cases ps with
      | nil => simp [Chained] at h
      | cons p ps =>
        obtain ⟨a0, h1, h2, h3⟩ := h
        obtain ⟨h0, hr⟩ := hp.of_cons
        refine ⟨a0, by simpa [addrNat, h0.1] using h1, h2, ?_⟩
        rw [h0.2]; exact ih h3 hr

theorem Chained.spec {ps : List Bool} {l : List Stmt} {a : Nat} (h : Chained ps l a) :
    ps.length = l.length ∧
    (∀ (j : Nat) (s : Stmt), l[j]? = some s → ∃ x, addrNat s = some x) ∧
    (∀ s : Stmt, l[0]? = some s → ps[0]? = some false → addrNat s = some a) ∧
    (∀ (j : Nat) (s t : Stmt), l[j]? = some s → l[j + 1]? = some t → ps[j + 1]? = some false →
      addrNat t = (addrNat s).map (· + s.pkg.size)) := by
  induction l generalizing ps a with
  | nil => cases ps <;> simp_all [Chained]
  | cons s0 r ih =>
    cases ps with
    | nil => simp [Chained] at h
    | cons p ps =>
      obtain ⟨a0, h1, h2, h3⟩ := h
      obtain ⟨ilen, isome, ihead, istep⟩ := ih h3
      refine ⟨by simp [ilen], ?_, ?_, ?_⟩
      · intro j s hs
        cases j with
        | zero => cases hs; exact ⟨a0, h1⟩
        | succ j => exact isome j s hs
      · intro s hs hp
        cases hs; cases hp
        rw [h1, h2 rfl]
      · intro j s t hs ht hp
        cases j with
        | zero => cases hs; rw [ihead t ht hp, h1]; rfl
        | succ j => exact istep j s t hs ht hp

theorem Chained.length_eq {ps : List Bool} {l : List Stmt} {a : Nat} (h : Chained ps l a) : ps.length = l.length :=
  h.spec.1

theorem Chained.isSome {ps : List Bool} {l : List Stmt} {a : Nat} (h : Chained ps l a) {j : Nat} {s : Stmt}
    (hs : l[j]? = some s) : ∃ x, addrNat s = some x := h.spec.2.1 j s hs

theorem Chained.head {ps : List Bool} {l : List Stmt} {a : Nat} (h : Chained ps l a) {s : Stmt}
    (hs : l[0]? = some s) (hp : ps[0]? = some false) : addrNat s = some a := h.spec.2.2.1 s hs hp

theorem Chained.step {ps : List Bool} {l : List Stmt} {a : Nat} (h : Chained ps l a) {j : Nat} {s t : Stmt}
    (hs : l[j]? = some s) (ht : l[j + 1]? = some t) (hp : ps[j + 1]? = some false) :
    addrNat t = (addrNat s).map (· + s.pkg.size) := h.spec.2.2.2 j s t hs ht hp

theorem foldl_sizes (l : List Stmt) (a b : Nat) :
    l.foldl (fun (a : Nat × Nat) s => (a.1 + s.pkg.size, a.2 + s.pkg.maxSize)) (a, b)
      = (a + (l.map (·.pkg.size)).sum, b + (l.map (·.pkg.maxSize)).sum) := by
  induction l generalizing a b with
  | nil => simp
  | cons s r ih => simp [ih]; omega

theorem sumSizes_eq (ss : List Stmt) (lo hi : Nat) :
    sumSizes ss lo hi = ((((ss.drop lo).take (hi - lo)).map (·.pkg.size)).sum,
      (((ss.drop lo).take (hi - lo)).map (·.pkg.maxSize)).sum) := by
  simp [sumSizes, foldl_sizes]

theorem sumSize_eq (ss : List Stmt) (lo hi : Nat) :
    sumSize ss lo hi = (((ss.drop lo).take (hi - lo)).map (·.pkg.size)).sum :=
  congrArg Prod.fst (sumSizes_eq ss lo hi)

theorem sumSizes_append {ra rb : List Stmt} {lo hi : Nat} (h : hi ≤ ra.length) :
    sumSizes (ra ++ rb) lo hi = sumSizes ra lo hi := by
  unfold sumSizes
  by_cases hlo : lo ≤ ra.length
  · rw [List.drop_append_of_le_length hlo, List.take_append_of_le_length (by simp [List.length_drop]; omega)]
  · have : hi - lo = 0 := by omega
    rw [this]; simp

theorem sumSize_append {ra rb : List Stmt} {lo hi : Nat} (h : hi ≤ ra.length) :
    sumSize (ra ++ rb) lo hi = sumSize ra lo hi := by
  unfold sumSize; rw [sumSizes_append h]

theorem sumSize_self (ss : List Stmt) (lo : Nat) : sumSize ss lo lo = 0 := by simp [sumSize_eq]

theorem sumSizes_self (ss : List Stmt) (i : Nat) : sumSizes ss i i = (0, 0) := by
  simp [sumSizes]

theorem sumSize_split {ss : List Stmt} {lo mid hi : Nat} (h1 : lo ≤ mid) (h2 : mid ≤ hi) :
    sumSize ss lo hi = sumSize ss lo mid + sumSize ss mid hi := by
  rw [sumSize_eq, sumSize_eq, sumSize_eq]
  have e1 : hi - lo = (mid - lo) + (hi - mid) := by omega
  have e2 : lo + (mid - lo) = mid := by omega
  rw [e1, List.take_add, List.drop_drop, e2, List.map_append, List.sum_append]

theorem sumSize_one {ss : List Stmt} {i : Nat} {s : Stmt} (hs : ss[i]? = some s) : sumSize ss i (i + 1) = s.pkg.size := by
  obtain ⟨hlt, rfl⟩ := List.getElem_of_getElem? hs
  have e : i + 1 - i = 1 := by omega
  rw [sumSize_eq, e, List.drop_eq_getElem_cons hlt, List.take_succ_cons, List.take_zero]
  simp

theorem sumSize_succ {ss : List Stmt} {lo hi : Nat} {s : Stmt} (hlo : lo ≤ hi) (hs : ss[hi]? = some s) :
    sumSize ss lo (hi + 1) = sumSize ss lo hi + s.pkg.size := by
  rw [sumSize_split hlo (Nat.le_succ hi), sumSize_one hs]

theorem sumSize_head {l : List Stmt} {i b : Nat} {s : Stmt} (hib : i < b) (hs : l[i]? = some s) :
    sumSize l i b = s.pkg.size + sumSize l (i + 1) b := by
  rw [sumSize_split (Nat.le_succ i) hib, sumSize_one hs]

theorem sumSize_congr {l l' : List Stmt} (h : PW (fun s s' => s'.pkg.size = s.pkg.size) l l') (lo hi : Nat) :
    sumSize l' lo hi = sumSize l lo hi := by
  have hm : l'.map (·.pkg.size) = l.map (·.pkg.size) := by
    apply List.ext_getElem?
    intro j
    simp only [List.getElem?_map]
    cases hj : l[j]? with
    | none =>
      have : l.length ≤ j := List.getElem?_eq_none_iff.mp hj
      rw [List.getElem?_eq_none_iff.mpr (by rw [h.1]; exact this)]
    | some s =>
      obtain ⟨s', hs', hr⟩ := h.get hj
      simp [hs', hr]
  rw [sumSize_eq, sumSize_eq, List.map_take, List.map_drop, List.map_take, List.map_drop, hm]

theorem Chained.telescope {ps : List Bool} {l : List Stmt} {a : Nat} (h : Chained ps l a) {lo hi : Nat}
    (hle : lo ≤ hi) {s t : Stmt} (hs : l[lo]? = some s) (ht : l[hi]? = some t)
    (hp : ∀ j, lo < j → j ≤ hi → ps[j]? = some false) {x : Nat} (hx : addrNat s = some x) :
    addrNat t = some (x + sumSize l lo hi) := by
  induction hi generalizing t with
  | zero =>
    have : lo = 0 := by omega
    subst this; rw [hs] at ht; cases ht; simp [sumSize_self, hx]
  | succ hi ih =>
    rcases Nat.eq_or_lt_of_le hle with heq | hlt
    · subst heq; rw [hs] at ht; cases ht; simp [sumSize_self, hx]
    · have hle' : lo ≤ hi := by omega
      have hlen : hi + 1 < l.length := lt_of_getElem? ht
      have hm : l[hi]? = some l[hi] := List.getElem?_eq_getElem (by omega)
      have hmid := ih hle' hm (fun j h1 h2 => hp j h1 (by omega))
      have hstep := h.step hm ht (hp (hi + 1) (by omega) (Nat.le_refl _))
      rw [hstep, hmid, sumSize_succ hle' hm]
      simp; omega

theorem assignAddrs_all_numeric {l l' : List Stmt} {a : Nat} (h : assignAddrs l a = .ok l')
    (hl : ∀ s ∈ l, s.pkg.address = .none ∨ s.pkg.address.isNumeric = true) :
    ∀ s' ∈ l', s'.pkg.address.isNumeric = true := fun _ hs' =>
  let ⟨s, hs, hp⟩ := (assignAddrs_placed h).mem' hs'
  hp.numeric (hl s hs)

/-! ### the address of statement `j` -/

theorem addrOf_eq (ss : List Stmt) (j : Nat) : addrOf ss j = ss[j]?.map (·.pkg.address) := rfl

theorem addrIntOf_eq (ss : List Stmt) (j : Nat) : addrIntOf ss j = ss[j]?.bind addrNat := by
  rw [addrIntOf, addrOf_eq, Option.bind_map]
  rfl

theorem addrIntOf_of_addrOf {ss : List Stmt} {j : Nat} {v : Value} (h : addrOf ss j = some v) :
    addrIntOf ss j = v.int? := by
  rw [addrIntOf, h]
  rfl

theorem addrOf_eq_some {ss : List Stmt} {j : Nat} {v : Value} :
    addrOf ss j = some v ↔ ∃ s, ss[j]? = some s ∧ s.pkg.address = v :=
  Option.map_eq_some_iff

theorem addrIntOf_eq_some {ss : List Stmt} {j a : Nat} :
    addrIntOf ss j = some a ↔ ∃ s, ss[j]? = some s ∧ addrNat s = some a := by
  rw [addrIntOf_eq]
  exact Option.bind_eq_some_iff

theorem addrOf_rel {Rv : Value → Value → Prop} {l l' : List Stmt}
    (h : PW (fun s s' => Rv s.pkg.address s'.pkg.address) l l') (j : Nat) :
    (addrOf l j = none ∧ addrOf l' j = none) ∨
    ∃ v v', addrOf l j = some v ∧ addrOf l' j = some v' ∧ Rv v v' := by
  rw [addrOf_eq, addrOf_eq]
  rcases h.getElem? j with ⟨e, e'⟩ | ⟨s, s', e, e', hr⟩
  · rw [e, e']; exact .inl ⟨rfl, rfl⟩
  · rw [e, e']; exact .inr ⟨_, _, rfl, rfl, hr⟩

theorem addrIntOf_congr {l l' : List Stmt} (h : PW (fun s s' => addrNat s' = addrNat s) l l') (j : Nat) :
    addrIntOf l' j = addrIntOf l j := by
  rw [addrIntOf_eq, addrIntOf_eq]
  rcases h.getElem? j with ⟨e, e'⟩ | ⟨s, s', e, e', hr⟩
  · rw [e, e']
  · rw [e, e']; exact hr

/-! ### the image -/

theorem image_eq {a : Assembly} {img : Bytes} (h : a.image = some img) :
    ∃ bs, a.stmts.mapM stmtBytes = some bs ∧ img = bs.flatten := by
  unfold Assembly.image at h
  cases hb : a.stmts.mapM stmtBytes with
  | none => simp [hb] at h
  | some bs => simp [hb] at h; exact ⟨bs, rfl, h.symm⟩

theorem flatten_take_succ {bs : List Bytes} {i : Nat} {b : Bytes} (h : bs[i]? = some b) :
    (bs.take (i + 1)).flatten = (bs.take i).flatten ++ b := by
  obtain ⟨hlt, rfl⟩ := List.getElem_of_getElem? h
  rw [List.take_succ_eq_append_getElem hlt, List.flatten_append, List.flatten_cons, List.flatten_nil, List.append_nil]

theorem flatten_split {bs : List Bytes} {i : Nat} {b : Bytes} (h : bs[i]? = some b) :
    bs.flatten = (bs.take i).flatten ++ b ++ (bs.drop (i + 1)).flatten := by
  have h1 : bs = bs.take (i + 1) ++ bs.drop (i + 1) := (List.take_append_drop _ _).symm
  conv => lhs; rw [h1]
  rw [List.flatten_append, flatten_take_succ h]

/-- prefix length: the bytes emitted before statement `i` number `sumSize k i` when the statements before `k`
are empty and byte counts equal sizes -/
theorem prefix_length {ss : List Stmt} {bs : List Bytes} (hpw : PW (fun s b => stmtBytes s = some b) ss bs)
    (hsz : ∀ s ∈ ss, (stmtBytes s).map List.length = some s.pkg.size)
    (k : Nat) (hk0 : ∀ j s, j < k → ss[j]? = some s → s.pkg.size = 0)
    (i : Nat) (hi : i ≤ ss.length) :
    ((bs.take i).flatten).length = if i ≤ k then 0 else sumSize ss k i := by
  induction i with
  | zero => simp
  | succ i ih =>
    have hlt : i < ss.length := by omega
    have hs : ss[i]? = some ss[i] := List.getElem?_eq_getElem hlt
    obtain ⟨b, hb, hsb⟩ := hpw.get hs
    have hlen : b.length = ss[i].pkg.size := by
      have := hsz ss[i] (List.getElem_mem hlt)
      rw [hsb] at this; simpa using this
    rw [flatten_take_succ hb, List.length_append, ih (by omega), hlen]
    by_cases h1 : i + 1 ≤ k
    · have : i ≤ k := by omega
      simp [h1, this, hk0 i _ (by omega) hs]
    · by_cases h2 : i ≤ k
      · have : i = k := by omega
        subst this
        simp [h1, sumSize_succ (Nat.le_refl _) hs, sumSize_self]
      · simp [h1, h2, sumSize_succ (by omega : k ≤ i) hs]

/-! ### the ORG check -/

/-- the statement emits bytes or carries a label that stands for an address -/
def Stmt.lays (s : Stmt) : Bool := decide (0 < s.pkg.size) || (!s.label.isEmpty && !s.row.isPseudoDefine)

theorem orgOK_cons (s : Stmt) (rest : List Stmt) (laid : Bool) :
    orgOK (s :: rest) laid = (!(s.row.isOrigin && laid) && orgOK rest (laid || s.lays)) := by
  rw [orgOK]
  unfold Stmt.lays
  rw [Bool.or_assoc]

theorem orgOK_laid {ss : List Stmt} (h : orgOK ss true = true) {k : Nat} {s : Stmt} (hs : ss[k]? = some s) :
    s.row.isOrigin = false := by
  induction ss generalizing k with
  | nil => simp at hs
  | cons s0 rest ih =>
    rw [orgOK_cons] at h
    simp only [Bool.and_true, Bool.true_or, Bool.and_eq_true, Bool.not_eq_true'] at h
    cases k with
    | zero => simp at hs; subst hs; exact h.1
    | succ k => simp at hs; exact ih h.2 hs

theorem orgOK_before {ss : List Stmt} {laid : Bool} (h : orgOK ss laid = true) {j k : Nat} {sj sk : Stmt}
    (hjk : j < k) (hj : ss[j]? = some sj) (hk : ss[k]? = some sk) (ho : sk.row.isOrigin = true) :
    sj.lays = false := by
  induction ss generalizing laid j k with
  | nil => simp at hj
  | cons s0 rest ih =>
    rw [orgOK_cons] at h
    simp only [Bool.and_eq_true] at h
    cases k with
    | zero => omega
    | succ k =>
      simp at hk
      cases j with
      | zero =>
        simp at hj; subst hj
        cases hl : s0.lays with
        | false => rfl
        | true =>
          rw [hl, Bool.or_true] at h
          have := orgOK_laid h.2 hk
          rw [ho] at this; cases this
      | succ j =>
        simp at hj
        exact ih h.2 (by omega) hj hk

theorem Stmt.lays_false {s : Stmt} (h : s.lays = false) :
    s.pkg.size = 0 ∧ (s.label.isEmpty = true ∨ s.row.isPseudoDefine = true) := by
  unfold Stmt.lays at h
  simp only [Bool.or_eq_false_iff, decide_eq_false_iff_not, Bool.and_eq_false_iff, Bool.not_eq_false'] at h
  exact ⟨by omega, h.2⟩

theorem Stmt.lays_iff {s : Stmt} :
    s.lays = true ↔ 0 < s.pkg.size ∨ (s.label.isEmpty = false ∧ s.row.isPseudoDefine = false) := by
  unfold Stmt.lays
  simp only [Bool.or_eq_true, decide_eq_true_eq, Bool.and_eq_true, Bool.not_eq_true']

/-- `orgOK` reads of a statement whether it is an ORG or an EQU, whether it has a label and its size -/
theorem orgOK_lockstep : ∀ (ss ss' : List Stmt) (laid : Bool),
    PW (fun s s' => s'.row = s.row ∧ s'.pkg.size = s.pkg.size ∧ s'.label.isEmpty = s.label.isEmpty) ss ss' →
    orgOK ss' laid = orgOK ss laid := by
  intro ss
  induction ss with
  | nil => intro ss' laid h; rw [h.nil_left]
  | cons s rest ih =>
    intro ss' laid h
    obtain ⟨s', rest', rfl, ⟨h1, h2, h3⟩, hr⟩ := h.cons_left
    rw [orgOK, orgOK, h1, h2, h3, ih rest' _ hr]

end CoCo.Asm
