/-
Lemmas/ResolveValue.lean — `Value.resolve` since fix 0f280be (`get_symbol` evaluates an EQU that was defined by an
expression where it is used): the fuelled recursion `resolveF` one level at a time (`resolveF_succ`: `resolveStep` over
the lookup `getSymF`), what a level does on a symbol and on an expression (`symPost`, `exprPost`), and the two
structural facts:

* `resolveF_mono_le` — a result `ok r` stays what it is when more fuel is given and when the table answers more
  lookups (`SymTab.Le`);
* `resolveF_depth` — a result `ok r` at ANY fuel is already reached with fuel `t.length + 1` (a chain of EQU
  expressions that ends is no longer than the table: a key met twice is a cycle, and a cycle never ends);

from which `Value.resolve_mono` (the fuel of `resolve` is the length of the table, which differs between the two
tables) and `resolve_congr_lookup`: `resolve` depends on the table only through `SymTab.get?`.
-/
import CoCoVerif.Lemmas.CreateGraph

namespace CoCo.Asm
open CoCo.Gen (InstrRow)

/-- `Value.get_symbol` with `fuel` levels of evaluation left: the table entry, an EQU expression evaluated first -/
def getSymF (fuel : Nat) (t : SymTab) (name : Str) : R Value :=
  match t.get? name with
  | Option.none => .error .other
  | some s => if s.isExpression then resolveF fuel s t else .ok s

/-- `SymbolValue.resolve` once the symbol has been looked up -/
def symPost (s : Value) : R Value :=
  if s.isAddress then (match s with | .address i _ => .ok (.address i .none) | _ => .error .other)
  else if s.isNumeric then
    match s with
    | .numeric i _ _ ng => numericOfInt (if ng then -(i : Int) else i) Option.none .none
    | _ => .error .other
  else .error .other

/-- the lookup of one operand of an expression -/
def lookStep (getSym : Str → R Value) (x : Value) : R Value :=
  match x with
  | .symbol name _ => getSym name
  | x => .ok x

/-- the Python int of `left op right` on the two SIGNED operands; `none` = division by zero -/
def exprArith (op : Char) (li ri : Int) : Option Int :=
  if op == '+' then some (li + ri)
  else if op == '-' then some (li - ri)
  else if op == '*' then some (li * ri)
  else if op == '/' then (if ri = 0 then Option.none else some (Int.tdiv li ri))
  else some 0

/-- `NumericValue("{}".format(left op right), mode=m)` on two numeric operands -/
def exprNum (m : Mode) (lm : Nat) (ln : Bool) (rm : Nat) (rn : Bool) (op : Char) : R Value :=
  match exprArith op (if ln then -(lm : Int) else lm) (if rn then -(rm : Int) else rm) with
  | Option.none => .error .other
  | some z =>
    match numericOfStr (if z < 0 then '-' :: (toString z.natAbs).toList else (toString z.natAbs).toList) Option.none
        (if z > 255 && m == .direct then Mode.extended else m) with
    | .ok nv => .ok nv
    | .error _ => .error .other

/-- `ExpressionValue.resolve` once both operands have been looked up -/
def exprPost (l' r' : Value) (op : Char) (mode : Mode) : R Value :=
  match l', r' with
  | .numeric lm _ _ ln, .numeric rm _ _ rn =>
    exprNum (if l'.isExtendedLike || r'.isExtendedLike then Mode.extended else Mode.direct) lm ln rm rn op
  | _, _ =>
    if l'.isAddress || r'.isAddress then .ok (.expr l' r' op mode true)
    else .error .other

/-- one level of `resolve`, the symbol lookup being given -/
def resolveStep (getSym : Str → R Value) (v : Value) : R Value :=
  match v with
  | .symbol name _ =>
    match getSym name with
    | .error e => .error e
    | .ok s => symPost s
  | .expr l r op mode _ =>
    match lookStep getSym l, lookStep getSym r with
    | .ok l', .ok r' => exprPost l' r' op mode
    | _, _ => .error .other
  | v => .ok v

/-- `lookStep` over `getSymF`, written on the fuel and the table -/
def lookF (fuel : Nat) (t : SymTab) (x : Value) : R Value :=
  match x with
  | .symbol name _ => getSymF fuel t name
  | x => .ok x

theorem lookF_eq_lookStep (fuel : Nat) (t : SymTab) (x : Value) : lookF fuel t x = lookStep (getSymF fuel t) x := by
  cases x <;> rfl

/-- the operand lookup without `get_symbol`'s evaluation of EQU expressions: the table entry as it stands -/
def lookV (t : SymTab) (x : Value) : R Value :=
  match x with
  | .symbol name _ => (match t.get? name with | some s => .ok s | Option.none => .error .other)
  | x => .ok x

theorem resolveF_zero (v : Value) (t : SymTab) : resolveF 0 v t = .error .other := rfl

theorem resolveF_succ (n : Nat) (v : Value) (t : SymTab) :
    resolveF (n + 1) v t = resolveStep (getSymF n t) v := by
  cases v <;> rfl

theorem resolveF_other (fuel : Nat) (t : SymTab) (v : Value) (hs : ∀ n m, v ≠ .symbol n m)
    (he : ∀ l r op m ae, v ≠ .expr l r op m ae) : resolveF (fuel + 1) v t = .ok v := by
  cases v <;> first | rfl | exact absurd rfl (hs _ _) | exact absurd rfl (he _ _ _ _ _)

/-- the fuel `resolve` gives to a table entry is not 0: a table with an entry is not empty -/
theorem resolveF_length_of_get {t : SymTab} {x : Str} {s : Value} (hx : t.get? x = some s) (v : Value) :
    resolveF t.length v t = resolveStep (getSymF (t.length - 1) t) v := by
  cases t with
  | nil => cases hx
  | cons e t' => exact resolveF_succ _ _ _

theorem resolve_eq_step (v : Value) (t : SymTab) : v.resolve t = resolveStep (getSymF t.length t) v :=
  resolveF_succ _ _ _

theorem resolveStep_symbol_of {gs : Str → R Value} {name : Str} {m : Mode} {s : Value} (h : gs name = .ok s) :
    resolveStep gs (.symbol name m) = symPost s := by
  simp only [resolveStep, h]

theorem resolveStep_symbol_ok {gs : Str → R Value} {name : Str} {m : Mode} {r : Value}
    (h : resolveStep gs (.symbol name m) = .ok r) : ∃ s, gs name = .ok s ∧ symPost s = .ok r := by
  simp only [resolveStep] at h
  cases hg : gs name with
  | error e => rw [hg] at h; cases h
  | ok s => rw [hg] at h; exact ⟨s, rfl, h⟩

theorem resolveStep_expr_of {gs : Str → R Value} {l r l' r' : Value} {op : Char} {m : Mode} {b : Bool}
    (hl : lookStep gs l = .ok l') (hr : lookStep gs r = .ok r') :
    resolveStep gs (.expr l r op m b) = exprPost l' r' op m := by
  simp only [resolveStep, hl, hr]

theorem resolveStep_expr_ok {gs : Str → R Value} {l r : Value} {op : Char} {m : Mode} {b : Bool} {x : Value}
    (h : resolveStep gs (.expr l r op m b) = .ok x) :
    ∃ l' r', lookStep gs l = .ok l' ∧ lookStep gs r = .ok r' ∧ exprPost l' r' op m = .ok x := by
  simp only [resolveStep] at h
  split at h
  · rename_i l' r' hl hr; exact ⟨l', r', hl, hr, h⟩
  · cases h

theorem lookStep_atom (gs : Str → R Value) (x : Value) (h : x.isSymbol = false) : lookStep gs x = .ok x := by
  cases x <;> first | rfl | (simp [Value.isSymbol] at h)

theorem lookStep_symbol (gs : Str → R Value) (name : Str) (m : Mode) : lookStep gs (.symbol name m) = gs name := rfl

theorem exprNum_ok {m : Mode} {lm rm : Nat} {ln rn : Bool} {op : Char} {v : Value}
    (h : exprNum m lm ln rm rn op = .ok v) : ∃ s m', numericOfStr s Option.none m' = .ok v := by
  unfold exprNum at h
  split at h
  · cases h
  · split at h
    · rename_i hn; cases h; exact ⟨_, _, hn⟩
    · cases h

/-- what an expression evaluates to: a number read from a string, or, when an operand is a label, the expression of the
two operands marked as holding one -/
theorem exprPost_ok {l' r' : Value} {op : Char} {mode : Mode} {x : Value} (h : exprPost l' r' op mode = .ok x) :
    (∃ s m, numericOfStr s Option.none m = .ok x) ∨
      ((l'.isAddress || r'.isAddress) = true ∧ x = .expr l' r' op mode true) := by
  unfold exprPost at h
  split at h
  · exact .inl (exprNum_ok h)
  · by_cases ha : (l'.isAddress || r'.isAddress) = true
    · rw [if_pos ha] at h; cases h; exact .inr ⟨ha, rfl⟩
    · rw [if_neg ha] at h; cases h

/-- what a looked-up symbol resolves to: a label keeps its index (mode NONE), a number is made anew from its signed
value -/
theorem symPost_ok {s r : Value} (h : symPost s = .ok r) :
    (∃ i m, s = .address i m ∧ r = .address i .none) ∨
      ∃ i hh m ng, s = .numeric i hh m ng ∧
        numericOfInt (if ng then -(i : Int) else i) Option.none .none = .ok r := by
  cases s with
  | address i m => cases h; exact .inl ⟨i, m, rfl, rfl⟩
  | numeric i hh m ng => exact .inr ⟨i, hh, m, ng, rfl, h⟩
  | _ => cases h

/-- operands that are not both numbers: the expression stands if one is a label -/
theorem exprPost_of_not_numeric {a b : Value} (op : Char) (mode : Mode)
    (hab : ¬ (a.isNumeric = true ∧ b.isNumeric = true)) :
    exprPost a b op mode = if a.isAddress || b.isAddress then .ok (.expr a b op mode true) else .error .other := by
  cases a <;> cases b <;> first | rfl | exact absurd ⟨rfl, rfl⟩ hab

theorem getSymF_none {n : Nat} {t : SymTab} {x : Str} (h : t.get? x = Option.none) :
    getSymF n t x = .error .other := by
  simp [getSymF, h]

theorem getSymF_plain {n : Nat} {t : SymTab} {x : Str} {s : Value} (h : t.get? x = some s)
    (hs : s.isExpression = false) : getSymF n t x = .ok s := by
  simp [getSymF, h, hs]

theorem getSymF_expr {n : Nat} {t : SymTab} {x : Str} {s : Value} (h : t.get? x = some s)
    (hs : s.isExpression = true) : getSymF n t x = resolveF n s t := by
  simp [getSymF, h, hs]

theorem getSymF_ok {n : Nat} {t : SymTab} {y : Str} {s : Value} (h : getSymF n t y = .ok s) :
    ∃ e, t.get? y = some e ∧
      (e.isExpression = true ∧ resolveF n e t = .ok s ∨ e.isExpression = false ∧ e = s) := by
  cases hg : t.get? y with
  | none => rw [getSymF_none hg] at h; cases h
  | some e =>
    cases he : e.isExpression with
    | true => rw [getSymF_expr hg he] at h; exact ⟨e, rfl, .inl ⟨he, h⟩⟩
    | false => rw [getSymF_plain hg he] at h; cases h; exact ⟨_, rfl, .inr ⟨he, rfl⟩⟩

theorem getSymF_transfer {n m : Nat} {t t' : SymTab} {y : Str} {s : Value} (h : getSymF n t y = .ok s)
    (hg : ∀ e, t.get? y = some e → t'.get? y = some e)
    (hr : ∀ e, e.isExpression = true → resolveF n e t = .ok s → resolveF m e t' = .ok s) :
    getSymF m t' y = .ok s := by
  obtain ⟨e, hy, ⟨he, hs⟩ | ⟨he, rfl⟩⟩ := getSymF_ok h
  · rw [getSymF_expr (hg e hy) he]; exact hr e he hs
  · exact getSymF_plain (hg e hy) he

/-- a table without an EQU defined by an expression: `get_symbol` is the plain lookup -/
theorem lookF_eq_lookV {t : SymTab} (ht : ∀ k s, t.get? k = some s → s.isExpression = false) (fuel : Nat)
    (x : Value) : lookF fuel t x = lookV t x := by
  cases x with
  | symbol name m =>
    unfold lookF lookV
    dsimp only
    cases hg : t.get? name with
    | none => exact getSymF_none hg
    | some s => exact getSymF_plain hg (ht _ _ hg)
  | _ => rfl

theorem resolve_atom (v : Value) (t : SymTab) (h1 : v.isSymbol = false)
    (h2 : ∀ l r op m b, v ≠ .expr l r op m b) : v.resolve t = .ok v :=
  resolveF_other _ t v (fun n m e => by rw [e] at h1; cases h1) h2

/-- a symbol whose table entry is NOT an EQU expression: the entry decides, as before fix 0f280be -/
theorem resolve_symbol_of_get {name : Str} {m : Mode} {t : SymTab} {s : Value} (h : t.get? name = some s)
    (hs : s.isExpression = false) : (Value.symbol name m).resolve t = symPost s := by
  rw [resolve_eq_step, resolveStep_symbol_of (getSymF_plain h hs)]

/-- a symbol bound to a number: `NumericValue(symbol.signed())`, whatever size hint and mode the entry has -/
theorem resolve_symbol_number {x : Str} {mx : Mode} {t : SymTab} {a : Nat} {h : Option Nat} {m : Mode} {ng : Bool}
    (hx : t.get? x = some (.numeric a h m ng)) :
    (Value.symbol x mx).resolve t = numericOfInt (if ng then -(a : Int) else a) Option.none .none := by
  rw [resolve_symbol_of_get hx rfl]
  rfl

/-- a symbol whose table entry IS an EQU expression: the expression is evaluated (one level of fuel down) -/
theorem resolve_symbol_of_expr {name : Str} {m : Mode} {t : SymTab} {s : Value} (h : t.get? name = some s)
    (hs : s.isExpression = true) :
    (Value.symbol name m).resolve t =
      (match resolveF t.length s t with | .error e => .error e | .ok s' => symPost s') := by
  rw [resolve_eq_step]; simp only [resolveStep, getSymF_expr h hs]

theorem resolve_symbol_undefined {name : Str} {m : Mode} {t : SymTab} (h : t.get? name = Option.none) :
    (Value.symbol name m).resolve t = .error .other := by
  rw [resolve_eq_step]; simp only [resolveStep, getSymF_none h]

theorem resolve_expr_of_look {l r l' r' : Value} {op : Char} {m : Mode} {b : Bool} {t : SymTab}
    (hl : lookStep (getSymF t.length t) l = .ok l') (hr : lookStep (getSymF t.length t) r = .ok r') :
    (Value.expr l r op m b).resolve t = exprPost l' r' op m := by
  rw [resolve_eq_step, resolveStep_expr_of hl hr]

theorem resolve_symbol_ok {t : SymTab} {name : Str} {m : Mode} {r : Value}
    (h : (Value.symbol name m).resolve t = .ok r) :
    (∃ i, r = .address i .none) ∨ ∃ z, numericOfInt z Option.none .none = .ok r := by
  rw [resolve_eq_step] at h
  obtain ⟨s, _, hp⟩ := resolveStep_symbol_ok h
  rcases symPost_ok hp with ⟨i, _, _, rfl⟩ | ⟨_, _, _, _, _, hn⟩
  · exact .inl ⟨i, rfl⟩
  · exact .inr ⟨_, hn⟩

theorem resolve_expr_ok {t : SymTab} {l r : Value} {op : Char} {m : Mode} {ae : Bool} {x : Value}
    (h : (Value.expr l r op m ae).resolve t = .ok x) :
    (∃ s m', numericOfStr s Option.none m' = .ok x) ∨ ∃ l' r', x = .expr l' r' op m true := by
  rw [resolve_eq_step] at h
  obtain ⟨l', r', _, _, hx⟩ := resolveStep_expr_ok h
  rcases exprPost_ok hx with hs | ⟨_, rfl⟩
  · exact .inl hs
  · exact .inr ⟨l', r', rfl⟩

theorem resolve_symbol_fieldable {t : SymTab} {name : Str} {m : Mode} {r : Value}
    (h : (Value.symbol name m).resolve t = .ok r) : r.isNumeric = true ∨ r.isAddress = true := by
  rcases resolve_symbol_ok h with ⟨_, rfl⟩ | ⟨_, hn⟩
  · exact .inr rfl
  · exact .inl (numericOfInt_isNumeric hn)

theorem resolve_expr_fieldable {t : SymTab} {l r : Value} {op : Char} {m : Mode} {ae : Bool} {x : Value}
    (h : (Value.expr l r op m ae).resolve t = .ok x) : x.isNumeric = true ∨ x.isAddrExpr = true := by
  rcases resolve_expr_ok h with ⟨_, _, hs⟩ | ⟨_, _, rfl⟩
  · exact .inl (numericOfStr_isNumeric hs)
  · exact .inr rfl

/-- What `resolve` returns: the value itself (neither a symbol nor an expression), a label, a number made anew, or a
label expression. -/
theorem resolve_result {t : SymTab} {v r : Value} (h : v.resolve t = .ok r) :
    (r = v ∧ v.isSymbol = false ∧ v.isExpression = false ∧ v.isAddrExpr = false) ∨ (∃ i, r = .address i .none) ∨
      (∃ z, numericOfInt z Option.none .none = .ok r) ∨ (∃ s m, numericOfStr s Option.none m = .ok r) ∨
      ∃ l' r' op m, r = .expr l' r' op m true := by
  cases v with
  | symbol name m => exact .inr ((resolve_symbol_ok h).elim .inl fun hn => .inr (.inl hn))
  | expr l r' op m ae =>
    rcases resolve_expr_ok h with hs | ⟨_, _, rfl⟩
    · exact .inr (.inr (.inr (.inl hs)))
    · exact .inr (.inr (.inr (.inr ⟨_, _, _, _, rfl⟩)))
  | _ => cases h; exact .inl ⟨rfl, rfl, rfl, rfl⟩

theorem resolve_str {t : SymTab} {v r : Value} {x : Str} (h : v.resolve t = .ok r) (hr : r = .str x) : v = .str x := by
  rcases resolve_result h with ⟨rfl, _⟩ | ⟨i, rfl⟩ | ⟨z, hz⟩ | ⟨s, m, hs⟩ | ⟨l', r', op, m, rfl⟩
  · exact hr
  · cases hr
  · exact absurd hr (numericOfInt_not_str hz)
  · subst hr; cases numericOfStr_isNumeric hs
  · cases hr

/-- the left part of an indexed operand after `resolve_symbols` is its text parsed and resolved: what a symbol
resolves to (a label or a number) passes the second step unchanged, and so does a parsed value that is neither a
symbol nor an expression -/
theorem resolveLeft_eq (l : Str) (row : InstrRow) (t : SymTab) :
    resolveLeft l row t = (create 4 l row.isStringDefine row.is16Bit false).bind fun v => v.resolve t := by
  unfold resolveLeft
  cases hc : create 4 l row.isStringDefine row.is16Bit false with
  | error e => rfl
  | ok v =>
    have hg := create_graph hc
    generalize row.isStringDefine = isStr at hg
    cases hg with
    | symbol =>
      simp only [Value.isSymbol, if_true, bind, Except.bind]
      cases hr : (Value.symbol _ _).resolve t with
      | error e => rfl
      | ok v2 =>
        cases v2 with
        | numeric => rfl
        | address => rfl
        | _ => rcases resolve_symbol_fieldable hr with hh | hh <;> cases hh
    | _ => rfl

theorem resolveLeft_ok {l : Str} {row : InstrRow} {t : SymTab} {r : Value} (h : resolveLeft l row t = .ok r) :
    ∃ v, create 4 l row.isStringDefine row.is16Bit false = .ok v ∧ v.resolve t = .ok r := by
  rw [resolveLeft_eq] at h
  cases hc : create 4 l row.isStringDefine row.is16Bit false with
  | error e => rw [hc] at h; cases h
  | ok v => rw [hc] at h; exact ⟨v, rfl, h⟩

/-! ### errors of an expression are all `other` -/

theorem exprNum_error {m : Mode} {lm rm : Nat} {ln rn : Bool} {op : Char} {e : Exn}
    (h : exprNum m lm ln rm rn op = .error e) : e = .other := by
  unfold exprNum at h
  split at h
  · cases h; rfl
  · split at h <;> cases h
    rfl

theorem exprPost_error {l' r' : Value} {op : Char} {mode : Mode} {e : Exn}
    (h : exprPost l' r' op mode = .error e) : e = .other := by
  unfold exprPost at h
  split at h
  · exact exprNum_error h
  · by_cases ha : (l'.isAddress || r'.isAddress) = true
    · rw [if_pos ha] at h; cases h
    · rw [if_neg ha] at h; cases h; rfl

theorem resolveStep_expr_error {gs : Str → R Value} {l r : Value} {op : Char} {mode : Mode} {b : Bool} {e : Exn}
    (h : resolveStep gs (.expr l r op mode b) = .error e) : e = .other := by
  simp only [resolveStep] at h
  split at h
  · exact exprPost_error h
  · cases h; rfl

/-- an EQU expression evaluates to a value or fails with `other` -/
theorem resolveF_isExpression_error {n : Nat} {t : SymTab} {s : Value} (hs : s.isExpression = true) {e : Exn}
    (h : resolveF n s t = .error e) : e = .other := by
  obtain ⟨l, r, op, m, rfl⟩ := isExpression_elim hs
  cases n with
  | zero => cases h; rfl
  | succ n => rw [resolveF_succ] at h; exact resolveStep_expr_error h

theorem getSymF_error {n : Nat} {t : SymTab} {x : Str} {e : Exn} (h : getSymF n t x = .error e) : e = .other := by
  unfold getSymF at h
  split at h
  · cases h; rfl
  · split at h
    · rename_i hs; exact resolveF_isExpression_error hs h
    · cases h

def SymTab.Le (t t' : SymTab) : Prop := ∀ k v, t.get? k = some v → t'.get? k = some v

theorem SymTab.le_refl (t : SymTab) : SymTab.Le t t := fun _ _ h => h

theorem SymTab.le_append (t d : SymTab) : SymTab.Le t (t ++ d) := by
  intro k v h
  unfold SymTab.get? at h ⊢
  rw [List.find?_append]
  cases hf : t.find? (·.1 == k) with
  | none => rw [hf] at h; cases h
  | some x => rw [hf] at h; simpa using h

theorem lookV_mono {t t' : SymTab} (hle : SymTab.Le t t') {x y : Value} (h : lookV t x = .ok y) :
    lookV t' x = .ok y := by
  cases x with
  | symbol name m =>
    unfold lookV at h ⊢
    dsimp only at h ⊢
    cases hg : t.get? name with
    | none => rw [hg] at h; cases h
    | some s => rw [hle _ _ hg]; rw [hg] at h; exact h
  | _ => exact h

theorem resolveStep_mono {gs gs' : Str → R Value} (h : ∀ y s, gs y = .ok s → gs' y = .ok s) {v r : Value}
    (hv : resolveStep gs v = .ok r) : resolveStep gs' v = .ok r := by
  have hlook : ∀ x x', lookStep gs x = .ok x' → lookStep gs' x = .ok x' := by
    intro x x' hx
    cases x <;> first | exact hx | exact h _ _ hx
  cases v with
  | symbol name m =>
    obtain ⟨s, hs, hr⟩ := resolveStep_symbol_ok hv
    rw [resolveStep_symbol_of (h _ _ hs)]; exact hr
  | expr l r' op mode b =>
    obtain ⟨l1, r1, hl, hr, hx⟩ := resolveStep_expr_ok hv
    rw [resolveStep_expr_of (hlook _ _ hl) (hlook _ _ hr)]; exact hx
  | _ => exact hv

theorem resolveF_mono_le {t t' : SymTab} (hle : SymTab.Le t t') {n n' : Nat} (hn : n ≤ n') {v r : Value}
    (h : resolveF n v t = .ok r) : resolveF n' v t' = .ok r := by
  induction n generalizing n' v r with
  | zero => cases h
  | succ n ih =>
    obtain ⟨m, rfl⟩ : ∃ m, n' = m + 1 := ⟨n' - 1, by omega⟩
    rw [resolveF_succ] at h ⊢
    exact resolveStep_mono (fun y s hy => getSymF_transfer hy (hle y) fun _ _ he => ih (by omega) he) h

theorem getSymF_mono_le {t t' : SymTab} (hle : SymTab.Le t t') {n n' : Nat} (hn : n ≤ n') {y : Str} {s : Value}
    (h : getSymF n t y = .ok s) : getSymF n' t' y = .ok s :=
  getSymF_transfer h (hle y) fun _ _ he => resolveF_mono_le hle hn he

theorem resolveF_mono {t : SymTab} {n m : Nat} (hnm : n ≤ m) {v r : Value} (h : resolveF n v t = .ok r) :
    resolveF m v t = .ok r :=
  resolveF_mono_le (SymTab.le_refl t) hnm h

theorem getSymF_mono {t : SymTab} {n m : Nat} (hnm : n ≤ m) {y : Str} {s : Value} (h : getSymF n t y = .ok s) :
    getSymF m t y = .ok s :=
  getSymF_mono_le (SymTab.le_refl t) hnm h

def SymTab.without (t : SymTab) (x : Str) : SymTab := t.filter (fun p => !(p.1 == x))

theorem SymTab.get?_without (t : SymTab) (x k : Str) :
    (t.without x).get? k = if k = x then Option.none else t.get? k := by
  unfold SymTab.without SymTab.get?
  rw [List.find?_filter]
  by_cases hk : k = x
  · subst hk
    rw [if_pos rfl, List.find?_eq_none.mpr (by simp)]
    rfl
  · -- an entry of key `k` is not one of key `x`: the filter is invisible to the search
    rw [if_neg hk]
    congr 2
    funext p
    by_cases hp : p.1 = k <;> simp [hp, hk]

theorem SymTab.length_without_lt (t : SymTab) (x : Str) {s : Value} (h : t.get? x = some s) :
    (t.without x).length < t.length := by
  unfold SymTab.without
  unfold SymTab.get? at h
  cases hf : t.find? (·.1 == x) with
  | none => rw [hf] at h; cases h
  | some p =>
    have hmem := List.mem_of_find?_eq_some hf
    have hp := List.find?_some hf
    apply List.length_filter_lt_length_iff_exists.mpr
    exact ⟨p, hmem, by simpa using hp⟩

theorem SymTab.without_le (t : SymTab) (x : Str) : SymTab.Le (t.without x) t := by
  intro k v hk
  rw [SymTab.get?_without] at hk
  split at hk
  · cases hk
  · exact hk

/-- if the EQU expression `e` of key `x` does not evaluate with less than `n` fuel, nothing that succeeds with at most
`n` fuel looks `x` up -/
theorem resolveF_to_without_aux (t : SymTab) (x : Str) (e : Value) (hx : t.get? x = some e) (he : e.isExpression = true)
    (n : Nat) (hmin : ∀ m, m < n → ∀ s, resolveF m e t ≠ .ok s) :
    ∀ (m : Nat), m ≤ n → ∀ (v r : Value), resolveF m v t = .ok r → resolveF m v (t.without x) = .ok r
  | 0, _, _, _, h => by cases h
  | m + 1, hm, v, r, h => by
    rw [resolveF_succ] at h ⊢
    refine resolveStep_mono ?_ h
    intro y s hy
    by_cases hyx : y = x
    · subst hyx
      rw [getSymF_expr hx he] at hy
      exact absurd hy (hmin m (by omega) s)
    · exact getSymF_transfer hy (fun _ hg => by rw [SymTab.get?_without, if_neg hyx]; exact hg) fun e' _ he' =>
        resolveF_to_without_aux t x e hx he n hmin m (by omega) e' s he'

/-- the EQU expression of key `x`, if it evaluates, evaluates without `x` in the table: a definition that needs itself
never ends -/
theorem resolveF_to_without (t : SymTab) (x : Str) (e : Value) (hx : t.get? x = some e) (he : e.isExpression = true) :
    ∀ (n : Nat) (r : Value), resolveF n e t = .ok r → resolveF n e (t.without x) = .ok r := by
  intro n
  induction n using Nat.strongRecOn with
  | _ n ih =>
    intro r h
    by_cases hex : ∃ m, m < n ∧ ∃ s, resolveF m e t = .ok s
    · obtain ⟨m, hm, s, hs⟩ := hex
      have hs' := resolveF_mono (Nat.le_of_lt hm) hs
      rw [h] at hs'
      cases hs'
      exact resolveF_mono (Nat.le_of_lt hm) (ih m hm _ hs)
    · have hmin : ∀ m, m < n → ∀ s, resolveF m e t ≠ .ok s := by
        intro m hm s hs; exact hex ⟨m, hm, s, hs⟩
      exact resolveF_to_without_aux t x e hx he n hmin n (Nat.le_refl _) _ _ h

theorem resolveF_depth_aux : ∀ (k : Nat) (t : SymTab), t.length ≤ k →
    (∀ (n : Nat) (y : Str) (s : Value), getSymF n t y = .ok s → getSymF t.length t y = .ok s)
  | 0, t, hk => by
    intro n y s h
    have : t = [] := List.eq_nil_of_length_eq_zero (by omega)
    subst this
    simp [getSymF, SymTab.get?] at h
  | k + 1, t, hk => by
    intro n y s h
    cases hg : t.get? y with
    | none => rw [getSymF_none hg] at h; cases h
    | some e =>
      cases he : e.isExpression with
      | false => rw [getSymF_plain hg he] at h ⊢; exact h
      | true =>
        rw [getSymF_expr hg he] at h ⊢
        -- the chain below `y` lives in the table without `y`
        have h1 := resolveF_to_without t y e hg he n s h
        have hlt := SymTab.length_without_lt t y hg
        have ih := resolveF_depth_aux k (t.without y) (by omega)
        -- so it needs no more than that table's length + 1
        have h2 : resolveF ((t.without y).length + 1) e (t.without y) = .ok s := by
          cases n with
          | zero => cases h1
          | succ n =>
            rw [resolveF_succ] at h1 ⊢
            exact resolveStep_mono (fun y' s' hy' => ih n y' s' hy') h1
        exact resolveF_mono_le (SymTab.without_le t y) (by omega) h2

theorem getSymF_depth (t : SymTab) (n : Nat) (y : Str) (s : Value) (h : getSymF n t y = .ok s) :
    getSymF t.length t y = .ok s :=
  resolveF_depth_aux t.length t (Nat.le_refl _) n y s h

/-- the fuel of `Value.resolve` is enough: what evaluates at any fuel evaluates at fuel `t.length + 1` -/
theorem resolveF_depth (t : SymTab) (n : Nat) (v r : Value) (h : resolveF n v t = .ok r) : v.resolve t = .ok r := by
  cases n with
  | zero => cases h
  | succ n =>
    rw [resolve_eq_step]; rw [resolveF_succ] at h
    exact resolveStep_mono (fun y s hy => getSymF_depth t n y s hy) h

/-- symbol resolution is monotone in the table (the fuel of `resolve` is the length of the table, which may
differ between `t` and `t'`; `resolveF_mono_le` carries the result over with the fuel of `t`, `resolveF_depth` brings
the fuel to that of `t'`) -/
theorem Value.resolve_mono {t t' : SymTab} (hle : SymTab.Le t t') {v r : Value}
    (h : v.resolve t = .ok r) : v.resolve t' = .ok r :=
  resolveF_depth t' _ v r (resolveF_mono_le hle (Nat.le_refl _) h)

theorem resolveF_lower (L : Nat) (t : SymTab) (hL : t.length ≤ L) {n : Nat} {v r : Value}
    (h : resolveF n v t = .ok r) : resolveF (L + 1) v t = .ok r :=
  resolveF_mono (by omega) (resolveF_depth t n v r h)

theorem getSymF_length_congr {t1 t2 : SymTab} (h : ∀ k, t1.get? k = t2.get? k) (y : Str) :
    getSymF t1.length t1 y = getSymF t2.length t2 y := by
  have key : ∀ (ta tb : SymTab), (∀ k, ta.get? k = tb.get? k) → ∀ s, getSymF ta.length ta y = .ok s →
      getSymF tb.length tb y = .ok s := by
    intro ta tb hab s hs
    exact getSymF_depth tb ta.length y s (getSymF_mono_le (fun k _ hk => hab k ▸ hk) (Nat.le_refl _) hs)
  cases h1 : getSymF t1.length t1 y with
  | ok s => rw [key t1 t2 h s h1]
  | error e =>
    cases h2 : getSymF t2.length t2 y with
    | ok s => rw [key t2 t1 (fun k => (h k).symm) s h2] at h1; cases h1
    | error e' => rw [getSymF_error h1, getSymF_error h2]

/-- order independence: `resolve` depends on the table only through what `get?` answers -/
theorem resolve_congr_lookup (v : Value) (t1 t2 : SymTab) (h : ∀ k, t1.get? k = t2.get? k) :
    v.resolve t1 = v.resolve t2 := by
  rw [resolve_eq_step, resolve_eq_step]
  have : getSymF t1.length t1 = getSymF t2.length t2 := funext (getSymF_length_congr h)
  rw [this]

theorem resolve_ok_of_lookup {t1 t2 : SymTab} (h : ∀ k, t1.get? k = t2.get? k) {v r : Value}
    (hv : v.resolve t1 = .ok r) : v.resolve t2 = .ok r :=
  resolve_congr_lookup v t1 t2 h ▸ hv

end CoCo.Asm
