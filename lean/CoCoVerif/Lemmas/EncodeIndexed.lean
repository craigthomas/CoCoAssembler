/-
Lemmas/EncodeIndexed.lean — indexed operands without a constant offset, for the four index registers:
`,R  ,R+  ,R++  ,-R  ,--R`, `A,R B,R D,R`, and their bracketed forms.  The register texts are finitely many: what
the general lemmas of Lemmas/EncodeClasses.lean ask of a register text is evaluated for each form, all four registers
at once.
-/
import CoCoVerif.Lemmas.EncodeOffset

namespace CoCo.Asm
open CoCo CoCo.Spec.MC6809
open CoCo.Gen (InstrRow)

/-- the register text is accepted (the side conditions of `translateIndexed_noOff`) and the post byte computed for it
reads back as `i` -/
abbrev NoOffOk (right : Str) (i : Idx) : Prop :=
  validIndexReg right = true ∧ (right == str "PCR") = false ∧ noOffPost right < 256 ∧
    decodePostByte [noOffPost right] = some (i, 1)

theorem noOff_zero : ∀ k, k < 4 → NoOffOk (regName k) (.off k 0 false 0) := by decide +kernel
theorem noOff_inc1 : ∀ k, k < 4 → NoOffOk (regName k ++ ['+']) (.inc1 k) := by decide +kernel
theorem noOff_inc2 : ∀ k, k < 4 → NoOffOk (regName k ++ ['+', '+']) (.inc2 k false) := by decide +kernel
theorem noOff_dec1 : ∀ k, k < 4 → NoOffOk ('-' :: regName k) (.dec1 k) := by decide +kernel
theorem noOff_dec2 : ∀ k, k < 4 → NoOffOk ('-' :: '-' :: regName k) (.dec2 k false) := by decide +kernel

theorem enc_noOff {o : Operand} {r : InstrRow} {c : Nat} {right : Str} {i : Idx} (hI : IdxCell r c)
    (hk : o.kind = .indexed) (hle : o.left = .text []) (hr : o.right = some right) (h : NoOffOk right i) :
    Encodes o r (.idx i) :=
  (hI.layout (w := 0) h.2.2.1 (.inl ⟨rfl, rfl⟩)).encodes_idx
    ((translateOperand_indexed hk).trans (translateIndexed_noOff hI hle hr h.1 h.2.1 h.2.2.1)) rfl rfl h.2.2.2

/-- the same for the bracketed forms (the side conditions of `translateExtInd_noOff`) -/
abbrev IndNoOffOk (right : Str) (i : Idx) : Prop :=
  validIndexReg right = true ∧ (right == str "PCR") = false ∧ badIndirect right = false ∧ extNoOffPost right < 256 ∧
    decodePostByte [extNoOffPost right] = some (i, 1)

theorem indNoOff_zero : ∀ k, k < 4 → IndNoOffOk (regName k) (.off k 0 true 0) := by decide +kernel
theorem indNoOff_inc2 : ∀ k, k < 4 → IndNoOffOk (regName k ++ ['+', '+']) (.inc2 k true) := by decide +kernel
theorem indNoOff_dec2 : ∀ k, k < 4 → IndNoOffOk ('-' :: '-' :: regName k) (.dec2 k true) := by decide +kernel

theorem enc_indNoOff {o : Operand} {r : InstrRow} {c : Nat} {right : Str} {i : Idx} (hI : IdxCell r c)
    (hk : IdxOperand true o) (hle : o.left = .text []) (hr : o.right = some right) (h : IndNoOffOk right i) :
    Encodes o r (.idx i) :=
  (hI.layout (w := 0) h.2.2.2.1 (.inl ⟨rfl, rfl⟩)).encodes_idx ((translateOperand_extInd hk.1).trans
    (translateExtInd_noOff hI hk.2.1 hk.2.2.1 hk.2.2.2 hle hr h.1 h.2.1 h.2.2.1 h.2.2.2.1)) rfl rfl h.2.2.2.2

/-- the side conditions of `translateExtInd_bad`: `[,R+]` and `[,-R]` are rejected, the datasheet has no such mode -/
abbrev IndBad (right : Str) : Prop :=
  validIndexReg right = true ∧ (right == str "PCR") = false ∧ (hasSub ['-'] right || hasSub ['+'] right) = true ∧
    badIndirect right = true

theorem indBad_inc1 : ∀ k, k < 4 → IndBad (regName k ++ ['+']) := by decide +kernel
theorem indBad_dec1 : ∀ k, k < 4 → IndBad ('-' :: regName k) := by decide +kernel

theorem rej_indBad {o : Operand} {r : InstrRow} {c : Nat} {right : Str} (hI : IdxCell r c) (hk : IdxOperand true o)
    (hle : o.left = .text []) (hr : o.right = some right) (h : IndBad right) :
    translateOperand o r = .error .operandType :=
  (translateOperand_extInd hk.1).trans
    (translateExtInd_bad hI hk.2.1 hk.2.2.1 hk.2.2.2 hle hr h.1 h.2.1 h.2.2.1 h.2.2.2)

/-- the post byte carries the datasheet's accumulator code (A 6, B 5, D 11), which is `accCode` -/
theorem acc_forms : ∀ k, k < 4 → ∀ l ∈ [['A'], ['B'], ['D']], isABD l = true ∧ ((regName k) == str "PCR") = false ∧
    regBits (regName k) ||| 0x80 ||| accCode l < 256 ∧
    decodePostByte [regBits (regName k) ||| 0x80 ||| accCode l] = some (.acc (accCode l) k false, 1) ∧
    0x80 ||| regBits (regName k) ||| accCodeInd l < 256 ∧
    decodePostByte [0x80 ||| regBits (regName k) ||| accCodeInd l] = some (.acc (accCode l) k true, 1) := by decide +kernel

theorem enc_acc {o : Operand} {r : InstrRow} {c k : Nat} {l : Str} (hI : IdxCell r c) (ind : Bool)
    (hk : IdxOperand ind o) (hl : o.left = .text l) (hla : l ∈ [['A'], ['B'], ['D']]) (hk4 : k < 4)
    (hr : o.right = some (regName k)) : Encodes o r (.idx (.acc (accCode l) k ind)) := by
  obtain ⟨habd, hpc, p1, d1, p2, d2⟩ := acc_forms k hk4 l hla
  have hpm := (regName_plain k hk4).noSign
  cases ind
  · exact (hI.layout (w := 0) p1 (.inl ⟨rfl, rfl⟩)).encodes_idx
      ((translateOperand_indexed hk).trans (translateIndexed_acc hI hl habd hr (regName_valid k) hpc hpm p1)) rfl rfl d1
  · exact (hI.layout (w := 0) p2 (.inl ⟨rfl, rfl⟩)).encodes_idx ((translateOperand_extInd hk.1).trans
      (translateExtInd_acc hI hk.2.1 hk.2.2.1 hk.2.2.2 hl habd hr (regName_valid k) hpc hpm p2)) rfl rfl d2

end CoCo.Asm
