/-
Lemmas/RelocAny.lean — relocation (C18-R1): programs at ANY origin, moves across `$100` included.

The value-level relation `WideAddr D v v'` / `AddrShift D s s'` (Lemmas/RelocAddr.lean) asks for address values with the
SAME hint and mode, which fails when one of the two programs has addresses below `$100` (`numV a` is a one-byte
DIRECT value there).  Here the relation between the two layouts is `AddrShiftAny` (`IntAddr`: numbers `D` apart inside the
64K space, hints and modes free).  The copies `fix_addresses` makes of a plain label's address value (`fixPart2`) may then
differ in hint and mode; `fit_operand_width` re-renders the field with the width the instruction form dictates, so AFTER
`fixFit` the two fields are again `x` / `x + D` with hint 4, mode EXTENDED — provided `fit_operand_width` looks at the
statement (`RefFitted`; it holds of every statement of an accepted program, `stages_refFitted` of Lemmas/RelocStages.lean).
The symbol table entry of a label and the origin of the assembly are address VALUES too: the two programs' are related by
`IntAddr` (`EquRelAny`, `OriginAny`), not by `shiftV`.
-/
import CoCoVerif.Lemmas.RelocEqu

namespace CoCo.Asm
open CoCo

theorem IntAddr.wide {D : Nat} {v v' : Value} (h : IntAddr D v v') (he : v' = shiftV D v)
    (hw : ∀ a hh m, v = .numeric a hh m false → hh = some 4 ∨ (hh = none ∧ 256 ≤ a)) : WideAddr D v v' := by
  obtain ⟨a, hh, m, hh', m', rfl, rfl, hlt⟩ := h
  simp only [shiftV_numeric, Value.numeric.injEq, true_and, and_true] at he
  obtain ⟨rfl, rfl⟩ := he
  exact ⟨a, hh', m', rfl, rfl, hw a hh' m' rfl, hlt⟩

/-- the address column of the listing (`address.hex(size=4)`): four digits whatever the rendering of the value, so
the printed addresses of the two programs are those of `a` and `a + D` -/
theorem IntAddr.hex4 {D : Nat} {v v' : Value} (h : IntAddr D v v') :
    ∃ a, a + D < 65536 ∧ v.hex? 4 = some (fmtHex 4 a) ∧ v'.hex? 4 = some (fmtHex 4 (a + D)) := by
  obtain ⟨a, hh, m, hh', m', rfl, rfl, hlt⟩ := h
  exact ⟨a, hlt, rfl, rfl⟩

/-- a statement whose operand is a plain label is looked at by `fit_operand_width` (it is not one of the directives
that are skipped): the copy of the label's address VALUE in its operand field is re-rendered at the width of the field -/
def RefFitted (s : Stmt) : Prop := s.operand.value.isAddress = true → fitSkipped s.row = false

section moved
variable {D : Nat} {as as' : List Stmt}

/-- `fixFit_moved_aux` without the value-level `AddrShift` -/
theorem fixFit_moved_any_aux (h : PW (AddrShiftAny D) as as') (i : Nat) {s : Stmt} (hc : Moved D as s)
    (hfit : RefFitted s) : MovesBy fixFit D as as' i s := by
  rcases hc with ⟨hk, hn, hv, hf⟩ | hc
  · rcases hv with ⟨tg, m, hv⟩ | hv
    · -- a plain label: the address VALUE is copied, `fitWidth` re-renders it
      have hsk : fitSkipped s.row = false := hfit (by rw [hv]; rfl)
      have hf4 : Field4 s := ⟨hsk, hf.resolve_left (by rw [hsk]; simp)⟩
      unfold MovesBy fixFit
      rw [fixOne_address_eq _ _ _ hk hv hn, fixOne_address_eq _ _ _ hk hv hn]
      rcases addrOf_reloc_any h tg with ⟨e1, e2⟩ | ⟨v, v', e1, e2, x, g, m0, g', m0', rfl, rfl, hlt⟩
      · rw [e1, e2]
        exact ⟨rfl, fun t ht => by cases ht⟩
      · rw [e1, e2]
        dsimp only
        have r1 := fitWidth_field4_any hf4 (show x < 65536 by omega) g m0
        have r2 := fitWidth_field4_any hf4 hlt g' m0'
        unfold withAdditional at r1 r2
        rw [r1, r2]
        refine ⟨rfl, fun t ht => ?_⟩
        cases ht
        exact ⟨x, some 4, .extended, rfl, rfl, .inl rfl, hlt⟩
    · exact fixFit_of_fixOne_wide hf (fixOne_moved_expr (h.mono fun _ _ => AddrShiftAny.toI) i hk hn hv)
  · exact fixFit_of_fixOne_wide hc.2.2.2.2.2.2 (fixOne_moved_abs h i hc)

theorem fixFit_moved_any (h : PW (AddrShiftAny D) as as') (i : Nat) {s : Stmt} (hc : Moved D as s)
    (hfit : RefFitted s) : fixFit as' i s = (fixFit as i s).map (Stmt.shiftAdditional D) :=
  (fixFit_moved_any_aux h i hc hfit).1

theorem fixFit_moved_wide_any (h : PW (AddrShiftAny D) as as') (i : Nat) {s t : Stmt} (hc : Moved D as s)
    (hfit : RefFitted s) (ht : fixFit as i s = .ok t) : WideAddr D t.pkg.additional (shiftV D t.pkg.additional) :=
  (fixFit_moved_any_aux h i hc hfit).2 t ht

end moved

/-- `EquRel` at any origin: a LABEL's final values are related at int level (`IntAddr`: the symbol table prints `$F0`
for a value below `$100` and `$01F0` above — a property of the listing format); the other clauses are those of
`EquRel` -/
def EquRelAny (D : Nat) (as : List Stmt) (t : SymTab) (v x x' : Value) : Prop :=
  (v.isAddress = true → IntAddr D x x') ∧
  (EquPlain t v → x' = x) ∧
  (EquLabel (NumExpr D as) t v → x' = shiftV D x) ∧
  (EquLabel (ModExpr D as) t v → x' = shiftVmod D x) ∧
  (EquLabel DiffExpr t v → x' = x) ∧
  (EquLabel (NegExpr as) t v → x' = shiftVneg D x)

theorem EquRel.toAny {D : Nat} {as : List Stmt} {t : SymTab} {v x x' : Value} (h : EquRel D as t v x x')
    (hl : v.isAddress = true → IntAddr D x x') : EquRelAny D as t v x x' :=
  ⟨hl, h.2⟩

theorem symtab_reloc_entry_any {D : Nat} {as as' fs fs' : List Stmt} (hI : PW (AddrShiftI D) as as')
    (hs : PW SameAddr as fs) (hs' : PW SameAddr as' fs') (hsh : PW (AddrShiftAny D) fs fs')
    {t t1 t1' r r' : SymTab} (e : evalSyms fs t t = .ok t1) (e' : evalSyms fs' t t = .ok t1')
    (f : finalSymTab fs t1 = .ok r) (f' : finalSymTab fs' t1' = .ok r')
    {j : Nat} {k : Str} {v : Value} (hj : t[j]? = some (k, v)) :
    ∃ x x', r[j]? = some (k, x) ∧ r'[j]? = some (k, x') ∧ EquRelAny D as t v x x' :=
  symtab_reloc_entry_of (L := IntAddr D) hI hs hs' (hsh.mono fun _ _ r => r.2) e e' f f' hj

def OriginAny (D : Nat) (o o' : Value) : Prop := (o = .none ∧ o' = .none) ∨ IntAddr D o o'

theorem origin_reloc_any {D : Nat} : ∀ (fs fs' : List Stmt) (o o' : Value), OriginAny D o o' →
    PW (fun s s' => s'.row = s.row ∧ IntAddr D s.pkg.address s'.pkg.address) fs fs' →
    OriginAny D (fs.foldl (fun o s => if s.row.isOrigin then s.pkg.address else o) o)
      (fs'.foldl (fun o s => if s.row.isOrigin then s.pkg.address else o) o') :=
  fun fs fs' o o' ho h =>
    PW.foldl_last (Ro := OriginAny D) (fun s => s.row.isOrigin) (fun s => s.row.isOrigin) (·.pkg.address)
      (·.pkg.address) (h.mono fun _ _ r => ⟨by rw [r.1], .inr r.2⟩) ho

end CoCo.Asm
