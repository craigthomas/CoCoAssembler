/-
Lemmas/NoIntHuge.lean — C13: `n` times ` ORG 0`, then `FAR LEAX X-FAR,PCR`, then `X EQU 1,2` ends in a diagnostic, for
every `n` and every file system (`huge_diag_all`).  With `n = 70000`, `FAR` is statement number 70000 > 65535: were that
index ever taken for a number, `fix_addresses` would raise ValueTypeError.
The program cannot be evaluated inside the kernel, and it need not be.  Every run ends in an image or a diagnostic
(`back_diag_of_not_ok`), so it suffices to refute an image; an accepted run has a history for each of its statements
(`Stages.compiled`), and that of statement `n` ends in a `fix_addresses` that reports `X-FAR` as an unresolved expression,
whatever the layout.  Of the lines ` ORG 0` only how they parse and that they define no label is used.  The stages of
statement `n` are evaluated with `n` a variable: the index of `FAR` is carried along and never looked at.
-/
import CoCoVerif.Lemmas.NoIntFix
import CoCoVerif.Lemmas.ParseEval

namespace CoCo.Asm
open CoCo
open CoCo.Gen (InstrRow)

/-- `X - label` with `X` neither a number nor a label -/
def minusLabel (v : Value) : Bool :=
  match v with
  | .expr l (.address _ _) '-' _ true => !l.isAddress && !l.isNumeric
  | _ => false

/-- `calculate_address_offset` reports `X - label` as an unresolved expression (and does not compute
`address(label) − k` with the statement index `k` of the label taken for a constant) -/
theorem fixOne_minusLabel_diag {ss : List Stmt} {k : Nat} {s : Stmt}
    (hk : s.operand.kind = .indexed) (hlr : s.operand.value.isLeftRight = true)
    (hn : s.pkg.needsRes = true) (hadd : minusLabel s.pkg.additional = true) : fixOne ss k s = .diag := by
  have hrel : fixRelTarget ss s = .diag := by
    unfold minusLabel at hadd
    split at hadd
    · rename_i l i m md heq
      simp only [Bool.and_eq_true, Bool.not_eq_true'] at hadd
      rw [fixRelTarget_expr ss s (by rw [Stmt.isIdx, hk]; rfl) heq, addrOffset_expr, addrOperand_other ss l hadd.1 hadd.2]
    · cases hadd
  rw [fixOne_eq_fixPart3 (.of_leftRight (by rw [hk]; nofun) hlr)]
  cases hc : s.pkg.choices.isEmpty with
  | true => rw [fixPart3_abs ss k hn hc, fixPartAbs, hrel]
  | false => rw [fixPart3_pcr ss k hn hc, hrel]

def hugeOrg : Str := " ORG 0\n".toList
def hugeFar : Str := "FAR LEAX X-FAR,PCR\n".toList
def hugeX : Str := "X EQU 1,2\n".toList

def org0 : Stmt := getO (getOut (parseLineG findRowF hugeOrg))
def tail0 : List Stmt := getOut (parseLinesF [hugeFar, hugeX])
def far0 : Stmt := getO tail0[0]?

/-- the label table, and `FAR LEAX X-FAR,PCR` resolved and translated, when `FAR` is statement `n` -/
def hugeTab (n : Nat) : SymTab := getO (buildSymTab tail0 n [])
def farO (n : Nat) : Operand := getR (resolveOperand far0.operand far0.row (hugeTab n))
def farP (n : Nat) : Pkg := getR (translateOperand (farO n) far0.row)

/-- the three lines parse; ` ORG 0` is no INCLUDE and has no label -/
theorem huge_parse :
    (parseLineG findRowF hugeOrg).isOk = true ∧ (getOut (parseLineG findRowF hugeOrg)).isSome = true ∧
      (parseLinesF [hugeFar, hugeX]).isOk = true ∧ tail0[0]?.isSome = true ∧ org0.row.isInclude = false ∧
      org0.label.isEmpty = true ∧ tail0.all (fun s => !s.row.isInclude) = true := by decide +kernel

/-- the stages of statement `n` succeed; the result is an indexed operand that `fix_addresses` has to resolve, with the
offset expression `X - FAR` -/
theorem huge_far (n : Nat) :
    ((buildSymTab tail0 n []).isSome = true ∧ okR (resolveOperand far0.operand far0.row (hugeTab n)) = true ∧
      okR (translateOperand (farO n) far0.row) = true) ∧
    (farO n).kind = .indexed ∧ (farO n).value.isLeftRight = true ∧ (farP n).needsRes = true ∧
      minusLabel (farP n).additional = true := ⟨⟨rfl, rfl, rfl⟩, rfl, rfl, rfl, rfl⟩

/-- C13, regression witness: `calculate_address_offset` reports `X-FAR` as an unresolved expression, so the program
ends in a diagnostic, whatever the host files are and however many lines come before `FAR` -/
theorem huge_diag_all (fs : Files) (n : Nat) : assemble fs (List.replicate n hugeOrg ++ [hugeFar, hugeX]) = .diag := by
  obtain ⟨p1, p2, p3, p4, noInc, noLabel, noIncT⟩ := huge_parse
  obtain ⟨⟨tab, res, trP⟩, indexed, leftRight, needs, shape⟩ := huge_far n
  have org0_spec : parseLine hugeOrg = .ok (some org0) := by
    rw [parseLine_eq, getOut_spec p1, getO_spec p2]; rfl
  have hp : parseLines (List.replicate n hugeOrg ++ [hugeFar, hugeX]) = .ok (List.replicate n org0 ++ tail0) := by
    rw [parseLines_replicate org0_spec, parseLines_eq, getOut_spec p3]; rfl
  have hex := expand_noinclude fs (List.replicate n org0 ++ tail0) (by
    rw [List.all_append, List.all_replicate, noInc, noIncT]; simp)
  rw [assemble_eq_from hp hex]
  refine back_diag_of_not_ok (expand_parsed hp hex) fun a hb => ?_
  -- an accepted run: the history of statement `n`
  obtain ⟨st⟩ := assemble_stages ((assemble_eq_from hp hex).trans hb)
  have e0 : st.ss0 = List.replicate n org0 ++ tail0 := by
    have e := Outcome.ok.inj (hp.symm.trans st.hparse)
    exact (Outcome.ok.inj (hex.symm.trans (e ▸ st.hexpand))).symm
  have et : st.t = hugeTab n := by
    have := st.hsym
    rw [e0, buildSymTab_replicate noLabel, Nat.zero_add, getO_spec tab] at this
    exact (Option.some.inj this).symm
  have h0 : st.ss0[n]? = some far0 := by
    rw [e0, List.getElem?_append_right (by simp), List.length_replicate, Nat.sub_self]
    exact getO_spec p4
  obtain ⟨s, hs, _⟩ := st.keep05.get h0
  obtain ⟨s0, o, p, sz, mx, pb, hint, ad, vf, vw, v, c, _⟩ := st.compiled hs
  obtain rfl : far0 = s0 := Option.some.inj (h0.symm.trans c.h0)
  obtain rfl : farO n = o := Except.ok.inj ((getR_spec res).symm.trans (et ▸ c.hres))
  obtain rfl : farP n = p := Except.ok.inj ((getR_spec trP).symm.trans c.htr)
  -- what `fix_addresses` gets is what `translate` made
  cases c.hfix.symm.trans (fixOne_minusLabel_diag indexed leftRight needs shape)

theorem huge_diag (fs : Files) (n : Nat) (hn : n = 70000) :
    assemble fs (List.replicate n hugeOrg ++ [hugeFar, hugeX]) = .diag := by
  subst hn
  exact huge_diag_all fs 70000

end CoCo.Asm
