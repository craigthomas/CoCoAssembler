/-
Lemmas/TapeParse.lean — the executable strict tape parser `Spec.Tape.parse` agrees with the
declarative specification `Spec.Tape.WellFormed` (`parse_iff`).

Both directions follow the parser: one step is "skip a filler, read a framed block" (`step_sound`,
`skipFiller_frame` + `parseBlock_frame`). Completeness needs no side condition; the byte hypothesis of soundness
cannot be dropped (`parse_sound_needs_bytes`).
-/
import CoCoVerif.Spec.Tape
import CoCoVerif.Lemmas.ListGetD

namespace CoCo.Spec.Tape
open CoCo

theorem dropWhileEq_replicate_append (v : Nat) (n : Nat) (l : Bytes) :
    dropWhileEq v (List.replicate n v ++ l) = dropWhileEq v l := by
  induction n with
  | zero => simp
  | succ n ih => simp [List.replicate_succ, dropWhileEq, ih]

theorem dropWhileEq_cons_ne {v x : Nat} (r : Bytes) (h : x ≠ v) : dropWhileEq v (x :: r) = x :: r := by
  simp [dropWhileEq, h]

@[simp] theorem dropWhileEq_nil (v : Nat) : dropWhileEq v [] = [] := rfl

theorem dropWhileEq_head (v : Nat) (l : Bytes) : (dropWhileEq v l).head? ≠ some v := by
  induction l with
  | nil => simp
  | cons b t ih =>
    simp only [dropWhileEq]
    split
    · exact ih
    · simpa using ‹¬ b = v›

theorem dropWhileEq_of_head {v : Nat} {l : Bytes} (h : l.head? ≠ some v) : dropWhileEq v l = l := by
  cases l with
  | nil => rfl
  | cons b t => exact dropWhileEq_cons_ne t (by simpa using h)

theorem dropWhileEq_decomp (v : Nat) (l : Bytes) : ∃ n, l = List.replicate n v ++ dropWhileEq v l := by
  induction l with
  | nil => exact ⟨0, rfl⟩
  | cons b t ih =>
    simp only [dropWhileEq]
    split
    · rename_i hb
      subst hb
      obtain ⟨n, h⟩ := ih
      exact ⟨n + 1, by rw [List.replicate_succ, List.cons_append, ← h]⟩
    · exact ⟨0, rfl⟩

/-- every input is a gap, a leader and a rest that does not go on with the leader (nor, if there is no leader, with
the gap) -/
theorem filler_decomp (bs : Bytes) :
    ∃ a b t, bs = List.replicate a 0x00 ++ List.replicate b 0x55 ++ t ∧ t.head? ≠ some 0x55 ∧
      (b = 0 → t.head? ≠ some 0x00) := by
  obtain ⟨a, d0⟩ := dropWhileEq_decomp 0x00 bs
  obtain ⟨b, d1⟩ := dropWhileEq_decomp 0x55 (dropWhileEq 0x00 bs)
  refine ⟨a, b, dropWhileEq 0x55 (dropWhileEq 0x00 bs), ?_, dropWhileEq_head _ _, fun hb => ?_⟩
  · rw [List.append_assoc, ← d1]; exact d0
  · subst hb
    rw [List.replicate_zero, List.nil_append] at d1
    rw [← d1]; exact dropWhileEq_head _ _

/-- `skipFiller` on an input cut in this way: the only place where it is unfolded -/
theorem skipFiller_eq (a b : Nat) {t : Bytes} (h55 : t.head? ≠ some 0x55) (h0 : b = 0 → t.head? ≠ some 0x00) :
    skipFiller (List.replicate a 0x00 ++ List.replicate b 0x55 ++ t) =
      if t = [] then none else if b = 0 then some t else some (0x55 :: t) := by
  have h1 : dropWhileEq 0x00 (List.replicate a 0x00 ++ List.replicate b 0x55 ++ t) = List.replicate b 0x55 ++ t := by
    rw [List.append_assoc, dropWhileEq_replicate_append]
    apply dropWhileEq_of_head
    cases b with
    | zero => simpa using h0 rfl
    | succ b => simp [List.replicate_succ]
  have h2 : dropWhileEq 0x55 (List.replicate b 0x55 ++ t) = t := by
    rw [dropWhileEq_replicate_append, dropWhileEq_of_head h55]
  unfold skipFiller
  simp only [h1, h2, List.length_append, List.length_replicate, Nat.add_sub_cancel, List.isEmpty_iff]

theorem skipFiller_filler_append {g : Bytes} (hg : Filler g) (x : Nat) (r : Bytes) (hx : x ≠ 0x55) :
    skipFiller (g ++ 0x55 :: x :: r) = some (0x55 :: x :: r) := by
  obtain ⟨a, b, rfl⟩ := hg
  have := skipFiller_eq a (b + 1) (t := x :: r) (by simpa using hx) (by omega)
  rw [List.replicate_succ'] at this
  simpa [List.append_assoc] using this

theorem skipFiller_filler {g : Bytes} (hg : Filler g) : skipFiller g = none := by
  obtain ⟨a, b, rfl⟩ := hg
  simpa using skipFiller_eq a b (t := []) (by simp) (by simp)

theorem skipFiller_none {bs : Bytes} (h : skipFiller bs = none) : Filler bs := by
  obtain ⟨a, b, t, rfl, h55, h0⟩ := filler_decomp bs
  rw [skipFiller_eq a b h55 h0] at h
  split at h
  · rename_i ht
    exact ⟨a, b, by rw [ht, List.append_nil]⟩
  · split at h <;> cases h

theorem skipFiller_some {bs r : Bytes} (h : skipFiller bs = some (0x55 :: r)) :
    ∃ g, Filler g ∧ bs = g ++ 0x55 :: r := by
  obtain ⟨a, b, t, rfl, h55, h0⟩ := filler_decomp bs
  rw [skipFiller_eq a b h55 h0] at h
  split at h
  · cases h
  · split at h
    · -- no sync byte: the result cannot start with 55
      cases h
      exact absurd rfl h55
    · cases h
      obtain ⟨b, rfl⟩ : ∃ b', b = b' + 1 := ⟨b - 1, by omega⟩
      exact ⟨_, ⟨a, b, rfl⟩, by rw [List.replicate_succ']; simp only [List.append_assoc, List.cons_append, List.nil_append]⟩

theorem frame_eq (ty : Nat) (p rest : Bytes) :
    frame ty p ++ rest = 0x55 :: 0x3C :: ty :: p.length :: (p ++ ((ty + p.length + bsum p) % 256 :: 0x55 :: rest)) := by
  simp [frame]

theorem parseBlock_frame (ty : Nat) (p rest : Bytes) (hp : p.length < 256) (hty : ty < 256) :
    parseBlock (frame ty p ++ rest) = some (ty, p, rest) := by
  rw [frame_eq]
  unfold parseBlock
  have hd : List.drop p.length (p ++ ((ty + p.length + bsum p) % 256 :: 0x55 :: rest))
      = (ty + p.length + bsum p) % 256 :: 0x55 :: rest := by simp
  have hd2 : List.drop (p.length + 2) (p ++ ((ty + p.length + bsum p) % 256 :: 0x55 :: rest)) = rest := by
    rw [← List.drop_drop, hd]; rfl
  have ht : List.take p.length (p ++ ((ty + p.length + bsum p) % 256 :: 0x55 :: rest)) = p := by simp
  simp only [hd, hd2, ht]
  simp [hp, hty]

theorem parseBlock_some {s : Bytes} {ty : Nat} {p rest : Bytes} (h : parseBlock s = some (ty, p, rest)) :
    s = frame ty p ++ rest ∧ p.length < 256 ∧ ty < 256 := by
  unfold parseBlock at h
  split at h
  · rename_i ty' len r
    split at h
    · simp at h
    · rename_i hlen
      simp only [] at h
      split at h
      · rename_i hc
        obtain ⟨hck, htr, hl, hty⟩ := hc
        simp only [Option.some.injEq, Prod.mk.injEq] at h
        obtain ⟨rfl, rfl, rfl⟩ := h
        have hlen' : len + 2 ≤ r.length := by omega
        have hpl : (r.take len).length = len := by simp [List.length_take]; omega
        refine ⟨?_, by omega, hty⟩
        rw [frame_eq, hpl]
        have hr : r = r.take len ++ r.drop len := (List.take_append_drop len r).symm
        have hdl : (r.drop len).length = r.length - len := by simp
        match hd : r.drop len with
        | [] => rw [hd] at hdl; simp at hdl; omega
        | [_] => rw [hd] at hdl; simp at hdl; omega
        | c :: t :: rest' =>
          rw [hd] at hck htr
          simp at hck htr
          have hdd : r.drop (len + 2) = rest' := by
            rw [← List.drop_drop, hd]; rfl
          rw [hdd, ← hck, ← htr, ← hd]
          rw [List.take_append_drop]
      · simp at h
  · simp at h

theorem skipFiller_frame {g : Bytes} (hg : Filler g) (ty : Nat) (p rest : Bytes) :
    skipFiller (g ++ frame ty p ++ rest) = some (frame ty p ++ rest) := by
  rw [List.append_assoc, frame_eq]
  exact skipFiller_filler_append hg _ _ (by decide)

theorem step_sound {bs s : Bytes} {ty : Nat} {p rest : Bytes} (h1 : skipFiller bs = some s)
    (h2 : parseBlock s = some (ty, p, rest)) :
    ∃ g, Filler g ∧ bs = g ++ frame ty p ++ rest ∧ p.length < 256 ∧ ty < 256 := by
  obtain ⟨hs, hp, hty⟩ := parseBlock_some h2
  rw [hs, frame_eq] at h1
  obtain ⟨g, hg, hbs⟩ := skipFiller_some h1
  exact ⟨g, hg, by rw [hbs, List.append_assoc, frame_eq], hp, hty⟩

theorem frame_length (ty : Nat) (p : Bytes) : (frame ty p).length = p.length + 6 := by
  simp [frame]

theorem parseDataF_sound : ∀ (fuel : Nat) (bs acc d rest : Bytes),
    parseDataF fuel bs acc = some (d, rest) →
    ∃ d' db g₂, d = acc ++ d' ∧ DataBlocks d' db ∧ Filler g₂ ∧ bs = db ++ g₂ ++ frame 0xFF [] ++ rest := by
  intro fuel
  induction fuel with
  | zero => intro bs acc d rest h; simp [parseDataF] at h
  | succ fuel ih =>
    intro bs acc d rest h
    rw [parseDataF] at h
    split at h
    · simp at h
    · rename_i s hs
      split at h
      · rename_i ty p rest' hpb
        obtain ⟨g, hg, hbs, hp, hty⟩ := step_sound hs hpb
        split at h
        · rename_i hty1
          subst hty1
          split at h
          · simp at h
          · rename_i hne
            obtain ⟨d', db, g₂, hd, hdb, hg₂, hrest⟩ := ih _ _ _ _ h
            have hpos : 0 < p.length := by
              cases p with
              | nil => simp at hne
              | cons => simp
            refine ⟨p ++ d', g ++ frame 0x01 p ++ db, g₂, by rw [hd, List.append_assoc],
              DataBlocks.cons hpos (by omega) hg hdb, hg₂, ?_⟩
            rw [hbs, hrest]; simp only [List.append_assoc]
        · split at h
          · rename_i htyF
            subst htyF
            split at h
            · rename_i hemp
              have hp0 : p = [] := by simpa using hemp
              subst hp0
              simp only [Option.some.injEq, Prod.mk.injEq] at h
              obtain ⟨rfl, rfl⟩ := h
              exact ⟨[], [], g, by simp, DataBlocks.nil, hg, by rw [hbs]; simp⟩
            · simp at h
          · simp at h
      · simp at h

theorem parseDataF_complete {d db : Bytes} (hdb : DataBlocks d db) :
    ∀ (fuel : Nat) (g₂ acc rest : Bytes), Filler g₂ → db.length < fuel →
      parseDataF fuel (db ++ g₂ ++ frame 0xFF [] ++ rest) acc = some (acc ++ d, rest) := by
  induction hdb with
  | nil =>
    intro fuel g₂ acc rest hg hf
    obtain ⟨fuel, rfl⟩ : ∃ k, fuel = k + 1 := ⟨fuel - 1, by simp at hf; omega⟩
    rw [parseDataF, List.nil_append, skipFiller_frame hg]
    simp only
    rw [parseBlock_frame _ _ _ (by simp) (by decide)]
    simp
  | @cons p d g bs hpos hle hg hdb ih =>
    intro fuel g₂ acc rest hg₂ hf
    obtain ⟨fuel, rfl⟩ : ∃ k, fuel = k + 1 := ⟨fuel - 1, by omega⟩
    have hshape : g ++ frame 0x01 p ++ bs ++ g₂ ++ frame 0xFF [] ++ rest
        = g ++ frame 0x01 p ++ (bs ++ g₂ ++ frame 0xFF [] ++ rest) := by
      simp only [List.append_assoc]
    rw [parseDataF, hshape, skipFiller_frame hg]
    simp only
    rw [parseBlock_frame _ _ _ (by omega) (by decide)]
    have hne : p.isEmpty = false := by
      cases p with
      | nil => simp at hpos
      | cons => rfl
    simp only [hne]
    simp only [if_true, Bool.false_eq_true, if_false]
    rw [ih fuel g₂ (acc ++ p) rest hg₂ (by simp [frame_length] at hf; omega)]
    simp [List.append_assoc]

/-- the record `parseF` builds from a 15-byte payload -/
def recOf (p data : Bytes) : File :=
  { name := p.take 8, ftype := p.getD 8 0, dtype := p.getD 9 0, gap := p.getD 10 0,
    load := p.getD 11 0 * 256 + p.getD 12 0, exec := p.getD 13 0 * 256 + p.getD 14 0, data := data }

/-- needs only the two low address bytes to be bytes -/
theorem namePayload_recOf (p data : Bytes) (h : p.length = 15) (h12 : p.getD 12 0 < 256)
    (h14 : p.getD 14 0 < 256) : namePayload (recOf p data) = p := by
  obtain ⟨a0, a1, a2, a3, a4, a5, a6, a7, a8, a9, a10, a11, a12, a13, a14, rfl⟩ := list15 p h
  simp at h12 h14
  simp only [namePayload, recOf]
  simp
  refine ⟨?_, ?_, ?_, ?_⟩ <;> omega

theorem recOf_namePayload (f : File) (h : f.name.length = 8) : recOf (namePayload f) f.data = f := by
  obtain ⟨name, ftype, dtype, gap, load, exec, data⟩ := f
  simp only at h
  obtain ⟨n0, n1, n2, n3, n4, n5, n6, n7, rfl⟩ := list8 name h
  simp only [namePayload, recOf]
  simp
  refine ⟨?_, ?_⟩ <;> omega

theorem namePayload_length (f : File) (h : f.name.length = 8) : (namePayload f).length = 15 := by
  simp [namePayload, h]

theorem parseF_succ (fuel : Nat) (bs : Bytes) (acc : List File) :
    parseF (fuel + 1) bs acc =
      match skipFiller bs with
      | none => some acc
      | some s =>
        match parseBlock s with
        | some (ty, p, rest) =>
          if ty = 0x00 ∧ p.length = 15 then
            match parseDataF (rest.length + 1) rest [] with
            | some (data, rest') => parseF fuel rest' (acc ++ [recOf p data])
            | none => none
          else none
        | none => none := by
  rw [parseF]; rfl

theorem parseF_sound : ∀ (fuel : Nat) (bs : Bytes) (acc fs : List File), (∀ b ∈ bs, b < 256) →
    parseF fuel bs acc = some fs → ∃ fs', fs = acc ++ fs' ∧ WellFormed fs' bs := by
  intro fuel
  induction fuel with
  | zero => intro bs acc fs _ h; simp [parseF] at h
  | succ fuel ih =>
    intro bs acc fs hb h
    rw [parseF_succ] at h
    split at h
    · rename_i hs
      simp only [Option.some.injEq] at h
      exact ⟨[], by simp [h], WellFormed.nil (skipFiller_none hs)⟩
    · rename_i s hs
      split at h
      · rename_i ty p rest hpb
        obtain ⟨g, hg, hbs, hp, hty⟩ := step_sound hs hpb
        split at h
        · rename_i hc
          obtain ⟨hty0, hp15⟩ := hc
          subst hty0
          split at h
          · rename_i data rest' hpd
            obtain ⟨d', db, g₂, hd, hdb, hg₂, hrest⟩ := parseDataF_sound _ _ _ _ _ hpd
            simp only [List.nil_append] at hd
            subst hd
            have hpb' : ∀ x ∈ p, x < 256 := by
              intro x hx
              apply hb
              rw [hbs]
              simp only [frame, List.mem_append]
              exact Or.inl (Or.inr (Or.inl (Or.inr hx)))
            have h12 : p.getD 12 0 < 256 := hpb' _ (getD_mem _ _ _ (by omega))
            have h14 : p.getD 14 0 < 256 := hpb' _ (getD_mem _ _ _ (by omega))
            have hnp := namePayload_recOf p data hp15 h12 h14
            have hb' : ∀ b ∈ rest', b < 256 := by
              intro x hx
              apply hb
              rw [hbs, hrest]
              simp only [List.mem_append]
              exact Or.inr (Or.inr hx)
            obtain ⟨fs', hfs, hwf⟩ := ih _ _ _ hb' h
            refine ⟨recOf p data :: fs', by rw [hfs]; simp, ?_⟩
            have hstream : FileStream (recOf p data) (g ++ frame 0x00 p ++ db ++ g₂ ++ frame 0xFF []) := by
              refine ⟨by simp [recOf, List.length_take]; omega, g, db, g₂, hg, hdb, hg₂, ?_⟩
              rw [hnp]
            have := WellFormed.cons hstream hwf
            rw [hbs, hrest]
            simpa only [List.append_assoc] using this
          · simp at h
        · simp at h
      · simp at h

theorem parseF_complete {fs : List File} {bs : Bytes} (h : WellFormed fs bs) :
    ∀ (fuel : Nat) (acc : List File), fs.length < fuel → parseF fuel bs acc = some (acc ++ fs) := by
  induction h with
  | nil hg =>
    intro fuel acc hf
    obtain ⟨fuel, rfl⟩ : ∃ k, fuel = k + 1 := ⟨fuel - 1, by simp at hf; omega⟩
    rw [parseF_succ, skipFiller_filler hg]
    simp
  | @cons f fs b bs hfs hwf ih =>
    intro fuel acc hf
    obtain ⟨fuel, rfl⟩ : ∃ k, fuel = k + 1 := ⟨fuel - 1, by simp at hf; omega⟩
    obtain ⟨hname, g₁, db, g₂, hg₁, hdb, hg₂, rfl⟩ := hfs
    have hshape : g₁ ++ frame 0x00 (namePayload f) ++ db ++ g₂ ++ frame 0xFF [] ++ bs
        = g₁ ++ frame 0x00 (namePayload f) ++ (db ++ g₂ ++ frame 0xFF [] ++ bs) := by
      simp only [List.append_assoc]
    have h15 := namePayload_length f hname
    rw [parseF_succ, hshape, skipFiller_frame hg₁]
    simp only
    rw [parseBlock_frame _ _ _ (by omega) (by decide)]
    simp only [h15, and_self, if_true]
    rw [parseDataF_complete hdb _ g₂ [] bs hg₂ (by simp; omega)]
    simp only [List.nil_append]
    rw [recOf_namePayload f hname, ih fuel _ (by simp at hf; omega)]
    simp

theorem wellFormed_length {fs : List File} {bs : Bytes} (h : WellFormed fs bs) : fs.length ≤ bs.length := by
  induction h with
  | nil _ => simp
  | @cons f fs b bs hfs _ ih =>
    obtain ⟨_, g₁, db, g₂, _, _, _, rfl⟩ := hfs
    simp [frame_length]
    omega

/-- soundness: whatever the strict parser accepts is a well-formed tape stream holding exactly
the returned files.  The byte-range hypothesis is needed (see `parse_sound_needs_bytes` below). -/
theorem parse_sound (bs : Bytes) (fs : List File) (hb : ∀ b ∈ bs, b < 256) :
    parse bs = some fs → WellFormed fs bs := by
  intro h
  obtain ⟨fs', hfs, hwf⟩ := parseF_sound _ _ _ _ hb h
  simp only [List.nil_append] at hfs
  rw [hfs]; exact hwf

/-- completeness: no side condition on the files at all (`parse` never range-checks payload bytes, and
`load / 256 * 256 + load % 256 = load` holds for every `load`). -/
theorem parse_complete_strong (fs : List File) (bs : Bytes) : WellFormed fs bs → parse bs = some fs := by
  intro h
  have := parseF_complete h (bs.length + 1) [] (by have := wellFormed_length h; omega)
  simpa [parse] using this

theorem parse_iff (bs : Bytes) (fs : List File) (hb : ∀ b ∈ bs, b < 256) :
    parse bs = some fs ↔ WellFormed fs bs :=
  ⟨parse_sound bs fs hb, parse_complete_strong fs bs⟩

theorem wellFormed_unique {fs fs' : List File} {bs : Bytes} (h : WellFormed fs bs) (h' : WellFormed fs' bs) :
    fs = fs' := by
  have a := parse_complete_strong _ _ h
  have b := parse_complete_strong _ _ h'
  rw [a] at b; exact Option.some.inj b

/-! ### the byte hypothesis of `parse_sound` cannot be dropped

A name-file payload whose low load-address byte is 256 (not a byte) is accepted by `parse` (it never
range-checks payload entries); the record gets `load = 0*256 + 256 = 256`, whose `namePayload` is
`… 1, 0 …`, not `… 0, 256 …`. The proof takes a shorter way: every field of the returned file fits its width,
a well-formed stream of such files consists of bytes (`wellFormed_bytes`), and the tape contains 256. -/

def badTape : Bytes := frame 0x00 [65, 65, 65, 65, 65, 65, 65, 65, 0, 0, 0, 0, 256, 0, 0] ++ frame 0xFF []

def badFiles : List File :=
  [{ name := [65, 65, 65, 65, 65, 65, 65, 65], ftype := 0, dtype := 0, gap := 0, load := 256, exec := 0, data := [] }]

theorem badTape_parse : parse badTape = some badFiles := by decide

/-- info: true -/
#guard_msgs in
#eval decide (parse badTape = some badFiles)

def FileOK (f : File) : Prop :=
  (∀ c ∈ f.name, c < 256) ∧ f.ftype < 256 ∧ f.dtype < 256 ∧ f.gap < 256 ∧
  f.load < 65536 ∧ f.exec < 65536 ∧ (∀ b ∈ f.data, b < 256)

theorem filler_bytes {g : Bytes} (hg : Filler g) : ∀ b ∈ g, b < 256 := by
  obtain ⟨a, b, rfl⟩ := hg
  intro x hx
  simp [List.mem_replicate] at hx
  omega

theorem frame_bytes (ty : Nat) (p : Bytes) (hty : ty < 256) (hl : p.length < 256) (hp : ∀ b ∈ p, b < 256) :
    ∀ b ∈ frame ty p, b < 256 := by
  simp only [frame, List.forall_mem_append, List.forall_mem_cons]
  simp
  exact ⟨⟨⟨hty, hl⟩, hp⟩, Nat.mod_lt _ (by decide)⟩

theorem dataBlocks_bytes {d db : Bytes} (h : DataBlocks d db) : (∀ b ∈ d, b < 256) → ∀ b ∈ db, b < 256 := by
  induction h with
  | nil => intro _ b hb; simp at hb
  | @cons p d g bs hpos hle hg _ ih =>
    intro hd x hx
    simp only [List.mem_append] at hx
    rcases hx with (h | h) | h
    · exact filler_bytes hg x h
    · exact frame_bytes _ _ (by decide) (by omega)
        (fun y hy => hd y (List.mem_append.mpr (Or.inl hy))) x h
    · exact ih (fun y hy => hd y (List.mem_append.mpr (Or.inr hy))) x h

theorem namePayload_bytes (f : File) (hf : FileOK f) : ∀ b ∈ namePayload f, b < 256 := by
  obtain ⟨hn, ht, hdt, hg, hl, he, _⟩ := hf
  simp only [namePayload, List.forall_mem_append, List.forall_mem_cons]
  simp
  exact ⟨hn, ht, hdt, hg, by omega, by omega, by omega, by omega⟩

theorem wellFormed_bytes {fs : List File} {bs : Bytes} (h : WellFormed fs bs) :
    (∀ f ∈ fs, FileOK f) → ∀ b ∈ bs, b < 256 := by
  induction h with
  | nil hg => intro _; exact filler_bytes hg
  | @cons f fs b bs hfs _ ih =>
    intro hok x hx
    obtain ⟨hname, g₁, db, g₂, hg₁, hdb, hg₂, rfl⟩ := hfs
    have hf := hok f List.mem_cons_self
    simp only [List.mem_append] at hx
    rcases hx with ((((h | h) | h) | h) | h) | h
    · exact filler_bytes hg₁ x h
    · exact frame_bytes _ _ (by decide) (by rw [namePayload_length f hname]; decide)
        (namePayload_bytes f hf) x h
    · exact dataBlocks_bytes hdb hf.2.2.2.2.2.2 x h
    · exact filler_bytes hg₂ x h
    · exact frame_bytes _ _ (by decide) (by decide) (by simp) x h
    · exact ih (fun g hg => hok g (List.mem_cons_of_mem _ hg)) x h

theorem parse_sound_needs_bytes :
    ¬ (∀ (bs : Bytes) (fs : List File), parse bs = some fs → WellFormed fs bs) := by
  intro hall
  have hwf := hall _ _ badTape_parse
  have hok : ∀ f ∈ badFiles, FileOK f := by
    intro f hf
    simp only [badFiles, List.mem_cons, List.not_mem_nil, or_false] at hf
    subst hf
    simp [FileOK]
  have := wellFormed_bytes hwf hok 256 (by decide)
  omega

end CoCo.Spec.Tape
