/-
Lemmas/ParseEval.lean — evaluating `assemble` on concrete programs inside the kernel.
`expand` is defined by well-founded recursion and does not reduce; for programs without INCLUDE it is the identity
(`expand_noinclude`), and the rest of the pipeline (`assembleFrom`) is structurally recursive: `checkProgram` with
`checkProgram_sound`.
`findRow` compares the mnemonic of a line with `r.mnemonic.toList` for one row of `Gen.instructions` after the other, and
the kernel has to decode the `String` literal of every row it passes, at every lookup.  Here the mnemonics are written out
as lists of characters; the table is checked against `Gen.instructions` once (`mnemonicTable_eq`: a regenerated
instruction table that differs breaks that theorem), the lookup `findRowF` goes through it, and `parseLinesF` is
`parseLines` with this lookup (`parseLines_eq`).  `checkProgramF` and `diagProgramF` are the two evaluators
on top of it: `checkProgramF_sound (by decide +kernel) fs`, or `evaluated (by decide +kernel)` for
a statement that speaks of several programs.  `getR`, `getO`, `getOut` read the result off a closed computation.
-/
import CoCoVerif.Lemmas.FrontInclude

namespace CoCo.Asm
open CoCo
open CoCo.Gen (InstrRow)

/-! ### `assemble` without INCLUDE is `assembleFrom` -/

theorem expand_noinclude (fs : Files) (ss : List Stmt) (h : ss.all (fun s => !s.row.isInclude) = true) :
    expand fs (includeFuel fs) [] ss = .ok ss :=
  expand_includeFuel_plain fs ss (by simpa using h)

/-- run a check on the result of assembling an INCLUDE-free program -/
def checkProgram (lines : List Str) (check : Assembly → Bool) : Bool :=
  match parseLines lines with
  | .ok p => p.all (fun s => !s.row.isInclude) &&
      (match assembleFrom p with | .ok a => check a | _ => false)
  | _ => false

theorem checkProgram_sound {lines : List Str} {check : Assembly → Bool} (h : checkProgram lines check = true)
    (fs : Files) : ∃ a, assemble fs lines = .ok a ∧ check a = true := by
  unfold checkProgram at h
  split at h
  · rename_i p hp
    simp only [Bool.and_eq_true] at h
    obtain ⟨h1, h2⟩ := h
    split at h2
    · rename_i a ha
      exact ⟨a, by rw [assemble_eq_from hp (expand_noinclude fs p h1), ha], h2⟩
    · cases h2
  · cases h

/-- the mnemonics of `Gen.instructions`, in the order of the table -/
def mnemonicTable : List Str := [
  ['A', 'B', 'X'], ['A', 'D', 'C', 'A'], ['A', 'D', 'C', 'B'], ['A', 'D', 'D', 'A'], ['A', 'D', 'D', 'B'],
  ['A', 'D', 'D', 'D'], ['A', 'N', 'D', 'A'], ['A', 'N', 'D', 'B'], ['A', 'N', 'D', 'C', 'C'], ['A', 'S', 'L', 'A'],
  ['A', 'S', 'L', 'B'], ['A', 'S', 'L'], ['A', 'S', 'R', 'A'], ['A', 'S', 'R', 'B'], ['A', 'S', 'R'],
  ['B', 'I', 'T', 'A'], ['B', 'I', 'T', 'B'], ['C', 'L', 'R', 'A'], ['C', 'L', 'R', 'B'], ['C', 'L', 'R'],
  ['C', 'M', 'P', 'A'], ['C', 'M', 'P', 'B'], ['C', 'M', 'P', 'X'], ['C', 'O', 'M', 'A'], ['C', 'O', 'M', 'B'],
  ['C', 'O', 'M'], ['C', 'W', 'A', 'I'], ['D', 'A', 'A'], ['D', 'E', 'C', 'A'], ['D', 'E', 'C', 'B'],
  ['D', 'E', 'C'], ['E', 'O', 'R', 'A'], ['E', 'O', 'R', 'B'], ['E', 'X', 'G'], ['I', 'N', 'C', 'A'],
  ['I', 'N', 'C', 'B'], ['I', 'N', 'C'], ['J', 'M', 'P'], ['J', 'S', 'R'], ['L', 'D', 'A'], ['L', 'D', 'B'],
  ['L', 'D', 'D'], ['L', 'D', 'U'], ['L', 'D', 'X'], ['L', 'E', 'A', 'S'], ['L', 'E', 'A', 'U'],
  ['L', 'E', 'A', 'X'], ['L', 'E', 'A', 'Y'], ['L', 'S', 'L', 'A'], ['L', 'S', 'L', 'B'], ['L', 'S', 'L'],
  ['L', 'S', 'R', 'A'], ['L', 'S', 'R', 'B'], ['L', 'S', 'R'], ['M', 'U', 'L'], ['N', 'E', 'G', 'A'],
  ['N', 'E', 'G', 'B'], ['N', 'E', 'G'], ['N', 'O', 'P'], ['O', 'R', 'A'], ['O', 'R', 'B'], ['O', 'R', 'C', 'C'],
  ['P', 'S', 'H', 'S'], ['P', 'S', 'H', 'U'], ['P', 'U', 'L', 'S'], ['P', 'U', 'L', 'U'], ['R', 'O', 'L', 'A'],
  ['R', 'O', 'L', 'B'], ['R', 'O', 'L'], ['R', 'O', 'R', 'A'], ['R', 'O', 'R', 'B'], ['R', 'O', 'R'],
  ['R', 'T', 'I'], ['R', 'T', 'S'], ['S', 'B', 'C', 'A'], ['S', 'B', 'C', 'B'], ['S', 'E', 'X'], ['S', 'T', 'A'],
  ['S', 'T', 'B'], ['S', 'T', 'D'], ['S', 'T', 'U'], ['S', 'T', 'X'], ['S', 'U', 'B', 'A'], ['S', 'U', 'B', 'B'],
  ['S', 'U', 'B', 'D'], ['S', 'W', 'I'], ['S', 'Y', 'N', 'C'], ['T', 'F', 'R'], ['T', 'S', 'T', 'A'],
  ['T', 'S', 'T', 'B'], ['T', 'S', 'T'], ['C', 'M', 'P', 'D'], ['C', 'M', 'P', 'S'], ['C', 'M', 'P', 'U'],
  ['L', 'D', 'S'], ['C', 'M', 'P', 'Y'], ['L', 'D', 'Y'], ['S', 'T', 'S'], ['S', 'T', 'Y'], ['S', 'W', 'I', '2'],
  ['S', 'W', 'I', '3'], ['B', 'C', 'C'], ['B', 'C', 'S'], ['B', 'E', 'Q'], ['B', 'G', 'E'], ['B', 'G', 'T'],
  ['B', 'H', 'I'], ['B', 'H', 'S'], ['B', 'L', 'E'], ['B', 'L', 'O'], ['B', 'L', 'S'], ['B', 'L', 'T'],
  ['B', 'M', 'I'], ['B', 'N', 'E'], ['B', 'P', 'L'], ['B', 'R', 'A'], ['B', 'R', 'N'], ['B', 'S', 'R'],
  ['B', 'V', 'C'], ['B', 'V', 'S'], ['L', 'B', 'C', 'C'], ['L', 'B', 'C', 'S'], ['L', 'B', 'E', 'Q'],
  ['L', 'B', 'G', 'E'], ['L', 'B', 'G', 'T'], ['L', 'B', 'H', 'I'], ['L', 'B', 'H', 'S'], ['L', 'B', 'L', 'E'],
  ['L', 'B', 'L', 'O'], ['L', 'B', 'L', 'S'], ['L', 'B', 'L', 'T'], ['L', 'B', 'M', 'I'], ['L', 'B', 'N', 'E'],
  ['L', 'B', 'P', 'L'], ['L', 'B', 'R', 'A'], ['L', 'B', 'R', 'N'], ['L', 'B', 'S', 'R'], ['L', 'B', 'V', 'C'],
  ['L', 'B', 'V', 'S'], ['E', 'N', 'D'], ['O', 'R', 'G'], ['E', 'Q', 'U'], ['S', 'E', 'T'], ['R', 'M', 'B'],
  ['F', 'C', 'B'], ['F', 'D', 'B'], ['F', 'C', 'C'], ['S', 'E', 'T', 'D', 'P'], ['I', 'N', 'C', 'L', 'U', 'D', 'E'],
  ['N', 'A', 'M']]

theorem mnemonicTable_eq : Gen.instructions.map (·.mnemonic.toList) = mnemonicTable := by decide +kernel

def findRowF (mn : Str) : Option InstrRow :=
  ((mnemonicTable.zip Gen.instructions).find? (·.1 == mn)).map (·.2)

theorem findRow_eq : findRow = findRowF := by
  funext mn
  unfold findRow findRowF
  rw [← mnemonicTable_eq]
  exact find?_key_eq_zip _ mn _

/-- `parseLine` (in the form of `parseLine_scan`), the lookup of the mnemonic a parameter -/
def parseLineG (find : Str → Option InstrRow) (line : Str) : Outcome (Option Stmt) :=
  match scanLine line with
  | .blank | .comment => .ok none
  | .bad => .diag
  | .asm label mn0 ops cmt => parseAsm find line label mn0 ops cmt

theorem parseLine_eq (line : Str) : parseLine line = parseLineG findRowF line :=
  findRow_eq ▸ (parseLine_scan line : parseLine line = parseLineG findRow line)

def parseLinesF : List Str → Outcome (List Stmt)
  | [] => .ok []
  | l :: ls =>
    match parseLineG findRowF l with
    | .ok none => parseLinesF ls
    | .ok (some s) => (match parseLinesF ls with | .ok r => .ok (s :: r) | o => o)
    | .diag => .diag
    | .internal => .internal
    | .diverged => .diverged

theorem parseLines_eq : ∀ ls, parseLines ls = parseLinesF ls
  | [] => rfl
  | l :: ls => by
    rw [parseLines, parseLinesF, parseLine_eq, parseLines_eq ls]
    rfl

/-- `checkProgram` on the fast parser -/
def checkProgramF (lines : List Str) (check : Assembly → Bool) : Bool :=
  match parseLinesF lines with
  | .ok p => p.all (fun s => !s.row.isInclude) &&
      (match assembleFrom p with | .ok a => check a | _ => false)
  | _ => false

theorem checkProgram_fast {lines : List Str} {check : Assembly → Bool} (h : checkProgramF lines check = true) :
    checkProgram lines check = true := by
  unfold checkProgram
  rw [parseLines_eq]
  exact h

theorem checkProgramF_sound {lines : List Str} {check : Assembly → Bool} (h : checkProgramF lines check = true)
    (fs : Files) : ∃ a, assemble fs lines = .ok a ∧ check a = true :=
  checkProgram_sound (checkProgram_fast h) fs

/-- the usual check: some function of the assembly (its image, its symbol table listing) has a given value -/
theorem checkProgramF_eq {α} [BEq α] [LawfulBEq α] {lines : List Str} {f : Assembly → α} {v : α}
    (h : checkProgramF lines (fun a => f a == v) = true) (fs : Files) : ∃ a, assemble fs lines = .ok a ∧ f a = v :=
  (checkProgramF_sound h fs).imp fun _ ha => ⟨ha.1, eq_of_beq ha.2⟩

/-- the source parses, and no line is an INCLUDE: the part of `checkProgramF` that does not assemble -/
def frontOKF (lines : List Str) : Bool :=
  match parseLinesF lines with
  | .ok p => p.all (fun s => !s.row.isInclude)
  | _ => false

theorem frontOKF_plain {lines : List Str} (h : frontOKF lines = true) :
    ∃ p, parseLines lines = .ok p ∧ ∀ s ∈ p, s.row.isInclude = false := by
  unfold frontOKF at h
  rw [← parseLines_eq] at h
  split at h
  · rename_i p hp
    exact ⟨p, hp, by simpa using h⟩
  · cases h

/-- such a source is assembled from its parsed form, whatever the files -/
theorem frontOKF_sound {lines : List Str} (h : frontOKF lines = true) :
    ∃ p, parseLines lines = .ok p ∧ ∀ fs, assemble fs lines = assembleFrom p := by
  obtain ⟨p, hp, hn⟩ := frontOKF_plain h
  exact ⟨p, hp, fun fs => assemble_eq_from hp
    (expand_noinclude fs p (List.all_eq_true.mpr fun s hs => by simp [hn s hs]))⟩

theorem checkProgramF_front {lines : List Str} {check : Assembly → Bool} (h : checkProgramF lines check = true) :
    frontOKF lines = true := by
  unfold checkProgramF at h
  unfold frontOKF
  split at h
  · exact (Bool.and_eq_true_iff.mp h).1
  · cases h

/-- an INCLUDE-free program is rejected with a diagnostic by a stage after the parser -/
def diagProgramF (lines : List Str) : Bool :=
  match parseLinesF lines with
  | .ok p => p.all (fun s => !s.row.isInclude) &&
      (match assembleFrom p with | .diag => true | _ => false)
  | _ => false

theorem diagProgramF_sound {lines : List Str} (h : diagProgramF lines = true) (fs : Files) :
    assemble fs lines = .diag := by
  unfold diagProgramF at h
  rw [← parseLines_eq] at h
  split at h
  · rename_i p hp
    simp only [Bool.and_eq_true] at h
    obtain ⟨h1, h2⟩ := h
    split at h2
    · rename_i ha
      rw [assemble_eq_from hp (expand_noinclude fs p h1), ha]
    · cases h2
  · cases h

/-- an INCLUDE-free program is rejected with a diagnostic, by the parser or by a later stage -/
def rejectedF (lines : List Str) : Bool :=
  match parseLinesF lines with
  | .diag => true
  | _ => diagProgramF lines

theorem rejectedF_sound {lines : List Str} (h : rejectedF lines = true) (fs : Files) : assemble fs lines = .diag := by
  unfold rejectedF at h
  split at h
  · rename_i hp
    rw [← parseLines_eq] at hp
    exact front_diag (front_of_parse_diag hp)
  · exact diagProgramF_sound h fs

def getR {α} [Inhabited α] : R α → α | .ok a => a | .error _ => default
def okR {α} : R α → Bool | .ok _ => true | .error _ => false
theorem getR_spec {α} [Inhabited α] {x : R α} (h : okR x = true) : x = .ok (getR x) := by
  cases x <;> first | rfl | cases h
def getO {α} [Inhabited α] : Option α → α | some a => a | none => default
theorem getO_spec {α} [Inhabited α] {x : Option α} (h : x.isSome = true) : x = some (getO x) := by
  cases x <;> first | rfl | cases h
def getOut {α} [Inhabited α] : Outcome α → α | .ok a => a | _ => default
theorem getOut_spec {α} [Inhabited α] {x : Outcome α} (h : x.isOk = true) : x = .ok (getOut x) := by
  cases x <;> first | rfl | cases h

/-! ### several programs in one evaluation

A statement about concrete programs (`Evaluable`) carries the test that establishes it; the test of a conjunction is the
conjunction of the tests, so `evaluated (by decide +kernel)` proves a conjunction of such statements in a single
evaluation, in which the kernel computes what the programs have in common once. -/

class Evaluable (P : Prop) (test : outParam Bool) : Prop where
  sound : test = true → P

theorem evaluated {P : Prop} {test : Bool} [e : Evaluable P test] (h : test = true) : P := e.sound h

instance {fs : Files} {lines : List Str} : Evaluable (assemble fs lines = .diag) (rejectedF lines) :=
  ⟨(rejectedF_sound · fs)⟩

/-- the priority is below that of the instances for particular equations (`assemble fs lines = .diag`, statements about
`stage4`, ..) -/
instance (priority := mid) {α} [BEq α] [LawfulBEq α] {x v : α} : Evaluable (x = v) (x == v) := ⟨eq_of_beq⟩

instance {fs : Files} {lines : List Str} {P : Assembly → Prop} {p : Assembly → Bool} [h : ∀ a, Evaluable (P a) (p a)] :
    Evaluable (∃ a, assemble fs lines = .ok a ∧ P a) (checkProgramF lines p) :=
  ⟨fun e => (checkProgramF_sound e fs).imp fun a ha => ⟨ha.1, (h a).sound ha.2⟩⟩

instance (priority := low) {P : Prop} [Decidable P] : Evaluable P (decide P) := ⟨of_decide_eq_true⟩

instance {P Q : Prop} {p q : Bool} [hp : Evaluable P p] [hq : Evaluable Q q] : Evaluable (P ∧ Q) (p && q) :=
  ⟨fun h => ⟨hp.sound (Bool.and_eq_true_iff.1 h).1, hq.sound (Bool.and_eq_true_iff.1 h).2⟩⟩

end CoCo.Asm
