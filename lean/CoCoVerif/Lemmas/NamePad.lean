/-
Lemmas/NamePad.lean — file names as the two containers store them: `Cas.padName` (8 characters, blank padded) and
`Dsk.padUpper` (width `n`, blank padded, then `padCh` on every character: upper case, NUL to blank). Padding to a
width is idempotent; the disk listing drops the blanks again, so for names without blanks or NULs (`NoSpace`) the
listed name pads back to the stored one.
-/
import CoCoVerif.Model.Disk

namespace CoCo

theorem Cas.padName_length (n : List Nat) : (padName n).length = 8 := by
  unfold padName; simp [List.length_take]; omega

theorem Cas.mem_padName {n : List Nat} {c : Nat} (h : c ∈ padName n) : c ∈ n ∨ c = 0x20 := by
  rcases List.mem_append.mp h with h | h
  · exact Or.inl (List.mem_of_mem_take h)
  · exact Or.inr (List.eq_of_mem_replicate h)

theorem VF.padName_of_length (m : List Nat) (h : m.length = 8) : Cas.padName m = m := by
  unfold Cas.padName
  rw [List.take_of_length_le (by omega), h]; simp

theorem VF.padName_padName (n : List Nat) : Cas.padName (Cas.padName n) = Cas.padName n :=
  padName_of_length _ (Cas.padName_length n)

theorem Dsk.upper_le (c : Nat) : upper c ≤ c := by unfold upper; split <;> omega

/-- the character map inside `padUpper` -/
def VF.padCh (c : Nat) : Nat := if Dsk.upper c = 0 then 0x20 else Dsk.upper c

theorem VF.padUpper_eq (n : Nat) (s : List Nat) :
    Dsk.padUpper n s = ((s.take n) ++ List.replicate (n - s.length) 0x20).map padCh := rfl

theorem VF.padCh_idem (c : Nat) : padCh (padCh c) = padCh c := by
  unfold padCh Dsk.upper
  repeat' split
  all_goals omega

theorem VF.padCh_space : padCh 0x20 = 0x20 := by decide

theorem VF.padCh_ne_space (c : Nat) (h1 : c ≠ 0x20) (h2 : c ≠ 0) : padCh c ≠ 0x20 := by
  unfold padCh Dsk.upper
  repeat' split
  all_goals omega

theorem VF.padCh_ne_zero (c : Nat) : padCh c ≠ 0 := by
  unfold padCh
  split <;> omega

theorem VF.padCh_lt {c : Nat} (h : c < 128) : padCh c < 128 := by
  have := Dsk.upper_le c
  unfold padCh
  split <;> omega

theorem Dsk.padUpper_length (n : Nat) (s : List Nat) : (padUpper n s).length = n := by
  unfold padUpper; simp [List.length_take]; omega

theorem Dsk.padUpper_mem (n : Nat) (s : List Nat) (hs : ∀ c ∈ s, c < 128) :
    ∀ y ∈ padUpper n s, 0 < y ∧ y < 128 := by
  intro y hy
  rw [VF.padUpper_eq, List.mem_map] at hy
  obtain ⟨c, hc, rfl⟩ := hy
  refine ⟨Nat.pos_of_ne_zero (VF.padCh_ne_zero c), VF.padCh_lt ?_⟩
  rcases List.mem_append.mp hc with h | h
  · exact hs c (List.mem_of_mem_take h)
  · rw [List.eq_of_mem_replicate h]; decide

theorem VF.padUpper_of_length (n : Nat) (s : List Nat) (h : s.length = n) : Dsk.padUpper n s = s.map padCh := by
  rw [padUpper_eq, List.take_of_length_le (by omega), h]; simp

theorem VF.padUpper_padUpper (n : Nat) (s : List Nat) : Dsk.padUpper n (Dsk.padUpper n s) = Dsk.padUpper n s := by
  rw [padUpper_of_length n _ (Dsk.padUpper_length n s), padUpper_eq, List.map_map]
  apply List.map_congr_left
  intro c _
  exact padCh_idem c

theorem VF.padUpper8_padName (n : List Nat) : Dsk.padUpper 8 (Cas.padName n) = Dsk.padUpper 8 n := by
  rw [padUpper_of_length 8 _ (Cas.padName_length n)]
  rfl

def VF.NoSpace (f : CFile) : Prop := ∀ c ∈ f.name, c ≠ 0x20 ∧ c ≠ 0

theorem VF.filter_padUpper (n : Nat) (s : List Nat) (h : ∀ c ∈ s, c ≠ 0x20 ∧ c ≠ 0) :
    (Dsk.padUpper n s).filter (· != 0x20) = (s.take n).map padCh := by
  rw [padUpper_eq, List.map_append, List.filter_append]
  have h1 : ((s.take n).map padCh).filter (· != 0x20) = (s.take n).map padCh := by
    rw [List.filter_eq_self]
    intro x hx
    obtain ⟨c, hc, rfl⟩ := List.mem_map.mp hx
    have := h c (List.mem_of_mem_take hc)
    simpa using padCh_ne_space c this.1 this.2
  have h2 : ((List.replicate (n - s.length) 0x20).map padCh).filter (· != 0x20) = [] := by
    rw [List.filter_eq_nil_iff]
    intro x hx
    obtain ⟨c, hc, rfl⟩ := List.mem_map.mp hx
    have := (List.mem_replicate.mp hc).2
    subst this
    simp [padCh_space]
  rw [h1, h2, List.append_nil]

theorem VF.padUpper_norm_name (n : Nat) (s : List Nat) (h : ∀ c ∈ s, c ≠ 0x20 ∧ c ≠ 0) :
    Dsk.padUpper n ((Dsk.padUpper n s).filter (· != 0x20)) = Dsk.padUpper n s := by
  rw [filter_padUpper n s h]
  rw [padUpper_eq, padUpper_eq, List.map_append, List.map_append, ← List.map_take, List.take_take,
    Nat.min_self, List.map_map, List.length_map, List.length_take]
  congr 1
  · apply List.map_congr_left
    intro c _
    exact padCh_idem c
  · congr 2
    omega

theorem VF.dskNorm_noSpace (f : CFile) : NoSpace (Dsk.norm f) := by
  intro c hc
  simp only [Dsk.norm, List.mem_filter, bne_iff_ne, ne_eq] at hc
  refine ⟨hc.2, ?_⟩
  have := hc.1
  rw [padUpper_eq, List.mem_map] at this
  obtain ⟨x, _, rfl⟩ := this
  exact padCh_ne_zero x

end CoCo
