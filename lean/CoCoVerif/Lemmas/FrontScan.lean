/-
Lemmas/FrontScan.lean — the canonical-form lemma of the line scanner `scanLine` (`scanLine_canonical`)
and what `parseLine` makes of a scanned line.  `scanLine` is a chain of `takeWhile` / `dropWhile`; `Stops p l` ("`l` is
empty or begins with a character outside `p`", Lemmas/ListPass.lean) is what each link needs to know of the rest of the line.
`parseLine` is the scanner followed by `parseAsm`: the row of the mnemonic, operand text and comment (`lineField`),
`createOperand` (`parseLine_scan`); `parseLine_eq_some` says which statements that gives, and every fact about a parsed
line is read off it.
-/
import CoCoVerif.Model.Program
import CoCoVerif.Lemmas.ListPass

namespace CoCo.Asm
open CoCo

theorem isSpace_cases {x : Char} (h : isSpace x = true) :
    x = ' ' ∨ x = '\t' ∨ x = '\n' ∨ x = '\r' ∨ x = '\x0b' ∨ x = '\x0c' := by
  simpa [isSpace, or_assoc] using h

theorem not_word_of_space {x : Char} (h : isSpace x = true) : isWord x = false := by
  rcases isSpace_cases h with rfl | rfl | rfl | rfl | rfl | rfl <;> decide +kernel
theorem not_label_of_space {x : Char} (h : isSpace x = true) : isLabelCh x = false := by
  rcases isSpace_cases h with rfl | rfl | rfl | rfl | rfl | rfl <;> decide +kernel
theorem not_operand_of_space {x : Char} (h : isSpace x = true) : isOperandCh x = false := by
  rcases isSpace_cases h with rfl | rfl | rfl | rfl | rfl | rfl <;> decide +kernel
theorem not_semi_of_space {x : Char} (h : isSpace x = true) : (x == ';') = false := by
  rcases isSpace_cases h with rfl | rfl | rfl | rfl | rfl | rfl <;> decide +kernel

theorem not_space_of {p : Char → Bool} (hp : ∀ {x}, isSpace x = true → p x = false) {x : Char} (h : p x = true) :
    isSpace x = false := by
  cases hs : isSpace x with
  | false => rfl
  | true => rw [hp hs] at h; cases h
theorem not_space_of_word {x : Char} (h : isWord x = true) : isSpace x = false := not_space_of not_word_of_space h
theorem not_space_of_label {x : Char} (h : isLabelCh x = true) : isSpace x = false := not_space_of not_label_of_space h
theorem not_space_of_operand {x : Char} (h : isOperandCh x = true) : isSpace x = false :=
  not_space_of not_operand_of_space h
theorem label_of_word {x : Char} (h : isWord x = true) : isLabelCh x = true := by
  simp [isLabelCh, h]
theorem not_semi_of_label {x : Char} (h : isLabelCh x = true) : (x == ';') = false := by
  cases hs : x == ';' with
  | false => rfl
  | true => rw [beq_iff_eq.mp hs] at h; revert h; decide
theorem not_semi_of_word {x : Char} (h : isWord x = true) : (x == ';') = false :=
  not_semi_of_label (label_of_word h)
theorem not_operand_semi : isOperandCh ';' = false := by decide +kernel
theorem not_operand_nl : isOperandCh '\n' = false := by decide +kernel
theorem isSpace_nl : isSpace '\n' = true := by decide +kernel

/-- a comment text: no newline, and it starts neither with white space nor with a semicolon -/
def CommentText (c : Str) : Prop :=
  (∀ x ∈ c, x ≠ '\n') ∧ (∀ x ∈ c.head?, isSpace x = false ∧ (x == ';') = false)

theorem dotStarEnd_comment {c : Str} (hc : ∀ x ∈ c, x ≠ '\n') : dotStarEnd (c ++ ['\n']) = some c := by
  have hn : ¬ '\n' ∈ c := fun h => hc _ h rfl
  simp [dotStarEnd, hn]

theorem dotStarEnd_nil : dotStarEnd [] = some [] := by simp [dotStarEnd]

/-- what is left after the operand field, white space and semicolons removed, is the comment -/
theorem tail_comment {semis c : Str} (hs : ∀ x ∈ semis, (x == ';') = true) (hc : CommentText c) :
    dotStarEnd (((semis ++ c ++ ['\n']).dropWhile isSpace).dropWhile (· == ';')) = some c := by
  obtain ⟨hnl, hhd⟩ := hc
  cases semis with
  | nil =>
    cases c with
    | nil => simp [List.dropWhile, isSpace_nl, dotStarEnd_nil]
    | cons x xs =>
      have hx := hhd x (by simp)
      rw [List.nil_append, List.cons_append, List.dropWhile_cons_of_neg (by simp [hx.1]),
        List.dropWhile_cons_of_neg (by simp [hx.2])]
      exact dotStarEnd_comment hnl
  | cons s ss =>
    have h1 : (s == ';') = true := hs s (by simp)
    have hsp : isSpace s = false := by rw [beq_iff_eq.mp h1]; decide
    rw [List.append_assoc, List.cons_append, List.dropWhile_cons_of_neg (by simp [hsp]),
      ← List.cons_append]
    have hst : Stops (· == ';') (c ++ ['\n']) := by
      cases c with
      | nil => exact stops_cons (by decide)
      | cons x xs => exact stops_cons (hhd x (by simp)).2
    rw [dropWhile_all_stops hs hst]
    exact dotStarEnd_comment hnl

/-- the same tail does not start with an operand character when the separation condition holds -/
theorem tail_stops_operand {semis c : Str} (hs : ∀ x ∈ semis, (x == ';') = true)
    (h : semis ≠ [] ∨ ∀ x ∈ c.head?, isOperandCh x = false) :
    Stops isOperandCh (semis ++ c ++ ['\n']) := by
  cases semis with
  | nil =>
    cases c with
    | nil => exact stops_cons not_operand_nl
    | cons x xs =>
      rcases h with h | h
      · exact absurd rfl h
      · exact stops_cons (h x (by simp))
  | cons s ss =>
    have h1 : (s == ';') = true := hs s (by simp)
    exact stops_cons (by rw [beq_iff_eq.mp h1]; exact not_operand_semi)

/-- dropping white space in front of the tail changes it only when the tail is the bare newline -/
theorem tail_dropSpace {semis c : Str} (hs : ∀ x ∈ semis, (x == ';') = true) (hc : CommentText c) :
    (semis ++ c ++ ['\n']).dropWhile isSpace = semis ++ c ++ ['\n'] ∨
    (semis ++ c ++ ['\n']).dropWhile isSpace = [] := by
  cases semis with
  | nil =>
    cases c with
    | nil => right; simp [List.dropWhile, isSpace_nl]
    | cons x xs =>
      left
      have hx := hc.2 x (by simp)
      exact List.dropWhile_cons_of_neg (by simp [hx.1])
  | cons s ss =>
    left
    have h1 : (s == ';') = true := hs s (by simp)
    have hsp : isSpace s = false := by rw [beq_iff_eq.mp h1]; decide
    exact List.dropWhile_cons_of_neg (by simp [hsp])

theorem tail_dropSpace_stops_operand {semis c : Str} (hs : ∀ x ∈ semis, (x == ';') = true)
    (hc : CommentText c) (h : semis ≠ [] ∨ ∀ x ∈ c.head?, isOperandCh x = false) :
    Stops isOperandCh ((semis ++ c ++ ['\n']).dropWhile isSpace) := by
  rcases tail_dropSpace hs hc with e | e <;> rw [e]
  · exact tail_stops_operand hs h
  · exact stops_nil _

/-- `scanLine` read as a sequence of takeWhile / dropWhile facts -/
theorem scanLine_asm_of {line lab r1 r2 mn r3 r4 ops r5 c : Str}
    (h1 : line.all isSpace = false) (h2 : ((line.dropWhile isSpace).head? == some ';') = false)
    (h3 : line.takeWhile isLabelCh = lab) (h4 : line.dropWhile isLabelCh = r1)
    (h5 : (r1.takeWhile isSpace).isEmpty = false) (h6 : r1.dropWhile isSpace = r2)
    (h7 : r2.takeWhile isWord = mn) (h8 : mn.isEmpty = false) (h9 : r2.dropWhile isWord = r3)
    (h10 : (r3.takeWhile isSpace).isEmpty = false) (h11 : r3.dropWhile isSpace = r4)
    (h12 : r4.takeWhile isOperandCh = ops) (h13 : r4.dropWhile isOperandCh = r5)
    (h14 : dotStarEnd ((r5.dropWhile isSpace).dropWhile (· == ';')) = some c) :
    scanLine line = .asm lab mn ops c := by
  unfold scanLine
  simp only [h1, h2, h3, h4, h5, h6, h7, h8, h9, h10, h11, h12, h13, h14]
  simp

theorem head_ne_semi_of_stops {t : Str} (h : Stops (· == ';') t) : (t.head? == some ';') = false := by
  cases t with
  | nil => rfl
  | cons x xs =>
    have : (x == ';') = false := h x (by simp)
    have hx : x ≠ ';' := by simpa using this
    simp [hx]

/-- The canonical-form lemma: label, white space, mnemonic, white space, operand field, white space,
semicolons, comment, newline.  `hsep` is the exact condition under which the comment is not swallowed
by the operand field: some semicolon, or a nonempty operand field followed by white space, or the
comment does not begin with an operand character (in particular: no comment). -/
theorem scanLine_canonical {lab w1 mn w2 ops w3 semis c : Str}
    (hlab : ∀ x ∈ lab, isLabelCh x = true)
    (hmn0 : mn ≠ []) (hmn : ∀ x ∈ mn, isWord x = true)
    (hops : ∀ x ∈ ops, isOperandCh x = true)
    (hw10 : w1 ≠ []) (hw1 : ∀ x ∈ w1, isSpace x = true)
    (hw20 : w2 ≠ []) (hw2 : ∀ x ∈ w2, isSpace x = true)
    (hw3 : ∀ x ∈ w3, isSpace x = true)
    (hs : ∀ x ∈ semis, (x == ';') = true) (hc : CommentText c)
    (hsep : semis ≠ [] ∨ (ops ≠ [] ∧ w3 ≠ []) ∨ ∀ x ∈ c.head?, isOperandCh x = false) :
    scanLine (lab ++ w1 ++ mn ++ w2 ++ ops ++ w3 ++ semis ++ c ++ ['\n']) = .asm lab mn ops c := by
  have e : lab ++ w1 ++ mn ++ w2 ++ ops ++ w3 ++ semis ++ c ++ ['\n'] =
      lab ++ (w1 ++ (mn ++ (w2 ++ (ops ++ (w3 ++ (semis ++ c ++ ['\n'])))))) := by
    simp [List.append_assoc]
  rw [e]
  generalize hT : semis ++ c ++ ['\n'] = T
  have hT1 := hT ▸ tail_comment hs hc
  have sW1 : ∀ r, Stops isLabelCh (w1 ++ r) := fun r => stops_of_all hw10 hw1 (fun _ => not_label_of_space)
  have sMn : ∀ r, Stops isSpace (mn ++ r) := fun r => stops_of_all hmn0 hmn (fun _ => not_space_of_word)
  have sW2 : ∀ r, Stops isWord (w2 ++ r) := fun r => stops_of_all hw20 hw2 (fun _ => not_word_of_space)
  have h1 : (lab ++ (w1 ++ (mn ++ (w2 ++ (ops ++ (w3 ++ T)))))).all isSpace = false := by
    cases mn with
    | nil => exact absurd rfl hmn0
    | cons m ms =>
      have := not_space_of_word (hmn m (by simp))
      simp only [List.all_eq_false]
      exact ⟨m, by simp, by simp [this]⟩
  have h2 : (((lab ++ (w1 ++ (mn ++ (w2 ++ (ops ++ (w3 ++ T)))))).dropWhile isSpace).head? == some ';') = false := by
    apply head_ne_semi_of_stops
    cases lab with
    | nil =>
      rw [List.nil_append, dropWhile_all_stops hw1 (sMn _)]
      exact stops_of_all hmn0 hmn (fun _ => not_semi_of_word)
    | cons x xs =>
      have hx := hlab x (by simp)
      rw [List.cons_append, List.dropWhile_cons_of_neg (by simp [not_space_of_label hx])]
      exact stops_cons (not_semi_of_label hx)
  have h5 : ((w1 ++ (mn ++ (w2 ++ (ops ++ (w3 ++ T))))).takeWhile isSpace).isEmpty = false := by
    rw [takeWhile_all_stops hw1 (sMn _)]
    cases w1 with
    | nil => exact absurd rfl hw10
    | cons _ _ => rfl
  have h8 : mn.isEmpty = false := by
    cases mn with
    | nil => exact absurd rfl hmn0
    | cons _ _ => rfl
  have h10 : ((w2 ++ (ops ++ (w3 ++ T))).takeWhile isSpace).isEmpty = false := by
    rw [List.takeWhile_append_of_pos hw2]
    cases w2 with
    | nil => exact absurd rfl hw20
    | cons _ _ => rfl
  by_cases hopsE : ops = []
  · subst hopsE
    have hsep' : semis ≠ [] ∨ ∀ x ∈ c.head?, isOperandCh x = false := by
      rcases hsep with h | h | h
      · exact .inl h
      · exact absurd rfl h.1
      · exact .inr h
    have hU := hT ▸ tail_dropSpace_stops_operand hs hc hsep'
    refine scanLine_asm_of h1 h2 (takeWhile_all_stops hlab (sW1 _)) (dropWhile_all_stops hlab (sW1 _))
      h5 (dropWhile_all_stops hw1 (sMn _)) (takeWhile_all_stops hmn (sW2 _)) h8
      (dropWhile_all_stops hmn (sW2 _)) h10
      (r4 := T.dropWhile isSpace) ?_ (takeWhile_stops hU) (dropWhile_stops hU) ?_
    · rw [List.nil_append, List.dropWhile_append_of_pos hw2, List.dropWhile_append_of_pos hw3]
    · rw [dropWhile_stops (stops_dropWhile _ _)]; exact hT1
  · have sOps : Stops isSpace (ops ++ (w3 ++ T)) :=
      stops_of_all hopsE hops (fun _ => not_space_of_operand)
    have sW3 : Stops isOperandCh (w3 ++ T) := by
      cases hw3E : w3 with
      | nil =>
        have hsep' : semis ≠ [] ∨ ∀ x ∈ c.head?, isOperandCh x = false := by
          rcases hsep with h | h | h
          · exact .inl h
          · exact absurd hw3E h.2
          · exact .inr h
        exact hT ▸ tail_stops_operand hs hsep'
      | cons y ys =>
        exact stops_cons (not_operand_of_space (hw3 y (by simp [hw3E])))
    refine scanLine_asm_of h1 h2 (takeWhile_all_stops hlab (sW1 _)) (dropWhile_all_stops hlab (sW1 _))
      h5 (dropWhile_all_stops hw1 (sMn _)) (takeWhile_all_stops hmn (sW2 _)) h8
      (dropWhile_all_stops hmn (sW2 _)) h10
      (dropWhile_all_stops hw2 sOps) (takeWhile_all_stops hops sW3) (dropWhile_all_stops hops sW3) ?_
    rw [List.dropWhile_append_of_pos hw3]; exact hT1

/-! ### every character the scanner keeps is one of the line -/

theorem dotStarEnd_mem {s c : Str} (h : dotStarEnd s = some c) : ∀ ch ∈ c, ch ∈ s := by
  unfold dotStarEnd at h
  dsimp only at h
  by_cases hl : (s.getLast? == some '\n') = true
  · simp only [hl, if_true] at h
    split at h
    · cases h
    · simp only [Option.some.injEq] at h
      subst h
      exact fun ch hch => (List.dropLast_sublist _).subset hch
  · have hl : (s.getLast? == some '\n') = false := by simpa using hl
    simp only [hl, Bool.false_eq_true, if_false] at h
    split at h
    · cases h
    · simp only [Option.some.injEq] at h
      subst h
      exact fun ch hch => hch

theorem scanLine_mem {line lab mn ops c : Str} (h : scanLine line = .asm lab mn ops c) :
    (∀ ch ∈ ops, ch ∈ line) ∧ (∀ ch ∈ c, ch ∈ line) := by
  unfold scanLine at h
  split at h
  · cases h
  · dsimp only at h
    split at h
    · cases h
    · split at h
      · cases h
      · split at h
        · cases h
        · split at h
          · cases h
          · rename_i c' hc
            simp only [LineKind.asm.injEq] at h
            obtain ⟨_, _, rfl, rfl⟩ := h
            have s1 := (List.dropWhile_sublist isLabelCh (l := line)).subset
            have s2 := (List.dropWhile_sublist isSpace (l := line.dropWhile isLabelCh)).subset
            have s3 := (List.dropWhile_sublist isWord (l := (line.dropWhile isLabelCh).dropWhile isSpace)).subset
            have s4 := (List.dropWhile_sublist isSpace
              (l := ((line.dropWhile isLabelCh).dropWhile isSpace).dropWhile isWord)).subset
            have r4sub : ∀ ch ∈ (((line.dropWhile isLabelCh).dropWhile isSpace).dropWhile isWord).dropWhile isSpace,
                ch ∈ line := fun ch hch => s1 (s2 (s3 (s4 hch)))
            refine ⟨fun ch hch => r4sub ch ((List.takeWhile_sublist _).subset hch), fun ch hch => ?_⟩
            have h1 := dotStarEnd_mem hc ch hch
            have h2 := (List.dropWhile_sublist _).subset h1
            have h3 := (List.dropWhile_sublist _).subset h2
            have h4 := (List.dropWhile_sublist _).subset h3
            exact r4sub ch h4

theorem strip_mem {s : Str} : ∀ ch ∈ strip s, ch ∈ s := by
  intro ch hch
  unfold strip at hch
  have h1 := List.mem_reverse.mp hch
  have h2 := (List.dropWhile_sublist _).subset h1
  have h3 := List.mem_reverse.mp h2
  exact (List.dropWhile_sublist _).subset h3

theorem rstrip_mem {s : Str} : ∀ ch ∈ rstrip s, ch ∈ s := by
  intro ch hch
  unfold rstrip at hch
  have h1 := List.mem_reverse.mp hch
  have h2 := (List.dropWhile_sublist _).subset h1
  exact List.mem_reverse.mp h2

theorem operandsTail_mem {l : Str} : ∀ ch ∈ operandsTail l, ch ∈ l := by
  intro ch hch
  unfold operandsTail at hch
  have h1 := (List.dropWhile_sublist _).subset hch
  have h2 := (List.dropWhile_sublist _).subset h1
  have h3 := (List.dropWhile_sublist _).subset h2
  exact (List.dropWhile_sublist _).subset h3

/-! ### `parseLine` on a scanned line -/

/-- operand text and comment that `Statement.__init__` takes from a scanned line: the groups of the regex, except for a
string definition (FCC), where both are cut from the line as written (fix d74c37d): from
`line[data.start("operands"):].rstrip()` the text up to the second occurrence of its first character, and what follows -/
def lineField (line ops cmt : Str) (row : Gen.InstrRow) : Option (Str × Str) :=
  if row.isStringDefine then
    match rstrip (operandsTail line) with
    | [] => none
    | c :: t =>
      let endLoc : Nat := match findFrom1 c (c :: t) with | some i => i + 1 | none => 0
      some (strip ((c :: t).take endLoc), strip ((strip ((c :: t).drop endLoc)).dropWhile (· == ';')))
  else some (ops, strip cmt)

theorem lineField_plain {line ops cmt : Str} {row : Gen.InstrRow} (h : row.isStringDefine = false) :
    lineField line ops cmt row = some (ops, strip cmt) := by
  rw [lineField, if_neg (by simp [h])]

theorem lineField_mem {line lab mn ops cmt : Str} {row : Gen.InstrRow} {f : Str × Str}
    (hs : scanLine line = .asm lab mn ops cmt) (h : lineField line ops cmt row = some f) : ∀ ch ∈ f.1, ch ∈ line := by
  unfold lineField at h
  split at h
  · split at h
    · cases h
    · rename_i c t hoo
      cases h
      intro ch hch
      exact operandsTail_mem ch (rstrip_mem ch (hoo ▸ List.mem_of_mem_take (strip_mem ch hch)))
  · cases h
    exact (scanLine_mem hs).1

section
open Outcome

/-- `Statement.__init__` once the regex has matched: look the mnemonic up (`find` is `findRow`; the evaluators of
ParseEval put their own lookup here), cut operand text and comment, parse the operand -/
def parseAsm (find : Str → Option Gen.InstrRow) (line label mn0 ops cmt : Str) : Outcome (Option Stmt) :=
  (ofOption (find (mn0.map upperC))).bind fun row => (ofOption (lineField line ops cmt row)).bind fun f =>
    (ofR (createOperand f.1 row)).map fun o =>
      some { label := label, mnemonic := mn0.map upperC, row := row, operand := o, origText := o.text, comment := f.2 }

theorem parseLine_scan (line : Str) :
    parseLine line =
      match scanLine line with
      | .blank | .comment => .ok none
      | .bad => .diag
      | .asm label mn0 ops cmt => parseAsm findRow line label mn0 ops cmt := by
  unfold parseLine
  cases scanLine line with
  | asm label mn0 ops cmt =>
    dsimp only [parseAsm]
    cases findRow (mn0.map upperC) with
    | none => rfl
    | some row =>
      dsimp only [ofOption, Outcome.bind, lineField]
      cases row.isStringDefine with
      | false =>
        simp only [Bool.false_eq_true, if_false]
        cases createOperand ops row <;> rfl
      | true =>
        simp only [if_true]
        cases rstrip (operandsTail line) with
        | nil => rfl
        | cons c t =>
          dsimp only
          generalize createOperand _ row = r
          cases r <;> rfl
  | _ => rfl

theorem parseLine_asm {line label mn0 ops cmt : Str} (h : scanLine line = .asm label mn0 ops cmt) :
    parseLine line = parseAsm findRow line label mn0 ops cmt := by
  rw [parseLine_scan, h]

theorem parseLine_eq_some {line : Str} {s : Stmt} :
    parseLine line = .ok (some s) ↔
      ∃ label mn0 ops cmt row f o, scanLine line = .asm label mn0 ops cmt ∧ findRow (mn0.map upperC) = some row ∧
        lineField line ops cmt row = some f ∧ createOperand f.1 row = .ok o ∧
        s = { label := label, mnemonic := mn0.map upperC, row := row, operand := o, origText := o.text,
              comment := f.2 } := by
  constructor
  · intro h
    rw [parseLine_scan] at h
    cases hs : scanLine line with
    | asm label mn0 ops cmt =>
      rw [hs] at h
      obtain ⟨row, hrow, h⟩ := bind_eq_ok h
      obtain ⟨f, hf, h⟩ := bind_eq_ok h
      obtain ⟨o, ho, h⟩ := Outcome.map_eq_ok h
      cases h
      exact ⟨label, mn0, ops, cmt, row, f, o, rfl, ofOption_eq_ok hrow, ofOption_eq_ok hf, ofR_eq_ok ho, rfl⟩
    | _ => rw [hs] at h; cases h
  · rintro ⟨label, mn0, ops, cmt, row, f, o, hs, hrow, hf, ho, rfl⟩
    rw [parseLine_asm hs, parseAsm, hrow, ofOption, ok_bind, hf, ofOption, ok_bind, ho]
    rfl

theorem parseLine_ok_or_diag (l : Str) : (∃ x, parseLine l = .ok x) ∨ parseLine l = .diag := by
  rw [parseLine_scan]
  cases scanLine l with
  | blank | comment => exact .inl ⟨none, rfl⟩
  | bad => exact .inr rfl
  | asm label mn0 ops cmt =>
    exact ok_or_diag
      (bind_ne_internal (ofOption_ne_internal _) fun row _ => bind_ne_internal (ofOption_ne_internal _) fun f _ =>
        Outcome.map_ne_internal (by cases createOperand f.1 row <;> nofun))
      (bind_ne_diverged (ofOption_ne_diverged _) fun row _ => bind_ne_diverged (ofOption_ne_diverged _) fun f _ =>
        Outcome.map_ne_diverged (ofR_ne_diverged _))

end

/-- a statement as the parser builds it: a row of the instruction table and an operand out of
`Operand.create_from_str` for that row -/
def Parsed (s : Stmt) : Prop := s.row ∈ Gen.instructions ∧ ∃ txt, createOperand txt s.row = .ok s.operand

theorem parseLine_parsed {l : Str} {s : Stmt} (h : parseLine l = .ok (some s)) : Parsed s := by
  obtain ⟨_, _, _, _, row, f, _, _, hrow, _, ho, rfl⟩ := parseLine_eq_some.1 h
  exact ⟨List.mem_of_find?_eq_some hrow, f.1, ho⟩

def Stmt.eraseComment (s : Stmt) : Stmt := { s with comment := [] }

/-- for a mnemonic that is not a string definition (FCC) the statement is a function of label,
upper-cased mnemonic and operand field; the comment only lands in the `comment` field -/
theorem parseLine_of_scan {line lab mn ops c : Str} (h : scanLine line = .asm lab mn ops c)
    (hrow : ∀ row, findRow (mn.map upperC) = some row → row.isStringDefine = false) :
    parseLine line =
      match findRow (mn.map upperC) with
      | none => .diag
      | some row =>
        match createOperand ops row with
        | .ok o => .ok (some { label := lab, mnemonic := mn.map upperC, row := row, operand := o,
                               origText := o.text, comment := strip c })
        | .error _ => .diag := by
  rw [parseLine_asm h, parseAsm]
  cases hf : findRow (mn.map upperC) with
  | none => rfl
  | some row =>
    rw [Outcome.ofOption, Outcome.ok_bind, lineField_plain (hrow row hf), Outcome.ofOption, Outcome.ok_bind]
    dsimp only
    cases createOperand ops row <;> rfl

/-- two scanned lines with the same label, operand field and mnemonic up to letter case -/
theorem parseLine_reformat {l1 l2 lab mn1 mn2 ops c1 c2 : Str}
    (h1 : scanLine l1 = .asm lab mn1 ops c1) (h2 : scanLine l2 = .asm lab mn2 ops c2)
    (hmn : mn1.map upperC = mn2.map upperC)
    (hrow : ∀ row, findRow (mn1.map upperC) = some row → row.isStringDefine = false) :
    (parseLine l1 = .diag ∧ parseLine l2 = .diag) ∨
    ∃ s t, parseLine l1 = .ok (some s) ∧ parseLine l2 = .ok (some t) ∧
      s.eraseComment = t.eraseComment ∧ s.comment = strip c1 ∧ t.comment = strip c2 := by
  rw [parseLine_of_scan h1 hrow, parseLine_of_scan h2 (hmn ▸ hrow), ← hmn]
  cases findRow (mn1.map upperC) with
  | none => exact .inl ⟨rfl, rfl⟩
  | some row =>
    dsimp only
    cases createOperand ops row with
    | error e => exact .inl ⟨rfl, rfl⟩
    | ok o => exact .inr ⟨_, _, rfl, rfl, rfl, rfl, rfl⟩

end CoCo.Asm
