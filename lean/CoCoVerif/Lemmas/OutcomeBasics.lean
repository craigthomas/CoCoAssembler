/-
Lemmas/OutcomeBasics.lean — combinators on `Outcome`.  A chain of `bind`s is walked one link at a time: it succeeds when
every link does (`bind_eq_ok`), two chains run in step when their links do (`bind_map` for an equation, `OutRel.bind`
for a relation between the results), a successful chain stays what it is when its links keep their results
(`bind_mono`).  `x.Meets c Q`: `x` does not fail as `c` (Python's exception, or divergence) and a result of `x` has the
property `Q`; it goes through `bind`, `map` and `if`, so that a chain is shown not to fail, with an invariant carried
along, by one term that follows its links.  `ofOption` / `ofOptionI`, `ofR` / `ofRI` and `guard` make a link of a
partial function (a missing result is a diagnostic, or Python's exception) and of a test; `consM` is the step of a pass
over a list (`Outcome.traverse` of Lemmas/ListPass.lean); `oapp` runs one list after another, the first failure wins.
The stages before `assemble` run in `Except`: a function of theirs that has returned a result is walked from its first
line by `ite_cases` (a test), `Except.bind_eq_ok` (a line that binds) and `Except.guard_ok` (a line `if c then throw e`).
-/
import CoCoVerif.Model.Basic

namespace CoCo

namespace Outcome
variable {α β γ : Type}

theorem ok_bind (a : α) (f : α → Outcome β) : (ok a).bind f = f a := rfl

theorem bind_eq_ok {x : Outcome α} {f : α → Outcome β} {b : β} (h : x.bind f = .ok b) :
    ∃ a, x = .ok a ∧ f a = .ok b := by
  cases x with
  | ok a => exact ⟨a, rfl, h⟩
  | _ => cases h

theorem ok_or_diag {x : Outcome α} (h1 : x ≠ .internal) (h2 : x ≠ .diverged) : (∃ a, x = .ok a) ∨ x = .diag := by
  cases x with
  | ok a => exact .inl ⟨a, rfl⟩
  | diag => exact .inr rfl
  | internal => exact absurd rfl h1
  | diverged => exact absurd rfl h2

theorem bind_assoc (x : Outcome α) (f : α → Outcome β) (g : β → Outcome γ) :
    (x.bind f).bind g = x.bind fun a => (f a).bind g := by
  cases x <;> rfl

def ofOption : Option α → Outcome α
  | some a => .ok a
  | none => .diag

theorem ofOption_eq_ok {o : Option α} {a : α} (h : ofOption o = .ok a) : o = some a := by
  cases o with
  | some b => cases h; rfl
  | none => cases h

theorem ofOption_ne_diverged (o : Option α) : ofOption o ≠ .diverged := by cases o <;> nofun

theorem ofOption_ne_internal (o : Option α) : ofOption o ≠ .internal := by cases o <;> nofun

def guard : Bool → Outcome Unit
  | true => .ok ()
  | false => .diag

theorem guard_eq_ok {b : Bool} {u : Unit} (h : guard b = .ok u) : b = true := by
  cases b with
  | true => rfl
  | false => cases h

theorem guard_ne_diverged (b : Bool) : guard b ≠ .diverged := by cases b <;> nofun

theorem guard_ne_internal (b : Bool) : guard b ≠ .internal := by cases b <;> nofun

/-- a missing result is Python's exception (a failed lookup) -/
def ofOptionI : Option α → Outcome α
  | some a => .ok a
  | none => .internal

theorem ofOptionI_eq_ok {o : Option α} {a : α} (h : ofOptionI o = .ok a) : o = some a := by
  cases o with
  | some b => cases h; rfl
  | none => cases h

theorem ofOptionI_ne_diverged (o : Option α) : ofOptionI o ≠ .diverged := by cases o <;> nofun

/-- an error is Python's exception (a failed construction) -/
def ofRI {ε : Type} : Except ε α → Outcome α
  | .ok a => .ok a
  | .error _ => .internal

theorem ofRI_eq_ok {ε : Type} {x : Except ε α} {a : α} (h : ofRI x = .ok a) : x = .ok a := by
  cases x with
  | ok b => cases h; rfl
  | error e => cases h

def ofR {ε : Type} : Except ε α → Outcome α
  | .ok a => .ok a
  | .error _ => .diag

theorem ofR_eq_ok {ε : Type} {x : Except ε α} {a : α} (h : ofR x = .ok a) : x = .ok a := by
  cases x with
  | ok b => cases h; rfl
  | error e => cases h

theorem ofR_ne_diverged {ε : Type} (x : Except ε α) : ofR x ≠ .diverged := by cases x <;> nofun

theorem bind_congr {x : Outcome α} {f f' : α → Outcome β} (h : ∀ a, x = .ok a → f a = f' a) : x.bind f = x.bind f' := by
  cases x with
  | ok a => exact h a rfl
  | _ => rfl

theorem bind_mono {x x' : Outcome α} {f f' : α → Outcome β} {b : β} (hx : ∀ a, x = .ok a → x' = .ok a)
    (hf : ∀ a, x = .ok a → f a = .ok b → f' a = .ok b) (h : x.bind f = .ok b) : x'.bind f' = .ok b := by
  obtain ⟨a, ha, hb⟩ := bind_eq_ok h
  rw [hx a ha]
  exact hf a ha hb

theorem ite_mono {c : Prop} [Decidable c] {x x' y y' : Outcome α} {a : α} (hx : c → x = .ok a → x' = .ok a)
    (hy : ¬ c → y = .ok a → y' = .ok a) (h : (if c then x else y) = .ok a) : (if c then x' else y') = .ok a := by
  split
  · rename_i hc; rw [if_pos hc] at h; exact hx hc h
  · rename_i hc; rw [if_neg hc] at h; exact hy hc h

theorem ofOptionI_mono {o o' : Option α} {a : α} (ho : ∀ a, o = some a → o' = some a) (h : ofOptionI o = .ok a) :
    ofOptionI o' = .ok a := by
  rw [ho a (ofOptionI_eq_ok h)]
  rfl

theorem ofR_mono {ε : Type} {x x' : Except ε α} {a : α} (hx : ∀ a, x = .ok a → x' = .ok a) (h : ofR x = .ok a) :
    ofR x' = .ok a := by
  rw [hx a (ofR_eq_ok h)]
  rfl

theorem bind_eq_self {x : Outcome α} {f : α → Outcome α} (h : ∀ a, x = .ok a → f a = .ok a) : x.bind f = x := by
  cases x with
  | ok a => exact h a rfl
  | _ => rfl

end Outcome

def Outcome.map {α β : Type} (f : α → β) : Outcome α → Outcome β
  | .ok a => .ok (f a)
  | .diag => .diag
  | .internal => .internal
  | .diverged => .diverged

@[simp] theorem Outcome.map_ok {α β : Type} (f : α → β) (a : α) : (Outcome.ok a).map f = .ok (f a) := rfl
@[simp] theorem Outcome.map_diag {α β : Type} (f : α → β) : (Outcome.diag : Outcome α).map f = .diag := rfl
@[simp] theorem Outcome.map_internal {α β : Type} (f : α → β) : (Outcome.internal : Outcome α).map f = .internal := rfl
@[simp] theorem Outcome.map_diverged {α β : Type} (f : α → β) : (Outcome.diverged : Outcome α).map f = .diverged := rfl

theorem Outcome.map_id' {α : Type} (o : Outcome α) : o.map (fun x => x) = o := by cases o <;> rfl

theorem Outcome.map_map {α β γ : Type} (f : α → β) (g : β → γ) (o : Outcome α) :
    (o.map f).map g = o.map (fun x => g (f x)) := by cases o <;> rfl

theorem Outcome.map_eq_ok {α β : Type} {f : α → β} {o : Outcome α} {b : β} (h : o.map f = .ok b) :
    ∃ a, o = .ok a ∧ f a = b := by
  cases o with
  | ok a => exact ⟨a, rfl, by simpa using h⟩
  | _ => cases h

theorem Outcome.ok_of_map {α β : Type} {f : α → β} {o : Outcome α} {o' : Outcome β} (h : o' = o.map f) {a : α} {b : β}
    (ha : o = .ok a) (hb : o' = .ok b) : b = f a := by
  rw [ha, hb] at h
  exact Outcome.ok.inj h

theorem Outcome.map_ne_diverged {α β : Type} {f : α → β} {o : Outcome α} (h : o ≠ .diverged) : o.map f ≠ .diverged := by
  cases o <;> first | exact absurd rfl h | nofun

theorem Outcome.map_ne_internal {α β : Type} {f : α → β} {o : Outcome α} (h : o ≠ .internal) : o.map f ≠ .internal := by
  cases o <;> first | exact absurd rfl h | nofun

theorem Outcome.ofOption_map {α β : Type} (f : α → β) (o : Option α) : ofOption (o.map f) = (ofOption o).map f := by
  cases o <;> rfl

theorem Outcome.ofOptionI_map {α β : Type} (f : α → β) (o : Option α) : ofOptionI (o.map f) = (ofOptionI o).map f := by
  cases o <;> rfl

theorem Outcome.ofR_map {ε α β : Type} (f : α → β) (x : Except ε α) : ofR (x.map f) = (ofR x).map f := by
  cases x <;> rfl

theorem Outcome.map_eq_self {α : Type} {f : α → α} {o : Outcome α} (h : ∀ a, o = .ok a → f a = a) : o.map f = o := by
  cases o with
  | ok a => exact congrArg Outcome.ok (h a rfl)
  | _ => rfl

theorem Outcome.bind_map_left {α β γ : Type} (x : Outcome α) (g : α → β) (f : β → Outcome γ) :
    (x.map g).bind f = x.bind fun a => f (g a) := by
  cases x <;> rfl

theorem Outcome.map_congr {α β : Type} {f g : α → β} {o : Outcome α} (h : ∀ a, o = .ok a → f a = g a) :
    o.map f = o.map g := by
  cases o with
  | ok a => exact congrArg Outcome.ok (h a rfl)
  | _ => rfl

theorem Outcome.map_bind {α β γ : Type} (x : Outcome α) (f : α → Outcome β) (g : β → γ) :
    (x.bind f).map g = x.bind fun a => (f a).map g := by
  cases x <;> rfl

theorem Outcome.map_mono {α β : Type} {x x' : Outcome α} {g : α → β} {b : β} (hx : ∀ a, x = .ok a → x' = .ok a)
    (h : x.map g = .ok b) : x'.map g = .ok b := by
  obtain ⟨a, ha, rfl⟩ := Outcome.map_eq_ok h
  rw [hx a ha]
  rfl

/-- the step of a two-run argument in equational form: the first links commute with `g`, and so do the continuations
(which may use that the first link succeeded) with `k` -/
theorem Outcome.bind_map {α α' β β' : Type} {x : Outcome α} {x' : Outcome α'} {g : α → α'} (hx : x' = x.map g)
    {f : α → Outcome β} {f' : α' → Outcome β'} {k : β → β'} (hf : ∀ a, x = .ok a → f' (g a) = (f a).map k) :
    x'.bind f' = (x.bind f).map k := by
  subst hx
  cases x with
  | ok a => exact hf a rfl
  | _ => rfl

theorem _root_.Option.Rel.map {α β γ δ : Type} {R : α → β → Prop} {S : γ → δ → Prop} {o : Option α} {o' : Option β}
    {f : α → γ} {g : β → δ} (h : Option.Rel R o o') (hi : ∀ a b, R a b → S (f a) (g b)) :
    Option.Rel S (o.map f) (o'.map g) := by
  cases h with
  | some r => exact .some (hi _ _ r)
  | none => exact .none

inductive OutRel {α β : Type} (R : α → β → Prop) : Outcome α → Outcome β → Prop
  | ok {a : α} {b : β} : R a b → OutRel R (.ok a) (.ok b)
  | diag : OutRel R .diag .diag
  | internal : OutRel R .internal .internal
  | diverged : OutRel R .diverged .diverged

namespace OutRel
variable {α β : Type} {R : α → β → Prop}

theorem of_map {f : α → β} (o : Outcome α) (h : ∀ a, o = .ok a → R a (f a)) : OutRel R o (o.map f) := by
  cases o with
  | ok a => exact .ok (h a rfl)
  | _ => constructor

theorem of_eq_map {f : α → β} {o : Outcome α} {o' : Outcome β} (he : o' = o.map f)
    (h : ∀ a, o = .ok a → R a (f a)) : OutRel R o o' := by
  rw [he]; exact of_map o h

theorem get {o : Outcome α} {o' : Outcome β} (h : OutRel R o o') {a : α} (ha : o = .ok a) :
    ∃ b, o' = .ok b ∧ R a b := by
  cases h with
  | ok r => cases ha; exact ⟨_, rfl, r⟩
  | _ => cases ha

theorem get' {o : Outcome α} {o' : Outcome β} (h : OutRel R o o') {b : β} (hb : o' = .ok b) :
    ∃ a, o = .ok a ∧ R a b := by
  cases h with
  | ok r => cases hb; exact ⟨_, rfl, r⟩
  | _ => cases hb

theorem rel {a : α} {b : β} (h : OutRel R (.ok a) (.ok b)) : R a b := by
  cases h with
  | ok r => exact r

theorem kind_eq {o : Outcome α} {o' : Outcome β} (h : OutRel R o o') : o'.kind = o.kind := by
  cases h <;> rfl

theorem mono {S : α → β → Prop} {o : Outcome α} {o' : Outcome β} (h : OutRel R o o') (hi : ∀ a b, R a b → S a b) :
    OutRel S o o' := by
  cases h with
  | ok r => exact .ok (hi _ _ r)
  | _ => constructor

theorem map {γ δ : Type} {S : γ → δ → Prop} {o : Outcome α} {o' : Outcome β} {f : α → γ} {g : β → δ}
    (h : OutRel R o o') (hi : ∀ a b, R a b → S (f a) (g b)) : OutRel S (o.map f) (o'.map g) := by
  cases h with
  | ok r => exact .ok (hi _ _ r)
  | _ => constructor

theorem map_same {γ δ : Type} {S : γ → δ → Prop} (o : Outcome α) {f : α → γ} {g : α → δ}
    (h : ∀ a, o = .ok a → S (f a) (g a)) : OutRel S (o.map f) (o.map g) := by
  cases o with
  | ok a => exact .ok (h a rfl)
  | _ => constructor

theorem bind {γ δ : Type} {S : γ → δ → Prop} {o : Outcome α} {o' : Outcome β} {k : α → Outcome γ} {k' : β → Outcome δ}
    (h : OutRel R o o') (hk : ∀ a b, o = .ok a → o' = .ok b → R a b → OutRel S (k a) (k' b)) :
    OutRel S (o.bind k) (o'.bind k') := by
  cases h with
  | ok r => exact hk _ _ rfl rfl r
  | _ => constructor

theorem ite {c : Prop} [Decidable c] {a b : Outcome α} {a' b' : Outcome β} (h1 : OutRel R a a') (h2 : OutRel R b b') :
    OutRel R (if c then a else b) (if c then a' else b') := by
  split
  · exact h1
  · exact h2

/-- against the graph of a function, `OutRel` is an equation: how a statement about two related runs is read as
`run (map g input) = (run input).map g` -/
theorem graph_iff {g : α → β} {o : Outcome α} {o' : Outcome β} : OutRel (fun a b => b = g a) o o' ↔ o' = o.map g := by
  constructor
  · intro h
    cases h with
    | ok r => rw [r]; rfl
    | _ => rfl
  · rintro rfl
    exact of_map o fun _ _ => rfl

end OutRel

def Outcome.consM {α : Type} (o1 : Outcome α) (o2 : Outcome (List α)) : Outcome (List α) :=
  o1.bind fun a => o2.bind fun r => .ok (a :: r)

section
variable {α : Type} {a : Outcome α} {b : Outcome (List α)}

theorem Outcome.consM_eq_ok {r : List α} (h : a.consM b = .ok r) :
    ∃ x r', a = .ok x ∧ b = .ok r' ∧ r = x :: r' := by
  obtain ⟨x, ha, h⟩ := Outcome.bind_eq_ok h
  obtain ⟨r', hb, h⟩ := Outcome.bind_eq_ok h
  exact ⟨x, r', ha, hb, (Outcome.ok.inj h).symm⟩

theorem Outcome.map_consM {β : Type} (g : α → β) (a : Outcome α) (b : Outcome (List α)) :
    (a.map g).consM (b.map (List.map g)) = (a.consM b).map (List.map g) := by
  cases a with
  | ok x => cases b <;> rfl
  | _ => rfl

end

namespace Asm

def oapp {α} (x y : Outcome (List α)) : Outcome (List α) :=
  match x with
  | .ok a => (match y with | .ok b => .ok (a ++ b) | o => o)
  | o => o

@[simp] theorem oapp_ok_ok {α} (a b : List α) : oapp (.ok a) (.ok b) = .ok (a ++ b) := rfl
@[simp] theorem oapp_diag {α} (y : Outcome (List α)) : oapp .diag y = .diag := rfl
@[simp] theorem oapp_internal {α} (y : Outcome (List α)) : oapp .internal y = .internal := rfl
@[simp] theorem oapp_diverged {α} (y : Outcome (List α)) : oapp .diverged y = .diverged := rfl
@[simp] theorem oapp_ok_diag {α} (a : List α) : oapp (.ok a) .diag = .diag := rfl
@[simp] theorem oapp_ok_internal {α} (a : List α) : oapp (.ok a) .internal = .internal := rfl
@[simp] theorem oapp_ok_diverged {α} (a : List α) : oapp (.ok a) .diverged = .diverged := rfl
@[simp] theorem oapp_nil {α} (y : Outcome (List α)) : oapp (.ok []) y = y := by cases y <;> rfl
@[simp] theorem oapp_nil_right {α} (x : Outcome (List α)) : oapp x (.ok []) = x := by
  cases x <;> simp [oapp]

theorem oapp_assoc {α} (x y z : Outcome (List α)) : oapp (oapp x y) z = oapp x (oapp y z) := by
  cases x <;> try rfl
  cases y <;> try rfl
  cases z <;> first | rfl | exact congrArg Outcome.ok (List.append_assoc _ _ _)

theorem oapp_ne_diverged {α} {x y : Outcome (List α)} (hx : x ≠ .diverged) (hy : y ≠ .diverged) :
    oapp x y ≠ .diverged := by
  cases x <;> cases y <;> simp_all [oapp]

theorem oapp_ne_internal {α} {x y : Outcome (List α)} (hx : x ≠ .internal) (hy : y ≠ .internal) :
    oapp x y ≠ .internal := by
  cases x <;> cases y <;> simp_all [oapp]

theorem oapp_eq_ok {α} {x y : Outcome (List α)} {r : List α} (h : oapp x y = .ok r) :
    ∃ a b, x = .ok a ∧ y = .ok b ∧ r = a ++ b := by
  cases x <;> cases y <;> simp_all [oapp]

theorem oapp_ok_forall {α} {Q : α → Prop} {x y : Outcome (List α)} {r : List α} (h : oapp x y = .ok r)
    (hx : ∀ a, x = .ok a → ∀ s ∈ a, Q s) (hy : ∀ b, y = .ok b → ∀ s ∈ b, Q s) : ∀ s ∈ r, Q s := by
  obtain ⟨a, b, ha, hb, rfl⟩ := oapp_eq_ok h
  intro s hs
  exact (List.mem_append.mp hs).elim (hx a ha s) (hy b hb s)

theorem oapp_eq_diag {α} {x y : Outcome (List α)} (h : oapp x y = .diag) :
    x = .diag ∨ ∃ a, x = .ok a ∧ y = .diag := by
  cases x <;> cases y <;> simp_all [oapp]

end Asm

/-- the two ways in which a run is shown not to end: Python's exception, and the fuel of the model running out -/
inductive Fail
  | internal
  | diverged

def Fail.out {α : Type} : Fail → Outcome α
  | .internal => .internal
  | .diverged => .diverged

namespace Outcome
variable {α β : Type} {c : Fail}

theorem ne_out {x : Outcome α} (hi : c = .internal → x ≠ .internal) (hd : c = .diverged → x ≠ .diverged) : x ≠ c.out := by
  cases c with
  | internal => exact hi rfl
  | diverged => exact hd rfl

/-- `x` does not fail as `c`, and a result of `x` has the property `Q`.  A lemma of this form about a link of a chain,
with `c` a variable and what only the exception needs under `c = .internal → ..`, is the link's part in both walks:
the chain raises no exception, the chain does not diverge. -/
def Meets (c : Fail) (x : Outcome α) (Q : α → Prop) : Prop := x ≠ c.out ∧ ∀ a, x = .ok a → Q a

namespace Meets
variable {P Q : α → Prop} {x : Outcome α}

theorem ok {a : α} (h : Q a) : (Outcome.ok a).Meets c Q :=
  ⟨by cases c <;> nofun, fun _ e => Outcome.ok.inj e ▸ h⟩

theorem diag : (Outcome.diag : Outcome α).Meets c Q :=
  ⟨by cases c <;> nofun, nofun⟩

theorem internal (h : c ≠ .internal) : (Outcome.internal : Outcome α).Meets c Q :=
  ⟨ne_out (fun e => absurd e h) fun _ => nofun, nofun⟩

theorem diverged (h : c ≠ .diverged) : (Outcome.diverged : Outcome α).Meets c Q :=
  ⟨ne_out (fun _ => nofun) fun e => absurd e h, nofun⟩

theorem ne_internal (h : x.Meets .internal Q) : x ≠ .internal := h.1

theorem ne_diverged (h : x.Meets .diverged Q) : x ≠ .diverged := h.1

theorem get (h : x.Meets c Q) {a : α} (ha : x = .ok a) : Q a := h.2 a ha

theorem of_ne (h : x ≠ c.out) : x.Meets c fun _ => True :=
  ⟨h, fun _ _ => trivial⟩

theorem mono (h : x.Meets c P) (hi : ∀ a, x = .ok a → P a → Q a) : x.Meets c Q :=
  ⟨h.1, fun a ha => hi a ha (h.2 a ha)⟩

theorem bind {Q : β → Prop} {f : α → Outcome β} (hx : x.Meets c P) (hf : ∀ a, x = .ok a → P a → (f a).Meets c Q) :
    (x.bind f).Meets c Q := by
  cases x with
  | ok a => exact hf a rfl (hx.2 a rfl)
  | diag => exact .diag
  | internal => exact .internal fun e => hx.1 (by rw [e]; rfl)
  | diverged => exact .diverged fun e => hx.1 (by rw [e]; rfl)

theorem map {Q : β → Prop} {g : α → β} (hx : x.Meets c P) (hg : ∀ a, x = .ok a → P a → Q (g a)) : (x.map g).Meets c Q := by
  cases x with
  | ok a => exact .ok (hg a rfl (hx.2 a rfl))
  | diag => exact .diag
  | internal => exact .internal fun e => hx.1 (by rw [e]; rfl)
  | diverged => exact .diverged fun e => hx.1 (by rw [e]; rfl)

theorem ite {p : Prop} [Decidable p] {y : Outcome α} (hx : p → x.Meets c Q) (hy : ¬ p → y.Meets c Q) :
    (if p then x else y).Meets c Q := by
  split
  · exact hx ‹_›
  · exact hy ‹_›

theorem ofOptionI {o : Option α} (h : c = .internal → o.isSome) : (Outcome.ofOptionI o).Meets c fun a => o = some a := by
  cases o with
  | some a => exact .ok rfl
  | none => exact .internal fun e => Bool.noConfusion (h e)

theorem ofR {ε : Type} {x : Except ε α} : (Outcome.ofR x).Meets c fun a => x = .ok a := by
  cases x with
  | ok a => exact .ok rfl
  | error e => exact .diag

end Meets

theorem bind_ne_diverged {x : Outcome α} {f : α → Outcome β} (hx : x ≠ .diverged)
    (hf : ∀ a, x = .ok a → f a ≠ .diverged) : x.bind f ≠ .diverged :=
  (Meets.bind (c := .diverged) (.of_ne hx) fun a ha _ => .of_ne (hf a ha)).ne_diverged

theorem bind_ne_internal {x : Outcome α} {f : α → Outcome β} (hx : x ≠ .internal)
    (hf : ∀ a, x = .ok a → f a ≠ .internal) : x.bind f ≠ .internal :=
  (Meets.bind (c := .internal) (.of_ne hx) fun a ha _ => .of_ne (hf a ha)).ne_internal

end Outcome

theorem ite_cases {α : Sort u} {c : Prop} [Decidable c] {x y z : α} (h : (if c then x else y) = z) :
    c ∧ x = z ∨ ¬ c ∧ y = z := by
  by_cases hc : c
  · exact .inl ⟨hc, (if_pos hc).symm.trans h⟩
  · exact .inr ⟨hc, (if_neg hc).symm.trans h⟩

theorem Except.bind_eq_ok {ε α β : Type} {x : Except ε α} {f : α → Except ε β} {b : β} (h : (x >>= f) = .ok b) :
    ∃ a, x = .ok a ∧ f a = .ok b := by
  cases x with
  | error e => cases h
  | ok a => exact ⟨a, rfl, h⟩

/-- `k` is the rest of the block, as the `do` notation lays it out after `if c then throw e` -/
theorem Except.guard_ok {ε β : Type} {c : Prop} [Decidable c] {e : ε} {k : Unit → Except ε β} {b : β}
    (h : (if c then throw e >>= k else k ()) = .ok b) : ¬ c ∧ k () = .ok b := by
  by_cases hc : c
  · rw [if_pos hc] at h
    cases h
  · rw [if_neg hc] at h
    exact ⟨hc, h⟩

/-- `f (g x) = (f x).map g` is proved along the text of `f`, the computation on `g x` taking the same steps: this and
`ite_app_congr` are the two steps. -/
theorem bind_map_congr {ε α β γ : Type} {x' x : Except ε α} (hx : x' = x) {f' : α → Except ε γ}
    {f : α → Except ε β} {g : β → γ} (hf : ∀ a, f' a = (f a).map g) : x'.bind f' = (x.bind f).map g := by
  subst hx
  cases x' with
  | error e => rfl
  | ok a => exact hf a

theorem ite_app_congr {α β : Type} {c : Prop} [Decidable c] {g : α → β} {a' b' : β} {a b : α}
    (ha : a' = g a) (hb : b' = g b) : (if c then a' else b') = g (if c then a else b) := by
  split
  · exact ha
  · exact hb

theorem Except.map_eq_self {ε α : Type} {f : α → α} {x : Except ε α} (h : ∀ a, x = .ok a → f a = a) : x.map f = x := by
  cases x with
  | error e => rfl
  | ok a => exact congrArg Except.ok (h a rfl)

end CoCo
