/-
Lemmas/DiskFsck.lean — the invariant `Inv` implies the Disk BASIC consistency check (`Inv.fsck`), and the reference
reader returns exactly the recorded files (`Inv.read_eq`).
-/
import CoCoVerif.Lemmas.DiskInv
namespace CoCo.Dsk
open CoCo Spec.DiskBasic CoCo.Props

theorem Inv.liveSlots_eq {img : Bytes} {abs : List Ent} (h : Inv img abs) :
    liveSlots img = List.range abs.length := by
  unfold liveSlots
  rw [← filter_range_lt abs.length 72 h.slots]
  apply List.filter_congr
  intro k hk
  exact h.live_iff k (List.mem_range.mp hk)

theorem Inv.chain_nodup {img : Bytes} {abs : List Ent} (h : Inv img abs) {e : Ent} (he : e ∈ abs) :
    e.chain.Nodup := by
  have : List.Sublist e.chain (chains abs) := by
    unfold chains; rw [List.flatMap_def]
    exact List.sublist_flatten_of_mem (List.mem_map_of_mem (f := (·.chain)) he)
  exact this.nodup h.nodup

theorem Inv.chain_ne_nil {img : Bytes} {abs : List Ent} (h : Inv img abs) {e : Ent} (he : e ∈ abs) :
    e.chain ≠ [] := by
  intro hn
  have h1 := h.chainLen e he
  rw [hn, List.length_nil] at h1
  have := needs_pos e.file
  omega

theorem Inv.chainOf_eq {img : Bytes} {abs : List Ent} (h : Inv img abs) (k : Nat) (e : Ent)
    (hk : abs[k]? = some e) : chainOf img k = some (e.chain, flgs e.file) := by
  have he : e ∈ abs := List.mem_of_getElem? hk
  have hne := h.chain_ne_nil he
  unfold chainOf
  rw [h.dir k e hk, deb_first]
  have hd : e.chain.headD 0 = e.chain.head hne := headD_eq_head _ _ hne
  rw [hd]
  have hlen : e.chain.length ≤ 68 := by
    rw [h.chainLen e he]
    have := needs_le e.file (h.valid e he).2.2.2.2.2.2.2
    omega
  have := walk_encodes img e.chain (flgs e.file) [] 68 hne (h.enc e he) (flgs_range e.file).2
    (by simpa using h.chain_nodup he) (h.chainLt e he) hlen
  simpa using this

theorem Inv.allGranules_eq {img : Bytes} {abs : List Ent} (h : Inv img abs) :
    allGranules img = chains abs := by
  unfold allGranules
  rw [h.liveSlots_eq]
  rw [range_filterMap abs (chainOf img) (fun e => (e.chain, flgs e.file)) h.chainOf_eq]
  unfold chains
  rw [List.flatMap_map]

theorem Inv.storedStream_eq {img : Bytes} {abs : List Ent} (h : Inv img abs) (k : Nat) (e : Ent)
    (hk : abs[k]? = some e) : storedStream img k = some (streamOfFile e.file) := by
  have he : e ∈ abs := List.mem_of_getElem? hk
  unfold storedStream
  rw [h.chainOf_eq k e hk]
  simp only []
  rw [h.dir k e hk, deb_lastBytes, h.chainLen e he, implied_eq]
  have := needs_bound e.file
  have hle : (streamOfFile e.file).length ≤ needs e.file * granuleSize := by
    unfold granuleSize; omega
  rw [if_pos hle, h.stream e he]

theorem parseML_stream (data : Bytes) (a x : Nat) :
    parseML ([0x00, data.length / 256, data.length % 256, a / 256, a % 256] ++ data ++
      [0xFF, 0x00, 0x00, x / 256, x % 256]) = some (a, data, x) := by
  simp only [List.cons_append, List.nil_append, parseML]
  simp [Nat.div_add_mod']

theorem parseBasic_stream (data : Bytes) :
    parseBasic ([0xFF, data.length / 256, data.length % 256] ++ data) = some data := by
  simp only [List.cons_append, List.nil_append, parseBasic]
  simp [Nat.div_add_mod']

theorem readSlot_stream (img : Bytes) (k : Nat) (f : CFile) (a : Nat)
    (hd : dirEntry img k = dirEntryBytes f a (flsb f))
    (hs : storedStream img k = some (streamOfFile f)) :
    readSlot img k = some (toDFile f) ∧ lengthOK img k = true := by
  unfold readSlot lengthOK
  rw [hs, hd]
  simp only [deb_ftype, deb_ascii, deb_name, deb_ext]
  by_cases h2 : f.ftype = 0x02
  · rw [if_pos h2, if_pos h2, streamOfFile_ml h2, parseML_stream]
    unfold toDFile; rw [kindOf_ml _ h2]; simp
  · by_cases hff : f.dtype = 0xFF
    · rw [if_neg h2, if_neg h2, if_pos hff, if_pos hff, streamOfFile_ascii h2 hff]
      unfold toDFile; rw [kindOf_ascii h2 hff]; simp
    · rw [if_neg h2, if_neg h2, if_neg hff, if_neg hff, streamOfFile_basic h2 hff, parseBasic_stream]
      unfold toDFile; rw [kindOf_basic h2 hff]; simp

theorem Inv.fsck {img : Bytes} {abs : List Ent} (h : Inv img abs) : Fsck img := by
  refine ⟨h.len, ?_, ?_, ?_, ?_, ?_⟩
  · intro k hk
    rw [h.liveSlots_eq] at hk
    have hlt := List.mem_range.mp hk
    rw [h.chainOf_eq k abs[k] (List.getElem?_eq_getElem hlt)]
    rfl
  · unfold disjointOK; rw [h.allGranules_eq]; exact h.nodup
  · unfold exactOK exactOKWith; rw [h.allGranules_eq]
    intro g hg hne
    apply Classical.byContradiction
    intro hn
    exact hne (h.fatFree g hg hn)
  · intro k hk
    rw [h.liveSlots_eq] at hk
    have hlt := List.mem_range.mp hk
    have hget : abs[k]? = some abs[k] := List.getElem?_eq_getElem hlt
    exact (readSlot_stream img k _ _ (h.dir k _ hget) (h.storedStream_eq k _ hget)).2
  · unfold untouched untouchedWith; rw [h.allGranules_eq]
    exact ⟨h.granFree, h.t17a, h.t17b⟩

theorem Inv.read_eq {img : Bytes} {abs : List Ent} (h : Inv img abs) :
    Spec.DiskBasic.read img = some (abs.map (fun e => toDFile e.file)) := by
  unfold Spec.DiskBasic.read
  rw [h.liveSlots_eq]
  exact range_mapM abs (readSlot img) (fun e => toDFile e.file)
    (fun k e hk => (readSlot_stream img k _ _ (h.dir k e hk) (h.storedStream_eq k e hk)).1)

/-- the tool never writes an image with an ASCII file whose last-granule marker says 0 sectors: the marker it
writes is $C0 + `flgs`, at least 1 (`flgs_range`) -/
theorem Inv.K_false {img : Bytes} {abs : List Ent} (h : Inv img abs) : K_C07_zeroSectorAscii img = false := by
  unfold K_C07_zeroSectorAscii
  apply List.any_eq_false.mpr
  intro k hk
  rw [h.liveSlots_eq] at hk
  have hlt := List.mem_range.mp hk
  rw [h.chainOf_eq k abs[k] (List.getElem?_eq_getElem hlt)]
  have := (flgs_range abs[k].file).1
  have h0 : (flgs abs[k].file == 0) = false := by simp; omega
  simp [h0]

end CoCo.Dsk
