/-
C18-R2 (renaming): the TEXT of the left part of an indexed operand (`LDA TABLE,X`,
`[L+1,Y]`, `LEAX L,PCR`), which `resolve_symbols` parses again.  `renameLeftText f l` renames the symbols in the shapes
`SimpleLeft` (empty, `A`/`B`/`D`, a symbol, a number, `atom op atom`, or anything that is neither a symbol nor an
expression), and `create` of the renamed text is the renamed `create` of the text (`leftOK_simple`) when the new names
are symbols again (`GoodName`).  What `create` returns on these shapes is in Lemmas/CreateForward.lean.
-/
import CoCoVerif.Lemmas.CreateForward
import CoCoVerif.Lemmas.RenameLayout

namespace CoCo.Asm.Rename
open CoCo
open CoCo.Gen (InstrRow)

def rnAtom (f : Str → Str) (a : Str) : Str := if isSymName a then f a else a

def renameLeftText (f : Str → Str) (l : Str) : Str :=
  if isABD l then l
  else if isSymName l then f l
  else match splitExpr l with
    | some (a, op, b) => rnAtom f a ++ op :: rnAtom f b
    | none => l

def atomOK (a : Str) : Bool := isSymName a || decLit a || hexLit a

/-- neither a symbol nor an expression nor a `left,right` pair, and no mode prefix: a number in some notation, or
nothing the assembler accepts -/
def plainOther (l : Str) : Bool :=
  !(l.contains ',') && !(l.all isSym) &&
    (match l with | c :: _ => c != '<' && c != '>' && c != '#' | [] => true)

/-- the shapes of a left part on which `renameLeftText` is proved right -/
def SimpleLeft (l : Str) : Bool :=
  l == [] || isABD l || isSymName l || decLit l ||
  (match splitExpr l with
   | some (a, _, b) => atomOK a && atomOK b
   | none => plainOther l)

def leftNames (l : Str) : List Str :=
  if isABD l then []
  else if isSymName l then [l]
  else match splitExpr l with
    | some (a, _, b) => (if isSymName a then [a] else []) ++ (if isSymName b then [b] else [])
    | none => []

/-- the new name `y` of `x` is a symbol, and it is not an accumulator name unless the old one was -/
def GoodName (x y : Str) : Prop := isSymName y = true ∧ (isABD x = false → isABD y = false)

theorem isABD_length {x : Str} (h : isABD x = true) : x.length = 1 := by
  simp only [isABD, Bool.or_eq_true, beq_iff_eq] at h
  rcases h with (rfl | rfl) | rfl <;> rfl

theorem atomShape_atomOK {a : Str} (h : atomOK a = true) : AtomShape a := by
  simp only [atomOK, Bool.or_eq_true] at h
  rcases h with (h | h) | h
  · exact atomShape_symName h
  · exact atomShape_lit (.inl h)
  · exact atomShape_lit (.inr h)

theorem simpleLeft_expr {l a b : Str} {op : Char} (hs : SimpleLeft l = true) (habd : isABD l = false)
    (hsym : isSymName l = false) (hsp : splitExpr l = some (a, op, b)) : atomOK a = true ∧ atomOK b = true := by
  simp only [SimpleLeft, habd, hsym, hsp, Bool.or_false, Bool.or_eq_true, beq_iff_eq, Bool.and_eq_true] at hs
  rcases hs with (h | h) | h
  · subst h; cases hsp
  · have := splitExpr_dec (decLit_iff.mp h).1
    rw [this] at hsp; cases hsp
  · exact h

section
variable (f : Str → Str) (R : Ren)

theorem create_atom (hR : R.sym = f) {a : Str} (ha : atomOK a = true) (hg : isSymName a = true → isSymName (f a) = true)
    (fuel : Nat) :
    (∃ v, create (fuel + 1) a false false false = .ok v) ∧
    create (fuel + 1) (rnAtom f a) false false false = (create (fuel + 1) a false false false).map (rnValue R) ∧
    AtomShape (rnAtom f a) ∧
    (∀ v, create (fuel + 1) a false false false = .ok v → valSyms v = if isSymName a then [a] else []) := by
  by_cases hs : isSymName a = true
  · have e : rnAtom f a = f a := by simp [rnAtom, hs]
    rw [e, create_symName hs, create_symName (hg hs)]
    refine ⟨⟨_, rfl⟩, ?_, atomShape_symName (hg hs), ?_⟩
    · simp only [Except.map, rnValue, hR]
    · intro v hv; cases hv; simp [valSyms, hs]
  · have e : rnAtom f a = a := by simp [rnAtom, hs]
    have hl : decLit a = true ∨ hexLit a = true := by
      simp only [atomOK, Bool.or_eq_true] at ha
      rcases ha with (h | h) | h
      · exact absurd h hs
      · exact .inl h
      · exact .inr h
    obtain ⟨v, hv, hn⟩ := create_lit hl fuel false false
    rw [e, hv]
    refine ⟨⟨_, rfl⟩, ?_, atomShape_lit hl, ?_⟩
    · simp only [Except.map, rnValue_of_numeric hn]
    · intro v' hv'; cases hv'
      have : valSyms v = [] := by cases v <;> first | rfl | cases hn
      simp [this, hs]

theorem plainOther_create {l : Str} (h : plainOther l = true) (hs : splitExpr l = none) (fuel : Nat) (is16 defExt : Bool)
    {v : Value} (hv : create (fuel + 1) l false is16 defExt = .ok v) : v.isNumeric = true := by
  simp only [plainOther, Bool.and_eq_true, Bool.not_eq_true'] at h
  obtain ⟨⟨hc, hsym⟩, hp⟩ := h
  cases l with
  | nil => simp [create] at hv
  | cons c rest =>
    simp only [Bool.and_eq_true, bne_iff_ne] at hp
    rw [create_noPrefix (fun d hd => by cases hd; exact ⟨hp.1.1, hp.1.2, hp.2⟩) (by simp)] at hv
    simp only [createTail, hs, hc, hsym, Bool.and_false, Bool.false_eq_true, if_false] at hv
    split at hv
    · rename_i w hw
      cases hv
      exact numericOfStr_isNumeric hw
    · cases hv

theorem create_renameLeft (hR : R.sym = f) {l : Str} (hs : SimpleLeft l = true) (habd : isABD l = false)
    (hg : ∀ x ∈ leftNames l, GoodName x (f x)) (is16 defExt : Bool) :
    create 4 (renameLeftText f l) false is16 defExt = (create 4 l false is16 defExt).map (rnValue R) ∧
    (∀ v, create 4 l false is16 defExt = .ok v → valSyms v = leftNames l) := by
  unfold leftNames at hg ⊢
  unfold renameLeftText
  simp only [habd, Bool.false_eq_true, if_false] at hg ⊢
  by_cases hsym : isSymName l = true
  · simp only [hsym, if_true] at hg ⊢
    have hg' := (hg l (by simp)).1
    rw [create_symName hsym, create_symName hg']
    refine ⟨by simp only [Except.map, rnValue, hR], ?_⟩
    intro v hv; cases hv; rfl
  · simp only [hsym, Bool.false_eq_true, if_false] at hg ⊢
    cases hsp : splitExpr l with
    | none =>
      simp only [hsp] at hg ⊢
      have hnum : ∀ v, create 4 l false is16 defExt = .ok v → v.isNumeric = true := by
        intro v hv
        simp only [SimpleLeft, habd, hsym, hsp, Bool.or_false, Bool.or_eq_true, beq_iff_eq] at hs
        rcases hs with (h | h) | h
        · subst h; simp [create] at hv
        · obtain ⟨w, hw, hn⟩ := create_lit (.inl h) 3 is16 defExt
          rw [hw] at hv; cases hv; exact hn
        · exact plainOther_create h hsp 3 is16 defExt hv
      cases hc : create 4 l false is16 defExt with
      | error e => exact ⟨rfl, by intro v hv; cases hv⟩
      | ok v =>
        have hn := hnum v hc
        refine ⟨by simp only [Except.map, rnValue_of_numeric hn], ?_⟩
        intro v' hv'; cases hv'
        cases v <;> first | rfl | cases hn
    | some x =>
      obtain ⟨a, op, b⟩ := x
      simp only [hsp] at hg ⊢
      obtain ⟨hl, hop⟩ := splitExpr_sound hsp
      have hab := simpleLeft_expr hs habd (by simpa using hsym) hsp
      obtain ⟨⟨lv, hlv⟩, ea, sa, na⟩ := create_atom f R hR hab.1
        (fun h => (hg a (by simp [h])).1) 2
      obtain ⟨⟨rv, hrv⟩, eb, sb, nb⟩ := create_atom f R hR hab.2
        (fun h => (hg b (by simp [h])).1) 2
      have sa0 : AtomShape a := atomShape_atomOK hab.1
      have sb0 : AtomShape b := atomShape_atomOK hab.2
      rw [hlv] at ea
      rw [hrv] at eb
      rw [hl, create_exprText sa0 sb0 hop 2 hlv hrv, create_exprText sa sb hop 2 ea eb]
      refine ⟨?_, ?_⟩
      · simp only [Except.map, rnValue, rnValue_isExtendedLike]
      · intro v hv; cases hv
        simp only [valSyms, na lv hlv, nb rv hrv]

theorem opChar_not_hex {c : Char} (h : opChar c = true) : isHexD c = false ∧ isDigit c = false := by
  simp only [opChar, Bool.or_eq_true, beq_iff_eq] at h
  rcases h with ((rfl | rfl) | rfl) | rfl <;> decide

theorem numericOfStr_exprText {a : Str} (ha : AtomShape a) {op : Char} (hop : opChar op = true) (b : Str)
    (hint : Option Nat) (m : Mode) : ∃ e, numericOfStr (a ++ op :: b) hint m = .error e := by
  obtain ⟨c0, t0, e, hc0⟩ := atomShape_head ha []
  rw [List.append_nil] at e
  subst e
  have hne : c0 ≠ apos ∧ c0 ≠ '%' ∧ c0 ≠ '-' := by
    rcases hc0 with h | rfl
    · exact ⟨(isSym_ne h).1, (isSym_ne h).2.1, (isSym_ne h).2.2.2.1⟩
    · decide
  have hmem : op ∈ t0 ++ op :: b := by simp
  have hx : (t0 ++ op :: b).all isHexD = false := by
    cases h : (t0 ++ op :: b).all isHexD with
    | false => rfl
    | true =>
      have := List.all_eq_true.mp h op hmem
      rw [(opChar_not_hex hop).1] at this; cases this
  have hd : (c0 :: (t0 ++ op :: b)).all isDigit = false := by
    cases h : (c0 :: (t0 ++ op :: b)).all isDigit with
    | false => rfl
    | true =>
      have := List.all_eq_true.mp h op (by simp)
      rw [(opChar_not_hex hop).2] at this; cases this
  exact numericOfStr_error hne.1 hne.2.1 hne.2.2 (fun _ => hx) hd hint m

theorem elemHex_err {x : Str} {e : Exn} (h : numericOfStr x none .none = .error e) (w : Nat) :
    elemHex w x = .error e := by
  unfold elemHex; rw [h]

theorem pendingAt_symName {x : Str} (h : isSymName x = true) (w : Nat) : pendingAt w x = true := by
  obtain ⟨e, he⟩ := numericOfStr_symName h none .none
  unfold pendingAt pendingElem
  rw [create_symName h 3 false true, elemHex_err he]
  rfl

theorem pendingAt_exprText {x a b : Str} {op : Char} (hsp : splitExpr x = some (a, op, b)) (ha : atomOK a = true)
    (hb : atomOK b = true) (w : Nat) : pendingAt w x = true := by
  obtain ⟨hl, hop⟩ := splitExpr_sound hsp
  obtain ⟨⟨lv, hlv⟩, _, _, _⟩ := create_atom (fun x => x) ⟨id, id, id⟩ rfl ha (fun h => h) 2
  obtain ⟨⟨rv, hrv⟩, _, _, _⟩ := create_atom (fun x => x) ⟨id, id, id⟩ rfl hb (fun h => h) 2
  obtain ⟨e, he⟩ := numericOfStr_exprText (atomShape_atomOK ha) hop b none .none
  rw [← hl] at he
  unfold pendingAt pendingElem
  rw [elemHex_err he, hl, create_exprText (atomShape_atomOK ha) (atomShape_atomOK hb) hop 2 hlv hrv]
  rfl

theorem pendingAt_ne_nil {w : Nat} {x : Str} (h : pendingAt w x = true) : x ≠ [] := by
  rintro rfl
  simp [pendingAt, pendingElem, create] at h

theorem atomOK_rnAtom {a : Str} (ha : atomOK a = true) (hg : isSymName a = true → isSymName (f a) = true) :
    atomOK (rnAtom f a) = true := by
  unfold rnAtom
  split
  · rename_i h; simp [atomOK, hg h]
  · exact ha

theorem renameLeft_same_or_pending {l : Str} (hs : SimpleLeft l = true) (habd : isABD l = false)
    (hg : ∀ x ∈ leftNames l, GoodName x (f x)) :
    renameLeftText f l = l ∨
    (isABD (renameLeftText f l) = false ∧ ∀ w, pendingAt w l = true ∧ pendingAt w (renameLeftText f l) = true) := by
  cases hsym : isSymName l with
  | true =>
    have e : renameLeftText f l = f l := by simp [renameLeftText, habd, hsym]
    have hg' := hg l (by simp [leftNames, habd, hsym])
    rw [e]
    exact .inr ⟨hg'.2 habd, fun w => ⟨pendingAt_symName hsym w, pendingAt_symName hg'.1 w⟩⟩
  | false =>
    cases hsp : splitExpr l with
    | none => exact .inl (by simp [renameLeftText, habd, hsym, hsp])
    | some y =>
      obtain ⟨a, op, b⟩ := y
      have e : renameLeftText f l = rnAtom f a ++ op :: rnAtom f b := by simp [renameLeftText, habd, hsym, hsp]
      have hab := simpleLeft_expr hs habd hsym hsp
      have ha := atomOK_rnAtom f hab.1 (fun h => (hg a (by simp [leftNames, habd, hsym, hsp, h])).1)
      have hb := atomOK_rnAtom f hab.2 (fun h => (hg b (by simp [leftNames, habd, hsym, hsp, h])).1)
      have hsp' := splitExpr_atoms (atomShape_atomOK ha) (atomShape_atomOK hb) (splitExpr_sound hsp).2
      rw [e]
      refine .inr ⟨?_, fun w => ⟨pendingAt_exprText hsp hab.1 hab.2 w, pendingAt_exprText hsp' ha hb w⟩⟩
      -- an accumulator name has one character, `atom op …` at least two
      cases hc : isABD (rnAtom f a ++ op :: rnAtom f b) with
      | false => rfl
      | true =>
        have hlen := isABD_length hc
        have := List.length_pos_iff.mpr (atomShape_ne_nil (atomShape_atomOK ha))
        simp only [List.length_append, List.length_cons] at hlen
        omega

theorem leftOK_simple (hR : R.sym = f) (hRl : R.left = renameLeftText f) (row : InstrRow) {l : Str}
    (hstr : row.isStringDefine = false) (hs : SimpleLeft l = true) (hg : ∀ x ∈ leftNames l, GoodName x (f x)) :
    LeftOK R row l := by
  have habd_eq : isABD l = true → renameLeftText f l = l := by
    intro h; unfold renameLeftText; rw [if_pos h]
  have key : (renameLeftText f l = [] ↔ l = []) ∧ isABD (renameLeftText f l) = isABD l := by
    cases hb : isABD l with
    | true => rw [habd_eq hb]; exact ⟨Iff.rfl, hb⟩
    | false =>
      rcases renameLeft_same_or_pending f hs hb hg with e | ⟨h1, h2⟩
      · rw [e]; exact ⟨Iff.rfl, hb⟩
      · exact ⟨iff_of_false (pendingAt_ne_nil (h2 2).2) (pendingAt_ne_nil (h2 2).1), h1⟩
  refine ⟨by rw [hRl]; exact key.1, by rw [hRl]; exact key.2, by rw [hRl]; exact habd_eq, ?_, ?_⟩
  · intro _ hb
    rw [hRl, hstr]
    exact (create_renameLeft f R hR hs hb hg _ _).1
  · intro _ hb
    rw [hRl]
    exact (create_renameLeft f R hR hs hb hg false true).1

theorem sideSyms_simple (row : InstrRow) {l : Str} (hstr : row.isStringDefine = false) (hs : SimpleLeft l = true) :
    ∀ x ∈ leftNames l, x ∈ sideSyms row (.text l) := by
  intro x hx
  cases hb : isABD l with
  | true => simp [leftNames, hb] at hx
  | false =>
    simp only [sideSyms, hb, Bool.false_eq_true, if_false, hstr]
    -- `create` succeeds whenever there is a name
    by_cases hsym : isSymName l = true
    · rw [create_symName hsym]
      simpa [leftNames, hb, hsym, valSyms] using hx
    · cases hsp : splitExpr l with
      | none => simp [leftNames, hb, hsym, hsp] at hx
      | some y =>
        obtain ⟨a, op, b⟩ := y
        obtain ⟨hl, hop⟩ := splitExpr_sound hsp
        have hab := simpleLeft_expr hs hb (by simpa using hsym) hsp
        obtain ⟨⟨lv, hlv⟩, _, _, na⟩ := create_atom (fun x => x) ⟨id, id, id⟩ rfl hab.1 (fun h => h) 2
        obtain ⟨⟨rv, hrv⟩, _, _, nb⟩ := create_atom (fun x => x) ⟨id, id, id⟩ rfl hab.2 (fun h => h) 2
        have sa0 : AtomShape a := atomShape_atomOK hab.1
        have sb0 : AtomShape b := atomShape_atomOK hab.2
        rw [hl, create_exprText sa0 sb0 hop 2 hlv hrv]
        simp only [valSyms, na lv hlv, nb rv hrv]
        simpa [leftNames, hb, hsym, hsp] using hx

/-- when every name of `progNames` is renamed to a good name, the clauses `label` and `left` of `RenOK` follow from the
shapes of the index left parts -/
theorem _root_.CoCo.Props.label_left_of_good {ρ : Str → Str} {ss : List Stmt}
    (hgood : ∀ x ∈ Rename.progNames ss, Rename.GoodName x (ρ x))
    (hleft : ∀ s ∈ ss, ∀ l, s.operand.left = .text l → s.row.isStringDefine = false ∧ Rename.SimpleLeft l = true) :
    (∀ s ∈ ss, s.label ≠ [] → ρ s.label ≠ []) ∧
    ∀ s ∈ ss, ∀ l, s.operand.left = .text l →
      s.row.isStringDefine = false ∧ Rename.SimpleLeft l = true ∧ ∀ x ∈ Rename.leftNames l, Rename.GoodName x (ρ x) := by
  refine ⟨fun s hs hl hc => ?_, fun s hs l hl => ?_⟩
  · have := (hgood s.label (List.mem_flatMap.mpr ⟨s, hs, by simp [Rename.stmtNames, hl]⟩)).1
    rw [hc] at this; cases this
  · obtain ⟨h1, h2⟩ := hleft s hs l hl
    refine ⟨h1, h2, fun x hx => hgood x (List.mem_flatMap.mpr ⟨s, hs, ?_⟩)⟩
    simp only [Rename.stmtNames, List.mem_append]
    right; rw [hl]; exact Rename.sideSyms_simple s.row h1 h2 x hx

end

/-! An element of an FCB / FDB list that is a symbol or an expression is evaluated from its TEXT (`evalElem`, `create 4 x false
false true`). For an element of one of the shapes `SimpleLeft` that is not `A` / `B` / `D`, `renameLeftText` is a faithful
renaming (`ElemRn`): `create` commutes (`create_renameLeft`), the renamed element is still evaluated (a renamed symbol is a
symbol, `atom op atom` stays an expression, neither is a numeric literal), its symbols are `leftNames`. -/

theorem elemRn_simple (f : Str → Str) (R : Ren) (hR : R.sym = f) (N : List Str) {x : Str} (habd : isABD x = false)
    (hs : SimpleLeft x = true) (hg : ∀ y ∈ leftNames x, GoodName y (f y)) (hN : ∀ y ∈ leftNames x, y ∈ N) (w : Nat) :
    ElemRn R N w x (renameLeftText f x) := by
  obtain ⟨hc, hsyms⟩ := create_renameLeft f R hR hs habd hg false true
  refine ⟨?_, fun _ => ⟨hc, fun v hv y hy => hN y (by rw [← hsyms v hv]; exact hy)⟩⟩
  rcases renameLeft_same_or_pending f hs habd hg with e | ⟨_, h⟩
  · rw [e]
  · rw [(h w).1, (h w).2]

/-- the renaming of one element text of a list: an element that the list pass evaluates is renamed like an index left
part, a literal is left alone -/
def renameElemText (f : Str → Str) (x : Str) : Str := if pendingAny x then renameLeftText f x else x

/-- what C18-R2 asks of a list element that the list pass evaluates: not `A` / `B` / `D` (which `renameLeftText` leaves
alone), one of the shapes `SimpleLeft` (a symbol, `atom op atom`), the new names symbols again -/
def ElemSimple (f : Str → Str) (x : Str) : Prop :=
  pendingAny x = true → isABD x = false ∧ SimpleLeft x = true ∧ ∀ y ∈ leftNames x, GoodName y (f y)

def elemNames (x : Str) : List Str := if pendingAny x then leftNames x else []

theorem elemRn_renameElem (f : Str → Str) (R : Ren) (hR : R.sym = f) (N : List Str) {x : Str} (h : ElemSimple f x)
    (hN : ∀ y ∈ elemNames x, y ∈ N) {w : Nat} (hw : w = 2 ∨ w = 4) : ElemRn R N w x (renameElemText f x) := by
  cases hp : pendingAny x with
  | false =>
    have e : renameElemText f x = x := by simp [renameElemText, hp]
    rw [e]
    exact elemRn_refl N (pendingAny_false hp hw)
  | true =>
    have e : renameElemText f x = renameLeftText f x := by simp [renameElemText, hp]
    obtain ⟨h1, h2, h3⟩ := h hp
    rw [e]
    exact elemRn_simple f R hR N h1 h2 h3 (fun y hy => hN y (by simp [elemNames, hp, hy])) w

theorem listRn_simple (f : Str → Str) (R : Ren) (hR : R.sym = f) (N : List Str) {txt : Str}
    (ht : listElems (R.txt txt) = (listElems txt).map (renameElemText f))
    (h : ∀ x ∈ listElems txt, ElemSimple f x) (hN : ∀ x ∈ listElems txt, ∀ y ∈ elemNames x, y ∈ N) :
    ListRn R N txt := by
  unfold ListRn
  rw [ht]
  exact forall2_map_right _ _ (fun x hx =>
    ⟨elemRn_renameElem f R hR N (h x hx) (hN x hx) (.inl rfl), elemRn_renameElem f R hR N (h x hx) (hN x hx) (.inr rfl)⟩)

/-- on the shapes `SimpleLeft`, a text that the list pass does not evaluate has no symbol in it: `renameElemText` is
`renameLeftText` -/
theorem renameElemText_simple (f : Str → Str) {x : Str} (hs : SimpleLeft x = true) :
    renameElemText f x = renameLeftText f x := by
  unfold renameElemText
  cases hp : pendingAny x with
  | true => rfl
  | false =>
    simp only [Bool.false_eq_true, if_false]
    have hp2 := pendingAny_false hp (.inl rfl)
    cases habd : isABD x with
    | true => simp [renameLeftText, habd]
    | false =>
      cases hsym : isSymName x with
      | true => rw [pendingAt_symName hsym] at hp2; cases hp2
      | false =>
        cases hsp : splitExpr x with
        | none => simp [renameLeftText, habd, hsym, hsp]
        | some y =>
          obtain ⟨a, op, b⟩ := y
          have hab := simpleLeft_expr hs habd hsym hsp
          rw [pendingAt_exprText hsp hab.1 hab.2] at hp2; cases hp2

theorem map_renameElem_simple (f : Str → Str) {xs : List Str} (h : ∀ x ∈ xs, SimpleLeft x = true) :
    xs.map (renameElemText f) = xs.map (renameLeftText f) :=
  List.map_congr_left (fun x hx => renameElemText_simple f (h x hx))

theorem map_renameElem_lit (f : Str → Str) {txt : Str} (h : litElems txt = true) :
    (listElems txt).map (renameElemText f) = listElems txt := by
  have : ∀ x ∈ listElems txt, renameElemText f x = id x := by
    intro x hx; simp [renameElemText, litElems_any h x hx]
  rw [List.map_congr_left this, List.map_id]

/-- the symbols of the elements of the FCB / FDB lists that the list pass evaluates -/
def listNames (ss : List Stmt) : List Str :=
  match preLists ss with
  | none => []
  | some x => x.flatMap (fun s => if isList s.pkg.additional then (listElems s.operand.text).flatMap elemNames else [])

theorem mem_listNames {ss x : List Stmt} (hx : preLists ss = some x) {s : Stmt} (hs : s ∈ x)
    (hl : isList s.pkg.additional = true) {e : Str} (he : e ∈ listElems s.operand.text) {y : Str} (hy : y ∈ elemNames e) :
    y ∈ listNames ss := by
  unfold listNames
  rw [hx]
  exact List.mem_flatMap.mpr ⟨s, hs, by rw [if_pos hl]; exact List.mem_flatMap.mpr ⟨e, he, hy⟩⟩

theorem listNames_lit {ss : List Stmt}
    (h : ∀ x, preLists ss = some x → ∀ s ∈ x, isList s.pkg.additional = true → litElems s.operand.text = true) :
    ∀ y, y ∉ listNames ss := by
  intro y hy
  unfold listNames at hy
  cases hx : preLists ss with
  | none => rw [hx] at hy; cases hy
  | some x =>
    rw [hx] at hy
    obtain ⟨s, hs, hy⟩ := List.mem_flatMap.mp hy
    by_cases hl : isList s.pkg.additional = true
    · rw [if_pos hl] at hy
      obtain ⟨e, he, hy⟩ := List.mem_flatMap.mp hy
      simp [elemNames, litElems_any (h x hx s hs hl) e he] at hy
    · rw [if_neg hl] at hy; cases hy

end CoCo.Asm.Rename
