/-
Lemmas/RelocList.lean — relocation (C18-R1): the pass `evalLists` over the FCB / FDB lists.

A list element that is a literal keeps its digits; a symbol or an expression is evaluated on the label table `t` and —
when it resolves to a label or a label expression — on the final addresses.  `ElemConst t x`: the element `x` does NOT
resolve to a label or a label expression (it is an EQU constant, an expression of constants, or it is rejected); then
`evalElem ss t w x` does not depend on the layout `ss`.  `ListsConst t s`: every evaluated element of the list statement
`s` is of that kind.  Under `ListsConst` the pass gives the same digits in a program and in the program moved by `D`
(`evalLists_outRel`, `fixAllL_outRel`).  A list with a label element (`FDB L1,L2`): Lemmas/RelocListLabel.lean.
-/
import CoCoVerif.Lemmas.EvalLists
import CoCoVerif.Lemmas.FixBranch

namespace CoCo.Asm
open CoCo

def ElemConst (t : SymTab) (x : Str) : Prop :=
  ∀ v r, create 4 x false false true = .ok v → v.resolve t = .ok r → r.isAddress = false ∧ r.isAddrExpr = false

/-- every evaluated (pending) element of the FCB / FDB list statement `s` is `ElemConst`; says nothing about a statement
whose operand field is not a list -/
def ListsConst (t : SymTab) (s : Stmt) : Prop :=
  (∀ hs, s.pkg.additional = .multiByte hs → ∀ x ∈ listElems s.operand.text, pendingAt 2 x = true → ElemConst t x) ∧
  (∀ hs, s.pkg.additional = .multiWord hs → ∀ x ∈ listElems s.operand.text, pendingAt 4 x = true → ElemConst t x)

theorem elemNum_const {ss : List Stmt} {r : Value} (h1 : r.isAddress = false) (h2 : r.isAddrExpr = false) :
    elemNum ss r = .ok r := by
  unfold elemNum
  simp [h1, h2]

theorem evalElem_reloc_const {t : SymTab} {x : Str} (hx : ElemConst t x) (ss ss' : List Stmt) (w : Nat) :
    evalElem ss' t w x = evalElem ss t w x := by
  rcases evalElem_cases t x with hd | ⟨v, r, hv, hr, e⟩
  · rw [hd, hd]
  · obtain ⟨h1, h2⟩ := hx v r hv hr
    rw [e, e, elemNum_const h1 h2, elemNum_const h1 h2]

theorem evalElems_reloc_const {t : SymTab} (ss ss' : List Stmt) (w : Nat) : ∀ (xs hs : List Str),
    (∀ x ∈ xs, pendingAt w x = true → ElemConst t x) → evalElems ss' t w xs hs = evalElems ss t w xs hs := by
  intro xs hs hc
  rw [evalElems_eq_traverse ss' t w 0, evalElems_eq_traverse ss t w 0]
  refine Outcome.traverse_congr fun _ p hp => ?_
  unfold evalElem1
  cases hpe : pendingAt w p.1 with
  | false => rfl
  | true =>
    simp only [if_true]
    exact evalElem_reloc_const (hc p.1 (List.mem_of_getElem? (List.getElem?_zip_eq_some.1 hp).1) hpe) ss ss' w

def Value.isList (v : Value) : Bool := v.isMultiByte || v.isMultiWord

theorem Value.isList_false {v : Value} (h : v.isList = false) :
    (∀ hs, v ≠ .multiByte hs) ∧ (∀ hs, v ≠ .multiWord hs) := by
  constructor <;> intro hs e <;> rw [e] at h <;> cases h

theorem Value.isList_of_numeric {v : Value} (h : v.isNumeric = true) : v.isList = false := by
  cases v <;> first | rfl | cases h

/-- what the relations between the statements of a program and of the moved program have in common, as far as the list
pass is concerned: same operand; a list field is the same on both sides; a non-list field stays a non-list field; and the
relation survives writing the same value into both fields -/
structure ListStable (R : Stmt → Stmt → Prop) : Prop where
  operand : ∀ {x x' : Stmt}, R x x' → x'.operand = x.operand
  list : ∀ {x x' : Stmt}, R x x' → x.pkg.additional.isList = true → x'.pkg.additional = x.pkg.additional
  nonlist : ∀ {x x' : Stmt}, R x x' → x.pkg.additional.isList = false → x'.pkg.additional.isList = false
  set : ∀ {x x' : Stmt} (v : Value), R x x' → x'.pkg.additional = x.pkg.additional →
    R { x with pkg := { x.pkg with additional := v } } { x' with pkg := { x'.pkg with additional := v } }

theorem Value.isList_kind {v : Value} (h : v.isList = true) : ∃ w mk hs, ListKind w mk ∧ v = mk hs := by
  cases v <;> first | exact ⟨_, _, _, .byte, rfl⟩ | exact ⟨_, _, _, .word, rfl⟩ | cases h

theorem evalList1_isList {t : SymTab} {fs : List Stmt} {x y : Stmt} (hA : evalList1 t fs x = .ok y)
    (hl : x.pkg.additional.isList = true) : y.pkg.additional.isList = true := by
  obtain ⟨w, mk, hs, k, ha⟩ := Value.isList_kind hl
  obtain ⟨hs', _, rfl⟩ := evalList1_ok_list k ha hA
  cases k <;> rfl

theorem ListsConst.kind {t : SymTab} {s : Stmt} (hc : ListsConst t s) {w : Nat} {mk : List Str → Value}
    (k : ListKind w mk) {hs : List Str} (ha : s.pkg.additional = mk hs) :
    ∀ x ∈ listElems s.operand.text, pendingAt w x = true → ElemConst t x := by
  cases k
  · exact hc.1 hs ha
  · exact hc.2 hs ha

section
variable {R : Stmt → Stmt → Prop}

theorem evalList1_outRel (hR : ListStable R) (t : SymTab) (fs fs' : List Stmt) {x x' : Stmt} (hx : R x x')
    (hc : ListsConst t x) : OutRel R (evalList1 t fs x) (evalList1 t fs' x') := by
  cases hl : x.pkg.additional.isList with
  | false =>
    obtain ⟨a1, a2⟩ := Value.isList_false hl
    obtain ⟨b1, b2⟩ := Value.isList_false (hR.nonlist hx hl)
    rw [evalList1_keep t fs a1 a2, evalList1_keep t fs' b1 b2]
    exact .ok hx
  | true =>
    have he := hR.list hx hl
    obtain ⟨w, mk, hs, k, ha⟩ := Value.isList_kind hl
    -- the same elements with the same digits go through `evalElems`, which does not look at the layout
    rw [evalList1_map k t fs ha, evalList1_map k t fs' (he.trans ha), hR.operand hx,
      evalElems_reloc_const fs fs' w _ hs (hc.kind k ha)]
    exact OutRel.map_same _ fun hs' _ => hR.set _ hx he

theorem evalLists_outRel (hR : ListStable R) (t : SymTab) (fs fs' : List Stmt) : ∀ (gs gs' : List Stmt),
    (∀ x ∈ gs, ListsConst t x) → PW R gs gs' → OutRel (PW R) (evalLists t fs gs) (evalLists t fs' gs') := by
  intro gs gs' hc h
  rw [evalLists_eq_traverse t fs 0, evalLists_eq_traverse t fs' 0]
  exact Outcome.traverse_outRel h.1 fun j x x' hx hx' =>
    evalList1_outRel hR t fs fs' (h.2 j x x' hx hx') (hc x (List.mem_of_getElem? hx))

theorem fixAllL_outRel (hR : ListStable R) (t : SymTab) {as as' : List Stmt}
    (h : OutRel (PW R) (fixAll as 0 as) (fixAll as' 0 as'))
    (hc : ∀ fs, fixAll as 0 as = .ok fs → ∀ x ∈ fs, ListsConst t x) :
    OutRel (PW R) (fixAllL t as) (fixAllL t as') := by
  rw [fixAllL_eq, fixAllL_eq]
  exact h.bind fun fs fs' ha _ hr => evalLists_outRel hR t fs fs' fs fs' (hc fs ha) hr

end

/-- `fix_addresses; fit_operand_width` stores a number or leaves a list field alone: a list field after the step was the
same list field before -/
theorem fixFit_list_rev {ss : List Stmt} {i : Nat} {s u : Stmt}
    (hss : ∀ j v, addrOf ss j = some v → v.isNumeric = true) (h : fixFit ss i s = .ok u) :
    (∀ hs, u.pkg.additional = .multiByte hs → s.pkg.additional = .multiByte hs) ∧
    (∀ hs, u.pkg.additional = .multiWord hs → s.pkg.additional = .multiWord hs) := by
  obtain ⟨s1, h1, h2⟩ := fixFit_ok.mp h
  obtain ⟨l1, l2⟩ := fitWidth_list h2
  rcases fixOne_field hss h1 with hn | ⟨rfl, _⟩
  · have hn' := fitWidth_isNumeric h2 hn
    constructor <;> intro hs e <;> rw [e] at hn' <;> cases hn'
  · exact ⟨fun hs e => (l1 hs).mp e, fun hs e => (l2 hs).mp e⟩

theorem fixFit_listsConst {t : SymTab} {ss : List Stmt} {i : Nat} {s u : Stmt}
    (hss : ∀ j v, addrOf ss j = some v → v.isNumeric = true) (h : fixFit ss i s = .ok u) (hc : ListsConst t s) :
    ListsConst t u := by
  obtain ⟨r1, r2⟩ := fixFit_list_rev hss h
  obtain ⟨v, rfl⟩ := fixFit_same h
  exact ⟨fun hs e => hc.1 hs (r1 hs e), fun hs e => hc.2 hs (r2 hs e)⟩

theorem fixAll_listsConst {t : SymTab} {as fs : List Stmt}
    (hss : ∀ j v, addrOf as j = some v → v.isNumeric = true)
    (hc : ∀ (i : Nat) (s : Stmt), as[i]? = some s → ListsConst t s) (h : fixAll as 0 as = .ok fs) :
    ∀ x ∈ fs, ListsConst t x := by
  intro x hx
  obtain ⟨j, s, hs, hf⟩ := fixAll_mem h hx
  exact fixFit_listsConst hss hf (hc j s hs)

theorem evalList1_listsConst {t t0 : SymTab} {ss : List Stmt} {s s' : Stmt} (h : evalList1 t0 ss s = .ok s')
    (hc : ListsConst t s') : ListsConst t s := by
  rcases list_or_not s.pkg.additional with ⟨w, mk, hs, k, ha⟩ | ⟨hb, hw⟩
  · obtain ⟨hs', _, rfl⟩ := evalList1_ok_list k ha h
    cases k
    · exact ⟨fun g e => hc.1 hs' rfl, fun g e => (nomatch ha.symm.trans e)⟩
    · exact ⟨fun g e => (nomatch ha.symm.trans e), fun g e => hc.2 hs' rfl⟩
  · rw [evalList1_keep t0 ss hb hw] at h
    cases h; exact hc

theorem fixAllL_steps {t : SymTab} {l l' : List Stmt} (h : fixAllL t l = .ok l') :
    ∃ x5, fixAll l 0 l = .ok x5 ∧ l'.length = l.length ∧
      ∀ (j : Nat) (s : Stmt), l[j]? = some s →
        ∃ u s', fixFit l j s = .ok u ∧ l'[j]? = some s' ∧ evalList1 t x5 u = .ok s' := by
  obtain ⟨x5, h1, h2⟩ := fixAllL_ok.mp h
  obtain ⟨l1, p1⟩ := fixAll_ok h1
  obtain ⟨l2, p2⟩ := evalLists_ok h2
  refine ⟨x5, h1, l2.trans l1, ?_⟩
  intro j s hs
  obtain ⟨u, hu, hf⟩ := p1 j s hs
  rw [Nat.zero_add] at hf
  obtain ⟨s', hs', he⟩ := p2 j u hu
  exact ⟨u, s', hf, hs', he⟩

def elemConstB (t : SymTab) (x : Str) : Bool :=
  match create 4 x false false true with
  | .ok v => (match v.resolve t with | .ok r => !r.isAddress && !r.isAddrExpr | .error _ => true)
  | .error _ => true

theorem elemConstB_sound {t : SymTab} {x : Str} (h : elemConstB t x = true) : ElemConst t x := by
  intro v r hv hr
  unfold elemConstB at h
  rw [hv] at h
  dsimp only at h
  rw [hr] at h
  simpa using h

def listsConstB (t : SymTab) (s : Stmt) : Bool :=
  match s.pkg.additional with
  | .multiByte _ => (listElems s.operand.text).all (fun x => !pendingAt 2 x || elemConstB t x)
  | .multiWord _ => (listElems s.operand.text).all (fun x => !pendingAt 4 x || elemConstB t x)
  | _ => true

/-- a test that holds of every statement of a list, in the form the covering hypotheses have -/
theorem all_sound {α : Type} {f : α → Bool} {C : α → Prop} (hf : ∀ x, f x = true → C x) {l : List α}
    (h : l.all f = true) : ∀ (i : Nat) (x : α), l[i]? = some x → C x :=
  fun _ x hx => hf x (List.all_eq_true.mp h x (List.mem_of_getElem? hx))

theorem all_pending_sound {P : Str → Prop} {f : Str → Bool} (hf : ∀ x, f x = true → P x) {w : Nat} {xs : List Str}
    (h : xs.all (fun x => !pendingAt w x || f x) = true) : ∀ x ∈ xs, pendingAt w x = true → P x := by
  intro x hx hp
  have := List.all_eq_true.mp h x hx
  rw [hp] at this
  exact hf x (by simpa using this)

theorem listsConstB_sound {t : SymTab} {s : Stmt} (h : listsConstB t s = true) : ListsConst t s := by
  unfold listsConstB at h
  constructor
  · intro hs e
    rw [e] at h
    exact all_pending_sound (fun _ => elemConstB_sound) h
  · intro hs e
    rw [e] at h
    exact all_pending_sound (fun _ => elemConstB_sound) h

/-- no list statement has an evaluated element at all (every element is a literal): `ListsConst` for every table -/
def literalListB (s : Stmt) : Bool :=
  match s.pkg.additional with
  | .multiByte _ => (listElems s.operand.text).all (fun x => !pendingAt 2 x)
  | .multiWord _ => (listElems s.operand.text).all (fun x => !pendingAt 4 x)
  | _ => true

theorem literalListB_sound {s : Stmt} (h : literalListB s = true) (t : SymTab) : ListsConst t s := by
  unfold literalListB at h
  constructor
  · intro hs e x hx hp
    rw [e] at h
    have := List.all_eq_true.mp h x hx
    rw [hp] at this
    cases this
  · intro hs e x hx hp
    rw [e] at h
    have := List.all_eq_true.mp h x hx
    rw [hp] at this
    cases this

def literalListsB (as : List Stmt) : Bool := as.all literalListB

theorem literalListsB_sound {as : List Stmt} (h : literalListsB as = true) (t : SymTab) :
    ∀ (i : Nat) (s : Stmt), as[i]? = some s → ListsConst t s :=
  all_sound (fun _ hs => literalListB_sound hs t) h

def listsConstAllB (t : SymTab) (as : List Stmt) : Bool := as.all (listsConstB t)

theorem listsConstAllB_sound {t : SymTab} {as : List Stmt} (h : listsConstAllB t as = true) :
    ∀ (i : Nat) (s : Stmt), as[i]? = some s → ListsConst t s :=
  all_sound (fun _ => listsConstB_sound) h

end CoCo.Asm
