/-
Lemmas/DiskFat.lean — the allocation table of the flat image: the allocation loop of `add_file` (`alloc`, its outcome
summed up in `Allocated`), the count of free granules, `write_to_fat` writing a chain that the table then `Encodes`,
the spec's `walk` along an encoded chain, and the search for a free directory slot.
-/
import CoCoVerif.Lemmas.DiskBytes
namespace CoCo.Dsk
open CoCo Spec.DiskBasic

def fatOf (gs : List Nat) (i : Nat) : Prop := ∃ g ∈ gs, i = FAT + g

theorem fatOf_mono {gs gs' : List Nat} (h : ∀ g ∈ gs, g ∈ gs') (i : Nat) : fatOf gs i → fatOf gs' i :=
  fun ⟨g, hg, e⟩ => ⟨g, h g hg, e⟩

theorem fatOf_range {gs : List Nat} (hlt : ∀ g ∈ gs, g < 68) {i : Nat} (h : fatOf gs i) :
    78592 ≤ i ∧ i < 78660 := by
  obtain ⟨g, hg, rfl⟩ := h
  have := hlt g hg
  rw [FAT_eq]; omega

theorem Within.fatAt_eq {gs : List Nat} {b b' : Bytes} (h : Within (fatOf gs) b b') {x : Nat} (hx : x ∉ gs) :
    fatAt b' x = fatAt b x :=
  fatAt_congr (h.get _ (fun ⟨_, hg, e⟩ => hx (Nat.add_left_cancel e ▸ hg)))

theorem fat_in {b : Bytes} {g v : Nat} (hb : b.length = 161280) (hg : g < 68) :
    FAT + g + [v].length ≤ b.length := by rw [FAT_eq, hb]; simp; omega

/-- `buffer[FAT + g] = v` -/
theorem within_poke {b : Bytes} {g v : Nat} {gs : List Nat} (hb : b.length = 161280) (hg : g < 68)
    (hmem : g ∈ gs) : Within (fatOf gs) b (splice b (FAT + g) [v]) :=
  (within_splice (fat_in hb hg)).mono (fun i hi => ⟨g, hmem, by simp at hi; omega⟩)

theorem fatAt_splice_same {b : Bytes} {g v : Nat} (hb : b.length = 161280) (hg : g < 68) :
    fatAt (splice b (FAT + g) [v]) g = v := by
  have h : (splice b (FAT + g) [v])[FAT + g]? = some v :=
    splice_inside (xs := [v]) (by have := fat_in (v := v) hb hg; omega) 0 (by simp)
  unfold fatAt fatOff
  rw [FAT_eq] at h ⊢
  simp [List.getD_eq_getElem?_getD, h]

theorem fatAt_splice_other {b : Bytes} {g x v : Nat} (hb : b.length = 161280) (hg : g < 68) (hx : x ≠ g) :
    fatAt (splice b (FAT + g) [v]) x = fatAt b x :=
  (within_poke (gs := [g]) hb hg (List.mem_singleton_self g)).fatAt_eq (by simpa using hx)

theorem granuleInUse_eq {b : Bytes} {g : Nat} (hb : b.length = 161280) (hg : g < 68) :
    granuleInUse b g = .ok (fatAt b g != 0xFF) := by
  unfold granuleInUse
  rw [if_neg (by omega), fatAt_eq_get hb hg]

theorem findEmptyIn_eq {b : Bytes} (hb : b.length = 161280) (l : List Nat) (hl : ∀ g ∈ l, g < 68) :
    findEmptyIn b l = match l.find? (fun g => fatAt b g == 0xFF) with | some g => .ok g | none => .diag := by
  induction l with
  | nil => rfl
  | cons g l ih =>
    rw [findEmptyIn, granuleInUse_eq hb (hl g List.mem_cons_self), List.find?_cons,
      ih (fun x hx => hl x (List.mem_cons_of_mem _ hx))]
    cases h : fatAt b g == 0xFF <;> simp [bne, h]

/-- `find_empty_granule` returns the first granule of the fill order whose entry is $FF -/
theorem findEmptyGranule_eq {b : Bytes} {order : List Nat} (hb : b.length = 161280)
    (ho : ∀ g ∈ order, g < 68) :
    findEmptyGranule b order = if order.length < 68 then .diag else
      match order.find? (fun g => fatAt b g == 0xFF) with | some g => .ok g | none => .diag := by
  unfold findEmptyGranule
  rw [findEmptyIn_eq hb order ho, totalGranules_eq]

theorem findEmptyGranule_ok {b : Bytes} {order : List Nat} {g : Nat} (hb : b.length = 161280)
    (ho : ∀ g ∈ order, g < 68) (h : findEmptyGranule b order = .ok g) :
    g ∈ order ∧ g < 68 ∧ fatAt b g = 0xFF := by
  rw [findEmptyGranule_eq hb ho] at h
  split at h
  · cases h
  · split at h
    · rename_i g' hf
      cases h
      have hm := List.mem_of_find?_eq_some hf
      exact ⟨hm, ho _ hm, by simpa using List.find?_some hf⟩
    · cases h

theorem findEmptyGranule_cases {b : Bytes} {order : List Nat} (hb : b.length = 161280)
    (ho : ∀ g ∈ order, g < 68) :
    (∃ g, findEmptyGranule b order = .ok g) ∨ findEmptyGranule b order = .diag := by
  rw [findEmptyGranule_eq hb ho]
  split
  · exact Or.inr rfl
  · split
    · exact Or.inl ⟨_, rfl⟩
    · exact Or.inr rfl

theorem findEmptyGranule_none {b : Bytes} {order : List Nat} (hb : b.length = 161280)
    (ho : ∀ g ∈ order, g < 68) (hn : ∀ g, g < 68 → fatAt b g ≠ 0xFF) :
    findEmptyGranule b order = .diag := by
  rcases findEmptyGranule_cases hb ho with ⟨g, hg⟩ | h
  · have := findEmptyGranule_ok hb ho hg
    exact absurd this.2.2 (hn g this.2.1)
  · exact h

theorem findEmptyGranule_some {b : Bytes} {order : List Nat} (hb : b.length = 161280)
    (ho : ∀ g ∈ order, g < 68) (hc : ∀ g, g < 68 → g ∈ order) {g0 : Nat} (hg0 : g0 < 68)
    (hfree : fatAt b g0 = 0xFF) : ∃ g, findEmptyGranule b order = .ok g := by
  have := complete_length 68 order hc
  rw [findEmptyGranule_eq hb ho, if_neg (by omega)]
  cases hf : order.find? (fun g => fatAt b g == 0xFF) with
  | some g => exact ⟨g, rfl⟩
  | none =>
    have := List.find?_eq_none.mp hf g0 (hc g0 hg0)
    simp [hfree] at this

theorem freeGranules_mark {b : Bytes} {g v : Nat} (hb : b.length = 161280) (hg : g < 68)
    (hfree : fatAt b g = 0xFF) (hv : v ≠ 0xFF) :
    freeGranules (splice b (FAT + g) [v]) + 1 = freeGranules b := by
  unfold freeGranules
  apply filter_length_flip List.nodup_range (g0 := g) (by simp; omega)
  · simp [hfree]
  · rw [fatAt_splice_same hb hg]; simp [hv]
  · intro x hx; rw [fatAt_splice_other hb hg hx]

theorem freeGranules_pos {b : Bytes} {g : Nat} (hg : g < 68) (hfree : fatAt b g = 0xFF) :
    0 < freeGranules b := by
  unfold freeGranules
  apply List.length_pos_of_mem (a := g)
  simp [hfree, hg]

theorem freeGranules_zero {b : Bytes} (h : freeGranules b = 0) : ∀ g, g < 68 → fatAt b g ≠ 0xFF := by
  intro g hg hfree
  have := freeGranules_pos hg hfree
  omega

theorem alloc_succ {order : List Nat} {n : Nat} {b : Bytes} {g : Nat} (hb : b.length = 161280) (hg : g < 68)
    (h : findEmptyGranule b order = .ok g) :
    alloc order (n + 1) b =
      match alloc order n (splice b (FAT + g) [0x99]) with
      | .ok (gs, b'') => .ok (g :: gs, b'')
      | .diag => .diag
      | .internal => .internal
      | .diverged => .diverged := by
  rw [alloc, h]
  simp only []
  rw [writeBytes_eq (fat_in hb hg)]
  rfl

/-- what a successful allocation of `n` granules did; the entries of `gs` hold $99 in `b1`, which is why
they are distinct and not counted as free (`count`) -/
structure Allocated (b : Bytes) (n : Nat) (gs : List Nat) (b1 : Bytes) : Prop where
  length : gs.length = n
  nodup : gs.Nodup
  free : ∀ g ∈ gs, g < 68 ∧ fatAt b g = 0xFF
  within : Within (fatOf gs) b b1
  count : freeGranules b1 + n = freeGranules b

theorem alloc_cases {order : List Nat} (ho : ∀ g ∈ order, g < 68) :
    ∀ (n : Nat) (b : Bytes), b.length = 161280 →
    (∃ gs b1, alloc order n b = .ok (gs, b1) ∧ Allocated b n gs b1) ∨
      (alloc order n b = .diag ∧ ((∀ g, g < 68 → g ∈ order) → freeGranules b < n)) := by
  intro n
  induction n with
  | zero =>
    intro b _
    exact Or.inl ⟨[], b, rfl, rfl, List.nodup_nil, by simp, Within.refl _ _, rfl⟩
  | succ n ih =>
    intro b hb
    rcases findEmptyGranule_cases hb ho with ⟨g, hg⟩ | hd
    · obtain ⟨_, hlt, hfree⟩ := findEmptyGranule_ok hb ho hg
      have hcnt := freeGranules_mark (v := 0x99) hb hlt hfree (by decide)
      rw [alloc_succ hb hlt hg]
      rcases ih (splice b (FAT + g) [0x99]) ((splice_length (fat_in hb hlt)).trans hb) with
        ⟨gs0, b1, h, a⟩ | ⟨h, hc⟩
      · rw [h]
        -- `g` holds $99 after this round, so the later rounds did not pick it again
        have hg_notin : g ∉ gs0 := by
          intro hin
          have := (a.free g hin).2
          rw [fatAt_splice_same hb hlt] at this
          cases this
        refine Or.inl ⟨_, _, rfl, by simp [a.length], List.nodup_cons.mpr ⟨hg_notin, a.nodup⟩, ?_,
          (within_poke hb hlt List.mem_cons_self).trans
            (a.within.mono (fatOf_mono (fun x hx => List.mem_cons_of_mem _ hx))), ?_⟩
        · intro x hx
          rcases List.mem_cons.mp hx with rfl | hx
          · exact ⟨hlt, hfree⟩
          · have := a.free x hx
            rw [fatAt_splice_other hb hlt (fun e => hg_notin (e ▸ hx))] at this
            exact this
        · have := a.count
          omega
      · rw [h]; exact Or.inr ⟨rfl, fun c => by have := hc c; omega⟩
    · refine Or.inr ⟨by rw [alloc, hd], fun hc => ?_⟩
      -- a free granule would have been found
      have : freeGranules b = 0 := by
        unfold freeGranules
        rw [List.length_eq_zero_iff, List.filter_eq_nil_iff]
        intro g hg hfree
        obtain ⟨g', hg'⟩ := findEmptyGranule_some hb ho hc (List.mem_range.mp hg) (by simpa using hfree)
        rw [hd] at hg'
        cases hg'
      omega

theorem alloc_short {order : List Nat} (ho : ∀ g ∈ order, g < 68) :
    ∀ (n : Nat) (b : Bytes), b.length = 161280 → freeGranules b < n → alloc order n b = .diag := by
  intro n b hb hn
  rcases alloc_cases ho n b hb with ⟨_, _, _, a⟩ | h
  · have := a.count
    omega
  · exact h.1

/-- the table holds the chain: each entry names the next granule, the last one is $C0 + `s`, the number of
sectors used in the last granule -/
def Encodes (b : Bytes) : List Nat → Nat → Prop
  | [], _ => True
  | [g], s => fatAt b g = 0xC0 + s
  | g :: g' :: rest, s => fatAt b g = g' ∧ Encodes b (g' :: rest) s

/-- `write_to_fat` succeeds, changes only the entries of the chain, and makes them encode it -/
theorem writeFat_spec (gs : List Nat) : ∀ (b : Bytes) (s : Nat), b.length = 161280 → (∀ g ∈ gs, g < 68) →
    ∃ b', writeFat b gs s = some b' ∧ Within (fatOf gs) b b' ∧ (gs.Nodup → Encodes b' gs s) := by
  induction gs with
  | nil => intro b s _ _; exact ⟨b, rfl, Within.refl _ _, fun _ => trivial⟩
  | cons g gs ih =>
    intro b s hb hlt
    have hg := hlt g List.mem_cons_self
    cases gs with
    | nil =>
      exact ⟨_, writeBytes_eq (fat_in hb hg), within_poke hb hg List.mem_cons_self,
        fun _ => fatAt_splice_same hb hg⟩
    | cons g' rest =>
      obtain ⟨b', hw, hin, henc⟩ := ih (splice b (FAT + g) [g']) s ((splice_length (fat_in hb hg)).trans hb)
        (fun x hx => hlt x (List.mem_cons_of_mem _ hx))
      refine ⟨b', by rw [writeFat, writeBytes_eq (fat_in hb hg)]; exact hw,
        (within_poke hb hg List.mem_cons_self).trans
          (hin.mono (fatOf_mono (fun x hx => List.mem_cons_of_mem _ hx))), fun hnd => ?_⟩
      obtain ⟨hgn, hnd'⟩ := List.nodup_cons.mp hnd
      exact ⟨by rw [hin.fatAt_eq hgn]; exact fatAt_splice_same hb hg, henc hnd'⟩

theorem Encodes_congr {b b' : Bytes} (c : List Nat) (s : Nat) (h : ∀ g ∈ c, fatAt b' g = fatAt b g) :
    Encodes b c s → Encodes b' c s := by
  induction c with
  | nil => intro _; trivial
  | cons g c ih =>
    cases c with
    | nil => simp only [Encodes]; intro e; rw [h g List.mem_cons_self]; exact e
    | cons g' rest =>
      simp only [Encodes]
      intro ⟨e1, e2⟩
      exact ⟨by rw [h g List.mem_cons_self]; exact e1, ih (fun x hx => h x (List.mem_cons_of_mem _ hx)) e2⟩

theorem Encodes_ne_free {b : Bytes} (c : List Nat) (s : Nat) (hs : s ≤ 9) (hlt : ∀ g ∈ c, g < 68)
    (h : Encodes b c s) : ∀ g ∈ c, fatAt b g ≠ 0xFF := by
  induction c with
  | nil => intro g hg; cases hg
  | cons g c ih =>
    cases c with
    | nil =>
      simp only [Encodes] at h
      intro x hx; simp at hx; subst hx; omega
    | cons g' rest =>
      simp only [Encodes] at h
      intro x hx
      rcases List.mem_cons.mp hx with rfl | hx
      · have := hlt g' (by simp); omega
      · exact ih (fun y hy => hlt y (List.mem_cons_of_mem _ hy)) h.2 x hx

theorem walk_encodes (b : Bytes) (gs : List Nat) (s : Nat) (vis : List Nat) (fuel : Nat)
    (hne : gs ≠ []) (henc : Encodes b gs s) (hs : s ≤ 9)
    (hnd : (vis.reverse ++ gs).Nodup) (hlt : ∀ g ∈ gs, g < 68) (hf : gs.length ≤ fuel) :
    walk b fuel (gs.head hne) vis = some (vis.reverse ++ gs, s) := by
  induction gs generalizing vis fuel with
  | nil => exact absurd rfl hne
  | cons g gs ih =>
    cases fuel with
    | zero => simp at hf
    | succ f =>
      have hg : g < 68 := hlt g List.mem_cons_self
      have hgv : g ∉ vis := by
        intro hin
        have := List.nodup_append.mp hnd
        exact this.2.2 g (by simpa using hin) g List.mem_cons_self rfl
      have h0 : ¬ (g ≥ 68 ∨ g ∈ vis) := by simp [hgv]; omega
      simp only [List.head_cons, walk, h0, if_false]
      cases gs with
      | nil =>
        simp only [Encodes] at henc
        have : 0xC0 ≤ 0xC0 + s ∧ 0xC0 + s ≤ 0xC9 := by omega
        simp [henc, this]
      | cons g' rest =>
        simp only [Encodes] at henc
        have hg' : g' < 68 := hlt g' (by simp)
        have hA : ¬ (0xC0 ≤ g' ∧ g' ≤ 0xC9) := by omega
        simp only [henc.1, hA, if_false]
        have := ih (g :: vis) f (by simp) henc.2
          (by simpa [List.reverse_cons, List.append_assoc] using hnd)
          (fun x hx => hlt x (List.mem_cons_of_mem _ hx)) (by simp at hf ⊢; omega)
        simpa [List.reverse_cons, List.append_assoc] using this

theorem dirEntryInUse_eq {b : Bytes} {k : Nat} (hb : b.length = 161280) (hk : k < 72) :
    dirEntryInUse b k = .ok (live (dirEntry b k)) := by
  unfold dirEntryInUse live
  rw [dirEntry_first, getElem?_eq_getD 0 (by rw [DIR_eq, hb]; omega)]

/-- `find_empty_directory_entry` returns the first slot that is not live (`m`), -1 if there is none -/
theorem findEmptyDirFrom_spec {b : Bytes} (hb : b.length = 161280) (m : Nat)
    (hlive : ∀ k, k < m → live (dirEntry b k) = true) (hfree : m < 72 → live (dirEntry b m) = false) :
    ∀ (n e : Nat), e + n = 72 → e ≤ m → m ≤ 72 →
      findEmptyDirFrom b n e = .ok (if m < 72 then some m else none) := by
  intro n
  induction n with
  | zero =>
    intro e he hem hm
    rw [if_neg (by omega)]; rfl
  | succ n ih =>
    intro e he hem hm
    rw [findEmptyDirFrom, dirEntryInUse_eq hb (by omega)]
    by_cases h : e = m
    · subst h
      have h72 : e < 72 := by omega
      rw [hfree h72, if_pos h72]
    · rw [hlive e (by omega)]
      exact ih (e + 1) (by omega) (by omega) hm

theorem findEmptyDir_spec {b : Bytes} (hb : b.length = 161280) (m : Nat) (hm : m ≤ 72)
    (hlive : ∀ k, k < m → live (dirEntry b k) = true) (hfree : m < 72 → live (dirEntry b m) = false) :
    findEmptyDir b = .ok (if m < 72 then some m else none) :=
  findEmptyDirFrom_spec hb m hlive hfree 72 0 (by omega) (by omega) hm

theorem findEmptyDirFrom_cases {b : Bytes} (hb : b.length = 161280) :
    ∀ (n s : Nat), s + n ≤ 72 → ∃ r, findEmptyDirFrom b n s = .ok r := by
  intro n
  induction n with
  | zero => intro s _; exact ⟨none, rfl⟩
  | succ n ih =>
    intro s hs
    rw [findEmptyDirFrom, dirEntryInUse_eq hb (by omega)]
    cases live (dirEntry b s) with
    | false => exact ⟨some s, rfl⟩
    | true => exact ih (s + 1) (by omega)

end CoCo.Dsk
