/-
C18-R2 (renaming): `buildSymTab`, `resolveOperand` (every operand class, the indexed ones through the hypothesis
`LeftOK` on the textual left part) and `resolveAll` commute with a renaming.
-/
import CoCoVerif.Lemmas.LayoutPasses
import CoCoVerif.Lemmas.RenameValue
import CoCoVerif.Lemmas.ResolveGraph

namespace CoCo.Asm.Rename
open CoCo
open CoCo.Gen (InstrRow)

/-- what the renaming of the TEXT `l` (the left part of an indexed operand) has to satisfy: it is parsed to the
renamed value, and the empty text and the accumulator names `A`, `B`, `D` stay what they are -/
structure LeftOK (R : Ren) (row : InstrRow) (l : Str) : Prop where
  nil : R.left l = [] ↔ l = []
  abd : isABD (R.left l) = isABD l
  abd_eq : isABD l = true → R.left l = l
  create : l ≠ [] → isABD l = false → create 4 (R.left l) row.isStringDefine row.is16Bit false
      = (create 4 l row.isStringDefine row.is16Bit false).map (rnValue R)
  createI : l ≠ [] → isABD l = false → createV (R.left l) false false = (createV l false false).map (rnValue R)

def SideOK (R : Ren) (row : InstrRow) : Side → Prop
  | .text l => LeftOK R row l
  | _ => True

/-- the symbols an operand side can look up (the accumulator names `A`, `B`, `D` as left part are not symbols) -/
def sideSyms (row : InstrRow) : Side → List Str
  | .text l =>
    if isABD l then []
    else (match create 4 l row.isStringDefine row.is16Bit false with | .ok v => valSyms v | .error _ => [])
  | .val v => valSyms v
  | .noneV => []

def stmtNames (s : Stmt) : List Str :=
  (if s.label = [] then [] else [s.label]) ++ valSyms s.operand.value ++ sideSyms s.row s.operand.left

def progNames (ss : List Stmt) : List Str := ss.flatMap stmtNames

/-- what `resolve_symbols` and `translate` need of a statement; `special`: the register lists of PSHS / PULS / EXG / TFR
are read from the operand text -/
structure StmtOK (R : Ren) (s : Stmt) : Prop where
  side : SideOK R s.row s.operand.left
  special : s.operand.kind = .special → R.txt s.operand.text = s.operand.text
  label : s.label ≠ [] → R.sym s.label ≠ []

section
variable {R : Ren}

theorem LeftOK.isEmpty {row : InstrRow} {l : Str} (h : LeftOK R row l) : (R.left l).isEmpty = l.isEmpty := by
  rw [Bool.eq_iff_iff, List.isEmpty_iff, List.isEmpty_iff]
  exact h.nil

theorem SideOK.of_text {row : InstrRow} {s : Side} {l : Str} (h : SideOK R row s) (hs : s = .text l) :
    LeftOK R row l := by
  subst hs; exact h

theorem rnLabel_isEmpty {l : Str} (h : l ≠ [] → R.sym l ≠ []) : (rnLabel R l).isEmpty = l.isEmpty := by
  unfold rnLabel
  by_cases hl : l = []
  · simp [hl]
  · rw [if_neg hl]
    have := h hl
    cases h1 : R.sym l with
    | nil => exact absurd h1 this
    | cons a b => cases l with
      | nil => exact absurd rfl hl
      | cons c d => rfl

theorem buildSymTab_rn (N : List Str) (hinj : InjOn R.sym N) : ∀ (ss : List Stmt) (i : Nat) (t : SymTab),
    (∀ s ∈ ss, s.label ≠ [] → s.label ∈ N ∧ R.sym s.label ≠ []) → (∀ kv ∈ t, kv.1 ∈ N) →
    buildSymTab (ss.map (renameStmt R)) i (rnTab R t) = (buildSymTab ss i t).map (rnTab R) := by
  intro ss
  induction ss with
  | nil => intro i t _ _; rfl
  | cons s rest ih =>
    intro i t hl ht
    have hl' : ∀ x ∈ rest, x.label ≠ [] → x.label ∈ N ∧ R.sym x.label ≠ [] := fun x hx => hl x (by simp [hx])
    rw [List.map_cons, buildSymTab, buildSymTab]
    show (if (rnLabel R s.label).isEmpty = true then _ else _) = _
    rw [rnLabel_isEmpty (fun h => (hl s (by simp) h).2)]
    by_cases hs : s.label.isEmpty = true
    · rw [if_pos hs, if_pos hs]
      exact ih _ _ hl' ht
    · have hne : s.label ≠ [] := fun hc => hs (by rw [hc]; rfl)
      have hsN := (hl s (by simp) hne).1
      have e3 : (renameStmt R s).label = R.sym s.label := if_neg hne
      rw [if_neg hs, if_neg hs, e3, get?_rn t s.label (fun kv hkv he => hinj _ (ht kv hkv) _ hsN he), Option.isSome_map]
      refine ite_app_congr rfl ?_
      have e5 : rnTab R t ++ [(R.sym s.label, if (renameStmt R s).row.isPseudoDefine = true
            then (renameStmt R s).operand.value else Value.address i Mode.none)]
          = rnTab R (t ++ [(s.label, if s.row.isPseudoDefine = true then s.operand.value
              else Value.address i Mode.none)]) := by
        rw [rnTab_append]
        congr 1
        show [_] = [(_, rnValue R _)]
        rw [apply_ite (rnValue R)]
        rfl
      rw [e5]
      refine ih _ _ hl' ?_
      intro kv hkv
      rcases List.mem_append.mp hkv with h | h
      · exact ht kv h
      · rw [List.mem_singleton.mp h]; exact hsN

theorem buildSymTab_tabIn (N : List Str) : ∀ (ss : List Stmt) (i : Nat) (t t' : SymTab),
    (∀ s ∈ ss, ∀ x ∈ stmtNames s, x ∈ N) → TabIn N t → buildSymTab ss i t = some t' → TabIn N t' := by
  intro ss i t t' hN ht h
  rw [(buildSymTab_some h).1]
  intro kv hkv
  rcases List.mem_append.1 hkv with hkv | hkv
  · exact ht kv hkv
  · obtain ⟨j, s, hs, hne, hk, hv⟩ := mem_symEntries.1 (show (kv.1, kv.2) ∈ _ from hkv)
    have hm := List.mem_of_getElem? hs
    have hl : s.label ≠ [] := fun e => by rw [e] at hne; cases hne
    refine ⟨hk ▸ hN s hm _ (by simp [stmtNames, hl]), fun x hx => ?_⟩
    rw [hv] at hx
    split at hx
    · exact hN s hm _ (by simp [stmtNames, hx])
    · cases hx

theorem resolveLeft_rn (N : List Str) (hinj : InjOn R.sym N) (t : SymTab) (ht : TabIn N t) (row : InstrRow)
    (l : Str) (hl : LeftOK R row l) (h1 : l ≠ []) (h2 : isABD l = false)
    (hN : ∀ x ∈ sideSyms row (.text l), x ∈ N) :
    resolveLeft (R.left l) row (rnTab R t) = (resolveLeft l row t).map (rnValue R) := by
  rw [resolveLeft_eq, resolveLeft_eq, hl.create h1 h2]
  cases hc : create 4 l row.isStringDefine row.is16Bit false with
  | error e => rfl
  | ok v =>
    have hv : ∀ x ∈ valSyms v, x ∈ N := by
      intro x hx
      apply hN
      simp only [sideSyms, hc, h2, Bool.false_eq_true, if_false]; exact hx
    exact resolve_rn N hinj t ht v hv

theorem rnOperand_kind (o : Operand) : (rnOperand R o).kind = o.kind := rfl
theorem rnOperand_value (o : Operand) : (rnOperand R o).value = rnValue R o.value := rfl
theorem rnOperand_left (o : Operand) : (rnOperand R o).left = rnSide R o.left := rfl
theorem rnOperand_right (o : Operand) : (rnOperand R o).right = o.right := rfl
theorem rnOperand_text (o : Operand) : (rnOperand R o).text = R.txt o.text := rfl

theorem rnOperand_left_text {o : Operand} {l : Str} (h : o.left = .text l) :
    (rnOperand R o).left = .text (R.left l) := by
  rw [rnOperand_left, h]; rfl

theorem resolveSide_rn (N : List Str) (hinj : InjOn R.sym N) (t : SymTab) (ht : TabIn N t) (row : InstrRow) (l : Str)
    (hl : LeftOK R row l) (hN : ∀ x ∈ sideSyms row (.text l), x ∈ N) (o : Operand) :
    resolveSide (rnOperand R o) (R.left l) row (rnTab R t) = (resolveSide o l row t).map (rnOperand R) := by
  have e1 : (R.left l != []) = (l != []) := by
    rw [Bool.eq_iff_iff, bne_iff_ne, bne_iff_ne]; exact not_congr hl.nil
  unfold resolveSide
  rw [e1, hl.abd]
  split
  · rename_i hc
    simp only [Bool.and_eq_true, bne_iff_ne, Bool.not_eq_true'] at hc
    rw [resolveLeft_rn N hinj t ht row l hl hc.1 hc.2 hN]
    cases resolveLeft l row t <;> rfl
  · rfl

theorem unknownKind_rn (ov v : Value) :
    unknownKind (rnValue R ov) (rnValue R v) = (unknownKind ov v).map fun kw => (kw.1, rnValue R kw.2) := by
  unfold unknownKind
  rw [rnValue_isExplicitExtended, rnValue_isExplicitDirect, rnValue_isDirect]
  refine ite_app_congr rfl ?_
  cases v with
  | numeric i h m n =>
    refine ite_app_congr ?_ rfl
    cases hx : numericOfInt (i : Int) none .direct with
    | error e => rfl
    | ok w => simp only [Except.map, numericOfInt_ok_rn hx]
  | address i m => exact ite_app_congr rfl rfl
  | _ => rfl

theorem resolveOperand_rn (N : List Str) (hinj : InjOn R.sym N) (t : SymTab) (ht : TabIn N t) (o : Operand)
    (row : InstrRow) (hv : ∀ x ∈ valSyms o.value, x ∈ N) (hs : ∀ x ∈ sideSyms row o.left, x ∈ N)
    (hok : SideOK R row o.left) :
    resolveOperand (rnOperand R o) row (rnTab R t) = (resolveOperand o row t).map (rnOperand R) := by
  have hres := resolve_rn N hinj t ht o.value hv
  have hside : ∀ l, o.left = .text l →
      resolveSide (rnOperand R o) (R.left l) row (rnTab R t) = (resolveSide o l row t).map (rnOperand R) :=
    fun l hl => resolveSide_rn N hinj t ht row l (hok.of_text hl) (by rw [hl] at hs; exact hs) o
  cases hkind : o.kind with
  | special =>
    rw [resolveOperand_special row _ (o := rnOperand R o) hkind, resolveOperand_special row t hkind]
    rfl
  | pseudo =>
    rw [resolveOperand_pseudo_eq row _ (o := rnOperand R o) hkind, resolveOperand_pseudo_eq row t hkind, rnOperand_value]
    refine ite_app_congr ?_ rfl
    cases hv' : o.value with
    | pyNone => rfl
    | symbol name m =>
      rw [hv'] at hres
      simp only [rnValue] at hres ⊢
      simp only [Value.isSymbol, Bool.true_or, if_true]
      rw [hres]
      cases (Value.symbol name m).resolve t <;> rfl
    | expr l r op m ae =>
      rw [hv'] at hres
      simp only [rnValue] at hres ⊢
      cases ae with
      | false =>
        simp only [Value.isSymbol, Value.isExpression, Bool.or_true, if_true]
        rw [hres]
        cases (Value.expr l r op m false).resolve t <;> rfl
      | true => rfl
    | _ => rfl
  | indexed =>
    rw [resolveOperand_indexed_eq row _ (o := rnOperand R o) hkind, resolveOperand_indexed_eq row t hkind, rnOperand_left]
    cases hl : o.left with
    | text l => exact hside l hl
    | _ => rfl
  | extIndirect =>
    rw [resolveOperand_bracket_eq row _ (o := rnOperand R o) hkind, resolveOperand_bracket_eq row t hkind,
      rnOperand_value, rnOperand_left, rnValue_isNone, rnValue_isLeftRight, hres]
    refine ite_app_congr ?_ ?_
    · cases o.value.resolve t <;> rfl
    · cases hl : o.left with
      | text l => exact hside l hl
      | _ => rfl
  | unknown =>
    rw [resolveOperand_unknown_eq row _ (o := rnOperand R o) hkind, resolveOperand_unknown_eq row t hkind,
      rnOperand_value, hres]
    cases o.value.resolve t with
    | error e => rfl
    | ok v =>
      show (unknownKind (rnValue R o.value) (rnValue R v)).map _ = ((unknownKind o.value v).map _).map _
      rw [unknownKind_rn]
      cases unknownKind o.value v <;> rfl
  | relative | inherent | immediate | direct | extended =>
    rw [resolveOperand_value_eq row _ (o := rnOperand R o) (by simp [rnOperand_kind, hkind]),
      resolveOperand_value_eq row t (by simp [hkind]), rnOperand_value, hres]
    cases o.value.resolve t <;> rfl

theorem renameStmt_withOperand (s : Stmt) (o : Operand) :
    renameStmt R { s with operand := o } = { renameStmt R s with operand := rnOperand R o } := rfl

theorem resolveAll_rn (N : List Str) (hinj : InjOn R.sym N) (t : SymTab) (ht : TabIn N t) : ∀ (ss : List Stmt),
    (∀ s ∈ ss, ∀ x ∈ stmtNames s, x ∈ N) → (∀ s ∈ ss, SideOK R s.row s.operand.left) →
    resolveAll (rnTab R t) (ss.map (renameStmt R)) = (resolveAll t ss).map (List.map (renameStmt R)) := by
  intro ss hN hok
  rw [resolveAll_eq_mapM, resolveAll_eq_mapM]
  refine mapM_map _ _ fun s hs => ?_
  have e1 : (renameStmt R s).operand = rnOperand R s.operand := rfl
  have e2 : (renameStmt R s).row = s.row := rfl
  rw [resolve1, e1, e2, resolveOperand_rn N hinj t ht s.operand s.row
    (fun x hx => hN s hs x (by simp [stmtNames, hx]))
    (fun x hx => hN s hs x (by simp [stmtNames, hx])) (hok s hs), resolve1]
  cases resolveOperand s.operand s.row t <;> rfl

/-- `resolve_symbols` leaves the operand text alone, makes no operand special, and a textual left part stays or becomes
a value: `StmtOK` survives -/
theorem resolveAll_stmtOK {t : SymTab} : ∀ {ss ss1 : List Stmt}, resolveAll t ss = some ss1 →
    (∀ s ∈ ss, StmtOK R s) → ∀ s ∈ ss1, StmtOK R s := by
  intro ss ss1 h hok s hs
  obtain ⟨j, hj⟩ := List.getElem?_of_mem hs
  obtain ⟨a, haj, o, hr, rfl⟩ := (resolveAll_pw h).get' hj
  have hg := resolveOperand_graph hr
  have ha := hok a (List.mem_of_getElem? haj)
  refine ⟨?_, ?_, ha.label⟩
  · show SideOK R a.row o.left
    rcases hg.left with hl | ⟨_, _, _, _, hl⟩
    · rw [hl]; exact ha.side
    · rw [hl]; trivial
  · intro hk
    have hk' : o.kind = .special := hk
    show R.txt o.text = o.text
    rw [hg.frame.1]
    refine ha.special ?_
    rcases hg.kind with e | ⟨_, e | e⟩
    · rw [← e]; exact hk'
    · rw [hk'] at e; cases e
    · rw [hk'] at e; cases e

end

end CoCo.Asm.Rename
