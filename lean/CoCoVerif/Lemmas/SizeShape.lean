/-
Lemmas/SizeShape.lean — the shape of an operand as `createOperand` builds it (`OpShape0`) and as
`resolveOperand` leaves it (`OpShape1`), for property C02 "bytes = size".
-/
import CoCoVerif.Lemmas.FitWidth
import CoCoVerif.Lemmas.ResolveGraph
import CoCoVerif.Lemmas.SizeValue

namespace CoCo.Asm
open CoCo
open CoCo.Gen (InstrRow)

/-- an element of a literal list is rendered by `hex()` of a number fitted to the width: hex digits, `w` of them at the
widths of FCB / FDB -/
theorem elemHex_digits {w : Nat} {x h : Str} (he : elemHex w x = .ok h) :
    (w = 2 ∨ w = 4 → h.length = w) ∧ HexStr h := by
  unfold elemHex at he
  split at he
  · split at he
    · rename_i v hf
      split at he
      · rename_i hx hhx
        cases he
        exact ⟨fun hw => fitNum_hex_length hw hf hhx, (fitNum_nm hf).mok.hex hhx⟩
      · cases he
    · cases he
  · cases he
  · cases he

theorem mapM_elemHex_length {w : Nat} (hw : w = 2 ∨ w = 4) : ∀ (xs : List Str) (hs : List Str),
    xs.mapM (elemHex w) = .ok hs → ∀ h ∈ hs, h.length = w :=
  fun xs hs h => (mapM_ok_all (fun _ _ he => (elemHex_digits he).1 hw) xs hs h).2

theorem mapM_elemHex_hexStr {w : Nat} : ∀ (xs : List Str) (hs : List Str),
    xs.mapM (elemHex w) = .ok hs → ∀ h ∈ hs, HexStr h :=
  fun xs hs h => (mapM_ok_all (fun _ _ he => (elemHex_digits he).2) xs hs h).2

/-- a pending element holds its place with zeros -/
theorem elemHexP_digits {w : Nat} (hw : w = 2 ∨ w = 4) {x h : Str} (he : elemHexP w x = .ok h) :
    h.length = w ∧ HexStr h := by
  unfold elemHexP at he
  split at he
  · rename_i h0 hh
    cases he
    exact ⟨(elemHex_digits hh).1 hw, (elemHex_digits hh).2⟩
  · split at he
    · cases he; exact ⟨List.length_replicate, .zeros w⟩
    · cases he

theorem mapM_elemHexP_digits {w : Nat} (hw : w = 2 ∨ w = 4) : ∀ (xs : List Str) (hs : List Str),
    xs.mapM (elemHexP w) = .ok hs → hs.length = xs.length ∧ ∀ h ∈ hs, h.length = w ∧ HexStr h :=
  mapM_ok_all (fun _ _ => elemHexP_digits hw)

theorem multi_digits {w : Nat} (hw : w = 2 ∨ w = 4) {s : Str} {hs : List Str} (h : multi w s = .ok hs) :
    hs.length = (listElems s).length ∧ ∀ x ∈ hs, x.length = w ∧ HexStr x := by
  unfold multi at h
  split at h
  · cases h
  · exact mapM_elemHexP_digits hw _ _ h

/-- a literal list of items of 2 hex digits in a byte row, of 4 hex digits in a word row -/
def ListShape (row : InstrRow) (v : Value) : Prop :=
  (row.isMultiByte = true ∧ ∃ hs, v = .multiByte hs ∧ ∀ h ∈ hs, h.length = 2 ∧ HexStr h) ∨
    (row.isMultiByte = false ∧ row.isMultiWord = true ∧ ∃ hs, v = .multiWord hs ∧ ∀ h ∈ hs, h.length = 4 ∧ HexStr h)

/-- the value of an FCB / FDB operand: something `resolve` works on, or a literal list -/
def DataShape0 (row : InstrRow) (v : Value) : Prop := Plain v ∨ ListShape row v

structure OpShape0 (row : InstrRow) (o : Operand) : Prop where
  pv : PV o.value
  plain : o.kind = .immediate ∨ o.kind = .unknown → Plain o.value
  data : o.kind = .pseudo → (row.isMultiByte || row.isMultiWord) = true → row.isStringDefine = false →
    DataShape0 row o.value
  nov : o.kind = .special ∨ o.kind = .inherent → o.value = .none
  left2 : ∀ l, o.left = .text l → ',' ∉ l
  left3 : ∀ l, o.left = .text l → o.kind = .indexed ∨ o.kind = .extIndirect
  left4 : ∀ l, o.left = .text l → o.value.isLeftRight = true
  nodir : o.kind ≠ .direct ∧ o.kind ≠ .extended

theorem CreateOf.plain {b c : Bool} {s : Str} {v : Value} (h : CreateOf false b c s v) (hn : v.isLeftRight = false) :
    Plain v := by
  cases h with
  | expr => exact .inr (.inr rfl)
  | leftRight => cases hn
  | numeric => exact .inl rfl
  | symbol => exact .inr (.inl rfl)

theorem createV_plain {s : Str} {b c : Bool} {v : Value} (h : createV s false b c = .ok v) (hc : ',' ∉ s) :
    Plain v :=
  (createV_graph h).plain (create_noLR h hc)

theorem OpShape0.simple {row : InstrRow} {k : OpKind} {txt : Str} {v : Value} (hpv : PV v)
    (hplain : k = .immediate ∨ k = .unknown → Plain v)
    (hdata : k = .pseudo → (row.isMultiByte || row.isMultiWord) = true → row.isStringDefine = false → DataShape0 row v)
    (hnov : k = .special ∨ k = .inherent → v = .none) (hk : k ≠ .direct ∧ k ≠ .extended) :
    OpShape0 row { kind := k, text := txt, value := v } :=
  ⟨hpv, hplain, hdata, hnov, nofun, nofun, nofun, hk⟩

theorem OpShape0.pair {row : InstrRow} {k : OpKind} {txt l r : Str} {m : Mode} (hpv : PV (.leftRight l r m))
    (hk : k = .indexed ∨ k = .extIndirect) :
    OpShape0 row { kind := k, text := txt, value := .leftRight l r m, left := .text l, right := some r } :=
  ⟨hpv, by rcases hk with rfl | rfl <;> simp, by rcases hk with rfl | rfl <;> simp,
    by rcases hk with rfl | rfl <;> simp, fun _ e => by cases e; exact hpv, fun _ _ => hk, fun _ _ => rfl,
    by rcases hk with rfl | rfl <;> simp⟩

theorem PseudoValueOf.shape {row : InstrRow} {s : Str} {v : Value} (h : PseudoValueOf row s v) :
    PV v ∧ ((row.isMultiByte || row.isMultiWord) = true → row.isStringDefine = false → DataShape0 row v) := by
  cases h with
  | bytes hm _ hmul =>
    have hd := (multi_digits (.inl rfl) hmul).2
    exact ⟨fun h hh => (hd h hh).1, fun _ _ => .inr (.inl ⟨hm, _, rfl, hd⟩)⟩
  | words hm hw _ hmul =>
    have hd := (multi_digits (.inr rfl) hmul).2
    exact ⟨fun h hh => (hd h hh).1, fun _ _ => .inr (.inr ⟨hm, hw, _, rfl, hd⟩)⟩
  | nothing hm hw => exact ⟨trivial, fun h' => by rw [hm, hw] at h'; cases h'⟩
  | value hc hcr => exact ⟨create_pv hcr, fun hm hsd => .inl (by rw [hsd] at hcr; exact createV_plain hcr (hc hm))⟩

theorem createOperand_shape0 {s : Str} {row : InstrRow} {o : Operand} (h : createOperand s row = .ok o)
    (hstr : row.isPseudo = false → row.isStringDefine = false) : OpShape0 row o := by
  cases createOperand_graph h with
  | pseudo _ hv => exact .simple hv.shape.1 (by simp) (fun _ => hv.shape.2) (by simp) (by simp)
  | equExt _ _ _ _ _ _ hn =>
    exact .simple (numericOfInt_pv (.inl rfl) hn) (by simp) (fun _ _ _ => .inl (.inl (numericOfInt_isNumeric hn)))
      (by simp) (by simp)
  | equDir _ _ _ _ _ _ hn =>
    exact .simple (numericOfInt_pv (.inl rfl) hn) (by simp) (fun _ _ _ => .inl (.inl (numericOfInt_isNumeric hn)))
      (by simp) (by simp)
  | special => exact .simple trivial (by simp) (by simp) (fun _ => rfl) (by simp)
  | relative _ _ _ hcr => exact .simple (create_pv hcr) (by simp) (by simp) (by simp) (by simp)
  | inherent => exact .simple trivial (by simp) (by simp) (fun _ => rfl) (by simp)
  | bracketPair _ _ _ _ _ hcr => exact .pair (create_pv hcr) (.inr rfl)
  | bracket _ _ _ _ _ hcr => exact .simple (create_pv hcr) (by simp) (by simp) (by simp) (by simp)
  | indexed _ _ _ _ hcr => exact .pair (create_pv hcr) (.inl rfl)
  | immediate hp _ _ _ hcr hlr =>
    rw [hstr hp] at hcr
    exact .simple (create_pv hcr) (fun _ => (createV_graph hcr).plain hlr) (by simp) (by simp) (by simp)
  | unknown hp _ _ _ hcr hlr =>
    rw [hstr hp] at hcr
    exact .simple (create_pv hcr) (fun _ => (createV_graph hcr).plain hlr) (by simp) (by simp) (by simp)

theorem createOperand_multi_count {s : Str} {row : InstrRow} {o : Operand} (h : createOperand s row = .ok o)
    (hp : row.isPseudo = true) :
    ∀ hs, (o.value = .multiByte hs ∨ o.value = .multiWord hs) →
      hs.length = (listElems o.text).length ∧ (row.isMultiByte || row.isMultiWord) = true := by
  have nonum : ∀ {z : Int} {hh : Option Nat} {m : Mode} {nv : Value}, numericOfInt z hh m = .ok nv →
      ∀ hs, (nv = .multiByte hs ∨ nv = .multiWord hs) → False := by
    intro z hh m nv hn hs hm
    have := numericOfInt_isNumeric hn
    rcases hm with rfl | rfl <;> cases this
  cases createOperand_graph h with
  | pseudo _ hv =>
    intro hs hm
    cases hv with
    | bytes hmb _ hmul =>
      rcases hm with hm | hm <;> cases hm
      exact ⟨(multi_digits (.inl rfl) hmul).1, by rw [hmb]; rfl⟩
    | words _ hmw _ hmul =>
      rcases hm with hm | hm <;> cases hm
      exact ⟨(multi_digits (.inr rfl) hmul).1, by rw [hmw]; simp⟩
    | nothing => rcases hm with hm | hm <;> cases hm
    | value _ hcr =>
      rcases hm with hm | hm
      · exact absurd hm (createV_no_list hcr hs).1
      · exact absurd hm (createV_no_list hcr hs).2
  | equExt _ _ _ _ _ _ hn => exact fun hs hm => (nonum hn hs hm).elim
  | equDir _ _ _ _ _ _ hn => exact fun hs hm => (nonum hn hs hm).elim
  | special hp' | relative hp' | inherent hp' | bracketPair hp' | bracket hp' | indexed hp' | immediate hp'
  | unknown hp' => rw [hp] at hp'; cases hp'

/-- the value of an FCB / FDB operand after `resolve_symbols` -/
def DataShape (row : InstrRow) (v : Value) : Prop := Fieldable v ∨ ListShape row v

structure OpShape1 (row : InstrRow) (o : Operand) : Prop where
  val : o.kind = .immediate ∨ o.kind = .direct ∨ o.kind = .extended → Fieldable o.value
  data : o.kind = .pseudo → (row.isMultiByte || row.isMultiWord) = true → DataShape row o.value
  plain : o.kind = .pseudo → isDataRow row = false → PV o.value
  nov : o.kind = .special ∨ o.kind = .inherent → o.value = .none
  left1 : ∀ v, o.left = .val v → Fieldable v
  left2 : ∀ l, o.left = .text l → l = [] ∨ isABD l = true
  known : o.kind ≠ .unknown

theorem resolveLeft_fieldable {l : Str} {row : InstrRow} {t : SymTab} {v : Value}
    (h : resolveLeft l row t = .ok v) (hsd : row.isStringDefine = false) (hc : ',' ∉ l) : Fieldable v := by
  obtain ⟨v0, hcr, hr⟩ := resolveLeft_ok h
  rw [hsd] at hcr
  exact resolve_plain (createV_plain (s := l) (b := row.is16Bit) (c := false) hcr hc) hr

theorem resolveOperand_shape1 {o o' : Operand} {row : InstrRow} {t : SymTab} (h0 : OpShape0 row o)
    (hl1 : ∀ v, o.left ≠ .val v)
    (hsd : o.kind ≠ .pseudo → row.isStringDefine = false)
    (hmulti : (row.isMultiByte || row.isMultiWord) = true → isDataRow row = true ∧ row.isStringDefine = false)
    (h : resolveOperand o row t = .ok o') : OpShape1 row o' := by
  -- only an indexed operand has a left side
  have hL : o.kind ≠ .indexed → o.kind ≠ .extIndirect →
      (∀ v, o.left = .val v → Fieldable v) ∧ (∀ l, o.left = .text l → l = [] ∨ isABD l = true) := by
    refine fun h1 h2 => ⟨fun v hv => absurd hv (hl1 v), fun l hl => ?_⟩
    rcases h0.left3 l hl with h | h
    · exact absurd h h1
    · exact absurd h h2
  -- the text left of the comma: evaluated, or kept because it is empty or an accumulator
  have hleft : ∀ {l : Str} {o' : Operand}, o.left = .text l → o.kind ≠ .pseudo → ResolvedLeft row t o l o' →
      o'.kind = o.kind ∧ (∀ v, o'.left = .val v → Fieldable v) ∧
        (∀ l, o'.left = .text l → l = [] ∨ isABD l = true) := by
    intro l o' hl hk h
    cases h with
    | left _ hv =>
      exact ⟨rfl, fun v e => by cases e; exact resolveLeft_fieldable hv (hsd hk) (h0.left2 l hl), nofun⟩
    | keep hn =>
      refine ⟨rfl, fun v hv => absurd hv (hl1 v), fun l' hl' => ?_⟩
      rw [hl] at hl'
      cases hl'
      by_cases hnil : l = []
      · exact .inl hnil
      · have : (l != []) = true := by simpa using hnil
        exact .inr (by simpa [this] using hn)
  -- of an indexed operand only the left side matters
  have hidx : ∀ {o' : Operand}, (o.kind = .indexed ∨ o.kind = .extIndirect) → o'.kind = o.kind ∧
      (∀ v, o'.left = .val v → Fieldable v) ∧ (∀ l, o'.left = .text l → l = [] ∨ isABD l = true) → OpShape1 row o' := by
    intro o' hk ⟨e1, e3, e4⟩
    rcases hk with hk | hk <;>
      exact ⟨by simp [e1, hk], by simp [e1, hk], by simp [e1, hk], by simp [e1, hk], e3, e4, by simp [e1, hk]⟩
  cases resolveOperand_graph h with
  | special hk =>
    have hl := hL (by simp [hk]) (by simp [hk])
    exact ⟨by simp [hk], by simp [hk], by simp [hk], fun _ => h0.nov (.inl hk), hl.1, hl.2, by simp [hk]⟩
  | pseudoOther hk hd =>
    have hl := hL (by simp [hk]) (by simp [hk])
    exact ⟨by simp [hk], fun _ hm => (by rw [(hmulti hm).1] at hd; cases hd), fun _ _ => h0.pv, by simp [hk], hl.1,
      hl.2, by simp [hk]⟩
  | pseudoKeep hk hd _ hs =>
    have hl := hL (by simp [hk]) (by simp [hk])
    refine ⟨by simp [hk], fun _ hm => ?_, fun _ hr => (by rw [hd] at hr; cases hr), by simp [hk], hl.1, hl.2,
      by simp [hk]⟩
    -- the parsed value is neither symbol nor expression: a number or a literal list
    rw [Bool.or_eq_false_iff] at hs
    rcases h0.data hk hm (hmulti hm).2 with (h' | h' | h') | h'
    · exact .inl (.inl h')
    · rw [hs.1] at h'; cases h'
    · rw [hs.2] at h'; cases h'
    · exact .inr h'
  | pseudoValue hk hd hs hv =>
    have hl := hL (by simp [hk]) (by simp [hk])
    refine ⟨by simp [hk], fun _ hm => ?_, fun _ hr => (by rw [hd] at hr; cases hr), by simp [hk], hl.1, hl.2,
      by simp [hk]⟩
    -- a symbol or an expression is no list, so it is something `resolve` works on
    rcases h0.data hk hm (hmulti hm).2 with h' | ⟨_, _, he, _⟩ | ⟨_, _, _, he, _⟩
    · exact .inl (resolve_plain h' hv)
    · rw [he] at hs; cases hs
    · rw [he] at hs; cases hs
  | indexedKeep hk hl =>
    exact hidx (.inl hk) ⟨rfl, fun v hv => absurd hv (hl1 v), fun l e => absurd e (hl l)⟩
  | indexedLeft hk hl h => exact hidx (.inl hk) (hleft hl (by simp [hk]) h)
  | extValue hk hc _ =>
    refine hidx (.inr hk) ⟨rfl, fun v hv => absurd hv (hl1 v), fun l hl => ?_⟩
    -- a left side in text form means a left/right pair, which is not looked up as a value
    have := h0.left4 l hl
    simp [this] at hc
  | extLeft hk _ hl h => exact hidx (.inr hk) (hleft hl (by simp [hk]) h)
  | value hk hv =>
    rcases hk with hk | hk | hk | hk | hk
    · have hl := hL (by simp [hk]) (by simp [hk])
      exact ⟨by simp [hk], by simp [hk], by simp [hk], by simp [hk], hl.1, hl.2, by simp [hk]⟩
    · have hl := hL (by simp [hk]) (by simp [hk])
      refine ⟨by simp [hk], by simp [hk], by simp [hk], fun _ => ?_, hl.1, hl.2, by simp [hk]⟩
      rw [h0.nov (.inr hk)] at hv
      cases hv
      rfl
    · have hl := hL (by simp [hk]) (by simp [hk])
      exact ⟨fun _ => resolve_plain (h0.plain (.inl hk)) hv, by simp [hk], by simp [hk], by simp [hk], hl.1, hl.2,
        by simp [hk]⟩
    · exact absurd hk h0.nodir.1
    · exact absurd hk h0.nodir.2
  | unknown hk hv hu =>
    have hl := hL (by simp [hk]) (by simp [hk])
    have hf := resolve_plain (h0.plain (.inr hk)) hv
    have hkind := hu.kind
    refine ⟨fun _ => ?_, by rcases hkind with e | e <;> simp [e], by rcases hkind with e | e <;> simp [e],
      by rcases hkind with e | e <;> simp [e], hl.1, hl.2, by rcases hkind with e | e <;> simp [e]⟩
    cases hu with
    | directNum _ _ _ hn => exact .inl (numericOfInt_isNumeric hn)
    | _ => exact hf

theorem resolveOperand_multi_keep {o o' : Operand} {row : InstrRow} {t : SymTab}
    (h : resolveOperand o row t = .ok o') (hk : o.kind = .pseudo)
    (hm : o'.value.isMultiByte = true ∨ o'.value.isMultiWord = true) : o' = o := by
  rcases (resolveOperand_graph h).pseudo hk with e | ⟨_, hse, v, hv, rfl⟩
  · exact e
  · -- a value that was looked up is a number, a label or a label expression
    have hpl : Plain o.value := by
      rcases (Bool.or_eq_true _ _).mp hse with hse | hse
      · exact .inr (.inl hse)
      · exact .inr (.inr hse)
    have hf := resolve_plain hpl hv
    exfalso
    dsimp only at hm
    cases v <;> first
      | (rcases hf with hf | hf | hf <;> cases hf; done)
      | (rcases hm with hm | hm <;> cases hm)

end CoCo.Asm
