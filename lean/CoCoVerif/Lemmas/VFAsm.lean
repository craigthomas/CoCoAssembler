/-
Lemmas/VFAsm.lean — the CoCoFile `assembler.main` builds from an assembled program (name, load/exec address
through the hex string of the origin value), and the shape of a run of `assembler.main`: three save steps
(`asmStep`), none of which touches a path that is not its target; a single target is one `storeTo`; a rejected
program writes nothing.
-/
import CoCoVerif.Lemmas.HexEmit
import CoCoVerif.Lemmas.VirtualFile

namespace CoCo.VF
open CoCo

/-- `program.name or args.name` -/
def asmName (a : Asm.Assembly) (argName : Option (List Char)) : List Char :=
  match a.name with
  | some n => if n.isEmpty then argName.getD [] else n
  | none => argName.getD []

/-- `int(hex[0:2], 16)`-style parse used by `high_byte()` / `low_byte()` -/
def byteAt (cs : List Char) : Nat := cs.foldl (fun acc c => acc * 16 + Asm.digitVal c) 0

/-- the address `main` derives from the origin value -/
def originAddr (o : Asm.Value) : Nat :=
  let hl := (o.hexLen?).getD 0
  let hx := (o.hex?).getD []
  let hi := if hl ≤ 2 then 0 else byteAt (hx.take 2)
  let lo := if hl = 0 then 0 else if hl ≤ 2 then byteAt (hx.take 2) else byteAt (hx.drop 2)
  hi * 256 + lo

theorem byteAt_byteHex {b : Nat} (h : b < 256) : byteAt (Asm.byteHex b) = b := by
  have d1 := Asm.digitVal_hexChar (b / 16) (by omega)
  have d2 := Asm.digitVal_hexChar (b % 16) (by omega)
  simp only [byteAt, Asm.byteHex, List.foldl_cons, List.foldl_nil, d1, d2]
  omega

open CoCo.Asm in
theorem byteAt_lt {cs : List Char} (h : HexStr cs) (hl : cs.length ≤ 2) : byteAt cs < 256 := by
  match cs, h, hl with
  | [], _, _ => simp [byteAt]
  | [a], h, _ =>
    have := h a (by simp)
    simp [byteAt]; omega
  | [a, b], h, _ =>
    have h1 := h a (by simp)
    have h2 := h b (by simp)
    simp [byteAt]; omega
  | _ :: _ :: _ :: _, _, hl => simp at hl

theorem originAddr_byte {o : Asm.Value} {v : Nat} (hv : v < 256) (hx : o.hex? = some (Asm.fmtHex 2 v))
    (hl : o.hexLen? = some 2) : originAddr o = v := by
  have ht : (Asm.byteHex v).take 2 = Asm.byteHex v := rfl
  unfold originAddr
  simp [hx, hl, Asm.fmtHex_byte hv, ht, byteAt_byteHex hv]

theorem originAddr_word {o : Asm.Value} {v : Nat} (hv : v < 65536) (hx : o.hex? = some (Asm.fmtHex 4 v))
    (hl : o.hexLen? = some 4) : originAddr o = v := by
  have ht : (Asm.byteHex (v / 256) ++ Asm.byteHex (v % 256)).take 2 = Asm.byteHex (v / 256) := rfl
  have hd : (Asm.byteHex (v / 256) ++ Asm.byteHex (v % 256)).drop 2 = Asm.byteHex (v % 256) := rfl
  unfold originAddr
  simp only [hx, hl, Asm.fmtHex_word hv, Option.getD_some, ht, hd, byteAt_byteHex (show v / 256 < 256 by omega),
    byteAt_byteHex (show v % 256 < 256 by omega), show ¬ 4 ≤ 2 by decide, show ¬ 4 = 0 by decide, if_false]
  omega

/-- an `ORG $xxxx` origin (four hex digits) comes out as the load address -/
theorem originAddr_numeric4 (v : Nat) (m : Asm.Mode) (hv : v < 65536) :
    originAddr (.numeric v (some 4) m false) = v :=
  originAddr_word hv rfl rfl

/-- a two-digit origin (`ORG $xx`) -/
theorem originAddr_numeric2 (v : Nat) (m : Asm.Mode) (hv : v < 256) :
    originAddr (.numeric v (some 2) m false) = v :=
  originAddr_byte hv rfl rfl

/-- `hex()` of a non-negative 16-bit number without a size hint: two digits below 256, four from there on -/
theorem numHex_none {v : Nat} (hv : v < 65536) :
    Asm.numHex v none false = Asm.fmtHex (Asm.numHexLen v none) v ∧
      Asm.numHexLen v none = if v < 256 then 2 else 4 := by
  by_cases h : v < 256
  · have hl := Asm.numHexLen_none_byte h
    simp [Asm.numHex, Asm.getNegative, hl, h]
  · have hl := Asm.numHexLen_none_word (by omega) hv
    simp [Asm.numHex, Asm.getNegative, hl, h]

open CoCo.Asm in
theorem numHex_length_le {i : Nat} {h : Option Nat} (hi : i < 65536) (hh : HintOK h) :
    (numHex i h false).length ≤ 4 := by
  have hn : (natHexF 20 i).length ≤ 4 := natHexF_length_le_of_lt (w := 4) (by omega) (by omega) (by omega)
  have hw : ∀ w, w ≤ 4 → (fmtHex w i).length ≤ 4 := fun w hw => by rw [fmtHex_length]; omega
  rcases hh with rfl | rfl | rfl
  · obtain ⟨hx, hl⟩ := numHex_none hi
    rw [hx, hl]
    exact hw _ (by split <;> omega)
  · exact hw 2 (by omega)
  · exact hw 4 (by omega)

/-- an origin without a size hint (decimal `ORG 3584`) -/
theorem originAddr_numericNone (v : Nat) (m : Asm.Mode) (hv : v < 65536) :
    originAddr (.numeric v none m false) = v := by
  obtain ⟨hx, hl⟩ := numHex_none hv
  have hx' : (Asm.Value.numeric v none m false).hex? = some (Asm.fmtHex (Asm.numHexLen v none) v) :=
    congrArg some hx
  have hl' : (Asm.Value.numeric v none m false).hexLen? = some (Asm.numHexLen v none) := rfl
  rw [hl] at hx' hl'
  by_cases h : v < 256
  · rw [if_pos h] at hx' hl'; exact originAddr_byte h hx' hl'
  · rw [if_neg h] at hx' hl'; exact originAddr_word hv hx' hl'

/-- no `ORG`: load address 0 -/
theorem originAddr_none : originAddr .none = 0 := by
  simp [originAddr, Asm.Value.hexLen?]

/-- the per-target step of `asmMain` -/
def asmStep (cf : CFile) (ap : Bool) (st : FS × List Kind) (t : Option Path) (k : Kind) : FS × List Kind :=
  match t with
  | none => st
  | some p =>
    match storeTo st.1 p k [cf] ap with
    | .ok fs' => (fs', st.2)
    | _ => (st.1, st.2 ++ [k])

theorem asmMain_ok {fs : FS} {incl : Asm.Files} {lines : List (List Char)} {args : AsmArgs}
    {a : Asm.Assembly} {cf : CFile} (ha : Asm.assemble incl lines = .ok a)
    (hc : cocoOfAssembly a args.name = some cf) :
    asmMain fs incl lines args =
      (let s1 := asmStep cf args.append (fs, []) args.toBin .binary
       if args.toCas.isSome && cf.name.isEmpty then { exit := 0, fs := s1.1, refused := s1.2 }
       else
         let s2 := asmStep cf args.append s1 args.toCas .cassette
         if args.toDsk.isSome && cf.name.isEmpty then { exit := 0, fs := s2.1, refused := s2.2 }
         else
           let s3 := asmStep cf args.append s2 args.toDsk .disk
           { exit := 0, fs := s3.1, refused := s3.2 }) := by
  unfold asmMain
  simp only [ha, hc]
  rfl

theorem asmStep_none (cf : CFile) (ap : Bool) (st : FS × List Kind) (k : Kind) : asmStep cf ap st none k = st := rfl

/-- without a name `main` stops after the `--to_bin` step -/
theorem _root_.CoCo.Props.asmMain_noname {fs : FS} {incl : Asm.Files} {lines : List (List Char)} {a : Asm.Assembly}
    {args : AsmArgs} {cf : CFile} (ha : Asm.assemble incl lines = .ok a) (hc : cocoOfAssembly a args.name = some cf)
    (hname : cf.name = []) :
    asmMain fs incl lines args =
      { exit := 0, fs := (asmStep cf args.append (fs, []) args.toBin .binary).1,
        refused := (asmStep cf args.append (fs, []) args.toBin .binary).2 } := by
  rw [asmMain_ok ha hc]
  have he : cf.name.isEmpty = true := by rw [hname]; rfl
  cases hcas : args.toCas with
  | some pc => simp [he]
  | none =>
    cases hdsk : args.toDsk with
    | some pd => simp [he, asmStep_none]
    | none => simp [asmStep_none]

theorem asmStep_fresh (cf : CFile) (ap : Bool) (st : FS × List Kind) (p : Path) (k : Kind) (img : Bytes)
    (hf : st.1.get? p = none) (hb : buildImage k [cf] = .ok img) :
    asmStep cf ap st (some p) k = (st.1.set p img, st.2) := by
  simp only [asmStep, storeTo_fresh st.1 p k [cf] ap img hf hb]

/-- a save step of `asmMain` that is refused: the file system stays, the kind is reported -/
theorem _root_.CoCo.Props.asmStep_refused (cf : CFile) (ap : Bool) (st : FS × List Kind) (p : Path) (k : Kind)
    (h : ∀ fs', storeTo st.1 p k [cf] ap ≠ .ok fs') : asmStep cf ap st (some p) k = (st.1, st.2 ++ [k]) := by
  cases hs : storeTo st.1 p k [cf] ap with
  | ok fs' => exact absurd hs (h fs')
  | diag => simp only [asmStep, hs]
  | internal => simp only [asmStep, hs]
  | diverged => simp only [asmStep, hs]

theorem asmStep_frame (cf : CFile) (ap : Bool) (st : FS × List Kind) (t : Option Path) (k : Kind) (q : Path)
    (hq : t ≠ some q) : (asmStep cf ap st t k).1.get? q = st.1.get? q := by
  cases t with
  | none => rfl
  | some p =>
    have hqp : q ≠ p := fun h => hq (by rw [h])
    simp only [asmStep]
    cases hs : storeTo st.1 p k [cf] ap with
    | ok fs' => exact (storeTo_ok hs).1 q hqp
    | diag => rfl
    | internal => rfl
    | diverged => rfl

/-- **a run touches only its targets**, whatever the outcome of the assembly and of each save -/
theorem asmMain_frame (fs : FS) (incl : Asm.Files) (lines : List (List Char)) (args : AsmArgs) (q : Path)
    (hb : args.toBin ≠ some q) (hc : args.toCas ≠ some q) (hd : args.toDsk ≠ some q) :
    (asmMain fs incl lines args).fs.get? q = fs.get? q := by
  cases ha : Asm.assemble incl lines with
  | ok a =>
    cases hco : cocoOfAssembly a args.name with
    | none => simp only [asmMain, ha, hco]
    | some cf =>
      rw [asmMain_ok ha hco]
      simp only []
      split
      · exact asmStep_frame _ _ _ _ _ q hb
      · split
        · rw [asmStep_frame _ _ _ _ _ q hc]; exact asmStep_frame _ _ _ _ _ q hb
        · rw [asmStep_frame _ _ _ _ _ q hd, asmStep_frame _ _ _ _ _ q hc]; exact asmStep_frame _ _ _ _ _ q hb
  | diag => simp only [asmMain, ha]
  | internal => simp only [asmMain, ha]
  | diverged => simp only [asmMain, ha]

def AsmArgs.only (k : Kind) (p : Path) (nm : Option (List Char)) (ap : Bool) : AsmArgs :=
  match k with
  | .binary => { toBin := some p, name := nm, append := ap }
  | .cassette => { toCas := some p, name := nm, append := ap }
  | .disk => { toDsk := some p, name := nm, append := ap }

/-- **a single target is one `storeTo`** (for a cassette or disk target the file must have a name, else the
step is not tried) -/
theorem asmMain_only {fs : FS} {incl : Asm.Files} {lines : List (List Char)} {a : Asm.Assembly} {cf : CFile}
    (k : Kind) (p : Path) (nm : Option (List Char)) (ap : Bool)
    (ha : Asm.assemble incl lines = .ok a) (hc : cocoOfAssembly a nm = some cf)
    (hname : k ≠ .binary → cf.name ≠ []) :
    asmMain fs incl lines (AsmArgs.only k p nm ap) =
      { exit := 0, fs := Props.hostAfter fs (storeTo fs p k [cf] ap),
        refused := if (storeTo fs p k [cf] ap).isOk then [] else [k] } := by
  have hstep : asmStep cf ap (fs, []) (some p) k =
      (Props.hostAfter fs (storeTo fs p k [cf] ap), if (storeTo fs p k [cf] ap).isOk then [] else [k]) := by
    simp only [asmStep]
    cases storeTo fs p k [cf] ap <;> rfl
  have hne : k ≠ .binary → cf.name.isEmpty = false := fun h => List.isEmpty_eq_false_iff.mpr (hname h)
  have hnm : (AsmArgs.only k p nm ap).name = nm := by cases k <;> rfl
  rw [asmMain_ok ha (hnm.symm ▸ hc)]
  cases k <;> simp [AsmArgs.only, hstep, asmStep_none, hne]

/-- a fresh path as the only target, of any kind: the run stores there what the writer builds and touches nothing else -/
theorem _root_.CoCo.Props.asmMain_only_written {fs : FS} {incl : Asm.Files} {lines : List (List Char)}
    {a : Asm.Assembly} {cf : CFile} (k : Kind) (p : Path) (nm : Option (List Char)) (ap : Bool) (img : Bytes)
    (ha : Asm.assemble incl lines = .ok a) (hc : cocoOfAssembly a nm = some cf)
    (hname : k ≠ .binary → cf.name ≠ []) (hf : fs.get? p = none) (hb : buildImage k [cf] = .ok img) :
    let r := asmMain fs incl lines (AsmArgs.only k p nm ap)
    r.fs.get? p = some img ∧ r.exit = 0 ∧ r.refused = [] ∧ ∀ q, q ≠ p → r.fs.get? q = fs.get? q := by
  intro r
  have hr : r = { exit := 0, fs := fs.set p img, refused := [] } := by
    show asmMain _ _ _ _ = _
    rw [asmMain_only k p nm ap ha hc hname, storeTo_fresh fs p k [cf] ap img hf hb]
    rfl
  rw [hr]
  exact ⟨FS.get?_set_same _ _ _, rfl, rfl, fun q hq => FS.get?_set_other _ _ _ _ hq⟩

/-- a rejected program: `main` exits with status 1 and leaves the host file system alone, whatever the switches -/
theorem asmMain_diag {fs : FS} {incl : Asm.Files} {lines : List (List Char)} {args : AsmArgs}
    (ha : Asm.assemble incl lines = .diag) : asmMain fs incl lines args = { exit := 1, fs := fs } := by
  unfold asmMain
  simp only [ha]

end CoCo.VF
