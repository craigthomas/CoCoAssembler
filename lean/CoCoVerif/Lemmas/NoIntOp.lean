/-
Lemmas/NoIntOp.lean — C13, "no internal error": operands and code packages.
What `createOperand` builds (`OpInit`), what `resolveOperand` keeps (`OpRes`), and what `translateOperand`
then puts into the package (`PkgOK`).
-/
import CoCoVerif.Lemmas.NoIntVal
import CoCoVerif.Lemmas.ResolveGraph
import CoCoVerif.Lemmas.TranslateGraph

namespace CoCo.Asm
open CoCo
open CoCo.Gen (InstrRow)

/-- an operand as `Operand.create_from_str` builds it -/
structure OpInit (row : InstrRow) (o : Operand) : Prop where
  good : ∀ N, o.value.Good N
  right : o.right ≠ none → o.value.isLeftRight = true ∧ (o.kind = .indexed ∨ o.kind = .extIndirect)
  left : ∀ v, o.left ≠ .val v
  rel : o.kind = .relative → (row.isShortBranch || row.isLongBranch) = true

theorem Value.Good.signed_ge {N : Nat} {v : Value} {i : Nat} (h : v.Good N) (hi : v.int? = some i) :
    -65535 ≤ (if v.isNegative = true then -(i : Int) else (i : Int)) := by
  cases v with
  | numeric a _ _ n =>
    simp only [Value.int?, Option.some.injEq] at hi
    subst hi
    have : a ≤ 65535 := h
    cases n <;> simp [Value.isNegative] <;> omega
  | _ => simp [Value.isNegative] <;> omega

theorem PseudoValueOf.good {row : InstrRow} {s : Str} {v : Value} (h : PseudoValueOf row s v) (N : Nat) : v.Good N := by
  cases h with
  | bytes | words | nothing => trivial
  | value _ h => exact create_good N h

theorem createOperand_init {s : Str} {row : InstrRow} {o : Operand} (h : createOperand s row = .ok o) :
    OpInit row o := by
  suffices hgr : (∀ N, o.value.Good N) ∧
      (o.right ≠ none → o.value.isLeftRight = true ∧ (o.kind = .indexed ∨ o.kind = .extIndirect)) from
    ⟨hgr.1, hgr.2, createOperand_left h, createOperand_relative h⟩
  have noRight : ∀ {X : Prop}, (none : Option Str) ≠ none → X := fun h => absurd rfl h
  cases createOperand_graph h with
  | pseudo _ hv => exact ⟨hv.good, noRight⟩
  | equExt _ _ _ _ _ _ hn => exact ⟨fun N => numericOfInt_good N hn (by omega), noRight⟩
  | equDir _ hv _ _ hi _ hn => exact ⟨fun N => numericOfInt_good N hn ((hv.good 0).signed_ge hi), noRight⟩
  | special | inherent => exact ⟨fun _ => trivial, noRight⟩
  | bracketPair _ _ _ _ _ hv => exact ⟨fun N => create_good N hv, fun _ => ⟨rfl, .inr rfl⟩⟩
  | indexed _ _ _ _ hv => exact ⟨fun N => create_good N hv, fun _ => ⟨rfl, .inl rfl⟩⟩
  | relative _ _ _ hv | bracket _ _ _ _ _ hv | immediate _ _ _ _ hv | unknown _ _ _ _ hv =>
    exact ⟨fun N => create_good N hv, noRight⟩

/-- an operand after `resolve_symbols` (`N` = number of statements).  The value of a pseudo operand may contain a
label (`FDB LABEL` resolves to an address); the preset address of an ORG is a number all the same (`translateOperand_ok`). -/
structure OpRes (N : Nat) (row : InstrRow) (o : Operand) : Prop where
  good : o.value.Good N
  right : o.right ≠ none → o.value.isLeftRight = true
  left : ∀ v, o.left = .val v → v.Good N
  rel : o.kind = .relative → (row.isShortBranch || row.isLongBranch) = true

theorem OpInit.toRes {N : Nat} {row : InstrRow} {o : Operand} (hi : OpInit row o) : OpRes N row o :=
  ⟨hi.good N, fun h => (hi.right h).1, fun v hv => absurd hv (hi.left v), hi.rel⟩

theorem resolveOperand_res {N : Nat} {t : SymTab} (ht : SymTab.Good N t) {o o' : Operand} {row : InstrRow}
    (hi : OpInit row o) (h : resolveOperand o row t = .ok o') : OpRes N row o' := by
  have noLeft : ∀ v, o.left = .val v → v.Good N := fun v hv => absurd hv (hi.left v)
  have left : ∀ {l : Str} {o' : Operand}, ResolvedLeft row t o l o' → OpRes N row o' := by
    intro l o' hl
    cases hl with
    | keep => exact hi.toRes
    | left _ hv =>
      exact ⟨hi.good N, fun h => (hi.right h).1, fun v e => by cases e; exact resolveLeft_good ht hv, hi.rel⟩
  -- only indexed operands and operands in brackets have a right-hand side
  have noRight : o.kind ≠ .indexed → o.kind ≠ .extIndirect → o.right ≠ none → False := fun h1 h2 hr =>
    (hi.right hr).2.elim h1 h2
  cases resolveOperand_graph h with
  | special | pseudoOther | pseudoKeep | indexedKeep => exact hi.toRes
  | indexedLeft _ _ hl => exact left hl
  | extLeft _ _ _ hl => exact left hl
  | pseudoValue hk _ _ hv =>
    exact ⟨Value.resolve_good ht (hi.good N) hv, fun hr => (noRight (by simp [hk]) (by simp [hk]) hr).elim, noLeft,
      by simp [hk]⟩
  | extValue hk hc hv =>
    refine ⟨Value.resolve_good ht (hi.good N) hv, fun hr => ?_, noLeft, by simp [hk]⟩
    rw [(hi.right hr).1] at hc
    simp at hc
  | value hk hv =>
    refine ⟨Value.resolve_good ht (hi.good N) hv, fun hr => (noRight ?_ ?_ hr).elim, noLeft, hi.rel⟩ <;>
      rcases hk with hk | hk | hk | hk | hk <;> simp [hk]
  | unknown hk hv hu =>
    have hg := Value.resolve_good ht (hi.good N) hv
    refine ⟨?_, fun hr => (noRight (by simp [hk]) (by simp [hk]) hr).elim, noLeft, fun e => ?_⟩
    · cases hu with
      | directNum _ _ _ hn => exact numericOfInt_good N hn (by omega)
      | _ => exact hg
    · rcases hu.kind with e' | e' <;> rw [e'] at e <;> cases e

theorem CodeVal.ne_pyNone {v : Value} (h : CodeVal v) : v ≠ .pyNone := by
  rcases h with rfl | ⟨n, h⟩
  · nofun
  · exact (numV_good 0 h).ne_pyNone

/-- what the size loop and `fix_addresses` need of the `additional` of an undecided PCR statement -/
def AddlOK (N : Nat) (v : Value) : Prop :=
  v.Good N ∧ (∃ r, relIndex v = some r ∧ r < N) ∧ (∃ t, v.int? = some t ∧ t < N)

/-- the part of `PkgOK` that concerns the PCR size loop -/
def ChoicesOK (N : Nat) (p : Pkg) : Prop :=
  p.choices = [] ∨ ∃ c0 c1, p.choices = [c0, c1] ∧ c0 < 256 ∧ c1 < 256 ∧
    (∃ raw, p.postByte.int? = some raw ∧ raw < 256 ∧ p.postByte.hexLen? = some 2) ∧ AddlOK N p.additional

theorem AddlOK.of_expr {N : Nat} (hN : 0 < N) {v : Value} (hv : v.Good N)
    (he : (v.isExpression || v.isAddrExpr) = true) : AddlOK N v := by
  cases v with
  | expr a b op m ae =>
    refine ⟨hv, ?_, ⟨0, rfl, hN⟩⟩
    cases ae with
    | false => exact ⟨0, rfl, hN⟩
    | true =>
      obtain ⟨ha, hb, hab⟩ := hv
      obtain ⟨ka, hka, hka1, _⟩ := ha.int
      obtain ⟨kb, hkb, hkb1, _⟩ := hb.int
      show ∃ r, (if a.isAddress = true then a.int? else b.int?) = some r ∧ r < N
      by_cases haa : a.isAddress = true
      · rw [if_pos haa]; exact ⟨ka, hka, hka1 haa⟩
      · rw [if_neg haa]
        rcases hab rfl with h | h
        · exact absurd h haa
        · exact ⟨kb, hkb, hkb1 h⟩
  | _ => simp [Value.isExpression, Value.isAddrExpr] at he

theorem OffPkg.ok {N : Nat} {ind : Bool} {row : InstrRow} {right : Str} {raw0 : Nat} {needs : Bool} {l : Value}
    {p : Pkg} (hraw : raw0 < 256) (hl : needs = true → AddlOK N l) (h : OffPkg ind row right raw0 needs l p) :
    ChoicesOK N p ∧ (p.needsRes = true → AddlOK N p.additional) := by
  have no {x : Prop} : needs = false → needs = true → x := fun h0 h1 => by rw [h0] at h1; cases h1
  cases h with
  | pcrOpen hop _ hn hpb =>
    have hlen := numV_hexLen hpb hraw
    obtain ⟨hh, m, rfl, _⟩ := numV_eq hpb
    refine ⟨.inr ⟨_, _, rfl, ?_, ?_, ⟨raw0, rfl, hraw, hlen⟩, hl hn⟩, fun _ => hl hn⟩ <;> cases ind <;> decide
  | pcrNum => exact ⟨.inl rfl, nofun⟩
  | label _ hn => exact ⟨.inl rfl, fun _ => hl hn⟩
  | neg5 _ hn | neg8 _ hn | neg16 _ hn | pos5 _ hn | pos8 _ hn | pos16 _ hn => exact ⟨.inl rfl, no hn⟩

/-- a label is handed on as its statement index, an expression as it is: both are what `fix_addresses` can resolve -/
theorem OffArg.ok {N : Nat} (hN : 0 < N) {left l : Value} {needs : Bool} (hl : left.Good N)
    (h : OffArg left needs l) : needs = true → AddlOK N l := by
  cases h with
  | label hnum =>
    obtain ⟨hh, mm, rfl, hle⟩ := numV_eq hnum
    exact fun _ => ⟨hle, ⟨_, rfl, hl⟩, ⟨_, rfl, hl⟩⟩
  | other => exact AddlOK.of_expr hN hl

/-- what the later stages need of a translated package.  `addr`: a preset address (ORG) contains no label
(`Good 0`), so its `.int` is a 16-bit magnitude however many statements there are.  `codes`: op code and post byte
are `NoneValue` or a number, never Python's `None` (so `fit_operand_width` can ask for their `hex_len()`) -/
structure PkgOK (N : Nat) (row : InstrRow) (o : Operand) (p : Pkg) : Prop where
  addr : p.address.Good 0
  codes : p.opCode ≠ .pyNone ∧ p.postByte ≠ .pyNone
  choices : ChoicesOK N p
  rel : o.kind = .relative → (∃ b, p.additional.int? = some b) ∧ (row.isShortBranch = false → 1 ≤ p.size)
  needs : p.needsRes = true → o.value.isLeftRight = true ∧ (o.kind = .indexed ∨ o.kind = .extIndirect)
  addl : p.needsRes = true → AddlOK N p.additional     -- `fixOne` resolves a label offset without choices too

theorem IdxPkg.ok {N : Nat} (hN : 0 < N) {ind : Bool} {row : InstrRow} {o : Operand} {p : Pkg} (hres : OpRes N row o)
    (hk : o.kind = .indexed ∨ o.kind = .extIndirect) (h : IdxPkg ind row o p) (hadr : p.address.Good 0)
    (hc : p.opCode ≠ .pyNone ∧ p.postByte ≠ .pyNone) : PkgOK N row o p := by
  have hrel : ¬ o.kind = .relative := by rcases hk with hk | hk <;> simp [hk]
  have off : ∀ {v l right needs}, o.right = some right → v.Good N → OffArg v needs l →
      OffPkg ind row right (idxRaw ind right) needs l p → PkgOK N row o p := by
    intro v l right needs hr hv ha hp
    obtain ⟨h2, h3⟩ := hp.ok (idxRaw_lt ind right) (ha.ok hN hv)
    exact ⟨hadr, hc, h2, fun hr' => absurd hr' hrel, fun _ => ⟨hres.right (by simp [hr]), hk⟩, h3⟩
  cases h with
  | abs | plain => exact ⟨hadr, hc, .inl rfl, fun hr => absurd hr hrel, nofun, nofun⟩
  | offset hl hr ha hp => exact off hr (hres.left _ hl) ha hp
  | offsetText _ _ hr hv ha hp => exact off hr (create_good N hv) ha hp

theorem translateOperand_ok {N : Nat} (hN : 0 < N) {row : InstrRow} {o : Operand} {p : Pkg}
    (hres : OpRes N row o) (hrow : row.isLongBranch = true → 1 ≤ row.relSz)
    (h : translateOperand o row = .ok p) : PkgOK N row o p := by
  have hg := translateOperand_graph h
  have hc : p.opCode ≠ .pyNone ∧ p.postByte ≠ .pyNone := ⟨hg.codes.1.ne_pyNone, hg.codes.2.ne_pyNone⟩
  -- the preset address is absent, or the number of an ORG, whose bound does not depend on `N`
  have hadr : p.address.Good 0 := by
    rcases hg.address with e | ⟨_, hnum, e⟩
    · rw [e]; trivial
    · obtain ⟨n, hh, m, neg, hv⟩ := isNumeric_elim hnum
      have hgood := hres.good
      rw [hv] at hgood
      rw [e, hv]
      exact hgood
  cases hg with
  | pseudo hk h =>
    cases h <;> exact ⟨hadr, hc, .inl rfl, by simp [hk], nofun, nofun⟩
  | indexed hk h => exact h.ok hN hres (.inl hk) hadr hc
  | extIndirect hk h => exact h.ok hN hres (.inr hk) hadr hc
  | relative hk hop _ =>
    obtain ⟨k, hk', _⟩ := hres.good.int
    refine ⟨hadr, hc, .inl rfl, fun _ => ⟨⟨k, hk'⟩, fun hs => ?_⟩, nofun, nofun⟩
    have := hres.rel hk
    simp only [hs, Bool.false_or] at this
    exact hrow this
  | unknown hk | inherent hk | immediate hk | direct hk | extended hk | special hk =>
    exact ⟨hadr, hc, .inl rfl, by simp [hk], nofun, nofun⟩

end CoCo.Asm
