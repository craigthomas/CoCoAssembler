/-
Lemmas/ListPass.lean — passes over a list.  `PW R l l'`: two lists of the same length whose elements are related by `R`,
position by position.  `Outcome.traverse f i l`: element `j` of `l` goes through `f (i + j)`; the pass ends as the first
step that fails, or with the list of the results.  `fixAll`, `evalLists`, `evalElems`, `evalSyms` and `finalSymTab` are
traversals (`fixAll_eq_traverse` .. next to the lemmas of each pass), `resolveAll` and `translateAll` are `List.mapM` in
`Option`, the list parser `multi` is one in `Except`; what holds of every pass is proved here, once.  Only the step of
`fixAll` looks at the index; the other passes are the traversal from any start index, and their equations take it as an
argument (the second half of `traverse_append` starts at `i + l.length`).
In front of them the list facts that mention no definition of the model; `Stops p l` (the list is empty or its head
fails `p`) is what a link of a `takeWhile` / `dropWhile` chain needs to know of the rest.
-/
import CoCoVerif.Lemmas.OutcomeBasics

namespace CoCo.Asm
open CoCo

theorem lt_of_getElem? {α : Type} {l : List α} {i : Nat} {x : α} (h : l[i]? = some x) : i < l.length :=
  let ⟨hlt, _⟩ := List.getElem_of_getElem? h
  hlt

theorem getElem?_append_some {α} {ra rb : List α} {j : Nat} {x : α} (h : ra[j]? = some x) :
    (ra ++ rb)[j]? = some x := by
  have hj : j < ra.length := (List.getElem?_eq_some_iff.mp h).1
  rw [List.getElem?_append_left hj, h]

theorem set_self {α} : ∀ {ss : List α} {i : Nat} {s : α}, ss[i]? = some s → ss.set i s = ss := by
  intro ss
  induction ss with
  | nil => intro i s h; rfl
  | cons x xs ih =>
    intro i s h
    cases i with
    | zero => simp at h; subst h; rfl
    | succ j => simp at h; simp [ih h]

theorem exists_last (p : Nat → Prop) (n : Nat) :
    (∀ j, j < n → ¬ p j) ∨ ∃ k, k < n ∧ p k ∧ ∀ j, k < j → j < n → ¬ p j := by
  induction n with
  | zero => left; intro j hj; omega
  | succ n ih =>
    by_cases hp : p n
    · right; exact ⟨n, by omega, hp, fun j h1 h2 => by omega⟩
    · rcases ih with h | ⟨k, hk, hpk, hl⟩
      · left
        intro j hj
        rcases Nat.lt_or_ge j n with h' | h'
        · exact h j h'
        · have : j = n := by omega
          subst this; exact hp
      · right
        refine ⟨k, by omega, hpk, ?_⟩
        intro j h1 h2
        rcases Nat.lt_or_ge j n with h' | h'
        · exact hl j h1 h'
        · have : j = n := by omega
          subst this; exact hp

/-- induction along two lists in step, as `evalElems` walks the elements and their digit groups -/
theorem zipInduction {α β : Type} {P : List α → List β → Prop} (nil_left : ∀ bs, P [] bs) (nil_right : ∀ as, P as [])
    (cons : ∀ a as b bs, P as bs → P (a :: as) (b :: bs)) : ∀ as bs, P as bs
  | [], bs => nil_left bs
  | _ :: _, [] => nil_right _
  | a :: as, b :: bs => cons a as b bs (zipInduction nil_left nil_right cons as bs)

theorem nodup_subset_length_le {α} [BEq α] [LawfulBEq α] : ∀ (m l : List α), l.Nodup → (∀ x ∈ l, x ∈ m) →
    l.length ≤ m.length := by
  intro m
  induction m with
  | nil =>
    intro l _ h
    cases l with
    | nil => simp
    | cons x _ => exact absurd (h x (by simp)) (by simp)
  | cons a m ih =>
    intro l hn h
    have h1 := ih (l.erase a) (hn.erase a) (by
      intro x hx
      rw [hn.mem_erase_iff] at hx
      rcases List.mem_cons.1 (h x hx.2) with e | e
      · exact absurd e hx.1
      · exact e)
    have h2 : l.length ≤ (l.erase a).length + 1 := by
      rw [List.length_erase]; split <;> omega
    simp only [List.length_cons]; omega

theorem find?_key_eq_zip {α β} [BEq β] (f : α → β) (k : β) :
    ∀ l : List α, l.find? (fun a => f a == k) = (((l.map f).zip l).find? (·.1 == k)).map (·.2)
  | [] => rfl
  | a :: l => by
    simp only [List.find?_cons, List.map_cons, List.zip_cons_cons]
    cases f a == k
    · exact find?_key_eq_zip f k l
    · rfl

theorem char_le_iff (a b : Char) : a ≤ b ↔ a.toNat ≤ b.toNat := by
  rw [Char.le_def]; exact UInt32.le_iff_toNat_le

def Stops {α} (p : α → Bool) (l : List α) : Prop := ∀ x ∈ l.head?, p x = false

theorem stops_nil {α} (p : α → Bool) : Stops p [] := by simp [Stops]
theorem stops_cons {α} {p : α → Bool} {x : α} {l : List α} (h : p x = false) : Stops p (x :: l) := by
  simp [Stops, h]
theorem stops_append_of_ne_nil {α} {p : α → Bool} {a b : List α} (ha : a ≠ []) (h : Stops p a) :
    Stops p (a ++ b) := by
  cases a with
  | nil => exact absurd rfl ha
  | cons x xs => simpa [Stops] using h
theorem stops_of_all {α} {p q : α → Bool} {a b : List α} (ha : a ≠ []) (h : ∀ x ∈ a, q x = true)
    (hq : ∀ x, q x = true → p x = false) : Stops p (a ++ b) := by
  cases a with
  | nil => exact absurd rfl ha
  | cons x xs => exact stops_cons (hq x (h x (by simp)))

theorem takeWhile_stops {α} {p : α → Bool} {l : List α} (h : Stops p l) : l.takeWhile p = [] := by
  cases l with
  | nil => rfl
  | cons x xs => exact List.takeWhile_cons_of_neg (by simp [Stops] at h; simp [h])
theorem dropWhile_stops {α} {p : α → Bool} {l : List α} (h : Stops p l) : l.dropWhile p = l := by
  cases l with
  | nil => rfl
  | cons x xs => exact List.dropWhile_cons_of_neg (by simp [Stops] at h; simp [h])

theorem takeWhile_all_stops {α} {p : α → Bool} {a b : List α} (ha : ∀ x ∈ a, p x = true)
    (hb : Stops p b) : (a ++ b).takeWhile p = a := by
  rw [List.takeWhile_append_of_pos ha, takeWhile_stops hb, List.append_nil]
theorem dropWhile_all_stops {α} {p : α → Bool} {a b : List α} (ha : ∀ x ∈ a, p x = true)
    (hb : Stops p b) : (a ++ b).dropWhile p = b := by
  rw [List.dropWhile_append_of_pos ha, dropWhile_stops hb]

theorem stops_dropWhile {α} (p : α → Bool) (l : List α) : Stops p (l.dropWhile p) := by
  induction l with
  | nil => exact stops_nil p
  | cons x xs ih =>
    cases h : p x with
    | true => rw [List.dropWhile_cons_of_pos h]; exact ih
    | false => rw [List.dropWhile_cons_of_neg (by simp [h])]; exact stops_cons h

def PW {α β : Type} (R : α → β → Prop) (l : List α) (l' : List β) : Prop :=
  l'.length = l.length ∧ ∀ (j : Nat) (s : α) (s' : β), l[j]? = some s → l'[j]? = some s' → R s s'

namespace PW
variable {α β γ : Type} {R : α → β → Prop}

theorem nil : PW R [] [] := ⟨rfl, by simp⟩

theorem cons {a : α} {b : β} {l : List α} {l' : List β} (h : R a b) (hl : PW R l l') : PW R (a :: l) (b :: l') := by
  refine ⟨by simp [hl.1], ?_⟩
  intro j s s' h1 h2
  cases j with
  | zero => simp at h1 h2; subst h1 h2; exact h
  | succ j => simp at h1 h2; exact hl.2 j s s' h1 h2

theorem length_eq {l : List α} {l' : List β} (h : PW R l l') : l'.length = l.length := h.1

theorem nil_left {l' : List β} (h : PW R [] l') : l' = [] := List.eq_nil_of_length_eq_zero h.1

theorem of_cons {a : α} {b : β} {l : List α} {l' : List β} (h : PW R (a :: l) (b :: l')) : R a b ∧ PW R l l' :=
  ⟨h.2 0 a b rfl rfl, Nat.succ.inj h.1, fun j s s' h1 h2 => h.2 (j + 1) s s' h1 h2⟩

theorem cons_left {a : α} {l : List α} {l' : List β} (h : PW R (a :: l) l') :
    ∃ b r, l' = b :: r ∧ R a b ∧ PW R l r := by
  cases l' with
  | nil => cases h.1
  | cons b r => exact ⟨b, r, rfl, h.of_cons⟩

theorem refl {R : α → α → Prop} (hr : ∀ a, R a a) (l : List α) : PW R l l :=
  ⟨rfl, fun j s s' h1 h2 => by rw [h1] at h2; cases h2; exact hr s⟩

theorem mono {S : α → β → Prop} {l : List α} {l' : List β} (h : PW R l l') (hi : ∀ a b, R a b → S a b) : PW S l l' :=
  ⟨h.1, fun j s s' h1 h2 => hi _ _ (h.2 j s s' h1 h2)⟩

theorem get {l : List α} {l' : List β} (h : PW R l l') {j : Nat} {s : α} (hs : l[j]? = some s) :
    ∃ s', l'[j]? = some s' ∧ R s s' := by
  have hj' : j < l'.length := by rw [h.1]; exact lt_of_getElem? hs
  exact ⟨l'[j], List.getElem?_eq_getElem hj', h.2 j s _ hs (List.getElem?_eq_getElem hj')⟩

theorem get' {l : List α} {l' : List β} (h : PW R l l') {j : Nat} {s' : β} (hs : l'[j]? = some s') :
    ∃ s, l[j]? = some s ∧ R s s' := by
  have hj' : j < l.length := by rw [← h.1]; exact lt_of_getElem? hs
  exact ⟨l[j], List.getElem?_eq_getElem hj', h.2 j _ s' (List.getElem?_eq_getElem hj') hs⟩

theorem mem' {l : List α} {l' : List β} (h : PW R l l') {s' : β} (hs : s' ∈ l') : ∃ s ∈ l, R s s' := by
  obtain ⟨j, hj⟩ := List.getElem?_of_mem hs
  obtain ⟨s, hsj, hr⟩ := h.get' hj
  exact ⟨s, List.mem_of_getElem? hsj, hr⟩

theorem trans {S : β → γ → Prop} {T : α → γ → Prop} {l : List α} {l' : List β} {l'' : List γ}
    (h1 : PW R l l') (h2 : PW S l' l'') (ht : ∀ a b c, R a b → S b c → T a c) : PW T l l'' := by
  refine ⟨by rw [h2.1, h1.1], ?_⟩
  intro j s s'' hs hs''
  obtain ⟨s', hs', hr⟩ := h1.get hs
  exact ht _ _ _ hr (h2.2 j s' s'' hs' hs'')

theorem set {R : α → α → Prop} (hr : ∀ a, R a a) {l : List α} {i : Nat} {s s' : α} (hi : l[i]? = some s)
    (h : R s s') : PW R l (l.set i s') := by
  refine ⟨by simp, ?_⟩
  intro j a b ha hb
  rw [List.getElem?_set] at hb
  split at hb
  · rename_i hij; subst hij
    split at hb
    · cases hb; rw [hi] at ha; cases ha; exact h
    · cases hb
  · rw [ha] at hb; cases hb; exact hr a

theorem getElem? {l : List α} {l' : List β} (h : PW R l l') (j : Nat) :
    (l[j]? = none ∧ l'[j]? = none) ∨ ∃ a b, l[j]? = some a ∧ l'[j]? = some b ∧ R a b := by
  cases hj : l[j]? with
  | none =>
    have : l.length ≤ j := List.getElem?_eq_none_iff.mp hj
    exact .inl ⟨rfl, List.getElem?_eq_none_iff.mpr (by rw [h.1]; exact this)⟩
  | some a =>
    obtain ⟨b, hb, hr⟩ := h.get hj
    exact .inr ⟨a, b, rfl, hb, hr⟩

theorem map_eq {f : α → γ} {g : β → γ} {l : List α} {l' : List β}
    (h : PW (fun a b => g b = f a) l l') : l'.map g = l.map f := by
  apply List.ext_getElem?
  intro j
  simp only [List.getElem?_map]
  rcases h.getElem? j with ⟨e, e'⟩ | ⟨a, b, e, e', hr⟩
  · rw [e, e']; rfl
  · rw [e, e']; exact congrArg some hr

theorem graph_iff {g : α → β} {l : List α} {l' : List β} : PW (fun a b => b = g a) l l' ↔ l' = l.map g := by
  constructor
  · intro h
    exact (List.map_id l').symm.trans (map_eq (g := id) h)
  · rintro rfl
    refine ⟨List.length_map g, ?_⟩
    intro j a b ha hb
    rw [List.getElem?_map, ha] at hb
    exact (Option.some.inj hb).symm

theorem set₂ {l : List α} {l' : List β} (h : PW R l l') (i : Nat) {a : α} {b : β} (hab : R a b) :
    PW R (l.set i a) (l'.set i b) := by
  refine ⟨by simp [h.1], ?_⟩
  intro j x y hx hy
  rw [List.getElem?_set] at hx hy
  by_cases hij : i = j
  · subst hij
    simp only [if_true] at hx hy
    split at hx
    · split at hy
      · cases hx; cases hy; exact hab
      · cases hy
    · cases hx
  · simp only [hij, if_false] at hx hy
    exact h.2 j x y hx hy

end PW

theorem PW.nil_right {α β : Type} {R : α → β → Prop} {l : List α} (h : PW R l []) : l = [] :=
  List.eq_nil_of_length_eq_zero h.1.symm

theorem PW.cons_right {α β : Type} {R : α → β → Prop} {b : β} {l : List α} {r : List β}
    (h : PW R l (b :: r)) : ∃ a l0, l = a :: l0 ∧ R a b ∧ PW R l0 r := by
  cases l with
  | nil => cases h.1
  | cons a l0 => exact ⟨a, l0, rfl, h.of_cons⟩

theorem PW.flip {α β : Type} {R : α → β → Prop} {l : List α} {l' : List β} (h : PW R l l') :
    PW (fun b a => R a b) l' l :=
  ⟨h.1.symm, fun j s s' h1 h2 => h.2 j s' s h2 h1⟩

theorem PW.and {α β : Type} {R S : α → β → Prop} {l : List α} {l' : List β} (h1 : PW R l l') (h2 : PW S l l') :
    PW (fun a b => R a b ∧ S a b) l l' :=
  ⟨h1.1, fun j s s' a b => ⟨h1.2 j s s' a b, h2.2 j s s' a b⟩⟩

/-- a fold that keeps the value `g a` of the last element passing the test `p` (the scans for the origin and the name):
on two lists whose elements agree on the test and carry related values, the results are related -/
theorem PW.foldl_last {α α' β γ : Type} {Ro : β → γ → Prop} (p : α → Bool) (p' : α' → Bool) (g : α → β) (g' : α' → γ) :
    ∀ {l : List α} {l' : List α'} {o : β} {o' : γ}, PW (fun a a' => p' a' = p a ∧ Ro (g a) (g' a')) l l' → Ro o o' →
    Ro (l.foldl (fun o a => if p a then g a else o) o) (l'.foldl (fun o a => if p' a then g' a else o) o') := by
  intro l
  induction l with
  | nil => intro l' o o' h ho; rw [h.nil_left]; exact ho
  | cons a rest ih =>
    intro l' o o' h ho
    obtain ⟨a', rest', rfl, ⟨hp, hg⟩, hr⟩ := h.cons_left
    rw [List.foldl_cons, List.foldl_cons, hp]
    refine ih hr ?_
    split
    · exact hg
    · exact ho

theorem PW.sum_le {α : Type} {f g : α → Nat} {l l' : List α} (h : PW (fun a b => f a ≤ g b) l l')
    (lo n : Nat) : (((l.drop lo).take n).map f).sum ≤ (((l'.drop lo).take n).map g).sum := by
  induction l generalizing l' lo n with
  | nil =>
    have : l' = [] := List.eq_nil_of_length_eq_zero (by simpa using h.1)
    subst this; simp
  | cons a r ih =>
    cases l' with
    | nil => have := h.1; simp at this
    | cons b r' =>
      obtain ⟨hab, hr⟩ := PW.of_cons h
      cases lo with
      | zero =>
        cases n with
        | zero => simp
        | succ n =>
          have := ih hr 0 n
          simp only [List.drop_zero] at this
          simp only [List.drop_zero, List.take_succ_cons, List.map_cons, List.sum_cons]
          omega
      | succ lo => simpa using ih hr lo n

theorem mapM_some {α β : Type} {f : α → Option β} {l : List α} {r : List β} (h : l.mapM f = some r) :
    PW (fun x y => f x = some y) l r ∧ l.filterMap f = r := by
  induction l generalizing r with
  | nil => simp at h; subst h; exact ⟨.nil, rfl⟩
  | cons x xs ih =>
    rw [List.mapM_cons] at h
    cases hx : f x with
    | none => simp [hx] at h
    | some y =>
      cases hr : xs.mapM f with
      | none => simp [hx, hr] at h
      | some ys =>
        simp [hx, hr] at h; subst h
        obtain ⟨h1, h2⟩ := ih hr
        exact ⟨.cons hx h1, by simp [hx, h2]⟩

theorem mapM_of_pw {α β : Type} {f : α → Option β} {l : List α} {r : List β} (h : PW (fun x y => f x = some y) l r) :
    l.mapM f = some r := by
  induction l generalizing r with
  | nil => rw [h.nil_left]; rfl
  | cons x xs ih =>
    obtain ⟨y, ys, rfl, hx, hr⟩ := h.cons_left
    rw [List.mapM_cons, hx, ih hr]
    rfl

theorem mapM_append_some {α β} (f : α → Option β) : ∀ (x y : List α) (r : List β),
    (x ++ y).mapM f = some r → ∃ rx ry, x.mapM f = some rx ∧ y.mapM f = some ry ∧ r = rx ++ ry := by
  intro x y r h
  rw [List.mapM_append] at h
  cases hx : x.mapM f with
  | none => rw [hx] at h; simp at h
  | some rx =>
    cases hy : y.mapM f with
    | none => rw [hx, hy] at h; simp at h
    | some ry =>
      rw [hx, hy] at h
      simp at h
      exact ⟨rx, ry, rfl, rfl, h.symm⟩

theorem mapM_mono {α β : Type} {f g : α → Option β} {l : List α} {r : List β} (hg : ∀ a b, f a = some b → g a = some b)
    (h : l.mapM f = some r) : l.mapM g = some r :=
  mapM_of_pw ((mapM_some h).1.mono hg)

theorem mapM_map {α β γ δ : Type} {f : α → Option β} {g : γ → Option δ} (u : α → γ) (v : β → δ) {l : List α}
    (h : ∀ a ∈ l, g (u a) = (f a).map v) : (l.map u).mapM g = (l.mapM f).map (List.map v) := by
  induction l with
  | nil => rfl
  | cons a l ih =>
    rw [List.map_cons, List.mapM_cons, List.mapM_cons, h a (by simp), ih fun x hx => h x (by simp [hx])]
    cases f a <;> cases l.mapM f <;> rfl

theorem mapM_prefix {α β : Type} {f g : α → Option β} {x y : List α} {rx r : List β}
    (hx : x.mapM f = some rx) (hxy : (x ++ y).mapM g = some r) (hg : ∀ a b, f a = some b → g a = some b) :
    ∃ ry, y.mapM g = some ry ∧ r = rx ++ ry := by
  obtain ⟨rx', ry, h1, h2, rfl⟩ := mapM_append_some g x y r hxy
  rw [mapM_mono hg hx] at h1
  cases h1
  exact ⟨ry, h2, rfl⟩

theorem mapM_eq_ok {ε α β : Type} {f : α → Except ε β} {l : List α} {r : List β} :
    l.mapM f = .ok r ↔ PW (fun x y => f x = .ok y) l r := by
  induction l generalizing r with
  | nil => exact ⟨fun h => by cases h; exact .nil, fun h => by rw [h.nil_left]; rfl⟩
  | cons x xs ih =>
    rw [List.mapM_cons]
    constructor
    · intro h
      cases hx : f x with
      | error e => rw [hx] at h; cases h
      | ok y =>
        cases hr : xs.mapM f with
        | error e => rw [hx, hr] at h; cases h
        | ok ys => rw [hx, hr] at h; cases h; exact .cons hx (ih.1 hr)
    · intro h
      obtain ⟨y, ys, rfl, hy, hys⟩ := h.cons_left
      rw [hy, ih.2 hys]
      rfl

theorem mapM_congr_mem {ε α β : Type} {f g : α → Except ε β} {l : List α} (h : ∀ x ∈ l, f x = g x) :
    l.mapM f = l.mapM g := by
  induction l with
  | nil => rfl
  | cons x t ih => rw [List.mapM_cons, List.mapM_cons, h x (by simp), ih fun y hy => h y (by simp [hy])]

theorem mapM_ok_of_forall {ε α β : Type} {f : α → Except ε β} {g : α → β} {l : List α} (h : ∀ x ∈ l, f x = .ok (g x)) :
    l.mapM f = .ok (l.map g) :=
  mapM_eq_ok.2 ⟨List.length_map g, fun j a b ha hb => by
    rw [List.getElem?_map, ha] at hb
    cases hb
    exact h a (List.mem_of_getElem? ha)⟩

theorem mapM_error_of_mem {ε α β : Type} {f : α → Except ε β} {l : List α} {x : α} {e : ε} (hx : x ∈ l)
    (he : f x = .error e) : ∃ e', l.mapM f = .error e' := by
  cases h : l.mapM f with
  | error e' => exact ⟨e', rfl⟩
  | ok r =>
    obtain ⟨j, hj⟩ := List.getElem?_of_mem hx
    obtain ⟨y, _, hy⟩ := (mapM_eq_ok.1 h).get hj
    rw [he] at hy
    cases hy

theorem mapM_ok_all {ε α β : Type} {f : α → Except ε β} {P : β → Prop} (hf : ∀ x y, f x = .ok y → P y)
    (xs : List α) (ys : List β) (h : xs.mapM f = .ok ys) : ys.length = xs.length ∧ ∀ y ∈ ys, P y :=
  ⟨(mapM_eq_ok.1 h).1, fun _ hy => let ⟨x, _, hx⟩ := (mapM_eq_ok.1 h).mem' hy; hf x _ hx⟩

end CoCo.Asm

namespace CoCo
open CoCo.Asm (PW lt_of_getElem?)

theorem OutRel.consM {α β : Type} {R : α → β → Prop} {o1 : Outcome α} {o1' : Outcome β}
    {o2 : Outcome (List α)} {o2' : Outcome (List β)} (h1 : OutRel R o1 o1') (h2 : OutRel (PW R) o2 o2') :
    OutRel (PW R) (o1.consM o2) (o1'.consM o2') :=
  h1.bind fun _ _ _ _ r1 => h2.bind fun _ _ _ _ r2 => .ok (.cons r1 r2)

namespace Outcome
variable {α β γ δ : Type} {f : Nat → α → Outcome β}

def traverse (f : Nat → α → Outcome β) : Nat → List α → Outcome (List β)
  | _, [] => .ok []
  | i, a :: l => (f i a).consM (traverse f (i + 1) l)

theorem traverse_nil (i : Nat) : traverse f i [] = .ok [] := rfl

theorem traverse_cons (i : Nat) (a : α) (l : List α) :
    traverse f i (a :: l) = (f i a).consM (traverse f (i + 1) l) := rfl

theorem traverse_eq_ok {i : Nat} {l : List α} {r : List β} :
    traverse f i l = .ok r ↔
      r.length = l.length ∧ ∀ j a, l[j]? = some a → ∃ b, r[j]? = some b ∧ f (i + j) a = .ok b := by
  induction l generalizing i r with
  | nil =>
    constructor
    · intro h; cases h; simp
    · intro h; rw [List.eq_nil_of_length_eq_zero h.1]; rfl
  | cons a l ih =>
    rw [traverse_cons]
    constructor
    · intro h
      obtain ⟨b, r', hb, hr, rfl⟩ := consM_eq_ok h
      obtain ⟨hl, hp⟩ := ih.1 hr
      refine ⟨by simp [hl], fun j x hx => ?_⟩
      cases j with
      | zero => cases hx; exact ⟨b, rfl, hb⟩
      | succ j => rw [← Nat.add_assoc, Nat.add_right_comm]; exact hp j x hx
    · intro ⟨hl, hp⟩
      cases r with
      | nil => cases hl
      | cons b r' =>
        obtain ⟨b', hb', hb⟩ := hp 0 a rfl
        cases hb'
        rw [show f i a = .ok b from hb, ih.2 ⟨Nat.succ.inj hl, fun j x hx => Nat.add_right_comm .. ▸ hp (j + 1) x hx⟩]
        rfl

theorem traverse_length {i : Nat} {l : List α} {r : List β} (h : traverse f i l = .ok r) : r.length = l.length :=
  (traverse_eq_ok.1 h).1

theorem traverse_get {i : Nat} {l : List α} {r : List β} (h : traverse f i l = .ok r) {j : Nat} {a : α}
    (ha : l[j]? = some a) : ∃ b, r[j]? = some b ∧ f (i + j) a = .ok b :=
  (traverse_eq_ok.1 h).2 j a ha

theorem traverse_get' {i : Nat} {l : List α} {r : List β} (h : traverse f i l = .ok r) {j : Nat} {b : β}
    (hb : r[j]? = some b) : ∃ a, l[j]? = some a ∧ f (i + j) a = .ok b := by
  have hj : j < l.length := traverse_length h ▸ lt_of_getElem? hb
  obtain ⟨b', hb', hf⟩ := traverse_get h (List.getElem?_eq_getElem hj)
  rw [hb] at hb'; cases hb'
  exact ⟨_, List.getElem?_eq_getElem hj, hf⟩

theorem traverse_pw {R : α → β → Prop} {i : Nat} {l : List α} {r : List β} (h : traverse f i l = .ok r)
    (hR : ∀ j a b, l[j]? = some a → f (i + j) a = .ok b → R a b) : PW R l r :=
  ⟨traverse_length h, fun j a b ha hb => by
    obtain ⟨b', hb', hf⟩ := traverse_get h ha
    rw [hb] at hb'; cases hb'
    exact hR j a b ha hf⟩

theorem traverse_id {f : Nat → α → Outcome α} {i : Nat} {l : List α} (h : ∀ j a, l[j]? = some a → f (i + j) a = .ok a) :
    traverse f i l = .ok l :=
  traverse_eq_ok.2 ⟨rfl, fun j a ha => ⟨a, ha, h j a ha⟩⟩

theorem traverse_congr {g : Nat → α → Outcome β} {i : Nat} {l : List α}
    (h : ∀ j a, l[j]? = some a → f (i + j) a = g (i + j) a) : traverse f i l = traverse g i l := by
  induction l generalizing i with
  | nil => rfl
  | cons a l ih =>
    rw [traverse_cons, traverse_cons, show f i a = g i a from h 0 a rfl,
      ih fun j x hx => Nat.add_right_comm .. ▸ h (j + 1) x hx]

theorem traverse_mono {g : Nat → α → Outcome β} {i : Nat} {l : List α} {r : List β}
    (hg : ∀ j a b, l[j]? = some a → f (i + j) a = .ok b → g (i + j) a = .ok b) (h : traverse f i l = .ok r) :
    traverse g i l = .ok r := by
  obtain ⟨hl, hp⟩ := traverse_eq_ok.1 h
  exact traverse_eq_ok.2 ⟨hl, fun j a ha => let ⟨b, hb, hf⟩ := hp j a ha; ⟨b, hb, hg j a b ha hf⟩⟩

theorem traverse_meets {c : Fail} {Q : α → β → Prop} {i : Nat} {l : List α}
    (h : ∀ j a, l[j]? = some a → (f (i + j) a).Meets c (Q a)) : (traverse f i l).Meets c (PW Q l) := by
  induction l generalizing i with
  | nil => exact .ok PW.nil
  | cons a l ih =>
    rw [traverse_cons]
    unfold consM
    exact (h 0 a rfl).bind fun b _ hb =>
      (ih fun j x hx => Nat.add_right_comm .. ▸ h (j + 1) x hx).bind fun r _ hr => .ok (PW.cons hb hr)

theorem traverse_ne_diverged {i : Nat} {l : List α} (h : ∀ j a, l[j]? = some a → f (i + j) a ≠ .diverged) :
    traverse f i l ≠ .diverged :=
  (traverse_meets fun j a ha => .of_ne (h j a ha)).ne_diverged

theorem traverse_ne_internal {i : Nat} {l : List α} (h : ∀ j a, l[j]? = some a → f (i + j) a ≠ .internal) :
    traverse f i l ≠ .internal :=
  (traverse_meets fun j a ha => .of_ne (h j a ha)).ne_internal

theorem traverse_append {i : Nat} {l l' : List α} :
    traverse f i (l ++ l') =
      (traverse f i l).bind fun r => (traverse f (i + l.length) l').bind fun r' => .ok (r ++ r') := by
  induction l generalizing i with
  | nil => cases h : traverse f i l' <;> simp [traverse_nil, Outcome.bind, h]
  | cons a l ih =>
    rw [List.cons_append, traverse_cons, traverse_cons, ih, List.length_cons, ← Nat.add_assoc, Nat.add_right_comm]
    cases f i a <;> try rfl
    cases traverse f (i + 1) l <;> try rfl
    cases traverse f (i + l.length + 1) l' <;> rfl

theorem traverse_prefix {g : Nat → α → Outcome β} {i : Nat} {x y : List α} {rx r : List β}
    (hx : traverse f i x = .ok rx) (hxy : traverse g i (x ++ y) = .ok r)
    (hg : ∀ j a b, x[j]? = some a → f (i + j) a = .ok b → g (i + j) a = .ok b) : ∃ ry, r = rx ++ ry := by
  rw [traverse_append, traverse_mono hg hx] at hxy
  obtain ⟨ry, _, h⟩ := bind_eq_ok (x := traverse g (i + x.length) y) hxy
  exact ⟨ry, (Outcome.ok.inj h).symm⟩

theorem traverse_outRel {g : Nat → γ → Outcome δ} {R : β → δ → Prop} {i : Nat} {l : List α} {l' : List γ}
    (hl : l'.length = l.length)
    (h : ∀ j a a', l[j]? = some a → l'[j]? = some a' → OutRel R (f (i + j) a) (g (i + j) a')) :
    OutRel (PW R) (traverse f i l) (traverse g i l') := by
  induction l generalizing i l' with
  | nil => rw [List.eq_nil_of_length_eq_zero hl]; exact .ok .nil
  | cons a l ih =>
    cases l' with
    | nil => cases hl
    | cons a' l' =>
      exact (h 0 a a' rfl rfl).consM
        (ih (Nat.succ.inj hl) fun j x x' hx hx' => Nat.add_right_comm .. ▸ h (j + 1) x x' hx hx')

theorem traverse_map {g : Nat → γ → Outcome δ} (u : α → γ) (v : β → δ) {i : Nat} {l : List α}
    (h : ∀ j a, l[j]? = some a → g (i + j) (u a) = (f (i + j) a).map v) :
    traverse g i (l.map u) = (traverse f i l).map (List.map v) := by
  induction l generalizing i with
  | nil => rfl
  | cons a l ih =>
    rw [List.map_cons, traverse_cons, traverse_cons, show g i (u a) = _ from h 0 a rfl,
      ih fun j x hx => Nat.add_right_comm .. ▸ h (j + 1) x hx]
    exact map_consM v _ _

end Outcome
end CoCo
