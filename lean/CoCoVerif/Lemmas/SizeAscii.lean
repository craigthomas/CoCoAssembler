/-
Lemmas/SizeAscii.lean — the characters of an FCC string.  Every string value `create_from_str` builds is made of
characters below 256 (`StringValue` raises on wider ones and the cascade goes on: `PV` of Lemmas/CreateGraph) and
`resolve_symbols` never produces a string, so the string operand of every statement — parsed, expanded, final — is
narrow, whatever the input.  Independently, the string value of a parsed operand consists of characters of the source
line: the FCC string is cut out of the line as written.
-/
import CoCoVerif.Lemmas.SizeTranslate
import CoCoVerif.Lemmas.StagesTrace

namespace CoCo.Asm
open CoCo
open CoCo.Gen (InstrRow)

theorem parseLine_str_mem_line {l : Str} {s : Stmt} {x : Str} (h : parseLine l = .ok (some s))
    (hx : s.operand.value = .str x) : ∀ ch ∈ x, ch ∈ l := by
  obtain ⟨_, _, _, _, _, f, o, hs, _, hf, ho, rfl⟩ := parseLine_eq_some.1 h
  exact fun ch hch => lineField_mem hs hf ch (createOperand_str_mem ho hx ch hch)

theorem parseLine_str_mem {l : Str} {s : Stmt} {x : Str} (h : parseLine l = .ok (some s))
    (hx : s.operand.value = .str x) : ∀ ch ∈ x, ch ∈ l ∨ ch = ' ' :=
  fun ch hch => .inl (parseLine_str_mem_line h hx ch hch)

def NarrowLine (l : Str) : Prop := ∀ c ∈ l, c.toNat < 256

theorem createOperand_str_narrow {s : Str} {row : InstrRow} {o : Operand} {x : Str}
    (hrow : row ∈ Gen.instructions) (h : createOperand s row = .ok o) (hx : o.value = .str x) :
    ∀ c ∈ x, c.toNat < 256 := by
  obtain ⟨_, _, f5, _⟩ := rowFacts_all row hrow
  have := (createOperand_shape0 h f5).pv
  rw [hx] at this
  exact this

theorem parseLine_narrow {l : Str} {s : Stmt} (h : parseLine l = .ok (some s)) :
    ∀ x, s.operand.value = .str x → ∀ c ∈ x, c.toNat < 256 := by
  intro x hx
  obtain ⟨hrow, txt, hcr⟩ := parseLine_parsed h
  exact createOperand_str_narrow hrow hcr hx

theorem expand_narrow {fs : Files} {lines : List Str} {parsed ss0 : List Stmt}
    (hp : parseLines lines = .ok parsed) (he : expand fs (includeFuel fs) [] parsed = .ok ss0) :
    ∀ s ∈ ss0, ∀ x, s.operand.value = .str x → ∀ c ∈ x, c.toNat < 256 :=
  expand_forall (P := fun s => ∀ x, s.operand.value = .str x → ∀ c ∈ x, c.toNat < 256)
    (fun _ _ h => parseLine_narrow h) fs (includeFuel fs) [] parsed
    (parseLines_forall (fun _ _ h => parseLine_narrow h) lines parsed hp) ss0 he

theorem Stages.operand_narrow {fs : Files} {lines : List Str} {a : Assembly} (st : Stages fs lines a)
    {i : Nat} {s : Stmt} (hs : a.stmts[i]? = some s) :
    ∀ x, s.operand.value = .str x → ∀ c ∈ x, c.toNat < 256 := by
  obtain ⟨s0, o, p, sz, mx, pb, hint, ad, vf, vw, v, c, rfl⟩ := st.compiled hs
  intro x hx
  obtain ⟨txt, hcr⟩ := c.parsed.2
  exact createOperand_str_narrow c.parsed.1 hcr (resolveOperand_str c.hres hx)

end CoCo.Asm
