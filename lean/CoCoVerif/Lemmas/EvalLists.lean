/-
Lemmas/EvalLists.lean — the pass over the FCB / FDB lists after `fixAll`: `evalElem`, `evalElems`,
`evalLists`, `fixAllL`. What the pass preserves (length, everything but `pkg.additional`, every statement that is
not a list), what it does to a list (same number of elements, an evaluated element has exactly the width of the
directive), no `diverged`, and `internal` only through `addrOf` / `addrOffset`.  `fixAllL` is `fixAll` followed by the
pass (`fixAllL_ok`): `fixAllL_pw`, `fixAllL_not_diverged`.
-/
import CoCoVerif.Lemmas.FixOne

namespace CoCo.Asm
open CoCo

/-- the condition under which `evalElems` evaluates an element instead of keeping the digits of parse time -/
def pendingAt (w : Nat) (x : Str) : Bool := pendingElem x && (elemHex w x matches .error _)

/-- one element through `evalElems` -/
def evalElem1 (ss : List Stmt) (t : SymTab) (w : Nat) (x h : Str) : Outcome Str :=
  if pendingAt w x then evalElem ss t w x else .ok h

/-- one statement through `evalLists` -/
def evalList1 (t : SymTab) (ss : List Stmt) (s : Stmt) : Outcome Stmt :=
  match s.pkg.additional with
  | .multiByte hs =>
    (match evalElems ss t 2 (listElems s.operand.text) hs with
     | .ok hs' => .ok { s with pkg := { s.pkg with additional := .multiByte hs' } }
     | .diag => .diag | .internal => .internal | .diverged => .diverged)
  | .multiWord hs =>
    (match evalElems ss t 4 (listElems s.operand.text) hs with
     | .ok hs' => .ok { s with pkg := { s.pkg with additional := .multiWord hs' } }
     | .diag => .diag | .internal => .internal | .diverged => .diverged)
  | _ => .ok s

/-- the value of a resolved list element on the final addresses -/
def elemNum (ss : List Stmt) (r : Value) : Outcome Value :=
  if r.isAddress then (match r.int? with
                       | some j => (match addrOf ss j with | some a => .ok a | none => .internal)
                       | none => .internal)
  else if r.isAddrExpr then addrOffset ss r
  else .ok r

/-- the digits of a list element at the width of the directive -/
def elemRender (w : Nat) (num : Outcome Value) : Outcome Str :=
  match num with
  | .ok (.numeric n _ _ neg) =>
    (match fitNum n neg w with
     | .ok f => (match f.hex? with | some h => .ok h | none => .internal)
     | .error _ => .diag)
  | .ok _ => .diag
  | .diag => .diag
  | .internal => .internal
  | .diverged => .diverged

/-- `evalElem` in three steps: `create`, `resolve`, then `elemNum` and `elemRender` -/
theorem evalElem_eq (ss : List Stmt) (t : SymTab) (w : Nat) (x : Str) :
    evalElem ss t w x =
      match create 4 x false false true with
      | .error _ => .diag
      | .ok v =>
        match v.resolve t with
        | .error _ => .diag
        | .ok r => elemRender w (elemNum ss r) := rfl

theorem evalElem_bind (ss : List Stmt) (t : SymTab) (w : Nat) (x : Str) :
    evalElem ss t w x =
      (Outcome.ofR (create 4 x false false true)).bind fun v => (Outcome.ofR (v.resolve t)).bind fun r =>
        elemRender w (elemNum ss r) := by
  rw [evalElem_eq]
  cases create 4 x false false true with
  | error e => rfl
  | ok v => dsimp only [Outcome.ofR, Outcome.bind]; cases v.resolve t <;> rfl

theorem elemNum_eq (ss : List Stmt) (r : Value) :
    elemNum ss r =
      if r.isAddress then (Outcome.ofOptionI r.int?).bind fun j => Outcome.ofOptionI (addrOf ss j)
      else if r.isAddrExpr then addrOffset ss r
      else .ok r := by
  unfold elemNum
  split
  · cases r.int? with
    | none => rfl
    | some j => dsimp only [Outcome.ofOptionI, Outcome.bind]; cases addrOf ss j <;> rfl
  · rfl

theorem elemNum_column {ss ss' : List Stmt} (hA : ∀ j, addrOf ss' j = addrOf ss j) (r : Value) :
    elemNum ss' r = elemNum ss r := by
  simp only [elemNum_eq, hA, addrOffset_column hA]

/-- an element that cannot be parsed or resolved is a diagnostic on every layout; otherwise `evalElem` is `elemRender`
of the resolved element -/
theorem evalElem_cases (t : SymTab) (x : Str) :
    (∀ ss w, evalElem ss t w x = .diag) ∨
    ∃ v r, create 4 x false false true = .ok v ∧ v.resolve t = .ok r ∧
      ∀ ss w, evalElem ss t w x = elemRender w (elemNum ss r) := by
  cases hv : create 4 x false false true with
  | error e => exact .inl fun ss w => by rw [evalElem_eq, hv]
  | ok v =>
    cases hr : v.resolve t with
    | error e => exact .inl fun ss w => by rw [evalElem_eq, hv]; dsimp only; rw [hr]
    | ok r => exact .inr ⟨v, r, rfl, hr, fun ss w => by rw [evalElem_eq, hv]; dsimp only; rw [hr]⟩

theorem elemRender_ok {w : Nat} {o : Outcome Value} {h : Str} (he : elemRender w o = .ok h) :
    ∃ n a b neg f, o = .ok (.numeric n a b neg) ∧ fitNum n neg w = .ok f ∧ f.hex? = some h := by
  unfold elemRender at he
  split at he
  · rename_i n a b neg
    split at he
    · rename_i f hf
      split at he
      · rename_i h' hh; cases he; exact ⟨n, a, b, neg, f, rfl, hf, hh⟩
      · cases he
    · cases he
  all_goals cases he

/-- a non-negative number at the width of the directive: its `w` digits when it has no more than `w`, rejected otherwise -/
theorem elemRender_nat {w : Nat} (hw : w = 2 ∨ w = 4) (n : Nat) (h : Option Nat) (m : Mode) :
    elemRender w (.ok (.numeric n h m false)) = if n < 16 ^ w then .ok (fmtHex w n) else .diag := by
  unfold elemRender
  by_cases hn : n < 16 ^ w
  · simp [hn, fitNum_nat hw hn, hex_hinted (show w ≠ 0 by omega)]
  · have hp : (2 : Int) ^ (4 * w) = ((16 ^ w : Nat) : Int) := by
      rcases hw with rfl | rfl <;> decide
    have hf : ∃ e, fitNum n false w = .error e := by
      unfold fitNum
      simp only [Bool.false_eq_true, if_false, hp]
      rw [if_neg (by omega)]
      exact ⟨_, rfl⟩
    obtain ⟨e, hf⟩ := hf
    simp only [hf, if_neg hn]

theorem elemRender_nat_ok {w n : Nat} {h : Option Nat} {m : Mode} {g : Str} (hw : w = 2 ∨ w = 4)
    (he : elemRender w (.ok (.numeric n h m false)) = .ok g) : n < 16 ^ w ∧ g = fmtHex w n := by
  rw [elemRender_nat hw] at he
  split at he
  · rename_i hn
    cases he
    exact ⟨hn, rfl⟩
  · cases he

theorem evalElem_of {ss : List Stmt} {t : SymTab} {w : Nat} {x : Str} {v r : Value}
    (hv : create 4 x false false true = .ok v) (hr : v.resolve t = .ok r) :
    evalElem ss t w x = elemRender w (elemNum ss r) := by
  rw [evalElem_eq, hv]
  dsimp only
  rw [hr]

theorem elemNum_address (ss : List Stmt) (j : Nat) (m : Mode) :
    elemNum ss (.address j m) = (match addrOf ss j with | some a => .ok a | none => .internal) := rfl

theorem elemNum_addrExpr (ss : List Stmt) (l r : Value) (op : Char) (m : Mode) :
    elemNum ss (.expr l r op m true) = addrOffset ss (.expr l r op m true) := rfl

theorem elemRender_internal (w : Nat) : elemRender w .internal = .internal := rfl

/-- the two list directives: the elements of an `FCB` list are 2 hex digits wide and kept in `.multiByte`, those of an
`FDB` list 4 hex digits in `.multiWord` -/
inductive ListKind : Nat → (List Str → Value) → Prop
  | byte : ListKind 2 .multiByte
  | word : ListKind 4 .multiWord

theorem ListKind.width {w : Nat} {mk : List Str → Value} (k : ListKind w mk) : w = 2 ∨ w = 4 := by
  cases k
  · exact .inl rfl
  · exact .inr rfl

/-- `evalList1` on a list statement: the elements are evaluated at the width of the directive -/
theorem evalList1_list {w : Nat} {mk : List Str → Value} (k : ListKind w mk) (t : SymTab) (ss : List Stmt) {s : Stmt}
    {hs : List Str} (ha : s.pkg.additional = mk hs) :
    evalList1 t ss s =
      match evalElems ss t w (listElems s.operand.text) hs with
      | .ok hs' => .ok { s with pkg := { s.pkg with additional := mk hs' } }
      | .diag => .diag | .internal => .internal | .diverged => .diverged := by
  cases k <;> (unfold evalList1; rw [ha])

theorem evalList1_map {w : Nat} {mk : List Str → Value} (k : ListKind w mk) (t : SymTab) (fs : List Stmt) {s : Stmt}
    {hs : List Str} (h : s.pkg.additional = mk hs) :
    evalList1 t fs s =
      (evalElems fs t w (listElems s.operand.text) hs).map (fun hs' => withAdditional s (mk hs')) := by
  rw [evalList1_list k t fs h]
  cases evalElems fs t w (listElems s.operand.text) hs <;> rfl

theorem evalList1_keep (t : SymTab) (ss : List Stmt) {s : Stmt}
    (hb : ∀ hs, s.pkg.additional ≠ .multiByte hs) (hw : ∀ hs, s.pkg.additional ≠ .multiWord hs) :
    evalList1 t ss s = .ok s := by
  unfold evalList1
  split
  · rename_i hs h; exact absurd h (hb hs)
  · rename_i hs h; exact absurd h (hw hs)
  · rfl

theorem list_or_not (v : Value) :
    (∃ w mk hs, ListKind w mk ∧ v = mk hs) ∨ ((∀ hs, v ≠ .multiByte hs) ∧ (∀ hs, v ≠ .multiWord hs)) := by
  cases v with
  | multiByte hs => exact .inl ⟨_, _, hs, .byte, rfl⟩
  | multiWord hs => exact .inl ⟨_, _, hs, .word, rfl⟩
  | _ => exact .inr ⟨fun _ => nofun, fun _ => nofun⟩

theorem evalElems_nil_left (ss : List Stmt) (t : SymTab) (w : Nat) (hs : List Str) :
    evalElems ss t w [] hs = .ok [] := by
  unfold evalElems; rfl

theorem evalElems_nil_right (ss : List Stmt) (t : SymTab) (w : Nat) (xs : List Str) :
    evalElems ss t w xs [] = .ok [] := by
  cases xs <;> (unfold evalElems; rfl)

theorem evalElems_cons (ss : List Stmt) (t : SymTab) (w : Nat) (x : Str) (xs : List Str) (h : Str) (hs : List Str) :
    evalElems ss t w (x :: xs) (h :: hs) =
      match evalElem1 ss t w x h with
      | .ok h' => (match evalElems ss t w xs hs with | .ok r => .ok (h' :: r) | o => o)
      | .diag => .diag
      | .internal => .internal
      | .diverged => .diverged := by
  rw [evalElems]; rfl

theorem evalElems_cons_consM (ss : List Stmt) (t : SymTab) (w : Nat) (x : Str) (xs : List Str) (g : Str) (hs : List Str) :
    evalElems ss t w (x :: xs) (g :: hs) = (evalElem1 ss t w x g).consM (evalElems ss t w xs hs) := by
  rw [evalElems_cons]
  cases evalElem1 ss t w x g <;> cases evalElems ss t w xs hs <;> rfl

theorem evalElems_eq_traverse (ss : List Stmt) (t : SymTab) (w : Nat) (i : Nat) (xs hs : List Str) :
    evalElems ss t w xs hs = Outcome.traverse (fun _ p => evalElem1 ss t w p.1 p.2) i (xs.zip hs) := by
  induction xs, hs using zipInduction generalizing i with
  | nil_left hs => rw [evalElems_nil_left]; rfl
  | nil_right xs => rw [evalElems_nil_right, List.zip_nil_right]; rfl
  | cons x xs h hs ih => rw [evalElems_cons_consM, ih (i + 1)]; rfl

theorem evalLists_nil (t : SymTab) (ss : List Stmt) : evalLists t ss [] = .ok [] := by
  unfold evalLists; rfl

theorem evalLists_cons (t : SymTab) (ss : List Stmt) (s : Stmt) (rest : List Stmt) :
    evalLists t ss (s :: rest) =
      match evalList1 t ss s with
      | .ok s' => (match evalLists t ss rest with | .ok r => .ok (s' :: r) | o => o)
      | .diag => .diag
      | .internal => .internal
      | .diverged => .diverged := by
  rw [evalLists]; rfl

theorem evalLists_cons_consM (t : SymTab) (ss : List Stmt) (s : Stmt) (rest : List Stmt) :
    evalLists t ss (s :: rest) = (evalList1 t ss s).consM (evalLists t ss rest) := by
  rw [evalLists_cons]
  cases evalList1 t ss s <;> cases evalLists t ss rest <;> rfl

theorem evalLists_eq_traverse (t : SymTab) (ss : List Stmt) (i : Nat) (l : List Stmt) :
    evalLists t ss l = Outcome.traverse (fun _ => evalList1 t ss) i l := by
  induction l generalizing i with
  | nil => rfl
  | cons s rest ih => rw [evalLists_cons_consM, ih (i + 1)]; rfl

theorem fixAllL_eq (t : SymTab) (l : List Stmt) :
    fixAllL t l = (fixAll l 0 l).bind (fun x => evalLists t x x) := by
  unfold fixAllL Outcome.bind
  cases fixAll l 0 l <;> rfl

theorem fixAllL_ok {t : SymTab} {l l' : List Stmt} :
    fixAllL t l = .ok l' ↔ ∃ x, fixAll l 0 l = .ok x ∧ evalLists t x x = .ok l' := by
  unfold fixAllL
  cases h : fixAll l 0 l with
  | ok x => simp
  | _ => simp

theorem fixAllL_diag {t : SymTab} {l : List Stmt} :
    fixAllL t l = .diag ↔ fixAll l 0 l = .diag ∨ ∃ x, fixAll l 0 l = .ok x ∧ evalLists t x x = .diag := by
  unfold fixAllL
  cases h : fixAll l 0 l with
  | ok x => simp
  | _ => simp

theorem fixAllL_internal {t : SymTab} {l : List Stmt} :
    fixAllL t l = .internal ↔
      fixAll l 0 l = .internal ∨ ∃ x, fixAll l 0 l = .ok x ∧ evalLists t x x = .internal := by
  unfold fixAllL
  cases h : fixAll l 0 l with
  | ok x => simp
  | _ => simp

theorem evalElem_ok {ss : List Stmt} {t : SymTab} {w : Nat} {x h : Str} (he : evalElem ss t w x = .ok h) :
    ∃ n neg f, fitNum n neg w = .ok f ∧ f.hex? = some h := by
  rcases evalElem_cases t x with hd | ⟨v, r, _, _, e⟩
  · rw [hd] at he; cases he
  · rw [e] at he
    obtain ⟨n, a, b, neg, f, _, hf, hh⟩ := elemRender_ok he
    exact ⟨n, neg, f, hf, hh⟩

theorem evalElem_length {ss : List Stmt} {t : SymTab} {w : Nat} {x h : Str} (hw : w = 2 ∨ w = 4)
    (he : evalElem ss t w x = .ok h) : h.length = w :=
  let ⟨_, _, _, hf, hh⟩ := evalElem_ok he; fitNum_hex_length hw hf hh

theorem elemNum_ne_diverged (ss : List Stmt) (r : Value) : elemNum ss r ≠ .diverged := by
  rw [elemNum_eq]
  split
  · exact Outcome.bind_ne_diverged (Outcome.ofOptionI_ne_diverged _) fun _ _ => Outcome.ofOptionI_ne_diverged _
  · split
    · exact addrOffset_not_diverged _ _
    · nofun

/-- `elemRender` passes on the failure of its argument and adds only diagnostics and internal errors -/
theorem elemRender_ne_diverged {w : Nat} {o : Outcome Value} (h : o ≠ .diverged) : elemRender w o ≠ .diverged := by
  unfold elemRender
  split
  · split
    · split <;> simp
    · simp
  · simp
  · simp
  · simp
  · exact absurd rfl h

/-- an internal error of `elemRender` is that of its argument: a fitted number always has digits -/
theorem elemRender_ne_internal {w : Nat} {o : Outcome Value} (h : o ≠ .internal) : elemRender w o ≠ .internal := by
  unfold elemRender
  split
  · split
    · rename_i f hf
      obtain ⟨d, hd⟩ := fitNum_hex_some hf
      rw [hd]; simp
    · simp
  · simp
  · simp
  · exact absurd rfl h
  · simp

theorem evalElem_not_diverged (ss : List Stmt) (t : SymTab) (w : Nat) (x : Str) : evalElem ss t w x ≠ .diverged := by
  rcases evalElem_cases t x with hd | ⟨v, r, _, _, e⟩
  · rw [hd]; simp
  · rw [e]; exact elemRender_ne_diverged (elemNum_ne_diverged _ _)

/-- `evalLists` fails in the way `c` only where `evalElem` does -/
theorem evalLists_ne_out_of {c : Fail} {t : SymTab} {ss : List Stmt} (h : ∀ w x, evalElem ss t w x ≠ c.out) (l : List Stmt) :
    evalLists t ss l ≠ c.out := by
  rw [evalLists_eq_traverse t ss 0]
  refine (Outcome.traverse_meets (Q := fun _ _ => True) fun _ s _ => .of_ne ?_).1
  rcases list_or_not s.pkg.additional with ⟨w, mk, hs, k, ha⟩ | ⟨hb, hw⟩
  · have hel : evalElems ss t w (listElems s.operand.text) hs ≠ c.out := by
      rw [evalElems_eq_traverse ss t w 0]
      refine (Outcome.traverse_meets (Q := fun _ _ => True) fun _ p _ => .of_ne ?_).1
      unfold evalElem1
      split
      · exact h w p.1
      · cases c <;> nofun
    rw [evalList1_map k t ss ha]
    exact ((Outcome.Meets.of_ne hel).map (Q := fun _ => True) fun _ _ _ => trivial).1
  · rw [evalList1_keep t ss hb hw]; cases c <;> nofun

theorem evalLists_not_diverged (t : SymTab) (ss : List Stmt) (l : List Stmt) : evalLists t ss l ≠ .diverged :=
  evalLists_ne_out_of (c := .diverged) (evalElem_not_diverged ss t) l

theorem evalElems_ok {ss : List Stmt} {t : SymTab} {w : Nat} {xs hs r : List Str} (h : evalElems ss t w xs hs = .ok r) :
    r.length = min xs.length hs.length ∧
      ∀ (j : Nat) (h' : Str), r[j]? = some h' → ∃ x h, xs[j]? = some x ∧ hs[j]? = some h ∧ evalElem1 ss t w x h = .ok h' := by
  rw [evalElems_eq_traverse ss t w 0] at h
  refine ⟨by rw [Outcome.traverse_length h, List.length_zip], fun j h' hj => ?_⟩
  obtain ⟨⟨x, g⟩, hz, he⟩ := Outcome.traverse_get' h hj
  obtain ⟨h1, h2⟩ := List.getElem?_zip_eq_some.1 hz
  exact ⟨x, g, h1, h2, he⟩

/-- with as many digit groups as elements (which is what `multi` produces) the list keeps its length -/
theorem evalElems_length_eq {ss : List Stmt} {t : SymTab} {w : Nat} {xs hs r : List Str}
    (h : evalElems ss t w xs hs = .ok r) (hl : xs.length = hs.length) : r.length = hs.length := by
  rw [(evalElems_ok h).1, hl]; omega

/-- every element of the result is the old one, or an evaluated one with exactly `w` characters -/
theorem evalElems_get {ss : List Stmt} {t : SymTab} {w : Nat} {xs hs r : List Str} (hw : w = 2 ∨ w = 4)
    (h : evalElems ss t w xs hs = .ok r) {j : Nat} {h' : Str} (hj : r[j]? = some h') :
    ∃ x h0, xs[j]? = some x ∧ hs[j]? = some h0 ∧
      ((pendingAt w x = false ∧ h' = h0) ∨ (pendingAt w x = true ∧ evalElem ss t w x = .ok h' ∧ h'.length = w)) := by
  obtain ⟨x, h0, h1, h2, h3⟩ := (evalElems_ok h).2 j h' hj
  refine ⟨x, h0, h1, h2, ?_⟩
  unfold evalElem1 at h3
  cases hp : pendingAt w x with
  | false => rw [hp] at h3; simp at h3; exact Or.inl ⟨rfl, h3.symm⟩
  | true => rw [hp] at h3; simp at h3; exact Or.inr ⟨rfl, h3, evalElem_length hw h3⟩

/-- if all the old digit groups have the width of the directive, so have the new ones -/
theorem evalElems_all_length {ss : List Stmt} {t : SymTab} {w : Nat} {xs hs r : List Str} (hw : w = 2 ∨ w = 4)
    (h : evalElems ss t w xs hs = .ok r) (hall : ∀ g ∈ hs, g.length = w) : ∀ g ∈ r, g.length = w := by
  intro g hg
  obtain ⟨j, hj, rfl⟩ := List.mem_iff_getElem.mp hg
  obtain ⟨x, h0, _, h2, h3⟩ := evalElems_get hw h (List.getElem?_eq_getElem hj)
  rcases h3 with ⟨_, h3⟩ | ⟨_, _, h3⟩
  · rw [h3]; exact hall h0 (List.mem_of_getElem? h2)
  · exact h3

theorem evalElem_hexStr {ss : List Stmt} {t : SymTab} {w : Nat} {x h : Str} (he : evalElem ss t w x = .ok h) :
    HexStr h :=
  let ⟨_, _, _, hf, hh⟩ := evalElem_ok he; (fitNum_nm hf).mok.hex hh

theorem evalElems_hexStr {ss : List Stmt} {t : SymTab} {w : Nat} {xs hs r : List Str} (hw : w = 2 ∨ w = 4)
    (h : evalElems ss t w xs hs = .ok r) (hall : ∀ g ∈ hs, HexStr g) : ∀ g ∈ r, HexStr g := by
  intro g hg
  obtain ⟨j, hj⟩ := List.mem_iff_getElem?.mp hg
  obtain ⟨x, h0, _, hh0, hc⟩ := evalElems_get hw h hj
  rcases hc with ⟨_, rfl⟩ | ⟨_, he, _⟩
  · exact hall _ (List.mem_of_getElem? hh0)
  · exact evalElem_hexStr he

/-- the number of hex digits of the list is preserved (hence `hexLen?`, hence "size = bytes") -/
theorem evalElems_flatten_length {ss : List Stmt} {t : SymTab} {w : Nat} {xs hs r : List Str} (hw : w = 2 ∨ w = 4)
    (h : evalElems ss t w xs hs = .ok r) (hl : xs.length = hs.length) (hall : ∀ g ∈ hs, g.length = w) :
    r.flatten.length = hs.flatten.length := by
  rw [flatten_length_of_all (evalElems_all_length hw h hall), flatten_length_of_all hall, evalElems_length_eq h hl]

theorem evalElems_literal {ss : List Stmt} {t : SymTab} {w : Nat} : ∀ {xs hs : List Str},
    (∀ x ∈ xs, pendingAt w x = false) → xs.length = hs.length → evalElems ss t w xs hs = .ok hs := by
  intro xs hs hp hl
  rw [evalElems_eq_traverse ss t w 0]
  refine Outcome.traverse_eq_ok.2 ⟨by rw [List.length_zip, hl, Nat.min_self], fun j p hj => ?_⟩
  obtain ⟨h1, h2⟩ := List.getElem?_zip_eq_some.1 hj
  refine ⟨p.2, h2, ?_⟩
  unfold evalElem1
  rw [hp p.1 (List.mem_of_getElem? h1)]
  rfl

namespace Rename

/-- the element is evaluated by `evalLists` at the width of an FCB or at the width of an FDB -/
def pendingAny (x : Str) : Bool := pendingAt 2 x || pendingAt 4 x

/-- the list text `txt` is a list of literals: `evalLists` evaluates none of its elements -/
def litElems (txt : Str) : Bool := (listElems txt).all (fun x => !pendingAt 2 x && !pendingAt 4 x)

/-- literal elements keep their digits whatever the program and the table are -/
theorem evalElems_lit (ss ss' : List Stmt) (t t' : SymTab) (w : Nat) : ∀ (xs hs : List Str),
    (∀ x ∈ xs, pendingAt w x = false) → evalElems ss' t' w xs hs = evalElems ss t w xs hs := by
  intro xs hs hp
  rw [evalElems_eq_traverse ss' t' w 0, evalElems_eq_traverse ss t w 0]
  refine Outcome.traverse_congr fun _ p hj => ?_
  unfold evalElem1
  rw [hp p.1 (List.mem_of_getElem? (List.getElem?_zip_eq_some.1 hj).1)]
  rfl

end Rename

theorem evalList1_ok_list {w : Nat} {mk : List Str → Value} (k : ListKind w mk) {t : SymTab} {ss : List Stmt}
    {s s' : Stmt} {hs : List Str} (ha : s.pkg.additional = mk hs) (h : evalList1 t ss s = .ok s') :
    ∃ hs', evalElems ss t w (listElems s.operand.text) hs = .ok hs' ∧
      s' = { s with pkg := { s.pkg with additional := mk hs' } } := by
  rw [evalList1_list k t ss ha] at h
  split at h
  · rename_i hs' he; cases h; exact ⟨hs', he, rfl⟩
  all_goals cases h

/-- `evalList1` changes at most `pkg.additional` (this is `SameButAdditional s s'` of Lemmas/FixOne.lean) -/
theorem evalList1_same {t : SymTab} {ss : List Stmt} {s s' : Stmt} (h : evalList1 t ss s = .ok s') :
    ∃ v, s' = { s with pkg := { s.pkg with additional := v } } := by
  rcases list_or_not s.pkg.additional with ⟨w, mk, hs, k, ha⟩ | ⟨hb, hw⟩
  · obtain ⟨hs', _, rfl⟩ := evalList1_ok_list k ha h
    exact ⟨_, rfl⟩
  · rw [evalList1_keep t ss hb hw] at h
    cases h; exact ⟨s.pkg.additional, rfl⟩

theorem evalList1_numeric (t : SymTab) (ss : List Stmt) {s : Stmt} (hn : s.pkg.additional.isNumeric = true) :
    evalList1 t ss s = .ok s :=
  evalList1_keep t ss (fun hs e => by rw [e] at hn; cases hn) (fun hs e => by rw [e] at hn; cases hn)

theorem evalLists_ok {t : SymTab} {ss : List Stmt} {l l' : List Stmt} (h : evalLists t ss l = .ok l') :
    l'.length = l.length ∧ ∀ (j : Nat) (s : Stmt), l[j]? = some s → ∃ s', l'[j]? = some s' ∧ evalList1 t ss s = .ok s' :=
  Outcome.traverse_eq_ok.1 (evalLists_eq_traverse t ss 0 l ▸ h)

theorem evalLists_get {t : SymTab} {ss : List Stmt} {l l' : List Stmt} (h : evalLists t ss l = .ok l')
    {j : Nat} {s' : Stmt} (hs' : l'[j]? = some s') : ∃ s, l[j]? = some s ∧ evalList1 t ss s = .ok s' :=
  Outcome.traverse_get' (evalLists_eq_traverse t ss 0 l ▸ h) hs'

theorem evalLists_keep {t : SymTab} {ss : List Stmt} {l l' : List Stmt} (h : evalLists t ss l = .ok l')
    {j : Nat} {s : Stmt} (hs : l[j]? = some s)
    (hb : ∀ hs, s.pkg.additional ≠ .multiByte hs) (hw : ∀ hs, s.pkg.additional ≠ .multiWord hs) :
    l'[j]? = some s := by
  obtain ⟨s', h1, h2⟩ := (evalLists_ok h).2 j s hs
  rw [evalList1_keep t ss hb hw] at h2
  cases h2; exact h1

theorem evalLists_noList (t : SymTab) (ss : List Stmt) : ∀ (l : List Stmt),
    (∀ s ∈ l, (∀ hs, s.pkg.additional ≠ .multiByte hs) ∧ (∀ hs, s.pkg.additional ≠ .multiWord hs)) →
    evalLists t ss l = .ok l := by
  intro l h
  rw [evalLists_eq_traverse t ss 0]
  exact Outcome.traverse_id fun _ s hs =>
    evalList1_keep t ss (h s (List.mem_of_getElem? hs)).1 (h s (List.mem_of_getElem? hs)).2

/-- a list after the pass: a list of the same kind; with as many digit groups as elements it has the same number of
groups, and every group is the old one or an evaluated one of exactly the width of the directive -/
theorem evalLists_list {w : Nat} {mk : List Str → Value} (k : ListKind w mk) {t : SymTab} {ss : List Stmt}
    {l l' : List Stmt} (h : evalLists t ss l = .ok l') {j : Nat} {s : Stmt} {hs : List Str} (hs0 : l[j]? = some s)
    (ha : s.pkg.additional = mk hs) :
    ∃ hs', l'[j]? = some { s with pkg := { s.pkg with additional := mk hs' } } ∧
      evalElems ss t w (listElems s.operand.text) hs = .ok hs' ∧
      ((listElems s.operand.text).length = hs.length → hs'.length = hs.length) ∧
      (∀ (i : Nat) (g : Str), hs'[i]? = some g → ∃ x g0, (listElems s.operand.text)[i]? = some x ∧ hs[i]? = some g0 ∧
        ((pendingAt w x = false ∧ g = g0) ∨
         (pendingAt w x = true ∧ evalElem ss t w x = .ok g ∧ g.length = w))) := by
  obtain ⟨s', h1, h2⟩ := (evalLists_ok h).2 j s hs0
  obtain ⟨hs', h3, rfl⟩ := evalList1_ok_list k ha h2
  exact ⟨hs', h1, h3, evalElems_length_eq h3, fun i g hi => evalElems_get k.width h3 hi⟩

theorem evalLists_additional_list {t : SymTab} {ss : List Stmt} {l l' : List Stmt} (h : evalLists t ss l = .ok l')
    {j : Nat} {s : Stmt} {hs : List Str} (hs0 : l[j]? = some s) (ha : s.pkg.additional = .multiByte hs) :
    ∃ hs', l'[j]? = some { s with pkg := { s.pkg with additional := .multiByte hs' } } ∧
      evalElems ss t 2 (listElems s.operand.text) hs = .ok hs' ∧
      ((listElems s.operand.text).length = hs.length → hs'.length = hs.length) ∧
      (∀ (k : Nat) (g : Str), hs'[k]? = some g → ∃ x g0, (listElems s.operand.text)[k]? = some x ∧ hs[k]? = some g0 ∧
        ((pendingAt 2 x = false ∧ g = g0) ∨
         (pendingAt 2 x = true ∧ evalElem ss t 2 x = .ok g ∧ g.length = 2))) :=
  evalLists_list .byte h hs0 ha

theorem evalLists_additional_listW {t : SymTab} {ss : List Stmt} {l l' : List Stmt} (h : evalLists t ss l = .ok l')
    {j : Nat} {s : Stmt} {hs : List Str} (hs0 : l[j]? = some s) (ha : s.pkg.additional = .multiWord hs) :
    ∃ hs', l'[j]? = some { s with pkg := { s.pkg with additional := .multiWord hs' } } ∧
      evalElems ss t 4 (listElems s.operand.text) hs = .ok hs' ∧
      ((listElems s.operand.text).length = hs.length → hs'.length = hs.length) ∧
      (∀ (k : Nat) (g : Str), hs'[k]? = some g → ∃ x g0, (listElems s.operand.text)[k]? = some x ∧ hs[k]? = some g0 ∧
        ((pendingAt 4 x = false ∧ g = g0) ∨
         (pendingAt 4 x = true ∧ evalElem ss t 4 x = .ok g ∧ g.length = 4))) :=
  evalLists_list .word h hs0 ha

theorem ListKind.hexLen {w : Nat} {mk : List Str → Value} (k : ListKind w mk) (hs : List Str) :
    (mk hs).hexLen? = some hs.flatten.length := by
  cases k <;> rfl

/-- `hexLen?` of the `additional` field is preserved when the list is well formed: as many groups as elements,
every group of the width of the directive (what `multi` produces) -/
theorem evalList1_hexLen {t : SymTab} {ss : List Stmt} {s s' : Stmt} (h : evalList1 t ss s = .ok s')
    (hb : ∀ hs, s.pkg.additional = .multiByte hs →
      (listElems s.operand.text).length = hs.length ∧ ∀ g ∈ hs, g.length = 2)
    (hw : ∀ hs, s.pkg.additional = .multiWord hs →
      (listElems s.operand.text).length = hs.length ∧ ∀ g ∈ hs, g.length = 4) :
    s'.pkg.additional.hexLen? = s.pkg.additional.hexLen? := by
  rcases list_or_not s.pkg.additional with ⟨w, mk, hs, k, ha⟩ | ⟨hb', hw'⟩
  · obtain ⟨hs', h3, rfl⟩ := evalList1_ok_list k ha h
    have hwf : (listElems s.operand.text).length = hs.length ∧ ∀ g ∈ hs, g.length = w := by
      cases k
      · exact hb hs ha
      · exact hw hs ha
    rw [ha, k.hexLen, k.hexLen, evalElems_flatten_length k.width h3 hwf.1 hwf.2]
  · rw [evalList1_keep t ss hb' hw'] at h
    cases h; rfl

theorem fixAllL_noList {t : SymTab} {l x : List Stmt} (h : fixAll l 0 l = .ok x)
    (hx : ∀ s ∈ x, (∀ hs, s.pkg.additional ≠ .multiByte hs) ∧ (∀ hs, s.pkg.additional ≠ .multiWord hs)) :
    fixAllL t l = .ok x := by
  exact fixAllL_ok.mpr ⟨x, h, evalLists_noList t x x hx⟩

theorem fixAllL_not_diverged (t : SymTab) (l : List Stmt) : fixAllL t l ≠ .diverged := by
  rw [fixAllL_eq]
  exact Outcome.bind_ne_diverged (fixAll_not_diverged _ _ _) fun _ _ => evalLists_not_diverged _ _ _

theorem evalLists_pw {t : SymTab} {ss l l' : List Stmt} (h : evalLists t ss l = .ok l') : PW SameButAdditional l l' :=
  Outcome.traverse_pw (evalLists_eq_traverse t ss 0 l ▸ h) fun _ _ _ _ => evalList1_same

theorem fixAllL_pw {t : SymTab} {l l' : List Stmt} (h : fixAllL t l = .ok l') : PW SameButAdditional l l' := by
  obtain ⟨x, h1, h2⟩ := fixAllL_ok.1 h
  exact (fixAll_pw h1).trans (evalLists_pw h2) (fun _ _ _ => SameButAdditional.trans)

theorem fixAllL_length {t : SymTab} {l l' : List Stmt} (h : fixAllL t l = .ok l') : l'.length = l.length :=
  (fixAllL_pw h).length_eq

end CoCo.Asm
