/-
Lemmas/DiskInv.lean — fields of a written directory entry; the invariant `Inv` of the images reachable from the blank
one, over a ghost record (`Ent`) of the chains given to the stored files; it holds of the blank image (`Inv_blank`)
and `add_file` keeps it (`Inv.step`).
-/
import CoCoVerif.Lemmas.DiskAddFile
namespace CoCo.Dsk
open CoCo Spec.DiskBasic CoCo.Props

theorem dirEntryBytes_split (f : CFile) (a c : Nat) :
    dirEntryBytes f a c = padUpper 8 f.name ++ (padUpper 3 f.ext ++
      ([f.ftype, f.dtype, a, c / 256, c % 256] ++ List.replicate 16 0x00)) := by
  unfold dirEntryBytes; simp

theorem deb_getD (f : CFile) (a c i : Nat) :
    (dirEntryBytes f a c).getD (11 + i) 0 =
      ([f.ftype, f.dtype, a, c / 256, c % 256] ++ List.replicate 16 0x00).getD i 0 := by
  rw [dirEntryBytes_split]
  have : 11 + i = 8 + (3 + i) := by omega
  rw [this, getD_append_at _ _ 8 _ _ (padUpper_length 8 _), getD_append_at _ _ 3 _ _ (padUpper_length 3 _)]

theorem deb_ftype (f : CFile) (a c : Nat) : entFtype (dirEntryBytes f a c) = f.ftype := by
  unfold entFtype; exact deb_getD f a c 0
theorem deb_ascii (f : CFile) (a c : Nat) : entAscii (dirEntryBytes f a c) = f.dtype := by
  unfold entAscii; exact deb_getD f a c 1
theorem deb_first (f : CFile) (a c : Nat) : entFirst (dirEntryBytes f a c) = a := by
  unfold entFirst; exact deb_getD f a c 2
theorem deb_lastBytes (f : CFile) (a c : Nat) : entLastBytes (dirEntryBytes f a c) = c := by
  unfold entLastBytes
  rw [show (14 : Nat) = 11 + 3 from rfl, show (15 : Nat) = 11 + 4 from rfl, deb_getD, deb_getD]
  simp; omega
theorem deb_name (f : CFile) (a c : Nat) : (dirEntryBytes f a c).take 8 = padUpper 8 f.name := by
  rw [dirEntryBytes_split]
  exact List.take_left' (padUpper_length 8 _)
theorem deb_ext (f : CFile) (a c : Nat) : ((dirEntryBytes f a c).drop 8).take 3 = padUpper 3 f.ext := by
  rw [dirEntryBytes_split, List.drop_left' (padUpper_length 8 _)]
  exact List.take_left' (padUpper_length 3 _)

theorem deb_live (f : CFile) (a c : Nat) (hv : ValidDFile f) : live (dirEntryBytes f a c) = true := by
  have hl : 0 < (padUpper 8 f.name).length := by rw [padUpper_length]; omega
  unfold live
  rw [dirEntryBytes_split, getD_append_lt _ _ 0 0 hl]
  have := padUpper_mem 8 f.name hv.1 _ (getD_mem _ 0 0 hl)
  generalize (padUpper 8 f.name).getD 0 0 = x at this ⊢
  simp; omega

/-- ghost record of one stored file: the chain it was given -/
structure Ent where
  chain : List Nat
  file : CFile

def chains (abs : List Ent) : List Nat := abs.flatMap (·.chain)

theorem mem_chains {abs : List Ent} {g : Nat} : g ∈ chains abs ↔ ∃ e ∈ abs, g ∈ e.chain := by
  unfold chains; simp [List.mem_flatMap]

theorem chains_append (a b : List Ent) : chains (a ++ b) = chains a ++ chains b := by
  unfold chains; simp

/-- the invariant of images reachable from the blank image -/
structure Inv (img : Bytes) (abs : List Ent) : Prop where
  len : img.length = 161280
  slots : abs.length ≤ 72
  dir : ∀ k e, abs[k]? = some e → dirEntry img k = dirEntryBytes e.file (e.chain.headD 0) (flsb e.file)
  dirFree : ∀ k, abs.length ≤ k → k < 72 → live (dirEntry img k) = false
  valid : ∀ e ∈ abs, ValidDFile e.file
  chainLen : ∀ e ∈ abs, e.chain.length = needs e.file
  chainLt : ∀ e ∈ abs, ∀ g ∈ e.chain, g < 68
  nodup : (chains abs).Nodup
  enc : ∀ e ∈ abs, Encodes img e.chain (flgs e.file)
  fatFree : ∀ g, g < 68 → g ∉ chains abs → fatAt img g = 0xFF
  stream : ∀ e ∈ abs, (streamOf img e.chain).take (streamOfFile e.file).length = streamOfFile e.file
  granFree : ∀ g, g < 68 → g ∉ chains abs → granuleBytes img g = List.replicate 2304 0xFF
  t17a : (img.drop 78336).take 256 = List.replicate 256 0xFF
  t17b : (img.drop 81152).take 1792 = List.replicate 1792 0xFF

theorem Inv_blank : Inv blank [] where
  len := blank_length
  slots := by simp
  dir := by intro k e h; simp at h
  dirFree := fun k _ hk => blank_dirFree k hk
  valid := by intro e h; cases h
  chainLen := by intro e h; cases h
  chainLt := by intro e h; cases h
  nodup := by simp [chains]
  enc := by intro e h; cases h
  fatFree := fun g hg _ => blank_fatAt g hg
  stream := by intro e h; cases h
  granFree := by
    intro g hg _
    rw [granuleBytes_eq]
    exact blank_slice _ _ (seek_in g hg)
  t17a := blank_slice _ _ (by omega)
  t17b := blank_slice _ _ (by omega)

theorem Inv.live_iff {img : Bytes} {abs : List Ent} (h : Inv img abs) (k : Nat) (hk : k < 72) :
    live (dirEntry img k) = decide (k < abs.length) := by
  by_cases hlt : k < abs.length
  · have hget : abs[k]? = some abs[k] := List.getElem?_eq_getElem hlt
    rw [h.dir k _ hget, deb_live _ _ _ (h.valid _ (List.getElem_mem hlt))]
    simp [hlt]
  · rw [h.dirFree k (by omega) hk]; simp [hlt]

theorem Inv.chain_not_free {img : Bytes} {abs : List Ent} (h : Inv img abs) {g : Nat} (hg : g ∈ chains abs) :
    fatAt img g ≠ 0xFF := by
  obtain ⟨e, he, hge⟩ := mem_chains.mp hg
  exact Encodes_ne_free e.chain _ (flgs_range e.file).2 (h.chainLt e he) (h.enc e he) g hge

theorem Inv.findEmptyDir_alloc {img b1 : Bytes} {abs : List Ent} {gs : List Nat} {n : Nat}
    (h : Inv img abs) (a : Allocated img n gs b1) :
    findEmptyDir b1 = .ok (if abs.length < 72 then some abs.length else none) := by
  have hdireq : ∀ k, k < 72 → dirEntry b1 k = dirEntry img k := by
    intro k hk
    rw [dirEntry_eq, dirEntry_eq]
    apply a.within.slice
    intro i h1 h2 hf
    have := fatOf_range (fun g hg => (a.free g hg).1) hf
    omega
  have hs := h.slots
  refine findEmptyDir_spec (a.within.len.trans h.len) abs.length hs ?_ ?_
  · intro k hk
    rw [hdireq k (by omega), h.live_iff k (by omega)]
    simp [hk]
  · intro hk
    rw [hdireq _ hk, h.live_iff _ hk]
    simp

/-- `add_file` on a reachable image: the file goes into granules that were free and the first unused slot, or —
the allocation loop gives up, or no slot is unused — it is the diagnostic -/
theorem Inv.addFile_cases {order : List Nat} {img : Bytes} {abs : List Ent} {f : CFile} (h : Inv img abs)
    (ho : ValidOrder order) (hv : ValidDFile f) :
    (∃ gs b1 img', Allocated img (needs f) gs b1 ∧ abs.length < 72 ∧ addFile order img f = .ok img' ∧
        Effect img img' f gs abs.length) ∨
    (addFile order img f = .diag ∧
      (72 ≤ abs.length ∨ ((∀ g, g < 68 → g ∈ order) → freeGranules img < needs f))) := by
  have hd := hv.2.2.2.2.2.2.2
  rcases alloc_cases ho (needs f) img h.len with ⟨gs, b1, halloc, a⟩ | ⟨halloc, hshort⟩
  · have hdir := h.findEmptyDir_alloc a
    by_cases hk : abs.length < 72
    · rw [if_pos hk] at hdir
      obtain ⟨img', hok, eff⟩ := addFile_ok hd h.len a hk halloc hdir
      exact Or.inl ⟨gs, b1, img', a, hk, hok, eff⟩
    · rw [if_neg hk] at hdir
      refine Or.inr ⟨?_, Or.inl (by omega)⟩
      rw [addFile_unfold order img f hd, halloc]
      simp only [hdir]
  · refine Or.inr ⟨?_, Or.inr hshort⟩
    rw [addFile_unfold order img f hd, halloc]

theorem Inv.free_iff {img : Bytes} {abs : List Ent} (h : Inv img abs) {g : Nat} (hg : g < 68) :
    fatAt img g = 0xFF ↔ g ∉ chains abs :=
  ⟨fun hf hin => h.chain_not_free hin hf, h.fatFree g hg⟩

theorem chains_length {abs : List Ent} (hl : ∀ e ∈ abs, e.chain.length = needs e.file) :
    (chains abs).length = ((abs.map (·.file)).map needs).sum := by
  induction abs with
  | nil => rfl
  | cons e abs ih =>
    have := ih (fun x hx => hl x (List.mem_cons_of_mem _ hx))
    simp only [chains, List.flatMap_cons, List.length_append, List.map_cons, List.sum_cons] at this ⊢
    rw [this, hl e List.mem_cons_self]

/-- the free granules are the 68 less those on the chains of the stored files: free space is a function of
the stored files -/
theorem Inv.freeGranules_eq {img : Bytes} {abs : List Ent} (h : Inv img abs) :
    freeGranules img + ((abs.map (·.file)).map needs).sum = 68 := by
  rw [← chains_length h.chainLen, ← count_not_mem 68 (chains abs) h.nodup
    (fun g hg => by obtain ⟨e, he, hge⟩ := mem_chains.mp hg; exact h.chainLt e he g hge)]
  unfold freeGranules
  congr 2
  apply List.filter_congr
  intro g hg
  rw [Bool.eq_iff_iff]
  simpa using h.free_iff (List.mem_range.mp hg)

theorem Inv.extend {img img' b1 : Bytes} {abs : List Ent} {gs : List Nat} {f : CFile} (h : Inv img abs)
    (a : Allocated img (needs f) gs b1) (eff : Effect img img' f gs abs.length) (he : abs.length < 72)
    (hv : ValidDFile f) : Inv img' (abs ++ [⟨gs, f⟩]) := by
  have hlt : ∀ g ∈ gs, g < 68 := fun g hg => (a.free g hg).1
  -- the new chain is disjoint from the old ones
  have hdisj : ∀ g ∈ gs, g ∉ chains abs := fun g hg hc => h.chain_not_free hc (a.free g hg).2
  have hold : ∀ en ∈ abs, ∀ g ∈ en.chain, g ∉ gs := by
    intro en hen g hg hgs
    exact hdisj g hgs (mem_chains.mpr ⟨en, hen, hg⟩)
  have hch : chains (abs ++ [⟨gs, f⟩]) = chains abs ++ gs := by
    rw [chains_append]; simp [chains]
  have snoc : ∀ {P : Ent → Prop}, (∀ en ∈ abs, P en) → P ⟨gs, f⟩ → ∀ en ∈ abs ++ [⟨gs, f⟩], P en :=
    fun h1 h2 => List.forall_mem_append.mpr ⟨h1, List.forall_mem_singleton.mpr h2⟩
  constructor
  · exact eff.len
  · simp; omega
  · intro k en hk
    by_cases hk' : k < abs.length
    · rw [List.getElem?_append_left hk'] at hk
      rw [eff.dir_other k (by omega) (by omega)]
      exact h.dir k en hk
    · have hk2 : k = abs.length := by
        have : k < (abs ++ [(⟨gs, f⟩ : Ent)]).length := (List.getElem?_eq_some_iff.mp hk).1
        simp at this; omega
      subst hk2
      simp at hk
      subst hk
      exact eff.dir_new
  · intro k hk1 hk2
    simp at hk1
    rw [eff.dir_other k hk2 (by omega)]
    exact h.dirFree k (by omega) hk2
  · exact snoc h.valid hv
  · exact snoc h.chainLen a.length
  · exact snoc h.chainLt hlt
  · rw [hch]
    exact List.nodup_append.mpr ⟨h.nodup, a.nodup, fun x hx y hy e' => hdisj y hy (e' ▸ hx)⟩
  · refine snoc (fun en h1 => ?_) eff.fat_chain
    exact Encodes_congr en.chain _ (fun g hg => eff.fat_other g (h.chainLt en h1 g hg) (hold en h1 g hg))
      (h.enc en h1)
  · intro g hg hn
    rw [hch, List.mem_append, not_or] at hn
    rw [eff.fat_other g hg hn.2]
    exact h.fatFree g hg hn.1
  · refine snoc (fun en h1 => ?_) eff.stream
    rw [streamOf_congr (fun g hg => eff.gran_other g (h.chainLt en h1 g hg) (hold en h1 g hg))]
    exact h.stream en h1
  · intro g hg hn
    rw [hch, List.mem_append, not_or] at hn
    rw [eff.gran_other g hg hn.2]
    exact h.granFree g hg hn.1
  · rw [eff.t17a]; exact h.t17a
  · rw [eff.t17b]; exact h.t17b

theorem Inv.step {order : List Nat} {img img' : Bytes} {abs : List Ent} {f : CFile} (h : Inv img abs)
    (ho : ValidOrder order) (hv : ValidDFile f) (hres : addFile order img f = .ok img') :
    ∃ gs, Inv img' (abs ++ [⟨gs, f⟩]) ∧ (∀ g ∈ gs, g < 68 ∧ fatAt img g = 0xFF) ∧ gs.length = needs f ∧
      abs.length < 72 ∧ freeGranules img' + needs f = freeGranules img ∧
      (∀ g, g < 68 → g ∉ gs → fatAt img' g = fatAt img g) := by
  rcases h.addFile_cases ho hv with ⟨gs, b1, img'', a, he, hok, eff⟩ | ⟨hdiag, _⟩
  · obtain rfl : img'' = img' := Outcome.ok.inj (hok.symm.trans hres)
    have h' := h.extend a eff he hv
    have c := h.freeGranules_eq
    have c' := h'.freeGranules_eq
    simp only [List.map_append, List.sum_append, List.map_cons, List.map_nil, List.sum_cons, List.sum_nil] at c'
    exact ⟨gs, h', a.free, a.length, he, by omega, eff.fat_other⟩
  · rw [hdiag] at hres; cases hres

end CoCo.Dsk
