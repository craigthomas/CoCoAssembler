/-
Lemmas/VFHist.lean — histories of `storeTo ... append := true` on one target: every save rebuilds the image
from the files listed at re-opening followed by the new ones. One induction for all containers, from the law
`Reopens` that relates a container's writer and the sniffer.
-/
import CoCoVerif.Lemmas.VFCas
import CoCoVerif.Lemmas.VFDsk
import CoCoVerif.Lemmas.VirtualFile

namespace CoCo.VF
open CoCo CoCo.Props

/-- a history of append-saves of batches of files to one target of kind `k`; stops at the first refusal -/
def runHist (k : Kind) (path : Path) : FS → List (List CFile) → Outcome FS
  | fs, [] => .ok fs
  | fs, b :: rest =>
    match storeTo fs path k b true with
    | .ok fs' => runHist k path fs' rest
    | .diag => .diag
    | .internal => .internal
    | .diverged => .diverged

theorem take_succ_flatten (b : List CFile) (rest : List (List CFile)) (i : Nat) :
    ((b :: rest).take (i + 1)).flatten = b ++ (rest.take i).flatten := by
  simp

/-- what append-saves need of a container of kind `k`: an image written from files that are `Good` is taken by
the sniffer for that kind, and to the writer the files listed from it are as good as the original ones -/
def Reopens (k : Kind) (Good : List CFile → Prop) : Prop :=
  ∀ (done : List CFile) (img : Bytes), Good done → buildImage k done = .ok img →
    ∃ listed, sniff img = .ok (listed, k) ∧
      ∀ batch, buildImage k (listed ++ batch) = buildImage k (done ++ batch)

/-- re-opening a tool-written image and adding a batch rewrites it from all files, old ones first -/
theorem Reopens.storeTo {k : Kind} {Good : List CFile → Prop} (hre : Reopens k Good) {fs : FS} {path : Path}
    {done batch : List CFile} {img img' : Bytes}
    (hg : fs.get? path = some img) (hgood : Good done) (hw : buildImage k done = .ok img)
    (hw' : buildImage k (done ++ batch) = .ok img') :
    storeTo fs path k batch true = .ok (fs.set path img') := by
  obtain ⟨listed, hs, hb⟩ := hre done img hgood hw
  exact storeTo_append fs path k img listed batch img' hg hs (by rw [hb]; exact hw')

theorem buildImage_prefix_ok {k : Kind} {a b : List CFile} {img : Bytes} (h : buildImage k (a ++ b) = .ok img) :
    ∃ img0, buildImage k a = .ok img0 := by
  cases k with
  | cassette => exact ⟨_, rfl⟩
  | binary => exact ⟨_, rfl⟩
  | disk => exact write_prefix_ok h

/-- a history on a target that holds the image written from `done`: if the image of all files can be built, and
the files stored before each save are `Good`, the target ends up holding that image and nothing else changes -/
theorem runHist_from {k : Kind} {Good : List CFile → Prop} (hre : Reopens k Good) (path : Path) :
    ∀ (batches : List (List CFile)) (fs : FS) (done : List CFile) (img imgF : Bytes),
      fs.get? path = some img → buildImage k done = .ok img →
      (∀ i, i < batches.length → Good (done ++ (batches.take i).flatten)) →
      buildImage k (done ++ batches.flatten) = .ok imgF →
      ∃ fs', runHist k path fs batches = .ok fs' ∧
        (∀ q, q ≠ path → fs'.get? q = fs.get? q) ∧
        fs'.get? path = some imgF := by
  intro batches
  induction batches with
  | nil =>
    intro fs done img imgF hg hw _ hF
    rw [List.flatten_nil, List.append_nil, hw] at hF
    cases hF
    exact ⟨fs, rfl, fun _ _ => rfl, hg⟩
  | cons b rest ih =>
    intro fs done img imgF hg hw hgood hF
    have hF' : buildImage k ((done ++ b) ++ rest.flatten) = .ok imgF := by
      rw [List.append_assoc]; simpa using hF
    obtain ⟨img1, hw1⟩ := buildImage_prefix_ok hF'
    have hstep := hre.storeTo hg (by simpa using hgood 0 (by simp)) hw hw1
    obtain ⟨fs', hr, hfr, hget⟩ := ih (fs.set path img1) (done ++ b) img1 imgF (FS.get?_set_same _ _ _) hw1
      (fun i hi => by
        have := hgood (i + 1) (by simp; omega)
        rwa [take_succ_flatten, ← List.append_assoc] at this) hF'
    refine ⟨fs', ?_, ?_, hget⟩
    · simp only [runHist, hstep]; exact hr
    · intro q hq; rw [hfr q hq, FS.get?_set_other _ _ _ _ hq]

/-- the same on a fresh target: the first save creates it -/
theorem runHist_fresh {k : Kind} {Good : List CFile → Prop} (hre : Reopens k Good) (path : Path) (fs : FS)
    (b : List CFile) (rest : List (List CFile))
    (imgF : Bytes) (hfresh : fs.get? path = none)
    (hgood : ∀ i, i < rest.length → Good (b ++ (rest.take i).flatten))
    (hF : buildImage k (b :: rest).flatten = .ok imgF) :
    ∃ fs', runHist k path fs (b :: rest) = .ok fs' ∧
      (∀ q, q ≠ path → fs'.get? q = fs.get? q) ∧
      fs'.get? path = some imgF := by
  have hF' : buildImage k (b ++ rest.flatten) = .ok imgF := by simpa using hF
  obtain ⟨img1, hw1⟩ := buildImage_prefix_ok hF'
  have hstep := storeTo_fresh fs path k b true img1 hfresh hw1
  obtain ⟨fs', hr, hfr, hget⟩ := runHist_from hre path rest (fs.set path img1) b img1 imgF
    (FS.get?_set_same _ _ _) hw1 hgood hF'
  refine ⟨fs', ?_, ?_, hget⟩
  · simp only [runHist, hstep]; exact hr
  · intro q hq; rw [hfr q hq, FS.get?_set_other _ _ _ _ hq]

/-- cassettes (exclusions E1 on the files and G1 on the image) -/
theorem reopens_cas : Reopens .cassette (fun fs => CasOK fs ∧ (Cas.write fs).length < 161280) := by
  intro done img ⟨⟨h1, h2, h3⟩, hl⟩ hw
  cases hw
  exact ⟨done.map Cas.norm, sniff_written_cassette done h1 h2 h3 hl, fun batch => by simp [buildImage, write_norm_append]⟩

/-- the hypotheses of the disk theorems on a list of files -/
def DskOK (fs : List CFile) : Prop := (∀ f ∈ fs, ValidDFile f) ∧ (∀ f ∈ fs, NoSpace f)

theorem DskOK_iff {fs : List CFile} : DskOK fs ↔ ∀ f ∈ fs, ValidDFile f ∧ NoSpace f :=
  ⟨fun h f hf => ⟨h.1 f hf, h.2 f hf⟩, fun h => ⟨fun f hf => (h f hf).1, fun f hf => (h f hf).2⟩⟩

theorem DskOK.append {a b : List CFile} (ha : DskOK a) (hb : DskOK b) : DskOK (a ++ b) :=
  DskOK_iff.mpr (List.forall_mem_append.mpr ⟨DskOK_iff.mp ha, DskOK_iff.mp hb⟩)

/-- disk images (default fill order) -/
theorem reopens_dsk : Reopens .disk DskOK := by
  intro done img ⟨hv, hs⟩ hw
  exact ⟨done.map Dsk.norm, sniff_written_disk validOrder_default hv hw,
    fun batch => by simp only [buildImage]; rw [write_norm_append_dsk _ _ _ hs]⟩

end CoCo.VF
