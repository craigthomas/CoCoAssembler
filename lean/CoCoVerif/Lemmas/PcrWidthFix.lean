/-
Lemmas/PcrWidthFix.lean — from the invariant of the size loop (`pcrLoop_width`) to addresses and to what
`fix_addresses` stores (property C03, width of the 8-bit PCR form).

`PcrPre` / `AbsPre` collect what is known of the statement that enters `fix_addresses` for a final statement whose
offset is resolved there (a PCR operand / the label offset of a pointer register).  The field of a statement settled on
the 8-bit form is the byte of the signed 16-bit distance to the target (`Target8`), in range because `fix_addresses`
checks it.  When no ORG lies between the statement and the one its operand names, that distance is the one the size
loop bounded, computed in ℤ (`Dist8`): `D = y − x − size` with `−128 ≤ D − k` and `D + k ≤ 127`, `k = exprExtra` the
constant of `label ± k`.
-/
import CoCoVerif.Lemmas.NoIntPcr
import CoCoVerif.Lemmas.PcrWidthInv
import CoCoVerif.Lemmas.SizeFix

namespace CoCo.Asm
open CoCo

section
variable {fs : Files} {lines : List Str} {a : Assembly} {st : Stages fs lines a} {i : Nat}
  {s0 : Stmt} {o : Operand} {p : Pkg} {sz mx : Nat} {pb : Value} {hint : Nat} {ad vf vw v : Value}

/-- a statement whose offset `fix_addresses` resolves (`needsRes`: a PCR operand or the label offset of a pointer
register): the operand is indexed with a left / right value, the offset is what `translate` made of the left side, an
address expression in it has a label on one side, and the number `fix_addresses` stores goes through `fit_operand_width`
to the final statement (the pass over the FCB / FDB lists leaves a numeric field alone) -/
theorem Compiled.res (c : Compiled st i s0 o p sz mx pb hint ad vf vw v) (hn : p.needsRes = true) :
    (o.kind == .indexed || o.kind == .extIndirect) = true ∧ LabelFree o ∧ LeftOK o p ∧
    (∀ l r op m, p.additional = .expr l r op m true → l.isAddress = true ∨ r.isAddress = true) ∧
    (vf.isNumeric = true →
      fitWidth (laidOut s0 o p sz mx pb hint ad vf) = .ok (laidOut s0 o p sz mx pb hint ad v)) := by
  have hok := c.stmtOK
  obtain ⟨(hlr : o.value.isLeftRight = true), (hkind : o.kind = .indexed ∨ o.kind = .extIndirect)⟩ := hok.needs hn
  have hgood : p.additional.Good st.ss0.length := (hok.addl hn).1
  refine ⟨?_, .of_leftRight ?_ hlr, (translateOperand_w c.htr).2, fun l r op m he => ?_, fun hnum => ?_⟩
  · rcases hkind with h | h <;> simp [h]
  · rcases hkind with h | h <;> simp [h]
  · rw [he] at hgood
    exact hgood.2.2 rfl
  · obtain ⟨_, rfl⟩ := c.numeric hnum
    exact c.hfit

/-- the post byte of a `label,PCR` statement is one byte -/
theorem Compiled.pcr_postByte (c : Compiled st i s0 o p sz mx pb hint ad vf vw v) (hc : p.choices ≠ []) :
    pb.hexLen? = some 2 := by
  rcases c.stmtOK.choices with h0 | ⟨_, _, _, _, _, ⟨_, _, _, hl⟩, _⟩
  · exact absurd h0 hc
  · exact hl

/-- what `fix_addresses` stores for a `label,PCR` operand: the distance to the target it computed, which passed the range
check of the 8-bit form and goes through `fit_operand_width` to the final statement -/
theorem Compiled.pcr_stored (c : Compiled st i s0 o p sz mx pb hint ad vf vw v) (hc : p.choices ≠ []) :
    ∃ target start, fixRel st.ss4 (laidOut s0 o p sz mx pb hint ad p.additional) = .ok target ∧
      addrIntOf st.ss4 i = some start ∧
      numericOfInt (pcrJump (laidOut s0 o p sz mx pb hint ad p.additional) target start) (some hint) .none = .ok vf ∧
      fitWidth (laidOut s0 o p sz mx pb hint ad vf) = .ok (laidOut s0 o p sz mx pb hint ad v) ∧
      ¬ pcrOut (laidOut s0 o p sz mx pb hint ad p.additional) target start := by
  have hn := ((translateOperand_w c.htr).1.und hc).2.2.1
  obtain ⟨_, hlf, _, _, hfit⟩ := c.res hn
  obtain ⟨target, start, w, q1, q2, q3, q4, q5⟩ := fixOne_pcr_in hlf hn (List.isEmpty_eq_false_iff.2 hc) c.hfix
  obtain rfl : vf = w := congrArg (·.pkg.additional) q4
  exact ⟨target, start, q1, q2, q3, hfit (numericOfInt_isNumeric q3), q5⟩

end

/-- what is known of a final PCR statement `s` (index `i`) of an accepted program -/
structure PcrPre {fs : Files} {lines : List Str} {a : Assembly} (st : Stages fs lines a) (i : Nat) (s s3 s4 : Stmt) :
    Prop where
  h3 : st.ss3[i]? = some s3
  h4 : st.ss4[i]? = some s4
  rel34 : AddrRel s3 s4
  rel4 : SameButAdditional s4 s
  /-- `fix_addresses` (giving `s1`), then `fit_operand_width` -/
  fix : ∃ s1, fixOne st.ss4 i s4 = .ok s1 ∧ fitWidth s1 = .ok s
  idx : (s4.operand.kind == .indexed || s4.operand.kind == .extIndirect) = true
  left : LeftOK s4.operand s4.pkg
  choices : s4.pkg.choices ≠ []
  needs : s4.pkg.needsRes = true
  /-- an address expression has a label on one side -/
  lr : ∀ l r op m, s4.pkg.additional = .expr l r op m true → l.isAddress = true ∨ r.isAddress = true
  stored : ∃ target start v, fixRel st.ss4 s4 = .ok target ∧ addrIntOf st.ss4 i = some start ∧
      numericOfInt (pcrJump s4 target start) (some s4.pcrHint) .none = .ok v ∧
      fitWidth (withAdditional s4 v) = .ok s ∧ ¬ pcrOut s4 target start
  row : s4.row ∈ Gen.instructions
  /-- op code and post byte: the indexed op code of the row, and one byte -/
  codes : opVal s4.row.ind = .ok s4.pkg.opCode ∧ s4.pkg.postByte.hexLen? = some 2
  /-- on the 8-bit form the statement is one byte longer than the indexed base size -/
  size8 : s4.pcrHint = 2 → s4.pkg.size = s4.row.indSz + 1

theorem Stages.pcr_pre {fs : Files} {lines : List Str} {a : Assembly} (st : Stages fs lines a)
    {i : Nat} {s : Stmt} (hs : a.stmts[i]? = some s) (hc : s.pkg.choices ≠ []) :
    ∃ s3 s4, PcrPre st i s s3 s4 := by
  obtain ⟨s0, o, p, sz, mx, pb, hint, ad, vf, vw, v, c, rfl⟩ := st.compiled hs
  have hc : p.choices ≠ [] := hc
  obtain ⟨_, _, hn, hop⟩ := (translateOperand_w c.htr).1.und hc
  obtain ⟨hidx, _, hleft, hlr, _⟩ := c.res hn
  obtain ⟨target, start, q1, q2, q3, hfit, q5⟩ := c.pcr_stored hc
  refine ⟨_, _, ⟨c.h3, c.h4, ⟨ad, rfl⟩, ⟨v, rfl⟩, ⟨_, c.hfix, hfit⟩, hidx, hleft, hc, hn, hlr,
    ⟨target, start, vf, q1, q2, q3, hfit, q5⟩, c.parsed.1, ⟨hop, c.pcr_postByte hc⟩, fun (h2 : hint = 2) => ?_⟩⟩
  rcases c.pcr_width hc with ⟨_, h, _⟩ | ⟨h4, _⟩
  · exact h
  · rw [h2] at h4; cases h4

theorem Stages.pcr_pre_at {fs : Files} {lines : List Str} {a : Assembly} (st : Stages fs lines a)
    {i : Nat} {s s4 : Stmt} (hs4 : st.ss4[i]? = some s4) (hs : a.stmts[i]? = some s) (hc : s.pkg.choices ≠ []) :
    ∃ s3, PcrPre st i s s3 s4 := by
  obtain ⟨s3, s4', pre⟩ := st.pcr_pre hs hc
  obtain rfl : s4' = s4 := Option.some.inj (pre.h4.symm.trans hs4)
  exact ⟨s3, pre⟩

theorem PcrPre.addlOf {fs : Files} {lines : List Str} {a : Assembly} {st : Stages fs lines a}
    {i : Nat} {s s3 s4 : Stmt} (pre : PcrPre st i s s3 s4) {v : Value} (hl : s.operand.left = .val v) :
    AddlOf v s4.pkg.additional := by
  obtain ⟨_, rfl⟩ := pre.rel4
  exact pre.left pre.needs v hl

/-- a PCR statement `s` whose operand has `w` in front of the comma: the statement that enters `fix_addresses` has `w` as
offset (a plain label as the index of its statement) -/
theorem pcr_open {fs : Files} {lines : List Str} {a : Assembly} (h : assemble fs lines = .ok a)
    {i : Nat} {s : Stmt} {w : Value} (hs : a.stmts[i]? = some s) (hc : s.pkg.choices ≠ [])
    (hl : s.operand.left = .val w) :
    ∃ (st : Stages fs lines a) (s3 s4 : Stmt), PcrPre st i s s3 s4 ∧ AddlOf w s4.pkg.additional := by
  obtain ⟨st⟩ := assemble_stages h
  obtain ⟨s3, s4, pre⟩ := st.pcr_pre hs hc
  exact ⟨st, s3, s4, pre, pre.addlOf hl⟩

/-- the offset `fix_addresses` resolves names the statement the operand's left side names, and is an address expression
when that is one -/
theorem AddlOf.same {w a : Value} (h : AddlOf w a) : relIndex a = relIndex w ∧ a.isAddrExpr = w.isAddrExpr := by
  unfold AddlOf at h
  split at h
  · obtain ⟨_, _, rfl⟩ := h
    exact ⟨rfl, rfl⟩
  · rw [h]
    exact ⟨rfl, rfl⟩

/-- what the size loop guarantees for the 8-bit form, in the currency of the branch side: the displacement counted in the
final sizes, widened by the constant of `label ± k`, is a signed byte -/
theorem Bound.disp {fin : List Stmt} {i rel : Nat} {f : Stmt} (h : Bound (sumSize fin) i f) (hf : fin[i]? = some f)
    (hpos : 0 < f.pkg.size) (hr : relIndex f.pkg.additional = some rel) :
    -128 ≤ branchDisp fin i rel - exprExtra f.pkg.additional ∧ branchDisp fin i rel + exprExtra f.pkg.additional ≤ 127 := by
  obtain ⟨hback, hfwd⟩ := h rel hr
  unfold branchDisp
  by_cases hbi : rel ≤ i
  · have := hback hbi
    rw [if_pos hbi, sumSize_succ hbi hf]
    omega
  · have := hfwd (Nat.lt_of_not_le hbi)
    rw [sumSize_head (Nat.lt_of_not_le hbi) hf] at this
    rw [if_neg hbi]
    omega

/-- a PCR statement that ended on the 8-bit form is not forced to 16 bits and names a statement -/
theorem Stages.pcr8_names {fs : Files} {lines : List Str} {a : Assembly} (st : Stages fs lines a)
    {i : Nat} {s s3 s4 : Stmt} (hh : s.pcrHint = 2) (pre : PcrPre st i s s3 s4) :
    exprForces s4.pkg.additional = false ∧ ∃ b, relIndex s4.pkg.additional = some b := by
  obtain ⟨w, rfl⟩ := pre.rel4
  obtain ⟨s0, o, p, sz, mx, pb, hint, ad, vf, vw, v, c, rfl⟩ := st.compiled_ss4 pre.h4
  obtain ⟨_, _, h⟩ | ⟨h4, _⟩ := c.pcr_width pre.choices
  · exact h
  · rw [show hint = 2 from hh] at h4; cases h4

/-- **the 8-bit decision is sound with respect to the final layout**: a PCR statement `s` (index `i`, address `x`) of an
accepted program that ended on the 8-bit form names (through `relIndex`) a statement `t` (index `b`, address `y`); when no
ORG lies between the two, the signed distance `D = y − x − size(s)` satisfies `−128 ≤ D − k` and `D + k ≤ 127`,
`k = exprExtra` being the constant of `label ± k` (0 for a plain label) -/
theorem Stages.pcr8_bound {fs : Files} {lines : List Str} {a : Assembly} (st : Stages fs lines a)
    {i b x y : Nat} {s s3 s4 t : Stmt} (hs : a.stmts[i]? = some s) (hh : s.pcrHint = 2) (pre : PcrPre st i s s3 s4)
    (hb : relIndex s4.pkg.additional = some b) (ht : a.stmts[b]? = some t)
    (hno : ∀ j u, min b i < j → j ≤ max b i → a.stmts[j]? = some u → u.row.mnemonic ≠ "ORG")
    (hx : addrNat s = some x) (hy : addrNat t = some y) :
    -128 ≤ (y : Int) - x - s.pkg.size - exprExtra s4.pkg.additional ∧
      (y : Int) - x - s.pkg.size + exprExtra s4.pkg.additional ≤ 127 := by
  obtain ⟨ad, rfl⟩ := pre.rel34
  obtain ⟨v, rfl⟩ := pre.rel4
  have hd := ((pcrLoop_width st.htranslate st.hpcr).2 i s3 pre.h3 pre.choices hh).disp pre.h3
    (Nat.lt_of_lt_of_eq (Nat.succ_pos _) (pre.size8 hh).symm) hb
  rw [branchDisp_congr fun lo hi => (st.sumSize_final lo hi).1, st.disp_of hs ht hno hx hy] at hd
  dsimp only at hd ⊢
  omega

/-- the instruction table: the indexed base size of a row with an indexed op code is the op code plus one byte (the
post byte) -/
def indRowOk (r : Gen.InstrRow) : Bool :=
  match opVal r.ind with
  | .ok v => (match v.hexLen? with | some a => 2 * r.indSz == a + 2 | none => false)
  | .error _ => true

theorem indRowOk_all : ∀ r ∈ Gen.instructions, indRowOk r = true := by decide +kernel

/-- a row `fit_operand_width` skips has nothing for `fix_addresses` to resolve -/
theorem Compiled.not_skipped {fs : Files} {lines : List Str} {a : Assembly} {st : Stages fs lines a} {i : Nat}
    {s0 : Stmt} {o : Operand} {p : Pkg} {sz mx : Nat} {pb : Value} {hint : Nat} {ad vf vw v : Value}
    (c : Compiled st i s0 o p sz mx pb hint ad vf vw v) (hn : p.needsRes = true) : fitSkipped s0.row = false := by
  cases hsk : fitSkipped s0.row with
  | false => rfl
  | true => exact absurd ((c.parsed.plainShape c.hres c.htr hsk).needs.symm.trans hn) nofun

/-- **the final field of a `label,PCR` operand, for both widths**: it is `pcrJump mod 16 ^ hint` at `hint` hex digits,
`pcrJump` the signed 16-bit distance from the end of the statement to the target `fix_addresses` computed; `hint = 2` with
one byte of offset or `hint = 4` with two; on the 8-bit form the operand is not forced and `pcrJump` is a signed byte
(the range check of `fix_addresses`) -/
theorem Compiled.pcr {fs : Files} {lines : List Str} {a : Assembly} {st : Stages fs lines a} {i : Nat}
    {s0 : Stmt} {o : Operand} {p : Pkg} {sz mx : Nat} {pb : Value} {hint : Nat} {ad vf vw v : Value}
    (c : Compiled st i s0 o p sz mx pb hint ad vf vw v) (hc : p.choices ≠ []) :
    ∃ target x d, fixRel st.ss4 (laidOut s0 o p sz mx pb hint ad p.additional) = .ok target ∧ ad.int? = some x ∧
      d = pcrJump (laidOut s0 o p sz mx pb hint ad v) target x ∧ numericOfInt d (some hint) .none = .ok vf ∧
      fitWidth (laidOut s0 o p sz mx pb hint ad vf) = .ok (laidOut s0 o p sz mx pb hint ad v) ∧
      ((hint = 2 ∧ sz = s0.row.indSz + 1 ∧ exprForces p.additional = false ∧ -128 ≤ d ∧ d ≤ 127) ∨
        (hint = 4 ∧ sz = s0.row.indSz + 2)) ∧
      v = .numeric (d % 2 ^ (4 * hint)).toNat (some hint) .extended false := by
  obtain ⟨target, x, q1, q2, q3, hfit, q5⟩ := c.pcr_stored hc
  have q2 : ad.int? = some x := by
    rw [addrIntOf_eq, c.h4] at q2
    exact q2
  -- the width of the field: the table gives the op code one byte less than the indexed base size, the post byte is one byte
  have htab := indRowOk_all _ c.parsed.1
  unfold indRowOk at htab
  obtain ⟨_, _, hn, hop⟩ := (translateOperand_w c.htr).1.und hc
  rw [hop] at htab
  have hsk := c.not_skipped hn
  obtain ⟨a', b', wd, (ha : p.opCode.hexLen? = some a'), (hb : pb.hexLen? = some b'), _, (hsz : 2 * sz = a' + b' + wd),
      _, _, (hs : v = _)⟩ :=
    fitWidth_int (s := laidOut s0 o p sz mx pb hint ad p.additional) (s' := laidOut s0 o p sz mx pb hint ad v) q3 hfit hsk
  have hlen : 2 * s0.row.indSz = a' + 2 := by simpa only [ha, beq_iff_eq] using htab
  obtain rfl : 2 = b' := Option.some.inj ((c.pcr_postByte hc).symm.trans hb)
  have hw := c.pcr_width hc
  refine ⟨target, x, _, q1, q2, rfl, q3, hfit, ?_, ?_⟩
  · rcases hw with ⟨h2, hz, hf, _⟩ | h4
    · have hr := pcrOut_range (s := laidOut s0 o p sz mx pb hint ad p.additional) h2 q5
      rw [← pcrJump_hint2 h2] at hr
      exact .inl ⟨h2, hz, hf, hr⟩
    · exact .inr h4
  · obtain rfl : wd = hint := by rcases hw with ⟨h2, hz, _⟩ | ⟨h4, hz⟩ <;> omega
    exact hs

/-- **the 8-bit PCR form, for EVERY accepted program** (no hypothesis on ORGs): `fix_addresses` computed the target
(`fixRel`), the signed 16-bit distance `d = pcrDist` from the end of the statement to it lies in `−128 .. 127`
(otherwise the program is rejected: "out of range of the 8-bit offset"), and the final field is the two's complement
byte of `d` -/
theorem Stages.pcr8_any {fs : Files} {lines : List Str} {a : Assembly} (st : Stages fs lines a)
    {i : Nat} {s s3 s4 : Stmt} (hs : a.stmts[i]? = some s) (hh : s.pcrHint = 2) (pre : PcrPre st i s s3 s4) :
    ∃ target x v, fixRel st.ss4 s4 = .ok target ∧ addrNat s = some x ∧
      -128 ≤ pcrDist s target x ∧ pcrDist s target x ≤ 127 ∧
      numericOfInt (pcrDist s target x) (some 2) .none = .ok v ∧ fitWidth (withAdditional s v) = .ok s ∧
      s.pkg.additional = .numeric (pcrDist s target x % 256).toNat (some 2) .extended false := by
  obtain ⟨s0, o, p, sz, mx, pb, hint, ad, vf, vw, v, c, rfl⟩ := st.compiled hs
  obtain rfl : s4 = _ := Option.some.inj (pre.h4.symm.trans c.h4)
  obtain rfl : hint = 2 := hh
  obtain ⟨target, x, _, q1, q2, rfl, q3, q4, q5, q6⟩ := c.pcr pre.choices
  rw [pcrJump_hint2 (s := laidOut s0 o p sz mx pb 2 ad v) rfl] at q3 q5 q6
  rcases q5 with ⟨_, _, _, hlo, hhi⟩ | ⟨h4, _⟩
  · exact ⟨target, x, vf, q1, q2, hlo, hhi, q3, q4, q6⟩
  · cases h4

/-- the target of a PCR statement in terms of the final statements: the address `y` of the statement `t` the
operand names; `(y + c) mod 65536` for `label + c` and `c + label`, `(y − c) mod 65536` for `label − c`, and
`(c − y) mod 65536` for `c − label` (`c = signedK k nn` the signed constant).  A negative sum is no exception:
`calculate_address_offset` reduces a result below zero modulo 65536 for every operator -/
def Target8 (addl : Value) (y target : Nat) : Prop :=
  (addl.isAddrExpr = false ∧ target = y) ∨
  (∃ l r op m k hh mm nn, addl = .expr l r op m true ∧ (if l.isAddress then r else l) = .numeric k hh mm nn ∧
    ((op = '+' ∧ (target : Int) = ((y : Int) + signedK k nn) % 65536) ∨
     (op = '-' ∧ l.isAddress = true ∧ (target : Int) = ((y : Int) - signedK k nn) % 65536) ∨
     (op = '-' ∧ l.isAddress = false ∧ (target : Int) = (signedK k nn - (y : Int)) % 65536)))

theorem Stages.fixRel_target8 {fs : Files} {lines : List Str} {a : Assembly} (st : Stages fs lines a)
    {s4 : Stmt} {target : Nat}
    (hidx : (s4.operand.kind == .indexed || s4.operand.kind == .extIndirect) = true)
    (hlr' : ∀ l r op m, s4.pkg.additional = .expr l r op m true → l.isAddress = true ∨ r.isAddress = true)
    (htgt : fixRel st.ss4 s4 = .ok target) (hf : exprForces s4.pkg.additional = false) :
    ∃ b t y, relIndex s4.pkg.additional = some b ∧ a.stmts[b]? = some t ∧ addrNat t = some y ∧
      Target8 s4.pkg.additional y target := by
  cases he : s4.pkg.additional.isAddrExpr with
  | false =>
    cases hi : s4.pkg.additional.int? with
    | none =>
      rw [fixRel_eq, fixRelTarget_plain _ _ (.inr he), hi] at htgt
      cases htgt
    | some b =>
      have hb : relIndex s4.pkg.additional = some b := by rw [relIndex_plain he]; exact hi
      have hy' := fixRel_target_plain he hb htgt
      obtain ⟨t, ht, hy⟩ := st.addrIntOf4_some hy'
      exact ⟨b, t, target, hb, ht, hy, .inl ⟨he, rfl⟩⟩
  | true =>
    obtain ⟨l, r, op, m, hav⟩ := Value.eq_addrExpr he
    rw [hav] at hf
    obtain ⟨hop, k, hh, mm, nn, hoth⟩ := exprForces_false hf
    obtain ⟨b, y, hb, hy', hcase⟩ := fixRel_target_expr_pm hidx hav (hlr' _ _ _ _ hav) hop hoth htgt
    obtain ⟨t, ht, hy⟩ := st.addrIntOf4_some hy'
    exact ⟨b, t, y, hb, ht, hy, .inr ⟨l, r, op, m, k, hh, mm, nn, hav, hoth, hcase⟩⟩

theorem PcrPre.target {fs : Files} {lines : List Str} {a : Assembly} {st : Stages fs lines a}
    {i : Nat} {s s3 s4 : Stmt} (pre : PcrPre st i s s3 s4) {target : Nat}
    (htgt : fixRel st.ss4 s4 = .ok target) (hf : exprForces s4.pkg.additional = false) :
    ∃ b t y, relIndex s4.pkg.additional = some b ∧ a.stmts[b]? = some t ∧ addrNat t = some y ∧
      Target8 s4.pkg.additional y target :=
  st.fixRel_target8 pre.idx pre.lr htgt hf

/-- the shape of the offset of an 8-bit PCR statement and the signed distance `d` it denotes: a plain label
(`d = y − x − size`) or `label ± c` / `c + label` with a signed numeric constant `c = signedK k nn`
(`d = y + c − x − size`, resp. `d = y − c − x − size`, computed in ℤ without wrap); `c − label` (the label on
the RIGHT of a minus sign) denotes `c − y`, nowhere near the label, and `d` is the signed 16-bit reading of the distance
to it (in range because `fix_addresses` checks the range, not because the size loop estimated it) -/
def Dist8 (addl : Value) (x y size : Nat) (d : Int) : Prop :=
  (addl.isAddrExpr = false ∧ d = (y : Int) - x - size) ∨
  (∃ l r op m k hh mm nn, addl = .expr l r op m true ∧ (if l.isAddress then r else l) = .numeric k hh mm nn ∧
    ((op = '+' ∧ d = (y : Int) + signedK k nn - x - size) ∨
     (op = '-' ∧ l.isAddress = true ∧ d = (y : Int) - signedK k nn - x - size) ∨
     (op = '-' ∧ l.isAddress = false ∧ d = sdist16 (signedK k nn - (y : Int) - x - size))))

/-- `Target8` and `Dist8` read the offset alike, as a plain label (`P`) or as `l op r` with a number on one side (`Q`): of a
plain label the first case holds, of a given expression the second, with its own `l`, `r`, `op` -/
theorem addl_cases {addl : Value} {P : Prop} {Q : Value → Value → Char → Nat → Bool → Prop}
    (h : (addl.isAddrExpr = false ∧ P) ∨
      ∃ l r op m k hh mm nn, addl = .expr l r op m true ∧ (if l.isAddress then r else l) = .numeric k hh mm nn ∧
        Q l r op k nn) :
    (addl.isAddrExpr = false → P) ∧
    ∀ l r op m, addl = .expr l r op m true →
      ∃ k hh mm nn, (if l.isAddress then r else l) = .numeric k hh mm nn ∧ Q l r op k nn := by
  rcases h with ⟨he, hp⟩ | ⟨l, r, op, m, k, hh, mm, nn, rfl, hoth, hq⟩
  · exact ⟨fun _ => hp, fun l r op m hexp => by rw [hexp] at he; cases he⟩
  · exact ⟨nofun, fun _ _ _ _ hexp => by cases hexp; exact ⟨k, hh, mm, nn, hoth, hq⟩⟩

/-- a distance the size loop bounded in ℤ is the signed 16-bit reading of the distance to the target, which is what
`fix_addresses` stores -/
theorem Target8.dist8 {addl : Value} {x y size target : Nat} (h : Target8 addl y target)
    (hd : -128 ≤ (y : Int) - x - size - exprExtra addl ∧ (y : Int) - x - size + exprExtra addl ≤ 127) :
    Dist8 addl x y size (sdist16 ((target : Int) - x - size)) := by
  obtain ⟨hlo, hhi⟩ := hd
  rcases h with ⟨he, rfl⟩ | ⟨l, r, op, m, k, hk, mk, nk, hexp, hoth, hcase⟩
  · rw [exprExtra_plain he] at hlo hhi
    exact .inl ⟨he, sdist16_of_range (by omega) (by omega)⟩
  · rw [hexp, exprExtra_expr hoth] at hlo hhi
    have hkb := signedK_bound k nk
    refine .inr ⟨l, r, op, m, k, hk, mk, nk, hexp, hoth, ?_⟩
    rcases hcase with ⟨rfl, htg⟩ | ⟨rfl, hla, htg⟩ | ⟨rfl, hla, htg⟩
    · exact .inl ⟨rfl, by unfold sdist16; omega⟩
    · exact .inr (.inl ⟨rfl, hla, by unfold sdist16; omega⟩)
    · exact .inr (.inr ⟨rfl, hla, by unfold sdist16; omega⟩)

/-- **the 8-bit PCR form, the statement `t` (index `b`) the operand names given**: the field is the two's complement byte
of the signed 16-bit distance `d` from the end of `s` to the target (`Target8`), `−128 ≤ d ≤ 127` because `fix_addresses`
checks it; with no ORG between `s` and `t` the size loop bounded the distance, and `d` is the distance computed in ℤ
without wrap (`Dist8`) -/
theorem Stages.pcr8_at {fs : Files} {lines : List Str} {a : Assembly} (st : Stages fs lines a)
    {i b : Nat} {s s3 s4 t : Stmt} (hs : a.stmts[i]? = some s) (hh : s.pcrHint = 2) (pre : PcrPre st i s s3 s4)
    (hb : relIndex s4.pkg.additional = some b) (ht : a.stmts[b]? = some t) :
    ∃ x y target v, ∃ d : Int, addrNat s = some x ∧ addrNat t = some y ∧ Target8 s4.pkg.additional y target ∧
      d = sdist16 ((target : Int) - x - s.pkg.size) ∧ -128 ≤ d ∧ d ≤ 127 ∧
      numericOfInt d (some 2) .none = .ok v ∧ fitWidth (withAdditional s v) = .ok s ∧
      s.pkg.additional = .numeric (d % 256).toNat (some 2) .extended false ∧
      ((∀ j u, min b i < j → j ≤ max b i → a.stmts[j]? = some u → u.row.mnemonic ≠ "ORG") →
        Dist8 s4.pkg.additional x y s.pkg.size d) := by
  obtain ⟨target, x, v, htgt, hx, hlo, hhi, hnum, hfit, hadd⟩ := st.pcr8_any hs hh pre
  -- the statement the target was computed from is the one the caller names
  obtain ⟨b', t', y, hb', ht', hy, htg⟩ := pre.target htgt (st.pcr8_names hh pre).1
  obtain rfl : b = b' := Option.some.inj (hb.symm.trans hb')
  obtain rfl : t = t' := Option.some.inj (ht.symm.trans ht')
  exact ⟨x, y, target, v, _, hx, hy, htg, pcrDist_eq s target x, hlo, hhi, hnum, hfit, hadd,
    fun hno => htg.dist8 (st.pcr8_bound hs hh pre hb ht hno hx hy)⟩

/-- the stored field of a PCR statement `s` that aims at the address `target`: `fix_addresses` computes
`NumericValue(pcrJump, size_hint = pcrHint)`, `pcrJump` the signed 16-bit distance from the end of `s` to `target`
(reduced modulo 65536 on the 16-bit form), `fit_operand_width` accepts it, and on the 8-bit form the distance is a
signed byte -/
def PcrFieldAt (s : Stmt) (target : Nat) : Prop :=
  ∃ x v, addrNat s = some x ∧
    numericOfInt (pcrJump s target x) (some s.pcrHint) .none = .ok v ∧ fitWidth (withAdditional s v) = .ok s ∧
    (s.pcrHint = 2 → -128 ≤ pcrJump s target x ∧ pcrJump s target x ≤ 127)

theorem Stages.pcr_field {fs : Files} {lines : List Str} {a : Assembly} (st : Stages fs lines a)
    {i : Nat} {s s3 s4 : Stmt} (hs : a.stmts[i]? = some s) (pre : PcrPre st i s s3 s4) :
    ∃ target, fixRel st.ss4 s4 = .ok target ∧ PcrFieldAt s target := by
  obtain ⟨s0, o, p, sz, mx, pb, hint, ad, vf, vw, v, c, rfl⟩ := st.compiled hs
  obtain rfl : s4 = _ := Option.some.inj (pre.h4.symm.trans c.h4)
  obtain ⟨target, x, _, q1, q2, rfl, q3, q4, q5, _⟩ := c.pcr pre.choices
  refine ⟨target, q1, x, vf, q2, q3, q4, fun (h2 : hint = 2) => ?_⟩
  rcases q5 with ⟨_, _, _, h⟩ | ⟨h4, _⟩
  · exact h
  · rw [h2] at h4; cases h4

/-- what is known of a final statement `s` (index `i`) of an accepted program that has the label offset of a pointer
register (`needsRes` without post byte choices) -/
structure AbsPre {fs : Files} {lines : List Str} {a : Assembly} (st : Stages fs lines a) (i : Nat) (s s4 : Stmt) :
    Prop where
  h4 : st.ss4[i]? = some s4
  rel4 : SameButAdditional s4 s
  idx : (s4.operand.kind == .indexed || s4.operand.kind == .extIndirect) = true
  left : LeftOK s4.operand s4.pkg
  needs : s4.pkg.needsRes = true
  /-- an address expression has a label on one side -/
  lr : ∀ l r op m, s4.pkg.additional = .expr l r op m true → l.isAddress = true ∨ r.isAddress = true
  /-- `fix_addresses` stores the target ADDRESS in the 16-bit offset field, `fit_operand_width` accepts it -/
  stored : ∃ target v, fixRel st.ss4 s4 = .ok target ∧ numericOfInt (target : Int) (some 4) .none = .ok v ∧
      fitWidth (withAdditional s4 v) = .ok s

/-- **the final field of a label offset** (`LDA TABLE,X`: `needsRes` without post byte choices): `fix_addresses` stores
the target ADDRESS as a number of hint 4, `fit_operand_width` accepts it, and the field is the target at four hex
digits: `translate` left room for them -/
theorem Compiled.abs {fs : Files} {lines : List Str} {a : Assembly} {st : Stages fs lines a} {i : Nat}
    {s0 : Stmt} {o : Operand} {p : Pkg} {sz mx : Nat} {pb : Value} {hint : Nat} {ad vf vw v : Value}
    (c : Compiled st i s0 o p sz mx pb hint ad vf vw v) (hn : p.needsRes = true) (hc : p.choices = []) :
    ∃ target, fixRel st.ss4 (laidOut s0 o p sz mx pb hint ad p.additional) = .ok target ∧ target ≤ 65535 ∧
      numericOfInt (target : Int) (some 4) .none = .ok vf ∧
      fitWidth (laidOut s0 o p sz mx pb hint ad vf) = .ok (laidOut s0 o p sz mx pb hint ad v) ∧
      v = .numeric target (some 4) .extended false := by
  obtain ⟨_, hlf, _, _, hfit⟩ := c.res hn
  have hfix := c.hfix
  rw [fixOne_eq_fixPart3 hlf] at hfix
  obtain ⟨target, w, q1, q2, q3⟩ :=
    fixPart3_abs_in (s2 := laidOut s0 o p sz mx pb hint ad p.additional) hn (List.isEmpty_iff.2 hc) hfix
  obtain rfl : vf = w := congrArg (·.pkg.additional) q3
  obtain ⟨hle, rfl⟩ := numericOfInt_ok q2
  have hsk := c.not_skipped hn
  obtain ⟨w, hw, hsz, rfl⟩ := c.numeric_final hsk
  obtain ⟨rfl, _, rfl, _⟩ := c.fixed hc
  have hroom := (c.parsed.pkgShape c.hres c.htr hsk).lbl hn hc
  obtain rfl : w = 4 := by omega
  have e : (signedK (target : Int).natAbs (decide ((target : Int) < 0)) % 2 ^ (4 * 4)).toNat = target := by
    rw [signedK_natAbs, pow16]; omega
  refine ⟨target, q1, by omega, q2, hfit rfl, ?_⟩
  show Value.numeric _ _ _ _ = _
  rw [e]

theorem Stages.abs_pre {fs : Files} {lines : List Str} {a : Assembly} (st : Stages fs lines a)
    {i : Nat} {s : Stmt} (hs : a.stmts[i]? = some s) (hn : s.pkg.needsRes = true) (hc : s.pkg.choices = []) :
    ∃ s4, AbsPre st i s s4 := by
  obtain ⟨s0, o, p, sz, mx, pb, hint, ad, vf, vw, v, c, rfl⟩ := st.compiled hs
  have hn : p.needsRes = true := hn
  obtain ⟨hidx, _, hleft, hlr, _⟩ := c.res hn
  obtain ⟨target, q1, _, q2, q3, _⟩ := c.abs hn hc
  exact ⟨_, c.h4, ⟨v, rfl⟩, hidx, hleft, hn, hlr, target, vf, q1, q2, q3⟩

end CoCo.Asm
