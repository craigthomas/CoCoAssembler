/-
Lemmas/PcrLoopLockstep.lean — the PCR size loop on two statement lists that it cannot tell apart. A relation `R` between
statements that agree on all the loop reads of them (`PcrView`), kept when both receive the same write (`Stmt.settled`), is kept by
`determine`, `pcrPass`, `forceFirst` and `pcrLoop`, and the two runs end in the same way (`pcrLoop_lockstep`). Relocation
(`Inert`: the statements differ in operand, listing text and address) and renaming (the graph of `rnStmt`) are instances.
-/
import CoCoVerif.Lemmas.PcrLoop

namespace CoCo.Asm
open CoCo

/-- what the size loop reads of a statement, equal in `s` and `s'` -/
structure PcrView (s s' : Stmt) : Prop where
  fixedSize : s'.fixedSize = s.fixedSize
  choices : s'.pkg.choices = s.pkg.choices
  size : s'.pkg.size = s.pkg.size
  maxSize : s'.pkg.maxSize = s.pkg.maxSize
  postByte : s'.pkg.postByte.int? = s.pkg.postByte.int?
  forces : exprForces s'.pkg.additional = exprForces s.pkg.additional
  relIndex : relIndex s'.pkg.additional = relIndex s.pkg.additional
  extra : exprExtra s'.pkg.additional = exprExtra s.pkg.additional

section
variable {R : Stmt → Stmt → Prop} (hv : ∀ {s s'}, R s s' → PcrView s s')
  (hw : ∀ {s s'} (e hint : Nat) (pb : Value), R s s' → R (s.settled e hint pb) (s'.settled e hint pb))
include hv hw

theorem settle_lockstep {s s' : Stmt} (h : R s s') (e hint c : Nat) :
    Option.Rel R (settle s e hint c) (settle s' e hint c) := by
  have hp : orPost s' c = orPost s c := by
    unfold orPost
    rw [(hv h).postByte]
  rw [settle_eq_settled, settle_eq_settled, hp]
  cases orPost s c with
  | none => exact .none
  | some pb => exact .some (hw e hint pb h)

omit hw in
theorem sumSizes_lockstep {ss ss' : List Stmt} (h : PW R ss ss') (lo hi : Nat) : sumSizes ss' lo hi = sumSizes ss lo hi := by
  have key : ∀ l : List Stmt, sumSizes l lo hi
      = (((l.map fun s => (s.pkg.size, s.pkg.maxSize)).drop lo).take (hi - lo)).foldl
          (fun (a : Nat × Nat) p => (a.1 + p.1, a.2 + p.2)) (0, 0) := by
    intro l
    unfold sumSizes
    rw [← List.map_drop, ← List.map_take, List.foldl_map]
  rw [key, key, PW.map_eq (h.mono fun _ _ r => by rw [(hv r).size, (hv r).maxSize])]

/-- Once what `determine` reads is rewritten, the two sides are the same tree of `if`s, with related leaves. -/
theorem determine_lockstep {ss ss' : List Stmt} (h : PW R ss ss') (i : Nat) {s s' : Stmt} (hs : R s s') :
    OutRel R (determine ss i s) (determine ss' i s') := by
  have v := hv hs
  have hset : ∀ e hint c, OutRel R (settleO s e hint c) (settleO s' e hint c) := by
    intro e hint c
    have hr := settle_lockstep hv hw hs e hint c
    unfold settleO
    generalize settle s e hint c = o at hr ⊢
    generalize settle s' e hint c = o' at hr ⊢
    cases hr with
    | some r => exact .ok r
    | none => exact .internal
  unfold determine
  rw [v.choices, v.forces, v.relIndex, v.extra, v.size, h.1]
  simp only [sumSizes_lockstep hv h]
  rcases s.pkg.choices with _ | ⟨c0, _ | ⟨c1, _ | _⟩⟩
  · exact .diag
  · exact .internal
  · dsimp only
    refine .ite (hset _ _ _) ?_
    cases Asm.relIndex s.pkg.additional with
    | none => exact .internal
    | some rel =>
      dsimp only
      refine .ite .internal ?_
      generalize (if rel ≤ i then sumSizes ss rel i else sumSizes ss i rel) = q
      exact .ite (hset _ _ _) (.ite (hset _ _ _) (.ok hs))
  · exact .internal

theorem pcrPass_lockstep : ∀ (n : Nat) (ss ss' : List Stmt) (i : Nat) (p : Bool), PW R ss ss' →
    OutRel (fun (x y : List Stmt × Bool) => PW R x.1 y.1 ∧ y.2 = x.2) (pcrPass n ss i p) (pcrPass n ss' i p) := by
  intro n
  induction n with
  | zero => intro ss ss' i p h; exact .ok ⟨h, rfl⟩
  | succ n ih =>
    intro ss ss' i p h
    rw [pcrPass, pcrPass]
    rcases h.getElem? i with ⟨hs, hs'⟩ | ⟨s, s', hs, hs', hr⟩
    · rw [hs, hs']
      exact .ok ⟨h, rfl⟩
    · rw [hs, hs']
      dsimp only
      rw [(hv hr).fixedSize]
      split
      · exact ih _ _ _ _ h
      · have hd := determine_lockstep hv hw h i hr
        generalize determine ss i s = o at hd ⊢
        generalize determine ss' i s' = o' at hd ⊢
        cases hd with
        | ok r =>
          dsimp only
          rw [(hv r).fixedSize]
          exact ih _ _ _ _ (h.set₂ i r)
        | _ => constructor

omit hw in
theorem allFixed_lockstep {ss ss' : List Stmt} (h : PW R ss ss') : allFixed ss' = allFixed ss := by
  have key : ∀ l : List Stmt, allFixed l = (l.map (·.fixedSize)).all id := by
    intro l
    unfold allFixed
    rw [List.all_map]
    rfl
  rw [key, key, PW.map_eq (h.mono fun _ _ r => (hv r).fixedSize)]

theorem forceFirst_lockstep : ∀ (ss ss' : List Stmt), PW R ss ss' →
    Option.Rel (PW R) (forceFirst ss) (forceFirst ss') := by
  intro ss
  induction ss with
  | nil => intro ss' h; rw [h.nil_left]; exact .some .nil
  | cons s rest ih =>
    intro ss' h
    obtain ⟨s', rest', rfl, hr, hrest⟩ := h.cons_left
    rw [forceFirst, forceFirst, (hv hr).fixedSize, (hv hr).choices]
    split
    · exact (ih rest' hrest).map fun _ _ r => .cons hr r
    · split
      · exact (settle_lockstep hv hw hr 2 4 _).map fun _ _ r => .cons r hrest
      · exact .none

theorem pcrLoop_lockstep : ∀ (fuel : Nat) (ss ss' : List Stmt), PW R ss ss' →
    OutRel (PW R) (pcrLoop fuel ss) (pcrLoop fuel ss') := by
  intro fuel
  induction fuel with
  | zero =>
    intro ss ss' h
    rw [pcrLoop, pcrLoop, allFixed_lockstep hv h]
    split
    · exact .ok h
    · exact .diverged
  | succ fuel ih =>
    intro ss ss' h
    rw [pcrLoop, pcrLoop, allFixed_lockstep hv h, h.1]
    split
    · exact .ok h
    · have hp := pcrPass_lockstep hv hw ss.length ss ss' 0 false h
      generalize pcrPass ss.length ss 0 false = o at hp ⊢
      generalize pcrPass ss.length ss' 0 false = o' at hp ⊢
      cases hp with
      | ok r =>
        rename_i x y
        obtain ⟨x1, x2⟩ := x
        obtain ⟨y1, y2⟩ := y
        obtain ⟨r1, r2⟩ := r
        dsimp only at r1 r2
        subst r2
        cases y2 with
        | true => exact ih _ _ r1
        | false =>
          dsimp only
          have hf := forceFirst_lockstep hv hw x1 y1 r1
          generalize forceFirst x1 = q at hf ⊢
          generalize forceFirst y1 = q' at hf ⊢
          cases hf with
          | some r => exact ih _ _ r
          | none => exact .internal
      | _ => constructor

end

end CoCo.Asm
