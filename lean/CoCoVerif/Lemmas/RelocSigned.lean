/-
Lemmas/RelocSigned.lean — relocation (C18-R1): `label + N` / `label - N` where `N` is a SIGNED constant (a number written
or defined by an EQU with a minus sign counts negatively), in closed form.

For BOTH operators the result `z = a ± c` is rejected above `$FFFF` and reduced modulo `$10000` below zero, so the value
is `z mod $10000` whenever `z ≤ $FFFF`; a 16-bit operand field (`fit_operand_width`) then holds exactly that value.  The
class `NumExpr` (hence `Moved`, `Unmoved`) in arithmetic terms: `numExpr_pm_iff`.  Also in closed form: a plain label as
constant offset of a pointer register (`fixFit_abs_label`).
-/
import CoCoVerif.Lemmas.RelocAll

namespace CoCo.Asm
open CoCo

section numExpr
variable {D : Nat} {as : List Stmt} {l r : Value} {t a k : Nat} {nn : Bool}

/-- `label ± c` (SIGNED `c`) is in the class iff — unless it is rejected in the original layout already, being above
`$FFFF` — its value `(a ± c) mod $10000`, moved by `D`, is at most `$FFFF` -/
theorem numExpr_pm_iff {op : Char} (hop : op = '+' ∨ op = '-') (h : LabelNum as l r op t a k nn) (m : Mode) :
    NumExpr D as (.expr l r op m true) ↔
      (pm op a (signedK k nn) ≤ 65535 → pm op a (signedK k nn) % 65536 + D ≤ 65535) := by
  have h0 : 0 ≤ pm op a (signedK k nn) % 65536 := Int.emod_nonneg _ (by decide)
  constructor
  · rintro ⟨_, _, _, _, _, _, _, _, _, _, _, _, hb⟩ hle
    rw [addrOffset_labelNum h, addrCombine_pm_eq hop, if_pos hle] at hb
    obtain ⟨z, hz, hzD⟩ := hb _ rfl
    simp only [Value.numeric.injEq, and_true] at hz
    omega
  · intro hc
    obtain ⟨hh, mm, ho⟩ := h.other
    refine ⟨l, r, op, m, k, hh, mm, nn, rfl, ho, hop, h.side, fun v hv => ?_⟩
    rw [addrOffset_labelNum h, addrCombine_pm_eq hop] at hv
    split at hv
    · rename_i hle
      cases hv
      exact ⟨_, rfl, by have := hc hle; omega⟩
    · cases hv

theorem numExpr_plus_iff (h : LabelNum as l r '+' t a k nn) (m : Mode) :
    NumExpr D as (.expr l r '+' m true) ↔
      ((a : Int) + signedK k nn ≤ 65535 → ((a : Int) + signedK k nn) % 65536 + D ≤ 65535) := by
  have := numExpr_pm_iff (D := D) (.inl rfl) h m
  rwa [pm_plus] at this

theorem numExpr_minus_iff (h : LabelNum as l r '-' t a k nn) (m : Mode) :
    NumExpr D as (.expr l r '-' m true) ↔
      ((a : Int) - signedK k nn ≤ 65535 → ((a : Int) - signedK k nn) % 65536 + D ≤ 65535) := by
  have := numExpr_pm_iff (D := D) (.inr rfl) h m
  rwa [pm_minus] at this

end numExpr

section closed
variable {as : List Stmt} {l r : Value} {t a k : Nat} {nn : Bool} {s : Stmt} {m : Mode}

theorem fixOne_labelNum {op : Char} (h : LabelNum as l r op t a k nn) (i : Nat)
    (hk : (s.operand.kind == .relative) = false) (hv : s.operand.value = .expr l r op m true)
    (hn : s.pkg.needsRes = false) :
    fixOne as i s = (addrCombine op a (signedK k nn)).map (withAdditional s) := by
  rw [fixOne_expr_eq _ _ _ hk hv hn, addrOffset_labelNum h]
  cases addrCombine op a (signedK k nn) <;> rfl

theorem fixOne_label_plus (h : LabelNum as l r '+' t a k nn) (i : Nat)
    (hk : (s.operand.kind == .relative) = false) (hv : s.operand.value = .expr l r '+' m true)
    (hn : s.pkg.needsRes = false) (h0 : 0 ≤ (a : Int) + signedK k nn) (h1 : (a : Int) + signedK k nn ≤ 65535) :
    fixOne as i s = .ok (withAdditional s (.numeric ((a : Int) + signedK k nn).toNat (some 4) .extended false)) := by
  rw [fixOne_labelNum h i hk hv hn, addrCombine_plus_int_nonneg h0 h1]; rfl

/-- reduced modulo `$10000`, not stored as a negative number -/
theorem fixOne_label_plus_neg (h : LabelNum as l r '+' t a k nn) (i : Nat)
    (hk : (s.operand.kind == .relative) = false) (hv : s.operand.value = .expr l r '+' m true)
    (hn : s.pkg.needsRes = false) (h0 : (a : Int) + signedK k nn < 0) :
    fixOne as i s =
      .ok (withAdditional s (.numeric (((a : Int) + signedK k nn) % 65536).toNat (some 4) .extended false)) := by
  rw [fixOne_labelNum h i hk hv hn, addrCombine_plus_int, if_pos (by omega)]; rfl

theorem fixOne_label_minus (h : LabelNum as l r '-' t a k nn) (i : Nat)
    (hk : (s.operand.kind == .relative) = false) (hv : s.operand.value = .expr l r '-' m true)
    (hn : s.pkg.needsRes = false) (h1 : (a : Int) - signedK k nn ≤ 65535) :
    fixOne as i s =
      .ok (withAdditional s (.numeric (((a : Int) - signedK k nn) % 65536).toNat (some 4) .extended false)) := by
  rw [fixOne_labelNum h i hk hv hn, addrCombine_minus_int, if_pos h1]; rfl

/-- no lower bound: the reduction happens in `calculate_address_offset` already -/
theorem fixFit_label_plus (h : LabelNum as l r '+' t a k nn) (i : Nat) (hf : Field4 s)
    (hk : (s.operand.kind == .relative) = false) (hv : s.operand.value = .expr l r '+' m true)
    (hn : s.pkg.needsRes = false) :
    fixFit as i s =
      if (a : Int) + signedK k nn ≤ 65535 then
        .ok (withAdditional s (.numeric (((a : Int) + signedK k nn) % 65536).toNat (some 4) .extended false))
      else .diag := by
  rw [fixFit_expr_pm i hk hn hf hv, addrOffset_labelNum h, addrCombine_plus_int]
  split <;> rfl

theorem fixFit_label_minus (h : LabelNum as l r '-' t a k nn) (i : Nat) (hf : Field4 s)
    (hk : (s.operand.kind == .relative) = false) (hv : s.operand.value = .expr l r '-' m true)
    (hn : s.pkg.needsRes = false) :
    fixFit as i s =
      if (a : Int) - signedK k nn ≤ 65535 then
        .ok (withAdditional s (.numeric (((a : Int) - signedK k nn) % 65536).toNat (some 4) .extended false))
      else .diag := by
  rw [fixFit_expr_pm i hk hn hf hv, addrOffset_labelNum h, addrCombine_minus_int]
  split <;> rfl

/-- a plain label as constant offset of a pointer register (`LDA TABLE,X`, `LDD [TBL,U]`): the 16-bit offset field holds
the ADDRESS of the label -/
theorem fixFit_abs_label {x : Nat} (i : Nat) (hk : (s.operand.kind == .relative) = false)
    (hv : s.operand.value ≠ .pyNone) (hE : s.operand.value.isAddrExpr = false)
    (hA : s.operand.value.isAddress = false) (hn : s.pkg.needsRes = true) (hc : s.pkg.choices.isEmpty = true)
    (hp : s.pkg.additional.isAddrExpr = false) (hi : s.pkg.additional.int? = some t) (hf : Field4 s)
    (hx : addrIntOf as t = some x) (hx' : x < 65536) :
    fixFit as i s = .ok (withAdditional s (.numeric x (some 4) .extended false)) := by
  rw [fixFit_eq, fixOne_abs_eq _ _ _ hk hv hE hA hn hc, fixPartAbs_eq, fixRelTarget_plain _ _ (.inr hp), hi]
  dsimp only
  rw [hx]
  dsimp only
  rw [if_pos (by omega)]
  exact fitWidth_field4_nat hf hx'

end closed

/-- both layouts accept `label ± N` in a four-digit field (value at most `$FFFF - D`): the field holds `x`
resp. `(x + D) mod $10000` -/
theorem reloc_fixFit_label_pm_mod {D : Nat} {as as' : List Stmt} {l r : Value} {t a k : Nat} {nn : Bool} {s : Stmt}
    {m : Mode} {op : Char} (hop : op = '+' ∨ op = '-') (hpw : PW (AddrShiftI D) as as')
    (h : LabelNum as l r op t a k nn) (i : Nat) (v : Value) (hf : Field4 s)
    (hk : (s.operand.kind == .relative) = false) (hv : s.operand.value = .expr l r op m true)
    (hn : s.pkg.needsRes = false) (h1 : pm op a (signedK k nn) + D ≤ 65535) :
    ∃ x : Nat, x < 65536 ∧ (x : Int) = pm op a (signedK k nn) % 65536 ∧
      fixFit as i s = .ok (withAdditional s (.numeric x (some 4) .extended false)) ∧
      fixFit as' i (s.setAddress v) =
        .ok ((withAdditional s (.numeric ((x + D) % 65536) (some 4) .extended false)).setAddress v) := by
  obtain ⟨x, hx, hxe, e1, e2⟩ := addrCombine_pm_mod hop h1
  have e := fun ss => fixFit_expr_pm (ss := ss) i hk hn hf hv
  refine ⟨x, hx, hxe, by rw [e, addrOffset_labelNum h, e1]; rfl, ?_⟩
  rw [fixFit_setAddress, e, addrOffset_labelNum (h.reloc hpw), Int.natCast_add, e2]
  rfl

end CoCo.Asm
