/-
Lemmas/SizeValue.lean — property C02 "bytes = size", values.  The shapes of the values the parser builds (`PV`, from
Lemmas/CreateGraph), of what `translate` and the PCR loop store as op code and post byte (`CodeVal` of Lemmas/NumValue) and of the values
`resolve_symbols` leaves in an operand (`Fieldable`: a number, a label, a label expression); a value of the first two
shapes has an even `hex_len` and emits half as many bytes (`PV.emits`, over `Emits` of Lemmas/HexEmit).
-/
import CoCoVerif.Lemmas.HexEmit
import CoCoVerif.Lemmas.ResolveValue

namespace CoCo.Asm
open CoCo
open CoCo.Gen (InstrRow)

/-- `hex_len` with 0 for the impossible `None` -/
def hl (v : Value) : Nat := (v.hexLen?).getD 0

theorem CodeVal.pv {v : Value} (h : CodeVal v) : PV v := by
  rcases h with rfl | ⟨n, hn⟩
  · trivial
  · exact numericOfInt_pv (.inl rfl) hn

theorem CodeVal.nm {v : Value} (h : CodeVal v) : v.NM := by
  rcases h with rfl | ⟨n, hn⟩
  · exact .none
  · exact numV_nm hn

/-- `hex_len` is defined and even, and half as many bytes are emitted (a parsed string is made of characters below
256, the items of a list have 2 or 4 digits) -/
theorem PV.emits {v : Value} (hpv : PV v) : v.hexLen? = some (hl v) ∧ hl v % 2 = 0 ∧ Emits v (hl v / 2) := by
  cases v with
  | none => exact ⟨rfl, rfl, none_emits⟩
  | pyNone => cases hpv
  | address => cases hpv
  | numeric i h m n => exact ⟨rfl, hintOK_even hpv, numeric_emits i h m n (hintOK_even hpv)⟩
  | symbol => exact ⟨rfl, rfl, emits_of_hex rfl rfl rfl (Nat.zero_le _)⟩
  | expr => exact ⟨rfl, rfl, emits_of_hex rfl rfl rfl (Nat.zero_le _)⟩
  | leftRight => exact ⟨rfl, rfl, emits_of_hex rfl rfl rfl (Nat.zero_le _)⟩
  | str x =>
    have e : hl (.str x) = 2 * x.length := congrArg (·.getD 0) (hexLen_str x hpv)
    rw [e, Nat.mul_div_cancel_left _ (by decide)]
    exact ⟨hexLen_str x hpv, Nat.mul_mod_right 2 _, str_emits hpv⟩
  | multiByte hs =>
    have hev : hs.flatten.length % 2 = 0 := by rw [flatten_length_of_all hpv]; omega
    exact ⟨rfl, hev, multiByte_emits hev⟩
  | multiWord hs =>
    have hev : hs.flatten.length % 2 = 0 := by rw [flatten_length_of_all hpv]; omega
    exact ⟨rfl, hev, multiWord_emits hev⟩

theorem pv_emits {v : Value} (hpv : PV v) : ∃ k, v.byteLen? = some k ∧ Emits v k := by
  obtain ⟨h1, _, h3⟩ := hpv.emits
  exact ⟨_, by rw [Value.byteLen?, h1]; rfl, h3⟩

theorem CodeVal.emits {v : Value} (h : CodeVal v) :
    v.hexLen? = some (hl v) ∧ hl v % 2 = 0 ∧ Emits v (hl v / 2) := h.pv.emits

theorem PV.noaddr {v : Value} (h : PV v) : v.isAddress = false ∧ v.isAddrExpr = false := by
  cases v <;> first | (cases h; done) | exact ⟨rfl, rfl⟩ | (cases h; exact ⟨rfl, rfl⟩)

theorem create_pv {fuel : Nat} {s : Str} {a b c : Bool} {v : Value} (h : create fuel s a b c = .ok v) : PV v :=
  (create_graph h).pv

theorem createV_no_list {s : Str} {a b c : Bool} {v : Value} (h : createV s a b c = .ok v) (hs : List Str) :
    v ≠ .multiByte hs ∧ v ≠ .multiWord hs := by
  cases createV_graph h <;> exact ⟨nofun, nofun⟩

theorem create_noLR {fuel : Nat} {s : Str} {a b c : Bool} {v : Value}
    (h : create fuel s a b c = .ok v) (hc : ',' ∉ s) : v.isLeftRight = false := by
  cases v <;> first | rfl | exact absurd (create_graph h).comma hc

/-- a number, a label, or a label expression: what `fix_addresses` turns into a number -/
def Fieldable (v : Value) : Prop := v.isNumeric = true ∨ v.isAddress = true ∨ v.isAddrExpr = true

/-- a parsed value that `resolve` works on: a number, a symbol, an expression -/
def Plain (v : Value) : Prop := v.isNumeric = true ∨ v.isSymbol = true ∨ v.isExpression = true

theorem resolve_fieldable {t : SymTab} {v r : Value} (hv : Plain v ∨ Fieldable v) (h : v.resolve t = .ok r) :
    Fieldable r := by
  rcases resolve_result h with ⟨rfl, hs, he, _⟩ | ⟨i, rfl⟩ | ⟨z, hz⟩ | ⟨s, m, hs⟩ | ⟨l', r', op, m, rfl⟩
  · rcases hv with (hv | hv | hv) | hv
    · exact .inl hv
    · rw [hs] at hv; cases hv
    · rw [he] at hv; cases hv
    · exact hv
  · exact .inr (.inl rfl)
  · exact .inl (numericOfInt_isNumeric hz)
  · exact .inl (numericOfStr_isNumeric hs)
  · exact .inr (.inr rfl)

theorem resolve_plain {t : SymTab} {v r : Value} (hv : Plain v) (h : v.resolve t = .ok r) : Fieldable r :=
  resolve_fieldable (.inl hv) h

theorem Fieldable.resolve {t : SymTab} {v r : Value} (hv : Fieldable v) (h : v.resolve t = .ok r) : Fieldable r :=
  resolve_fieldable (.inr hv) h

end CoCo.Asm
