/-
Lemmas/RelocEmit.lean — relocation (C18-R1): emitted bytes and the final symbol table.
-/
import CoCoVerif.Lemmas.RelocFix

namespace CoCo.Asm
open CoCo

theorem stmtBytes_setAddress (s : Stmt) (v : Value) : stmtBytes (s.setAddress v) = stmtBytes s := rfl

theorem emit_wide {D : Nat} {v v' : Value} (h : WideAddr D v v') :
    ∃ x, v.int? = some x ∧ v'.int? = some (x + D) ∧ x + D < 65536 ∧
      emitValue v = some [x / 256, x % 256] ∧ emitValue v' = some [(x + D) / 256, (x + D) % 256] := by
  obtain ⟨a, hh, m, rfl, rfl, hc, hlt⟩ := h
  refine ⟨a, rfl, rfl, hlt, ?_, ?_⟩
  · exact emit_word m (by omega) hc
  · refine emit_word m hlt ?_
    rcases hc with hc | ⟨hc, h256⟩
    · exact .inl hc
    · exact .inr ⟨hc, by omega⟩

theorem stmtBytes_shiftAdditional {D : Nat} {t : Stmt} {w : Value} (hw : WideAddr D t.pkg.additional w)
    {bs : Bytes} (hb : stmtBytes t = some bs) :
    ∃ pre x, t.pkg.additional.int? = some x ∧ x + D < 65536 ∧ bs = pre ++ [x / 256, x % 256] ∧
      stmtBytes (t.shiftAdditional D) = some (pre ++ [(x + D) / 256, (x + D) % 256]) := by
  obtain ⟨x, hx, _, hlt, e1, e2⟩ := emit_wide hw
  obtain ⟨pre, c, hc, rfl, hall⟩ := stmtBytes_split hb
  rw [e1] at hc
  cases hc
  exact ⟨pre, x, hx, hlt, rfl, hall _ _ (hw.shiftV ▸ e2)⟩

theorem stmtBytes_field4 {s : Stmt} {x : Nat} {m : Mode} (hx : x < 65536) {bs : Bytes}
    (hb : stmtBytes (withAdditional s (.numeric x (some 4) m false)) = some bs) :
    ∃ pre, bs = pre ++ [x / 256, x % 256] ∧
      ∀ (y : Nat) (m' : Mode), y < 65536 →
        stmtBytes (withAdditional s (.numeric y (some 4) m' false)) = some (pre ++ [y / 256, y % 256]) := by
  obtain ⟨pre, c, hc, rfl, hall⟩ := stmtBytes_split hb
  rw [show (withAdditional s (.numeric x (some 4) m false)).pkg.additional = .numeric x (some 4) m false from rfl,
    emit_word m hx (.inl rfl)] at hc
  cases hc
  exact ⟨pre, rfl, fun y m' hy => hall _ _ (emit_word m' hy (.inl rfl))⟩

section
variable {D : Nat} {as as' : List Stmt}

/-- the code ends with a 16-bit big-endian field holding `x` resp. `x + D`; the bytes before that field (op code, post byte)
are identical -/
theorem reloc_bytes_wide {i : Nat} {s s' t t' : Stmt}
    (hmv : fixFit as' i s' = (fixFit as i s).map (fun t => (t.shiftAdditional D).setAddress s'.pkg.address))
    (hw : WideAddr D t.pkg.additional (shiftV D t.pkg.additional))
    (ht : fixFit as i s = .ok t) (ht' : fixFit as' i s' = .ok t') {bs : Bytes} (hb : stmtBytes t = some bs) :
    t' = (t.shiftAdditional D).setAddress s'.pkg.address ∧
    ∃ pre x, t.pkg.additional.int? = some x ∧ x + D < 65536 ∧ bs = pre ++ [x / 256, x % 256] ∧
      stmtBytes t' = some (pre ++ [(x + D) / 256, (x + D) % 256]) := by
  cases Outcome.ok_of_map hmv ht ht'
  exact ⟨rfl, stmtBytes_shiftAdditional hw hb⟩

/-- a four-digit field that holds `x` in the original and `y` in the moved program: the code ends with that field, big
endian; the bytes before it are identical -/
theorem reloc_bytes_field4 {i : Nat} {s s' t t' : Stmt} {f : Stmt → Stmt} {x y : Nat} (hx : x < 65536) (hy : y < 65536)
    (hmv : fixFit as' i s' = (fixFit as i s).map (fun t => (f t).setAddress s'.pkg.address))
    (e : fixFit as i s = .ok (withAdditional s (.numeric x (some 4) .extended false)))
    (hf : f (withAdditional s (.numeric x (some 4) .extended false)) =
      withAdditional s (.numeric y (some 4) .extended false))
    (ht : fixFit as i s = .ok t) (ht' : fixFit as' i s' = .ok t') {bs : Bytes} (hb : stmtBytes t = some bs) :
    t' = (f t).setAddress s'.pkg.address ∧ t.pkg.additional.int? = some x ∧
      ∃ pre, bs = pre ++ [x / 256, x % 256] ∧ stmtBytes t' = some (pre ++ [y / 256, y % 256]) := by
  cases Outcome.ok_of_map hmv ht ht'
  rw [e] at ht
  cases ht
  obtain ⟨pre, e1, hall⟩ := stmtBytes_field4 hx hb
  exact ⟨rfl, rfl, pre, e1, by rw [hf]; exact hall _ _ hy⟩

end

theorem finalSymTab_getElem? {ss : List Stmt} : ∀ {t r : SymTab}, finalSymTab ss t = .ok r →
    ∀ (j : Nat) (k : Str) (v : Value), t[j]? = some (k, v) → ∃ x, r[j]? = some (k, x) ∧ finalVal ss v = some x := by
  intro t r h j k v hj
  obtain ⟨⟨k', x⟩, hr, rfl, hx⟩ := (finalSymTab_pw h).get hj
  exact ⟨x, hr, hx⟩

theorem finalSymTab_length {ss : List Stmt} : ∀ {t r : SymTab}, finalSymTab ss t = .ok r → r.length = t.length :=
  fun h => (finalSymTab_pw h).length_eq

theorem finalVal_indep (ss ss' : List Stmt) {v : Value} (h : v.isAddress = false) : finalVal ss' v = finalVal ss v := by
  cases v <;> first | rfl | cases h

/-- the final symbol table of the relocated program: entries that were statement indices (labels) move by `D`, all
other entries (EQU values) are unchanged; one is accepted iff the other is -/
theorem finalSymTab_reloc {D : Nat} {fs fs' : List Stmt} (h : PW (AddrShift D) fs fs') (t : SymTab) :
    finalSymTab fs' t =
      (finalSymTab fs t).map (fun r =>
        List.zipWith (fun (kv kw : Str × Value) => (kw.1, if kv.2.isAddress then shiftV D kw.2 else kw.2)) t r) := by
  induction t with
  | nil => rfl
  | cons kv rest ih =>
    obtain ⟨k, v⟩ := kv
    rw [finalSymTab, finalSymTab, ih]
    cases finalSymTab fs rest with
    | ok r =>
      simp only [Outcome.map_ok]
      cases v with
      | address i m =>
        dsimp only
        rw [addrOf_reloc h]
        cases addrOf fs i <;> rfl
      | pyNone => rfl
      | _ => rfl
    | _ => rfl

theorem finalSymTab_reloc_get {D : Nat} {fs fs' : List Stmt} (h : PW (AddrShift D) fs fs') {t r r' : SymTab}
    (h1 : finalSymTab fs t = .ok r) (h2 : finalSymTab fs' t = .ok r') {j : Nat} {k : Str} {v : Value}
    (hj : t[j]? = some (k, v)) :
    ∃ kw, r[j]? = some kw ∧ r'[j]? = some (kw.1, if v.isAddress then shiftV D kw.2 else kw.2) := by
  rw [finalSymTab_reloc h, h1] at h2
  cases h2
  have hjr : j < r.length := by rw [finalSymTab_length h1]; exact lt_of_getElem? hj
  refine ⟨r[j], List.getElem?_eq_getElem hjr, ?_⟩
  rw [List.getElem?_zipWith, hj, List.getElem?_eq_getElem hjr]

end CoCo.Asm
