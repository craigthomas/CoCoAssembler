/-
Lemmas/NoAddr.lean — no address value before the symbol table is consulted.  Values produced by the parser are never
`address` values (`create_notAddr`, `createOperand_notAddr`, `parseLine_notAddr`), and `Value.resolve` returns an address
only where the table holds one (`resolve_address`); so every address index met by `fix_addresses` was looked up in the
symbol table and points inside the program.  Also the operand and the package of a relative (branch) row
(`resolveOperand_relative`, `translate_relative`).
-/
import CoCoVerif.Lemmas.FrontScan
import CoCoVerif.Lemmas.ResolveGraph
import CoCoVerif.Lemmas.TranslateGraph

namespace CoCo.Asm
open CoCo
open CoCo.Gen (InstrRow)

theorem numericOfStr_notAddr {s : Str} {h : Option Nat} {m : Mode} {x : Value}
    (hx : numericOfStr s h m = .ok x) : x.isAddress = false := by
  obtain ⟨_, _, _, _, rfl⟩ := numericOfStr_numeric hx
  rfl

theorem create_notAddr (fuel : Nat) (s : Str) (a b c : Bool) (v : Value)
    (h : create fuel s a b c = .ok v) : v.isAddress = false :=
  (create_graph h).notAddr

theorem createV_notAddr {s : Str} {a b c : Bool} {v : Value} (h : createV s a b c = .ok v) :
    v.isAddress = false := (createV_graph h).notAddr

theorem map_ok' {α β} {f : α → β} {x : R α} {y : β} (h : f <$> x = .ok y) : ∃ a, x = .ok a ∧ f a = y := by
  obtain ⟨a, ha, rfl⟩ := exceptMap_ok (x := x) (f := f) h
  exact ⟨a, ha, rfl⟩

theorem createOperand_notAddr {s : Str} {row : InstrRow} {o : Operand} (h : createOperand s row = .ok o) :
    o.value.isAddress = false := by
  cases createOperand_graph h with
  | pseudo _ hv =>
    cases hv with
    | bytes | words | nothing => rfl
    | value _ hv => exact createV_notAddr hv
  | equExt _ _ _ _ _ _ hnv | equDir _ _ _ _ _ _ hnv => exact numericOfInt_notAddr hnv
  | special | inherent | bracketPair | indexed => rfl
  | relative _ _ _ hv | bracket _ _ _ _ _ hv | immediate _ _ _ _ hv | unknown _ _ _ _ hv => exact createV_notAddr hv

theorem parseLine_notAddr {l : Str} {s : Stmt} (h : parseLine l = .ok (some s)) :
    s.operand.value.isAddress = false := by
  obtain ⟨txt, ht⟩ := (parseLine_parsed h).2
  exact createOperand_notAddr ht

theorem symPost_address {s : Value} {i : Nat} {m : Mode} (h : symPost s = .ok (.address i m)) :
    ∃ m', s = .address i m' := by
  rcases symPost_ok h with ⟨_, m', rfl, hr⟩ | ⟨_, _, _, _, _, hn⟩
  · cases hr; exact ⟨m', rfl⟩
  · cases numericOfInt_notAddr hn

theorem resolveF_expr_notAddr {n : Nat} {t : SymTab} {l r : Value} {op : Char} {mode : Mode} {ae : Bool} {x : Value}
    (h : resolveF n (.expr l r op mode ae) t = .ok x) : x.isAddress = false := by
  cases n with
  | zero => cases h
  | succ n =>
    rw [resolveF_succ] at h
    obtain ⟨l', r', _, _, hx⟩ := resolveStep_expr_ok h
    rcases exprPost_ok hx with ⟨s, m, hs⟩ | ⟨_, rfl⟩
    · exact numericOfStr_notAddr hs
    · rfl

theorem getSymF_address {n : Nat} {t : SymTab} {name : Str} {i : Nat} {m : Mode}
    (h : getSymF n t name = .ok (.address i m)) : t.get? name = some (.address i m) := by
  obtain ⟨e, hg, ⟨he, hr⟩ | ⟨_, rfl⟩⟩ := getSymF_ok h
  · obtain ⟨l, r, op, mode, rfl⟩ := isExpression_elim he
    have := resolveF_expr_notAddr hr
    cases this
  · exact hg

theorem resolveF_address {n : Nat} {t : SymTab} {v : Value} {i : Nat} {m : Mode}
    (h : resolveF n v t = .ok (.address i m)) (hv : v.isAddress = false) :
    ∃ k m', t.get? k = some (.address i m') := by
  cases n with
  | zero => cases h
  | succ n =>
    cases v with
    | symbol name md =>
      rw [resolveF_succ] at h
      obtain ⟨s, hs, hp⟩ := resolveStep_symbol_ok h
      obtain ⟨m', rfl⟩ := symPost_address hp
      exact ⟨name, m', getSymF_address hs⟩
    | expr l r op mode ae => have := resolveF_expr_notAddr h; cases this
    | address j mj => cases hv
    | _ => cases h

theorem resolve_address {t : SymTab} {v : Value} {i : Nat} {m : Mode}
    (h : v.resolve t = .ok (.address i m)) (hv : v.isAddress = false) :
    ∃ k m', t.get? k = some (.address i m') :=
  resolveF_address h hv

theorem resolveLeft_address {l : Str} {row : InstrRow} {t : SymTab} {i : Nat} {m : Mode}
    (h : resolveLeft l row t = .ok (.address i m)) : ∃ k m', t.get? k = some (.address i m') := by
  obtain ⟨v, hc, hr⟩ := resolveLeft_ok h
  exact resolve_address hr (create_notAddr 4 _ _ _ _ _ hc)

theorem resolveOperand_relative {o o' : Operand} {row : InstrRow} {t : SymTab}
    (h : resolveOperand o row t = .ok o') (hk : o'.kind = .relative) :
    o.kind = .relative ∧ o.value.resolve t = .ok o'.value := by
  have hg := resolveOperand_graph h
  have hkind : o.kind = .relative := by
    rcases hg.kind with e | ⟨_, e | e⟩
    · rw [← e]; exact hk
    · rw [e] at hk; cases hk
    · rw [e] at hk; cases hk
  refine ⟨hkind, ?_⟩
  cases hg with
  | value _ hv => exact hv
  | indexedLeft hk' | extLeft hk' | indexedKeep hk' | extValue hk' | special hk' | pseudoOther hk' | pseudoKeep hk'
  | pseudoValue hk' | unknown hk' => rw [hkind] at hk'; cases hk'

theorem translate_relative {o : Operand} {row : Gen.InstrRow} {p : Pkg} (h : translateOperand o row = .ok p)
    (hk : o.kind = .relative) :
    p.additional = o.value ∧ o.value.isAddress = true ∧ p.size = row.relSz ∧ opVal row.rel = .ok p.opCode ∧
      p.postByte = .none ∧ p.needsRes = false ∧ p.choices = [] := by
  cases translateOperand_graph h with
  | relative _ hop hv => exact ⟨rfl, hv, rfl, hop, rfl, rfl, rfl⟩
  | unknown hk' | inherent hk' | immediate hk' | direct hk' | extended hk' | special hk' | pseudo hk' | indexed hk'
  | extIndirect hk' => rw [hk] at hk'; cases hk'

end CoCo.Asm
