/-
Lemmas/SizeTranslate.lean — the shape of the code package `translateOperand` builds (property C02,
"bytes = size"): op code and post byte are absent or numbers out of `numV`; the operand field is either absent
(and then `2 * size` is the number of digits of op code and post byte), or will be turned into a number by
`fix_addresses`, or is a literal list whose length is the size.  Table facts about sizes by `decide +kernel`.
-/
import CoCoVerif.Lemmas.EvalLists
import CoCoVerif.Lemmas.SizeShape
import CoCoVerif.Lemmas.TranslateGraph

namespace CoCo.Asm
open CoCo
open CoCo.Gen (InstrRow)

/-- `2 * size = digits of the op code + extra` for an op code cell that exists -/
def szOk (c : Option Nat) (sz extra : Nat) : Bool :=
  match opVal c with
  | .ok v => 2 * sz == hl v + extra
  | .error _ => true

theorem szOk_use {c : Option Nat} {sz extra : Nat} {v : Value} (h : szOk c sz extra = true) (hv : opVal c = .ok v) :
    2 * sz = hl v + extra := by
  unfold szOk at h
  rw [hv] at h
  simpa using h

/-- what is used of the instruction table: the classes of rows, and the size columns agree with the op code columns
(for an inherent or indexed form only where the row has one, as `translate` checks first) -/
def RowFacts (r : InstrRow) : Prop :=
  (r.mnemonic = "FDB" → r.isMultiByte = false) ∧
  ((r.isMultiByte || r.isMultiWord) = true → isDataRow r = true ∧ r.isStringDefine = false) ∧
  (r.isPseudo = false → r.isStringDefine = false) ∧
  (r.isSpecial = true → r.isPseudo = false) ∧
  (r.mnemonic = "FCB" → r.isMultiByte = true) ∧ (r.mnemonic = "FDB" → r.isMultiWord = true) ∧
  (¬ (r.inh.isNone || r.inh == some 0) = true → szOk r.inh r.inhSz 0 = true) ∧
  (¬ (r.ind.isNone || r.ind == some 0) = true → szOk r.ind r.indSz 2 = true) ∧
  (r.isSpecial = true → szOk r.imm r.immSz 2 = true)

instance (r : InstrRow) : Decidable (RowFacts r) := by unfold RowFacts; infer_instance

theorem rowFacts_all : ∀ r ∈ Gen.instructions, RowFacts r := by decide +kernel

theorem numV_hl {n : Nat} {v : Value} (h : numV n = .ok v) (hn : n < 256) : hl v = 2 := by
  rw [hl, numV_hexLen h hn]
  rfl

def FieldShape (o : Operand) (p : Pkg) : Prop :=
  (p.additional = .none ∧ 2 * p.size = hl p.opCode + hl p.postByte ∧ p.choices = [])
  ∨ (p.additional = o.value ∧ Fieldable o.value)
  ∨ p.additional.isNumeric = true
  ∨ p.needsRes = true
  ∨ (p.opCode = .none ∧ p.postByte = .none ∧ p.choices = [] ∧
      ∃ w mk hs, ListKind w mk ∧ p.additional = mk hs ∧ (∀ g ∈ hs, g.length = w ∧ HexStr g) ∧ o.value = p.additional ∧
        o.kind = .pseudo ∧ hs.flatten.length % 2 = 0 ∧ p.size = hs.flatten.length / 2)

/-- a package that is resolved later and has no post byte choices (a label as constant offset of a pointer register)
has room for a 16-bit field: `2 * size` = the digits of op code and post byte, and four more -/
def LabelRoom (p : Pkg) : Prop :=
  p.needsRes = true → p.choices = [] → 2 * p.size = hl p.opCode + hl p.postByte + 4

structure PkgShape (o : Operand) (p : Pkg) : Prop where
  fld : FieldShape o p
  lbl : LabelRoom p

theorem PkgShape.noField {o : Operand} {c : Option Nat} {op pb : Value} {sz extra : Nat}
    (hsz : szOk c sz extra = true) (hop : opVal c = .ok op) (hx : hl pb = extra) :
    PkgShape o { opCode := op, postByte := pb, size := sz, maxSize := sz } :=
  ⟨.inl ⟨rfl, by show 2 * sz = hl op + hl pb; rw [hx]; exact szOk_use hsz hop, rfl⟩, nofun⟩

theorem PkgShape.numField {o : Operand} {op pb a : Value} {sz : Nat} (ha : a.isNumeric = true) :
    PkgShape o { opCode := op, postByte := pb, additional := a, size := sz, maxSize := sz } :=
  ⟨.inr (.inr (.inl ha)), nofun⟩

theorem PkgShape.valField {o : Operand} {op pb : Value} {sz : Nat} (hv : Fieldable o.value) :
    PkgShape o { opCode := op, postByte := pb, additional := o.value, size := sz, maxSize := sz } :=
  ⟨.inr (.inl ⟨rfl, hv⟩), nofun⟩

theorem PkgShape.list {o : Operand} {w : Nat} {mk : List Str → Value} {hs : List Str} {n : Nat} (k : ListKind w mk)
    (hk : o.kind = .pseudo) (hv : o.value = mk hs) (hlen : ∀ g ∈ hs, g.length = w ∧ HexStr g)
    (hn : o.value.byteLen? = some n) :
    PkgShape o { additional := o.value, size := n, maxSize := n } := by
  have hfl := flatten_length_of_all fun g hg => (hlen g hg).1
  refine ⟨.inr (.inr (.inr (.inr ⟨rfl, rfl, rfl, w, mk, hs, k, hv, hlen, rfl, hk, ?_, ?_⟩))), nofun⟩
  · cases k <;> omega
  · rw [hv] at hn
    cases k <;> exact (Option.some.inj hn).symm

theorem OffPkg.shape {o : Operand} {ind : Bool} {row : InstrRow} {right : Str} {raw0 : Nat} {needs : Bool}
    {l : Value} {p : Pkg} (hraw : raw0 < 256) (hl : needs = false → l.isNumeric = true)
    (hrow : szOk row.ind row.indSz 2 = true) (h : OffPkg ind row right raw0 needs l p) : PkgShape o p := by
  cases h with
  | pcrOpen => exact ⟨.inr (.inr (.inr (.inl rfl))), fun _ hc => nomatch hc⟩
  | pcrNum _ _ hn => exact .numField (hl hn)
  | @label op pb hop _ hpb =>
    -- resolved later, 16 bits: the post byte is one byte, the size is that of the no-offset form and two more
    refine ⟨.inr (.inr (.inr (.inl rfl))), fun _ _ => ?_⟩
    have hpb2 := numV_hl hpb (or_lt_256 hraw (by cases ind <;> decide))
    have := szOk_use hrow hop
    show 2 * (row.indSz + 2) = CoCo.Asm.hl op + CoCo.Asm.hl pb + 4
    omega
  | neg5 hop hn _ _ _ hpb =>
    subst hn
    exact .noField hrow hop (numV_hl hpb (or_lt_256 (or_lt_256 hraw (by decide)) (by omega)))
  | neg8 _ hn _ _ _ ha => subst hn; exact .numField (numericOfInt_isNumeric ha)
  | neg16 _ hn _ _ ha => subst hn; exact .numField (numericOfInt_isNumeric ha)
  | @pos5 _ _ i _ _ hop hn _ _ hi hpb =>
    subst hn
    have : i ≤ 15 := by simpa [is4Bit] using hi
    exact .noField hrow hop (numV_hl hpb (or_lt_256 hraw (by omega)))
  | pos8 _ hn => subst hn; exact .numField (hl rfl)
  | pos16 _ hn _ _ ha => subst hn; exact .numField (numericOfInt_isNumeric ha)

theorem OffArg.numeric {left l : Value} {needs : Bool} (hf : Fieldable left) (h : OffArg left needs l) :
    needs = false → l.isNumeric = true := by
  cases h with
  | label _ => nofun
  | other _ h2 =>
    intro hn
    rw [Bool.or_eq_false_iff] at hn
    rcases hf with h' | h' | h'
    · exact h'
    · cases left <;> first | exact absurd rfl (h2 _ _) | cases h'
    · rw [hn.2] at h'; cases h'

theorem IdxPkg.shape {ind : Bool} {row : InstrRow} {o : Operand} {p : Pkg} (hsz : szOk row.ind row.indSz 2 = true)
    (h1 : OpShape1 row o) (h : IdxPkg ind row o p) : PkgShape o p := by
  cases h with
  | abs _ _ hv =>
    refine .valField ?_
    simp only [Bool.or_eq_true] at hv
    rcases hv with (hv | hv) | hv
    · exact .inr (.inl hv)
    · exact .inr (.inr hv)
    · exact .inl hv
  | plain hop hn hpb _ => exact .noField hsz hop (numV_hl hpb (PlainPost.lt hn))
  | offset hl _ ha hp => exact hp.shape (idxRaw_lt ind _) (ha.numeric (h1.left1 _ hl)) hsz
  | offsetText _ hl _ hv _ _ habd =>
    -- after `resolve_symbols` a left side still in text form is empty or an accumulator
    rcases h1.left2 _ hl with rfl | h'
    · cases hv
    · rw [habd] at h'; cases h'

theorem PseudoPkg.shape {row : InstrRow} {o : Operand} {p : Pkg} (hd : DataShape row o.value)
    (hfcb : row.mnemonic = "FCB" → row.isMultiByte = true) (hfdb : row.mnemonic = "FDB" → row.isMultiByte = false)
    (hk : o.kind = .pseudo) (h : PseudoPkg row o p) : PkgShape o p := by
  cases h with
  | bytes _ hn =>
    rcases hd with hf | ⟨_, hs, hv, hlen⟩ | ⟨_, _, hs, hv, hlen⟩
    · exact .valField hf
    · exact .list .byte hk hv hlen hn
    · exact .list .word hk hv hlen hn
  | one _ hm =>
    -- a single value under FCB is no byte list, and the row of a word list is not FCB (and the other way round)
    rcases hd with hf | ⟨hmb, hs, hv, _⟩ | ⟨hmb, _, hs, hv, _⟩
    · exact .valField hf
    · rcases hm with ⟨_, hnb, _⟩ | ⟨hm, _, _⟩
      · rw [hv] at hnb; cases hnb
      · rw [hfdb hm] at hmb; cases hmb
    · rcases hm with ⟨hm, _, _⟩ | ⟨_, hnw, _⟩
      · rw [hfcb hm] at hmb; cases hmb
      · rw [hv] at hnw; cases hnw
  | rmb _ _ _ _ ha => exact .numField (numericOfInt_isNumeric ha)
  | org => exact ⟨.inl ⟨rfl, rfl, rfl⟩, nofun⟩
  | nothing => exact ⟨.inl ⟨rfl, rfl, rfl⟩, nofun⟩

theorem translateOperand_shape {o : Operand} {row : InstrRow} {p : Pkg} (hrow : RowFacts row)
    (h1 : OpShape1 row o) (hns : fitSkipped row = false) (hkp : o.kind = .pseudo → row.isPseudo = true)
    (hks : o.kind = .special → row.isSpecial = true) (h : translateOperand o row = .ok p) : PkgShape o p := by
  unfold fitSkipped at hns
  simp only [Bool.or_eq_false_iff, Bool.and_eq_false_iff, Bool.not_eq_false'] at hns
  obtain ⟨fdbByte, _, _, _, fcbByte, _, inhSz, indSz, _⟩ := hrow
  cases translateOperand_graph h with
  | unknown hk => exact absurd hk h1.known
  | special hk => have := hks hk; rw [hns.2] at this; cases this
  | pseudo hk h =>
    have hm : (row.isMultiByte || row.isMultiWord) = true := by
      rcases hns.1 with h' | h'
      · rw [hkp hk] at h'; cases h'
      · exact h'
    exact h.shape (h1.data hk hm) fcbByte fdbByte hk
  | relative _ _ hv => exact .valField (.inr (.inl hv))
  | inherent _ hop h0 => exact .noField (inhSz h0) hop rfl
  | immediate hk => exact .valField (h1.val (.inl hk))
  | direct hk => exact .valField (h1.val (.inr (.inl hk)))
  | extended hk => exact .valField (h1.val (.inr (.inr hk)))
  | indexed _ h h0 => exact h.shape (indSz h0) h1
  | extIndirect _ h h0 => exact h.shape (indSz h0) h1

/-! ### the classes `fitWidth` leaves alone: PSHS / TFR ..., and the directives other than FCB / FDB -/

theorem nolist_of {v : Value} (h : v = .none ∨ v.isNumeric = true) :
    (∀ hs, v ≠ .multiByte hs) ∧ (∀ hs, v ≠ .multiWord hs) := by
  refine ⟨fun hs hh => ?_, fun hs hh => ?_⟩ <;> (subst hh; rcases h with h | h <;> cases h)

/-- a package that is emitted as it stands: `fix_addresses` changes nothing, the bytes number `size` (the strings
`create` builds are made of characters below 256: `PV`), and a string field is the operand value -/
structure PlainShape (o : Operand) (p : Pkg) : Prop where
  needs : p.needsRes = false
  choices : p.choices = []
  noaddr : o.value.isAddress = false
  noexpr : o.value.isAddrExpr = false
  bytes : ∃ a b c, Emits p.opCode a ∧ Emits p.postByte b ∧ Emits p.additional c ∧ a + b + c = p.size
  addl : ∀ x, p.additional = .str x → o.value = .str x
  nolist : p.additional = o.value ∨ ((∀ hs, p.additional ≠ .multiByte hs) ∧ (∀ hs, p.additional ≠ .multiWord hs))

theorem translateSpecial_plain {o : Operand} {row : InstrRow} {p : Pkg} (hrow : RowFacts row)
    (hsp : row.isSpecial = true) (hv : o.value = .none) (h : translateSpecial o row = .ok p) : PlainShape o p := by
  obtain ⟨op, pb, post, hop, hpost, hpb, _, rfl⟩ := translateSpecial_graph h
  obtain ⟨_, e1, m1⟩ := (opVal_codeVal hop).emits
  obtain ⟨_, _, m2⟩ := (numV_codeVal hpb).emits
  rw [numV_hl hpb hpost] at m2
  obtain ⟨_, _, _, _, _, _, _, _, immSz⟩ := hrow
  have := szOk_use (immSz hsp) hop
  exact ⟨rfl, rfl, by rw [hv]; rfl, by rw [hv]; rfl,
    ⟨_, _, _, m1, m2, none_emits, by show hl op / 2 + 2 / 2 + 0 = row.immSz; omega⟩, nofun, .inr (nolist_of (.inl rfl))⟩

theorem translatePseudo_plain {o : Operand} {row : InstrRow} {p : Pkg} (hm1 : row.mnemonic ≠ "FCB")
    (hm2 : row.mnemonic ≠ "FDB") (hpv : isDataRow row = false → PV o.value)
    (h : translatePseudo o row = .ok p) : PlainShape o p := by
  have empty : ∀ {a : Value}, o.value.isAddress = false → o.value.isAddrExpr = false → PlainShape o { address := a } :=
    fun h1 h2 => ⟨rfl, rfl, h1, h2, ⟨0, 0, 0, none_emits, none_emits, none_emits, rfl⟩, nofun,
      .inr (nolist_of (.inl rfl))⟩
  have ofnum : o.value.isNumeric = true → o.value.isAddress = false ∧ o.value.isAddrExpr = false := by
    intro hnum
    cases hv : o.value <;> rw [hv] at hnum <;> first | exact ⟨rfl, rfl⟩ | cases hnum
  have nodata : row.mnemonic ≠ "RMB" → row.mnemonic ≠ "ORG" → isDataRow row = false := by
    intro h3 h4
    simp [isDataRow, hm1, hm2, h3, h4]
  cases translatePseudo_graph h with
  | bytes hm hn =>
    rcases hm with ⟨hm, _⟩ | ⟨hm, _⟩ | hm
    · exact absurd hm hm1
    · exact absurd hm hm2
    · -- FCC: the value as parsed
      have pv := hpv (nodata (by rw [hm]; decide) (by rw [hm]; decide))
      obtain ⟨k, hk, hem⟩ := pv_emits pv
      rw [hk] at hn
      cases hn
      exact ⟨rfl, rfl, pv.noaddr.1, pv.noaddr.2, ⟨0, 0, _, none_emits, none_emits, hem, by simp⟩, fun x hx => hx,
        .inl rfl⟩
  | one _ hm =>
    rcases hm with ⟨hm, _⟩ | ⟨hm, _⟩
    · exact absurd hm hm1
    · exact absurd hm hm2
  | @rmb n _ _ hnum _ _ ha =>
    have hz : numericOfInt ((0 : Nat) : Int) (some (n * 2)) .none = _ := numericOfInt_hint (n * 2) (by omega)
    rw [show ((0 : Nat) : Int) = 0 from rfl, ha] at hz
    cases hz
    have := numeric_emits 0 (some (n * 2)) .extended false (by simp [numHexLen])
    exact ⟨rfl, rfl, (ofnum hnum).1, (ofnum hnum).2, ⟨0, 0, n, none_emits, none_emits, by simpa [numHexLen] using this,
      by simp⟩, nofun, .inr (nolist_of (.inr rfl))⟩
  | org _ hnum _ => exact empty (ofnum hnum).1 (ofnum hnum).2
  | nothing hm =>
    have pv := hpv (nodata hm.2.2.1 hm.2.2.2.1)
    exact empty pv.noaddr.1 pv.noaddr.2

end CoCo.Asm
