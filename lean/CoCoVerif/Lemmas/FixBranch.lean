/-
Lemmas/FixBranch.lean — `fixOne` on relative (branch) statements and on PCR statements, and what `fixOne` and `fitWidth`
leave in the operand field (`fixOne_field`, over `fitWidth_int` of Lemmas/FitWidth.lean); on a chained list the displacement counted in sizes
(`branchDisp`) is the distance between the addresses (`Chained.disp`); and the bytes emitted for a branch field: one byte for
the 8-bit form, two bytes (big endian) for the 16-bit form (`emit8`, `emit16`).
-/
import CoCoVerif.Spec.MC6809
import CoCoVerif.Lemmas.FixOne

namespace CoCo.Asm
open CoCo
open CoCo.Spec.MC6809 (sext)

/-- a branch field is a number after `fixOne` (so the pass over the FCB / FDB lists leaves it alone) -/
theorem fixOne_relative_isNumeric {ss : List Stmt} {i : Nat} {s s1 : Stmt}
    (hk : s.operand.kind = .relative) (h : fixOne ss i s = .ok s1) : s1.pkg.additional.isNumeric = true := by
  rw [fixOne_relative hk, fixBranch_eq] at h
  obtain ⟨b, _, h⟩ := Outcome.bind_eq_ok h
  split at h
  · split at h
    · cases h
    · obtain ⟨v, hv, rfl⟩ := Outcome.map_eq_ok h
      exact numericOfInt_isNumeric (Outcome.ofRI_eq_ok hv)
  · split at h
    · cases h
    · obtain ⟨v, hv, rfl⟩ := Outcome.map_eq_ok h
      exact numericOfInt_isNumeric (Outcome.ofRI_eq_ok hv)

/-- the value stored for a branch: `n` with the size hint of the branch class -/
def branchValue (short : Bool) (n : Nat) : Value := .numeric n (some (if short then 2 else 4)) .extended false

section
variable {ss : List Stmt} {i : Nat} {s : Stmt} {b : Nat}
  (hk : s.operand.kind = .relative) (hb : s.pkg.additional.int? = some b)
include hk hb

/-- out of range is reported for short branches that do not fit a byte and (after fix 145359a) for any branch
whose distance does not fit the 16-bit field -/
theorem fixOne_relative_diag_iff :
    fixOne ss i s = .diag ↔
      (s.row.isShortBranch = true ∧ (if b ≤ i then sumSize ss b (i + 1) > 128 else sumSize ss (i + 1) b > 127)) ∨
      (if b ≤ i then sumSize ss b (i + 1) > 65535 else sumSize ss (i + 1) b > 65535) := by
  rw [fixOne_relative hk, fixBranch_eq, hb, Outcome.ofOptionI, Outcome.ok_bind]
  by_cases hbi : b ≤ i
  · simp only [hbi, if_true]
    by_cases hc : (s.row.isShortBranch = true ∧ 1 + sumSize ss b (i + 1) > 129) ∨ 1 + sumSize ss b (i + 1) > 0x10000
    · rw [if_pos hc]; simp only [true_iff]
      rcases hc with hc | hc
      · exact Or.inl ⟨hc.1, by omega⟩
      · exact Or.inr (by omega)
    · rw [if_neg hc]
      constructor
      · intro h; generalize numericOfInt _ _ _ = x at h; cases x <;> cases h
      · intro h; exfalso; apply hc
        rcases h with h | h
        · exact Or.inl ⟨h.1, by omega⟩
        · exact Or.inr (by omega)
  · simp only [hbi, if_false]
    by_cases hc : (s.row.isShortBranch = true ∧ sumSize ss (i + 1) b > 127) ∨ sumSize ss (i + 1) b > 0xFFFF
    · rw [if_pos hc]; simp only [true_iff]; exact hc
    · rw [if_neg hc]
      constructor
      · intro h; generalize numericOfInt _ _ _ = x at h; cases x <;> cases h
      · intro h; exact absurd h hc

theorem fixOne_short_backward (hs : s.row.isShortBranch = true) (hbi : b ≤ i)
    (h1 : 1 ≤ sumSize ss b (i + 1)) (h2 : sumSize ss b (i + 1) ≤ 128) :
    fixOne ss i s = .ok (withAdditional s (branchValue true (256 - sumSize ss b (i + 1)))) ∧
      256 - sumSize ss b (i + 1) < 256 ∧
      sext (256 - sumSize ss b (i + 1)) 8 = -(sumSize ss b (i + 1) : Int) := by
  rw [fixOne_relative hk, fixBranch_eq, hb, Outcome.ofOptionI, Outcome.ok_bind]
  generalize sumSize ss b (i + 1) = n at h1 h2
  have hc : ¬ ((s.row.isShortBranch = true ∧ 1 + n > 129) ∨ 1 + n > 0x10000) := by omega
  simp only [hbi, if_true]
  rw [if_neg hc]
  simp only [hs, if_true]
  have he : ((0x101 : Int) - ((1 + n : Nat) : Int)) = ((256 - n : Nat) : Int) := by omega
  rw [he, numericOfInt_hint _ (by omega)]
  refine ⟨rfl, by omega, ?_⟩
  unfold sext
  have : (2 : Nat) ^ (8 - 1) = 128 := by decide
  have h8 : (2 : Nat) ^ 8 = 256 := by decide
  rw [this, h8]
  have : 256 - n ≥ 128 := by omega
  simp only [this, if_true]
  omega

theorem fixOne_short_forward (hs : s.row.isShortBranch = true) (hbi : ¬ b ≤ i)
    (h2 : sumSize ss (i + 1) b ≤ 127) :
    fixOne ss i s = .ok (withAdditional s (branchValue true (sumSize ss (i + 1) b))) ∧
      sext (sumSize ss (i + 1) b) 8 = (sumSize ss (i + 1) b : Int) := by
  rw [fixOne_relative hk, fixBranch_eq, hb, Outcome.ofOptionI, Outcome.ok_bind]
  generalize sumSize ss (i + 1) b = n at h2
  have hc : ¬ ((s.row.isShortBranch = true ∧ n > 127) ∨ n > 0xFFFF) := by omega
  simp only [hbi, if_false]
  rw [if_neg hc]
  simp only [hs, if_true]
  rw [numericOfInt_hint _ (by omega)]
  refine ⟨rfl, ?_⟩
  unfold sext
  have : (2 : Nat) ^ (8 - 1) = 128 := by decide
  rw [this]
  have : ¬ n ≥ 128 := by omega
  simp only [this, if_false]

theorem fixOne_long_backward (hs : s.row.isShortBranch = false) (hbi : b ≤ i)
    (h1 : 1 ≤ sumSize ss b (i + 1)) (h2 : sumSize ss b (i + 1) ≤ 65535) :
    fixOne ss i s = .ok (withAdditional s (branchValue false (65536 - sumSize ss b (i + 1)))) ∧
      65536 - sumSize ss b (i + 1) < 65536 ∧
      sext (65536 - sumSize ss b (i + 1)) 16 % 65536 = (-(sumSize ss b (i + 1) : Int)) % 65536 := by
  rw [fixOne_relative hk, fixBranch_eq, hb, Outcome.ofOptionI, Outcome.ok_bind]
  generalize sumSize ss b (i + 1) = n at h1 h2
  have hc : ¬ (1 + n > 0x10000) := by omega
  simp only [hbi, if_true, hs, Bool.false_eq_true, false_and, if_false, false_or, hc]
  have he : ((0x10001 : Int) - ((1 + n : Nat) : Int)) = ((65536 - n : Nat) : Int) := by omega
  rw [he, numericOfInt_hint _ (by omega)]
  refine ⟨rfl, by omega, ?_⟩
  unfold sext
  have : (2 : Nat) ^ (16 - 1) = 32768 := by decide
  have h8 : (2 : Nat) ^ 16 = 65536 := by decide
  rw [this, h8]
  split <;> omega

theorem fixOne_long_forward (hs : s.row.isShortBranch = false) (hbi : ¬ b ≤ i)
    (h2 : sumSize ss (i + 1) b ≤ 65535) :
    fixOne ss i s = .ok (withAdditional s (branchValue false (sumSize ss (i + 1) b))) ∧
      sext (sumSize ss (i + 1) b) 16 % 65536 = (sumSize ss (i + 1) b : Int) % 65536 := by
  rw [fixOne_relative hk, fixBranch_eq, hb, Outcome.ofOptionI, Outcome.ok_bind]
  generalize sumSize ss (i + 1) b = n at h2
  have hc : ¬ (n > 0xFFFF) := by omega
  simp only [hbi, if_false, hs, Bool.false_eq_true, false_and, false_or, hc]
  rw [numericOfInt_hint _ (by omega)]
  refine ⟨rfl, ?_⟩
  unfold sext
  have : (2 : Nat) ^ (16 - 1) = 32768 := by decide
  have h8 : (2 : Nat) ^ 16 = 65536 := by decide
  rw [this, h8]
  split <;> omega

/-- the displacement of a branch at statement `i` to statement `b` as `fix_addresses` counts it, in sizes: from the end
of the branch statement back over the statements `b..i`, or forward over the statements `i+1..b-1` -/
def branchDisp (ss : List Stmt) (i b : Nat) : Int :=
  if b ≤ i then -(sumSize ss b (i + 1) : Int) else sumSize ss (i + 1) b

/-- a relative statement that passes `fix_addresses` stores its displacement: a short branch as the byte whose sign
extension it is, a long branch modulo 65536 (`hpos`: the statement's own size counts in a backward branch) -/
theorem fixOne_relative_ok (hpos : b ≤ i → 1 ≤ sumSize ss b (i + 1)) {s1 : Stmt} (h : fixOne ss i s = .ok s1) :
    ∃ n, s1 = withAdditional s (branchValue s.row.isShortBranch n) ∧
      n < 16 ^ (if s.row.isShortBranch then 2 else 4) ∧
      (s.row.isShortBranch = true → sext n 8 = branchDisp ss i b) ∧
      (s.row.isShortBranch = false → (n : Int) = branchDisp ss i b % 65536) := by
  have hnd : ¬ ((s.row.isShortBranch = true ∧ (if b ≤ i then sumSize ss b (i + 1) > 128 else sumSize ss (i + 1) b > 127)) ∨
      (if b ≤ i then sumSize ss b (i + 1) > 65535 else sumSize ss (i + 1) b > 65535)) :=
    fun hd => by rw [(fixOne_relative_diag_iff hk hb).mpr hd] at h; cases h
  unfold branchDisp
  cases hs : s.row.isShortBranch <;> by_cases hbi : b ≤ i <;> simp only [hs, hbi, if_true, if_false, true_and, false_and,
    false_or, Bool.false_eq_true, Nat.not_lt] at hnd ⊢
  · obtain ⟨h1, h2, _⟩ := fixOne_long_backward hk hb hs hbi (hpos hbi) hnd
    rw [h1] at h; cases h
    exact ⟨_, rfl, h2, nofun, fun _ => by have := hpos hbi; omega⟩
  · obtain ⟨h1, _⟩ := fixOne_long_forward hk hb hs hbi hnd
    rw [h1] at h; cases h
    exact ⟨_, rfl, by omega, nofun, fun _ => by omega⟩
  · have hle : sumSize ss b (i + 1) ≤ 128 := Nat.le_of_not_lt (fun hlt => hnd (.inl hlt))
    obtain ⟨h1, h2, h3⟩ := fixOne_short_backward hk hb hs hbi (hpos hbi) hle
    rw [h1] at h; cases h
    exact ⟨_, rfl, h2, fun _ => h3, nofun⟩
  · have hle : sumSize ss (i + 1) b ≤ 127 := Nat.le_of_not_lt (fun hlt => hnd (.inl hlt))
    obtain ⟨h1, h3⟩ := fixOne_short_forward hk hb hs hbi hle
    rw [h1] at h; cases h
    exact ⟨_, rfl, by omega, fun _ => h3, nofun⟩

end

/-- the PCR step: target, own address, the stored distance; the range check of the 8-bit form (fix abbd512) passed -/
theorem fixPart3_pcr_in {ss : List Stmt} {i : Nat} {s2 s' : Stmt} (hn : s2.pkg.needsRes = true)
    (hc : s2.pkg.choices.isEmpty = false) (h : fixPart3 ss i s2 = .ok s') :
    ∃ r start v, fixRel ss s2 = .ok r ∧ addrIntOf ss i = some start ∧
      numericOfInt (pcrJump s2 r start) (some s2.pcrHint) .none = .ok v ∧ s' = withAdditional s2 v ∧
      ¬ pcrOut s2 r start := by
  rw [fixPart3_pcr_bind ss i hn hc] at h
  obtain ⟨r, hr, h⟩ := Outcome.bind_eq_ok h
  obtain ⟨start, hst, h⟩ := Outcome.bind_eq_ok h
  split at h
  · cases h
  · rename_i hout
    obtain ⟨v, hv, rfl⟩ := Outcome.map_eq_ok h
    exact ⟨r, start, v, hr, Outcome.ofOptionI_eq_ok hst, Outcome.ofRI_eq_ok hv, rfl, hout⟩

/-- a label as constant offset (`needsRes` without choices, fix 831a353): the target address itself is stored, in the
16-bit field -/
theorem fixPart3_abs_in {ss : List Stmt} {i : Nat} {s2 s' : Stmt} (hn : s2.pkg.needsRes = true)
    (hc : s2.pkg.choices.isEmpty = true) (h : fixPart3 ss i s2 = .ok s') :
    ∃ r v, fixRel ss s2 = .ok r ∧ numericOfInt (r : Int) (some 4) .none = .ok v ∧ s' = withAdditional s2 v := by
  rw [fixPart3_abs ss i hn hc, fixPartAbs_bind] at h
  obtain ⟨r, hr, h⟩ := Outcome.bind_eq_ok h
  obtain ⟨v, hv, rfl⟩ := Outcome.map_eq_ok h
  exact ⟨r, v, hr, Outcome.ofRI_eq_ok hv, rfl⟩

/-- `fix_addresses` on a PCR statement: the stored offset is `target − own address − own size` (reduced mod 65536 when
the 16-bit form was chosen); the 8-bit form passed its range check -/
theorem fixOne_pcr_in {ss : List Stmt} {i : Nat} {s s' : Stmt} (hlf : LabelFree s.operand)
    (hn : s.pkg.needsRes = true) (hc : s.pkg.choices.isEmpty = false) (h : fixOne ss i s = .ok s') :
    ∃ r start v, fixRel ss s = .ok r ∧ addrIntOf ss i = some start ∧
      numericOfInt (pcrJump s r start) (some s.pcrHint) .none = .ok v ∧ s' = withAdditional s v ∧
      ¬ pcrOut s r start :=
  fixPart3_pcr_in hn hc (fixOne_eq_fixPart3 hlf ▸ h)

theorem Chained.backward {ps : List Bool} {l : List Stmt} {a : Nat} (h : Chained ps l a) {b i : Nat} {s t : Stmt}
    {x y : Nat} (hbi : b ≤ i) (hs : l[i]? = some s) (ht : l[b]? = some t)
    (hp : ∀ j, b < j → j ≤ i → ps[j]? = some false) (hx : addrNat s = some x) (hy : addrNat t = some y) :
    x + s.pkg.size = y + sumSize l b (i + 1) := by
  have := h.telescope hbi ht hs hp hy
  rw [hx] at this; cases this
  rw [sumSize_succ hbi hs]; omega

theorem Chained.forward {ps : List Bool} {l : List Stmt} {a : Nat} (h : Chained ps l a) {b i : Nat} {s t : Stmt}
    {x y : Nat} (hib : i < b) (hs : l[i]? = some s) (ht : l[b]? = some t)
    (hp : ∀ j, i < j → j ≤ b → ps[j]? = some false) (hx : addrNat s = some x) (hy : addrNat t = some y) :
    y = x + s.pkg.size + sumSize l (i + 1) b := by
  have := h.telescope (Nat.le_of_lt hib) hs ht hp hx
  rw [hy] at this; cases this
  rw [sumSize_head hib hs]; omega

/-- on a chained list the displacement counted in sizes is the distance between the addresses, whichever statement comes
first, when no address is preset after the first of the two up to the second -/
theorem Chained.disp {ps : List Bool} {l : List Stmt} {a : Nat} (h : Chained ps l a) {i b : Nat} {s t : Stmt}
    {x y : Nat} (hs : l[i]? = some s) (ht : l[b]? = some t)
    (hp : ∀ j, min b i < j → j ≤ max b i → ps[j]? = some false) (hx : addrNat s = some x) (hy : addrNat t = some y) :
    branchDisp l i b = (y : Int) - (x + s.pkg.size) := by
  unfold branchDisp
  by_cases hbi : b ≤ i
  · rw [Nat.min_eq_left hbi, Nat.max_eq_right hbi] at hp
    have := h.backward hbi hs ht hp hx hy
    rw [if_pos hbi]
    omega
  · have hib : i < b := Nat.lt_of_not_le hbi
    rw [Nat.min_eq_right (Nat.le_of_lt hib), Nat.max_eq_left (Nat.le_of_lt hib)] at hp
    have := h.forward hib hs ht hp hx hy
    rw [if_neg hbi]
    omega

theorem branchDisp_congr {l l' : List Stmt} (h : ∀ lo hi, sumSize l' lo hi = sumSize l lo hi) (i b : Nat) :
    branchDisp l' i b = branchDisp l i b := by
  unfold branchDisp
  rw [h, h]

/-- the instruction table: a branch row is neither pseudo nor special, and its size is the op code plus a field
of 2 (short) or 4 (long) hex digits -/
def relRowOk (r : Gen.InstrRow) : Bool :=
  !(r.isShortBranch || r.isLongBranch) ||
    (!r.isPseudo && !r.isSpecial &&
      match opVal r.rel with
      | .ok v => (match v.hexLen? with
                  | some a => 2 * r.relSz == a + (if r.isShortBranch then 2 else 4)
                  | none => false)
      | .error _ => false)

theorem relRowOk_all : ∀ r ∈ Gen.instructions, relRowOk r = true := by decide +kernel

theorem withAdditional_self {s : Stmt} {v : Value} (h : s.pkg.additional = v) : withAdditional s v = s := by
  subst h; rfl

theorem fitWidth_branch {s : Stmt} {d a : Nat} (hp : s.row.isPseudo = false) (hsp : s.row.isSpecial = false)
    (hadd : s.pkg.additional = branchValue s.row.isShortBranch d)
    (hd : d < 16 ^ (if s.row.isShortBranch then 2 else 4))
    (hop : s.pkg.opCode.hexLen? = some a) (hpb : s.pkg.postByte = .none)
    (hsz : 2 * s.pkg.size = a + (if s.row.isShortBranch then 2 else 4)) : fitWidth s = .ok s := by
  have hw : (if s.row.isShortBranch then 2 else 4 : Nat) = 2 ∨ (if s.row.isShortBranch then 2 else 4 : Nat) = 4 := by
    cases s.row.isShortBranch <;> simp
  have hsk : fitSkipped s.row = false := by simp [fitSkipped, hp, hsp]
  have hb : s.pkg.postByte.hexLen? = some 0 := by rw [hpb]; rfl
  rw [fitWidth_eq, fitPkg_numeric hsk hadd hop hb (by omega) hw, fitNum_nat hw hd]
  exact congrArg Outcome.ok (withAdditional_self hadd)

theorem branch_fit {s4 : Stmt} (hrow : s4.row ∈ Gen.instructions)
    (hbr : (s4.row.isShortBranch || s4.row.isLongBranch) = true) (hopc : opVal s4.row.rel = .ok s4.pkg.opCode)
    (hpb : s4.pkg.postByte = .none) (hsz : s4.pkg.size = s4.row.relSz) {d : Nat}
    (hd : d < 16 ^ (if s4.row.isShortBranch then 2 else 4)) :
    fitWidth (withAdditional s4 (branchValue s4.row.isShortBranch d)) =
      .ok (withAdditional s4 (branchValue s4.row.isShortBranch d)) := by
  have htab := relRowOk_all _ hrow
  unfold relRowOk at htab
  rw [hbr, hopc] at htab
  simp only [Bool.not_true, Bool.false_or, Bool.and_eq_true, Bool.not_eq_true'] at htab
  obtain ⟨⟨hp, hsp⟩, hlen⟩ := htab
  cases hl : s4.pkg.opCode.hexLen? with
  | none => rw [hl] at hlen; cases hlen
  | some a =>
    rw [hl] at hlen
    simp only [beq_iff_eq] at hlen
    exact fitWidth_branch (s := withAdditional s4 (branchValue s4.row.isShortBranch d)) (a := a) hp hsp rfl hd hl hpb
      (by show 2 * s4.pkg.size = _; rw [hsz]; exact hlen)

theorem fixPart1_field {ss : List Stmt} {s s1 : Stmt} {ov : Value} (h : fixPart1 ss s ov = .ok s1) :
    s1.pkg.additional.isNumeric = true ∨ (s1 = s ∧ ov.isAddrExpr = false) := by
  rw [fixPart1_eq] at h
  split at h
  · obtain ⟨v, hv, rfl⟩ := Outcome.map_eq_ok h
    exact .inl (addrOffset_isNumeric hv)
  · rename_i hne
    cases h
    exact .inr ⟨rfl, by simpa using hne⟩

theorem fixPart2_field {ss : List Stmt} {ov : Value} {s1 s2 : Stmt}
    (hss : ∀ j v, addrOf ss j = some v → v.isNumeric = true) (h : fixPart2 ss ov s1 = .ok s2) :
    s2.pkg.additional.isNumeric = true ∨ (s2 = s1 ∧ ov.isAddress = false) := by
  rw [fixPart2_eq] at h
  split at h
  · obtain ⟨v, hv, rfl⟩ := Outcome.map_eq_ok h
    obtain ⟨t, _, ha⟩ := Outcome.bind_eq_ok hv
    exact .inl (hss t v (Outcome.ofOptionI_eq_ok ha))
  · rename_i hna
    cases h
    exact .inr ⟨rfl, by simpa using hna⟩

theorem fixPart3_field {ss : List Stmt} {i : Nat} {s2 sf : Stmt} (h : fixPart3 ss i s2 = .ok sf) :
    sf.pkg.additional.isNumeric = true ∨ (sf = s2 ∧ s2.pkg.needsRes = false) := by
  cases hn : s2.pkg.needsRes with
  | false => rw [fixPart3_noRes ss i hn] at h; cases h; exact .inr ⟨rfl, rfl⟩
  | true =>
    left
    cases hc : s2.pkg.choices.isEmpty with
    | true =>
      obtain ⟨_, v, _, hv, rfl⟩ := fixPart3_abs_in hn hc h
      exact numericOfInt_isNumeric hv
    | false =>
      obtain ⟨_, _, v, _, _, hv, rfl, _⟩ := fixPart3_pcr_in hn hc h
      exact numericOfInt_isNumeric hv

/-- `fixOne` stores a number, or leaves the field alone — the latter only for a statement that is not a branch, needs
no resolution and whose operand value is neither a label nor a label expression -/
theorem fixOne_field {ss : List Stmt} {i : Nat} {s sf : Stmt}
    (hss : ∀ j v, addrOf ss j = some v → v.isNumeric = true) (h : fixOne ss i s = .ok sf) :
    sf.pkg.additional.isNumeric = true ∨
      (sf = s ∧ s.pkg.needsRes = false ∧ s.operand.value.isAddress = false ∧ s.operand.value.isAddrExpr = false) := by
  by_cases hk : (s.operand.kind == .relative) = true
  · exact .inl (fixOne_relative_isNumeric (by simpa using hk) h)
  have hk : (s.operand.kind == .relative) = false := by simpa using hk
  by_cases hv : s.operand.value = .pyNone
  · rw [fixOne_pyNone ss i s hk hv] at h
    cases h
  rw [fixOne_nonrel_eq ss i s hk hv, fixNonRel_bind] at h
  obtain ⟨s1, h1, h⟩ := Outcome.bind_eq_ok h
  obtain ⟨s2, h2, h3⟩ := Outcome.bind_eq_ok h
  -- a step that does not store a number changes nothing, so the next step's verdict is about `s` itself
  rcases fixPart3_field h3 with e | ⟨rfl, hn⟩
  · exact .inl e
  rcases fixPart2_field hss h2 with e | ⟨rfl, ha⟩
  · exact .inl e
  rcases fixPart1_field h1 with e | ⟨rfl, hx⟩
  · exact .inl e
  · exact .inr ⟨rfl, hn, ha, hx⟩

/-! ### the bytes of a branch field -/

theorem emit16 (d : Nat) (h : d < 65536) : emitValue (branchValue false d) = some [d / 256, d % 256] :=
  emit_hint4 _ h

theorem emit8 (d : Nat) (h : d < 256) : emitValue (branchValue true d) = some [d] :=
  emit_hint2 _ h

theorem stmtBytes_suffix {s : Stmt} {bs tail : Bytes} (h : stmtBytes s = some bs)
    (ht : emitValue s.pkg.additional = some tail) : ∃ pre, bs = pre ++ tail := by
  obtain ⟨a, b, c, _, _, hc, rfl⟩ := stmtBytes_eq_some.mp h
  cases ht.symm.trans hc
  exact ⟨a ++ b, rfl⟩

end CoCo.Asm
