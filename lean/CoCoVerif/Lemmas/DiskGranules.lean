/-
Lemmas/DiskGranules.lean — `write_to_granules` equals `writeStream`: writing the stream preamble ++ data ++ postamble
cut into 2304-byte pieces, piece i at granule gs[i]; frame and read-back lemmas for that.
-/
import CoCoVerif.Lemmas.DiskBytes
namespace CoCo.Dsk
open CoCo

def postBytes (post : Option Bytes) : Bytes := match post with | some t => t | none => []

def writeStream (b : Bytes) : List Nat → Bytes → Bytes
  | [], _ => b
  | g :: gs, s => writeStream (splice b (seek g) (s.take 2304)) gs (s.drop 2304)

@[simp] theorem writeStream_empty (b : Bytes) (gs : List Nat) : writeStream b gs [] = b := by
  induction gs generalizing b with
  | nil => rfl
  | cons g gs ih => simp [writeStream, ih]

/-- the later granules are written as a first granule with an empty preamble -/
theorem wtg_false (b data : Bytes) (gs : List Nat) (pre : Bytes) (post : Option Bytes) :
    writeToGranules b data gs pre post false = writeToGranules b data gs [] post true := by
  cases gs with
  | nil => rfl
  | cons g gs' => rw [writeToGranules, writeToGranules]; simp

/-- cutting the stream `pre ++ data ++ pb` at `n`: in the postamble (`_A`: the data end in this granule) or in
the data (`_B`: they go on in the next one) -/
theorem take3_A (pre data pb : Bytes) (n : Nat) (h : pre.length + data.length ≤ n) :
    (pre ++ data ++ pb).take n = pre ++ data ++ pb.take (n - pre.length - data.length) := by
  rw [List.take_append, List.take_of_length_le (by simp; omega)]
  simp [Nat.sub_sub]

theorem drop3_A (pre data pb : Bytes) (n : Nat) (h : pre.length + data.length ≤ n) :
    (pre ++ data ++ pb).drop n = pb.drop (n - pre.length - data.length) := by
  rw [List.drop_append, List.drop_of_length_le (by simp; omega)]
  simp [Nat.sub_sub]

theorem take3_B (pre data pb : Bytes) (n : Nat) (h1 : pre.length ≤ n) (h : n ≤ pre.length + data.length) :
    (pre ++ data ++ pb).take n = pre ++ data.take (n - pre.length) := by
  rw [List.take_append, List.take_append, List.take_of_length_le h1]
  have : n - (pre.length + data.length) = 0 := by omega
  simp [this]

theorem drop3_B (pre data pb : Bytes) (n : Nat) (h1 : pre.length ≤ n) (h : n ≤ pre.length + data.length) :
    (pre ++ data ++ pb).drop n = data.drop (n - pre.length) ++ pb := by
  rw [List.drop_append, List.drop_append, List.drop_of_length_le h1]
  have : n - (pre.length + data.length) = 0 := by omega
  simp [this]

theorem writeToGranules_eq (gs : List Nat) : ∀ (b data pre : Bytes) (post : Option Bytes),
    b.length = 161280 → (∀ g ∈ gs, g < 68) → pre.length ≤ 2304 → (postBytes post).length ≤ 2304 →
    pre.length + data.length + (postBytes post).length < gs.length * 2304 →
    writeToGranules b data gs pre post true = some (writeStream b gs (pre ++ data ++ postBytes post)) := by
  induction gs with
  | nil => intro b data pre post _ _ _ _ h; simp at h
  | cons g gs' ih =>
    intro b data pre post hb hlt hp hpost ht
    have hg : g < 68 := hlt g List.mem_cons_self
    have hgin := seek_in g hg
    rw [writeToGranules]
    simp only [if_true, G_eq]
    rw [writeBytes_eq (by omega)]
    simp only []
    -- each further write continues the previous one (`writeBytes_splice`)
    by_cases hA : data.length < 2304 - pre.length
    · simp only [hA, if_true]
      rw [writeBytes_splice (by omega)]
      simp only []
      cases post with
      | none =>
        simp only [postBytes, List.append_nil, writeStream]
        rw [List.take_of_length_le (by simp; omega), List.drop_of_length_le (by simp; omega)]
        simp
      | some tr =>
        simp only [postBytes] at hpost ht ⊢
        have e1 : seek g + pre.length + data.length = seek g + (pre ++ data).length := by simp; omega
        have htk := List.length_take_le (2304 - pre.length - data.length) tr
        rw [e1, writeBytes_splice (by rw [List.length_append]; omega)]
        simp only [writeStream]
        rw [take3_A _ _ _ _ (by omega), drop3_A _ _ _ _ (by omega)]
        by_cases hr : 2304 - pre.length - data.length < tr.length
        · simp only [hr, if_true]
          cases gs' with
          | nil => simp at ht; omega
          | cons g2 gs'' =>
            have := seek_in g2 (hlt g2 (by simp))
            have hdl : (tr.drop (2304 - pre.length - data.length)).length ≤ 2304 := by
              simp [List.length_drop]; omega
            simp only []
            rw [writeBytes_eq (by rw [splice_length (by simp only [List.length_append]; omega)]; omega)]
            simp only [writeStream]
            rw [List.take_of_length_le hdl, List.drop_of_length_le hdl]
            simp
        · simp only [hr, if_false]
          rw [List.drop_of_length_le (by omega)]
          simp
    · simp only [hA, if_false]
      have htk := List.length_take_le (2304 - pre.length) data
      rw [writeBytes_splice (by omega)]
      simp only []
      have hb2 : (splice b (seek g) (pre ++ data.take (2304 - pre.length))).length = 161280 := by
        rw [splice_length (by rw [List.length_append]; omega), hb]
      rw [wtg_false, ih _ (data.drop (2304 - pre.length)) [] post hb2
        (fun x hx => hlt x (List.mem_cons_of_mem _ hx)) (by simp) hpost
        (by simp [List.length_drop] at ht ⊢; omega)]
      simp only [writeStream]
      rw [take3_B _ _ _ _ hp (by omega), drop3_B _ _ _ _ hp (by omega)]
      simp

def granOf (gs : List Nat) (i : Nat) : Prop := ∃ g ∈ gs, seek g ≤ i ∧ i < seek g + 2304

/-- offsets 78336 .. 82943 are track 17 (`seek_track17`) -/
theorem granOf_range {gs : List Nat} (hlt : ∀ g ∈ gs, g < 68) {i : Nat} (h : granOf gs i) :
    i < 78336 ∨ 82944 ≤ i := by
  obtain ⟨g, hg, h⟩ := h
  have := seek_track17 g (hlt g hg)
  omega

theorem within_writeStream {gs : List Nat} : ∀ {b s : Bytes}, b.length = 161280 → (∀ g ∈ gs, g < 68) →
    Within (granOf gs) b (writeStream b gs s) := by
  induction gs with
  | nil => intro b s _ _; exact Within.refl _ _
  | cons g gs ih =>
    intro b s hb hlt
    have hin := seek_in g (hlt g List.mem_cons_self)
    have hl : (s.take 2304).length ≤ 2304 := by simp [List.length_take]; omega
    have w := within_splice (b := b) (p := seek g) (xs := s.take 2304) (by omega)
    exact (w.mono (fun i hi => ⟨g, List.mem_cons_self, by omega⟩)).trans
      ((ih (w.len.trans hb) (fun x hx => hlt x (List.mem_cons_of_mem _ hx))).mono
        (fun i ⟨x, hx, hi⟩ => ⟨x, List.mem_cons_of_mem _ hx, hi⟩))

open Spec.DiskBasic in
theorem Within.granule_eq {gs : List Nat} {b b' : Bytes} (h : Within (granOf gs) b b') (hlt : ∀ g ∈ gs, g < 68)
    {g : Nat} (hg : g < 68) (hgn : g ∉ gs) : granuleBytes b' g = granuleBytes b g := by
  rw [granuleBytes_eq, granuleBytes_eq]
  apply h.slice
  intro i h1 h2 ⟨g', hg', h3⟩
  have := seek_disj g g' hg (hlt g' hg') (fun e => hgn (e ▸ hg'))
  omega

open Spec.DiskBasic in
theorem writeStream_read {gs : List Nat} : ∀ {b s : Bytes}, gs.Nodup → (∀ g ∈ gs, g < 68) → b.length = 161280 →
    s.length ≤ 2304 * gs.length → (streamOf (writeStream b gs s) gs).take s.length = s := by
  induction gs with
  | nil => intro b s _ _ _ hs; simp at hs; simp [hs]
  | cons g gs ih =>
    intro b s hnd hlt hb hs
    have hg : g < 68 := hlt g List.mem_cons_self
    have hin := seek_in g hg
    have hlt' : ∀ x ∈ gs, x < 68 := fun x hx => hlt x (List.mem_cons_of_mem _ hx)
    obtain ⟨hgn, hnd'⟩ := List.nodup_cons.mp hnd
    have hl : (s.take 2304).length = min 2304 s.length := List.length_take
    have hb1 : (splice b (seek g) (s.take 2304)).length = 161280 := by rw [splice_length (by omega), hb]
    -- granule g holds the first piece, the later writes do not touch it
    have hfirst : (granuleBytes (splice b (seek g) (s.take 2304)) g).take (s.take 2304).length = s.take 2304 := by
      rw [granuleBytes_eq, List.take_take, Nat.min_eq_left (by omega)]
      exact splice_read (by omega)
    have hlenG := granuleBytes_length hb1 hg
    have hrec := ih (b := splice b (seek g) (s.take 2304)) (s := s.drop 2304) hnd' hlt' hb1
      (by simp [List.length_drop] at hs ⊢; omega)
    simp only [streamOf] at hrec
    simp only [writeStream, streamOf, List.map_cons, List.flatten_cons]
    rw [(within_writeStream hb1 hlt').granule_eq hlt' hg hgn, List.take_append, hlenG,
      List.take_eq_take_min, hlenG, Nat.min_comm, ← hl, hfirst, ← List.length_drop, hrec]
    exact List.take_append_drop 2304 s

end CoCo.Dsk
