/-
Lemmas/PcrWidthInv.lean — the soundness invariant of the PCR size loop (property C03, width of the 8-bit form).

From one state of the loop to a later one a statement's `size` grows, its `maxSize` shrinks, and a settled statement
never changes again (`Narrow`); so at every moment the FINAL size lies in `[size, maxSize]`.  The inequality `determine`
checked when it settled a statement on the 8-bit form (`Bound`), read over the `maxSize` sums of the CURRENT list,
therefore survives every later step (`WInv`), and at the end it holds over the final sizes (`pcrLoop_width`).  The input
is what `translateOperand` guarantees about `size`, `maxSize` and `choices` (`PkgW`, read off the graph of
Lemmas/TranslateGraph.lean).
-/
import CoCoVerif.Lemmas.StagesTrace

namespace CoCo.Asm
open CoCo
open CoCo.Gen (InstrRow)

/-- how the `additional` of an undecided PCR package relates to the resolved left-hand side `v` of the operand:
a plain label (statement index `b`) is stored as the NUMBER `b`, anything else as it is -/
def AddlOf (v a : Value) : Prop :=
  match v with
  | .address b _ => ∃ h m, a = .numeric b h m false
  | v => a = v

structure PkgW (row : InstrRow) (p : Pkg) : Prop where
  le : p.size ≤ p.maxSize
  und : p.choices ≠ [] → p.maxSize = p.size + 2 ∧ p.size = row.indSz ∧ p.needsRes = true ∧
    opVal row.ind = .ok p.opCode

theorem PkgW.of_nil {row : InstrRow} {p : Pkg} (h1 : p.size ≤ p.maxSize) (h2 : p.choices = []) : PkgW row p :=
  ⟨h1, fun h => absurd h2 h⟩

/-- `additional` of a package `fix_addresses` has to resolve (an undecided PCR operand, or the label offset
of a pointer register) in terms of the operand's left-hand side -/
def LeftOK (o : Operand) (p : Pkg) : Prop :=
  p.needsRes = true → ∀ v, o.left = .val v → AddlOf v p.additional

theorem OffPkg.w {ind : Bool} {row : InstrRow} {right : Str} {raw0 : Nat} {needs : Bool} {l : Value} {p : Pkg}
    (h : OffPkg ind row right raw0 needs l p) : PkgW row p ∧ (p.needsRes = true → p.additional = l) := by
  have no {x : Prop} : needs = false → needs = true → x := fun h0 h1 => by rw [h0] at h1; cases h1
  cases h with
  | pcrOpen hop => exact ⟨⟨Nat.le_add_right _ 2, fun _ => ⟨rfl, rfl, rfl, hop⟩⟩, fun _ => rfl⟩
  | pcrNum => exact ⟨.of_nil (Nat.le_refl _) rfl, nofun⟩
  | label => exact ⟨.of_nil (Nat.le_refl _) rfl, fun _ => rfl⟩
  | neg5 _ hn | neg8 _ hn | neg16 _ hn | pos5 _ hn | pos8 _ hn | pos16 _ hn =>
    exact ⟨.of_nil (Nat.le_refl _) rfl, no hn⟩

theorem OffArg.addlOf {left l : Value} {needs : Bool} (h : OffArg left needs l) : AddlOf left l := by
  cases h with
  | label hnum => obtain ⟨hh, mm, rfl, _⟩ := numV_eq hnum; exact ⟨hh, mm, rfl⟩
  | @other v _ h2 =>
    unfold AddlOf
    split
    · exact absurd rfl (h2 _ _)
    · rfl

theorem IdxPkg.w {ind : Bool} {row : InstrRow} {o : Operand} {p : Pkg} (h : IdxPkg ind row o p) :
    PkgW row p ∧ LeftOK o p := by
  cases h with
  | abs | plain => exact ⟨.of_nil (Nat.le_refl _) rfl, nofun⟩
  | offset hl _ ha hp =>
    refine ⟨hp.w.1, fun hc v hv => ?_⟩
    rw [hl] at hv; cases hv
    rw [hp.w.2 hc]; exact ha.addlOf
  | offsetText _ hl _ _ _ hp => exact ⟨hp.w.1, fun _ v hv => by rw [hl] at hv; cases hv⟩

theorem translateOperand_w {row : InstrRow} {o : Operand} {p : Pkg} (h : translateOperand o row = .ok p) :
    PkgW row p ∧ LeftOK o p := by
  cases translateOperand_graph h with
  | indexed _ h | extIndirect _ h => exact h.w
  | pseudo _ h => cases h <;> exact ⟨.of_nil (Nat.le_refl _) rfl, nofun⟩
  | _ => exact ⟨.of_nil (Nat.le_refl _) rfl, nofun⟩

structure Room (s : Stmt) : Prop where
  le : s.pkg.size ≤ s.pkg.maxSize
  und : s.fixedSize = false → s.pkg.size + 2 ≤ s.pkg.maxSize

/-- `s'` is a later state of `s` -/
def Narrow (s s' : Stmt) : Prop :=
  s.pkg.size ≤ s'.pkg.size ∧ s'.pkg.maxSize ≤ s.pkg.maxSize ∧ (s.fixedSize = true → s' = s)

theorem Narrow.refl (s : Stmt) : Narrow s s := ⟨Nat.le_refl _, Nat.le_refl _, fun _ => rfl⟩

theorem Narrow.trans {a b c : Stmt} (h1 : Narrow a b) (h2 : Narrow b c) : Narrow a c := by
  refine ⟨Nat.le_trans h1.1 h2.1, Nat.le_trans h2.2.1 h1.2.1, fun hf => ?_⟩
  have hb := h1.2.2 hf
  subst hb
  exact h2.2.2 hf

theorem narrow_maxSum {ss ss' : List Stmt} (h : PW Narrow ss ss') (lo hi : Nat) :
    maxSum ss' lo hi ≤ maxSum ss lo hi := by
  rw [maxSum_eq, maxSum_eq]
  have h' : PW (fun a b : Stmt => a.pkg.maxSize ≤ b.pkg.maxSize) ss' ss :=
    ⟨h.1.symm, fun (j : Nat) (a b : Stmt) ha hb => (h.2 j b a hb ha).2.1⟩
  exact PW.sum_le (f := fun s : Stmt => s.pkg.maxSize) (g := fun s : Stmt => s.pkg.maxSize) h' lo (hi - lo)

theorem narrow_sumSize {ss ss' : List Stmt} (h : PW Narrow ss ss') (lo hi : Nat) :
    sumSize ss lo hi ≤ sumSize ss' lo hi := by
  rw [sumSize_eq, sumSize_eq]
  exact PW.sum_le (f := fun s : Stmt => s.pkg.size) (g := fun s : Stmt => s.pkg.size) (h.mono (fun _ _ hn => hn.1)) lo (hi - lo)

theorem room_sum_le {ss : List Stmt} (h : ∀ (j : Nat) (s : Stmt), ss[j]? = some s → Room s) (lo hi : Nat) :
    sumSize ss lo hi ≤ maxSum ss lo hi := by
  rw [sumSize_eq, maxSum_eq]
  have h' : PW (fun a b : Stmt => a.pkg.size ≤ b.pkg.maxSize) ss ss :=
    ⟨rfl, fun (j : Nat) (a b : Stmt) ha hb => by rw [ha] at hb; cases hb; exact (h j a ha).le⟩
  exact PW.sum_le (f := fun s : Stmt => s.pkg.size) (g := fun s : Stmt => s.pkg.maxSize) h' lo (hi - lo)

/-- the bound `determine` established when it chose the 8-bit form for statement `i`, `sum lo hi` standing for the bytes
of the statements `lo .. hi-1`.  Backward (`rel ≤ i`, the statement's own label included): the statements `rel .. i-1` plus
the statement itself plus the constant of `label ± k` span at most 128 bytes.  Forward (`i < rel`): the statements
`i .. rel-1` (the statement itself included) plus the constant plus 2 span at most 127 bytes. -/
def Bound (sum : Nat → Nat → Nat) (i : Nat) (s : Stmt) : Prop :=
  ∀ rel, relIndex s.pkg.additional = some rel →
    (rel ≤ i → sum rel i + s.pkg.size + exprExtra s.pkg.additional ≤ 128) ∧
    (i < rel → sum i rel + exprExtra s.pkg.additional + 2 ≤ 127)

theorem Bound.mono {sum sum' : Nat → Nat → Nat} {i : Nat} {s : Stmt} (h : ∀ lo hi, sum' lo hi ≤ sum lo hi)
    (hf : Bound sum i s) : Bound sum' i s := by
  intro rel hr
  refine ⟨fun hb => ?_, fun hb => ?_⟩
  · have := h rel i; have := (hf rel hr).1 hb; omega
  · have := h i rel; have := (hf rel hr).2 hb; omega

/-- the list invariant: every statement has `Room`; every PCR statement (one with post byte choices; `needsRes` alone
does not single them out, a label offset of a pointer register has it too) settled on the 8-bit form satisfies `Bound`
over the `maxSize` sums of the current list -/
structure WInv (ss : List Stmt) : Prop where
  room : ∀ (j : Nat) (s : Stmt), ss[j]? = some s → Room s
  fits : ∀ (j : Nat) (s : Stmt), ss[j]? = some s → s.fixedSize = true → s.pkg.choices ≠ [] → s.pcrHint = 2 →
    Bound (maxSum ss) j s

theorem Sized.narrow {s s' : Stmt} (hok : Room s) (h : Sized s s') : Narrow s s' ∧ Room s' := by
  cases h with
  | same => exact ⟨.refl _, hok⟩
  | @settled _ _ _ e _ _ hf _ _ _ he =>
    have := hok.und hf
    have he : e ≤ 2 := by rcases he with ⟨rfl, _⟩ | ⟨rfl, _⟩ <;> decide
    refine ⟨⟨Nat.le_add_right _ _, ?_, fun h => ?_⟩, ⟨Nat.le_refl _, nofun⟩⟩
    · show s.pkg.size + e ≤ s.pkg.maxSize
      omega
    · rw [hf] at h; cases h

theorem winv_step {ss : List Stmt} {i : Nat} {s s' : Stmt} (hI : WInv ss) (hs : ss[i]? = some s)
    (hf : s.fixedSize = false) (hst : Step ss i s s') :
    WInv (ss.set i s') ∧ PW Narrow ss (ss.set i s') := by
  obtain ⟨hnar, hok'⟩ := (hst.sized hf).narrow (hI.room i s hs)
  have hpw : PW Narrow ss (ss.set i s') := PW.set Narrow.refl hs hnar
  have hilt : i < ss.length := lt_of_getElem? hs
  refine ⟨⟨?_, ?_⟩, hpw⟩
  · intro j t ht
    rw [List.getElem?_set] at ht
    split at ht
    · cases ht; exact hok'
    · exact hI.room j t ht
  · intro j t ht hft hnt hht
    rw [List.getElem?_set] at ht
    split at ht
    · rename_i hij
      subst hij
      cases ht
      obtain ⟨c0, c1, _, hst⟩ := hst
      rcases hst with rfl | hs2 | ⟨hs2, _, rel, hrel, _, hback, hfwd⟩
      · rw [hf] at hft; cases hft
      · obtain ⟨_, _, _, _, rfl⟩ := settle_inv hs2
        cases hht
      · -- settled on the 8-bit form in this step: the test `determine` made, on sums that have not grown
        obtain ⟨_, _, _, _, rfl⟩ := settle_inv hs2
        intro rel' hr'
        obtain rfl : rel = rel' := Option.some.inj (hrel.symm.trans hr')
        refine ⟨fun hb => ?_, fun hb => ?_⟩
        · have := narrow_maxSum hpw rel i
          have := hback hb
          show maxSum _ rel i + (s.pkg.size + 1) + exprExtra s.pkg.additional ≤ 128
          omega
        · have := narrow_maxSum hpw i rel
          have := hfwd (by omega)
          show maxSum _ i rel + exprExtra s.pkg.additional + 2 ≤ 127
          omega
    · exact (hI.fits j t ht hft hnt hht).mono (narrow_maxSum hpw)

theorem pcrLoop_winv (fuel : Nat) (ss : List Stmt) {fin : List Stmt} (h : pcrLoop fuel ss = .ok fin)
    (hI : WInv ss) : WInv fin ∧ PW Narrow ss fin := by
  refine pcrLoop_steps (I := fun r => WInv r ∧ PW Narrow ss r) ?_ h ⟨hI, .refl Narrow.refl _⟩
  intro r i s s' ⟨hI, hpw⟩ hs hf hst
  obtain ⟨hI', hpw'⟩ := winv_step hI hs hf hst
  exact ⟨hI', hpw.trans hpw' (fun _ _ _ => Narrow.trans)⟩

theorem translated_room {s0 : Stmt} {o : Operand} {p : Pkg} (htr : translateOperand o s0.row = .ok p) :
    Room (mkTranslated s0 o p) := by
  obtain ⟨hw, _⟩ := translateOperand_w htr
  refine ⟨hw.le, fun (hf : p.choices.isEmpty = false) => ?_⟩
  have := (hw.und (List.isEmpty_eq_false_iff.1 hf)).1
  show p.size + 2 ≤ p.maxSize
  omega

/-- the statements the size loop works on are exactly those with post byte choices: a statement without
choices — in particular a label offset of a pointer register, `needsRes` without choices — is fixed from the start
(`pcrPass` skips it, `determine` never sees it) -/
theorem translateAll_fixed_iff {a r : List Stmt} (h : translateAll a = some r) (j : Nat) (s : Stmt)
    (hs : r[j]? = some s) : s.fixedSize = true ↔ s.pkg.choices = [] := by
  obtain ⟨s0, _, p, _, rfl⟩ := (translateAll_pw h).get' hs
  exact List.isEmpty_iff

theorem translateAll_WInv {a r : List Stmt} (h : translateAll a = some r) : WInv r := by
  refine ⟨fun j s hs => ?_, fun j s hs hf hn _ => absurd ((translateAll_fixed_iff h j s hs).1 hf) hn⟩
  obtain ⟨s0, _, p, htr, rfl⟩ := (translateAll_pw h).get' hs
  exact translated_room (s0 := s0) htr

/-- soundness of the size loop: the final size lies between the `size` and the `maxSize` the statement had when the
loop started (and, by `pcrLoop_winv` applied to a suffix of the run, at any later moment); a statement settled on the 8-bit
form satisfies `Bound` over the FINAL sizes -/
theorem pcrLoop_width {fuel : Nat} {ss2 fin : List Stmt} {a : List Stmt} (ht : translateAll a = some ss2)
    (h : pcrLoop fuel ss2 = .ok fin) :
    PW (fun s f => s.pkg.size ≤ f.pkg.size ∧ f.pkg.size ≤ s.pkg.maxSize ∧ (s.fixedSize = true → f = s)) ss2 fin ∧
    (∀ (i : Nat) (f : Stmt), fin[i]? = some f → f.pkg.choices ≠ [] → f.pcrHint = 2 → Bound (sumSize fin) i f) := by
  obtain ⟨hI, hpw⟩ := pcrLoop_winv fuel ss2 h (translateAll_WInv ht)
  refine ⟨⟨hpw.1, fun j s f hs hf => ?_⟩, fun i f hf hn hh => ?_⟩
  · obtain ⟨n1, n2, n3⟩ := hpw.2 j s f hs hf
    exact ⟨n1, Nat.le_trans (hI.room j f hf).le n2, n3⟩
  · exact (hI.fits i f hf (pcrLoop_fixed h hf) hn hh).mono (room_sum_le hI.room)

/-- the statement with post byte choices (`label,PCR`) after the loop: one byte of offset and hint 2, for an operand that is
not forced and names a statement; or two bytes and hint 4.  The size it started from is the indexed base size. -/
theorem Compiled.pcr_width {fs : Files} {lines : List Str} {a : Assembly} {st : Stages fs lines a} {i : Nat}
    {s0 : Stmt} {o : Operand} {p : Pkg} {sz mx : Nat} {pb : Value} {hint : Nat} {ad vf vw v : Value}
    (c : Compiled st i s0 o p sz mx pb hint ad vf vw v) (hc : p.choices ≠ []) :
    (hint = 2 ∧ sz = s0.row.indSz + 1 ∧ exprForces p.additional = false ∧ ∃ rel, relIndex p.additional = some rel) ∨
    (hint = 4 ∧ sz = s0.row.indSz + 2) := by
  rw [← ((translateOperand_w c.htr).1.und hc).2.1]
  exact c.sized.hint (List.isEmpty_eq_false_iff.2 hc) rfl

end CoCo.Asm
