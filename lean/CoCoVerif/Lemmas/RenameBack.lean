/-
C18-R2 (renaming): what the renamed assembly `rnAssembly ρ a` has in common with `a`:
the bytes of every statement, the image, and — because every statement address of a finished assembly is a number —
the addresses and the origin themselves.
-/
import CoCoVerif.Lemmas.RenameLayout

namespace CoCo.Asm.Rename
open CoCo
open CoCo.Gen (InstrRow)

variable {ρ : Ren}

theorem emitValue_rn (v : Value) : emitValue (rnValue ρ v) = emitValue v := by
  unfold emitValue
  rw [rnValue_hex?, rnValue_hexLen?]

theorem stmtBytes_rn (s : Stmt) : stmtBytes (rnStmt ρ s) = stmtBytes s := by
  unfold stmtBytes
  simp only [rnStmt_pkg, rnPkg_opCode, rnPkg_postByte, rnPkg_additional, emitValue_rn]

theorem image_rn (a : Assembly) : (rnAssembly ρ a).image = a.image := by
  unfold Assembly.image rnAssembly
  dsimp only
  congr 1
  induction a.stmts with
  | nil => rfl
  | cons s rest ih =>
    simp only [List.map_cons, List.mapM_cons, stmtBytes_rn, ih]

def nameFree : Value → Bool
  | .symbol _ _ => false
  | .leftRight _ _ _ => false
  | .expr l r _ _ _ => nameFree l && nameFree r
  | _ => true

theorem rnValue_nameFree : ∀ {v : Value}, nameFree v = true → rnValue ρ v = v
  | .symbol _ _, h => by cases h
  | .leftRight _ _ _, h => by cases h
  | .expr l r op m ae, h => by
    simp only [nameFree, Bool.and_eq_true] at h
    simp only [rnValue, rnValue_nameFree h.1, rnValue_nameFree h.2]
  | .none, _ | .pyNone, _ | .numeric _ _ _ _, _ | .address _ _, _ | .str _, _ | .multiByte _, _ | .multiWord _, _ => rfl

theorem nameFree_of_numeric {v : Value} (h : v.isNumeric = true) : nameFree v = true := by
  cases v <;> first | rfl | cases h

theorem back_addr_numeric {ss0 : List Stmt} {a : Assembly} (h : back ss0 = .ok a) :
    ∀ s ∈ a.stmts, s.pkg.address.isNumeric = true := by
  obtain ⟨t, ss4, hl, hf⟩ := back_ok h
  obtain ⟨ss1, ss2, ss3, _, _, htranslate, hpcr, _, haddr⟩ := layout_ok hl
  have h3 : ∀ s3 ∈ ss3, s3.pkg.address = .none ∨ s3.pkg.address.isNumeric = true := by
    intro s3 hs3
    obtain ⟨j, hj⟩ := List.getElem?_of_mem hs3
    obtain ⟨s2, hs2, _, _, _, _, _, e3⟩ := (pcrLoop_pw _ _ hpcr).get' hj
    obtain ⟨s1, hs1, p, hp, e2⟩ := (translateAll_pw htranslate).get' hs2
    rw [e3, e2]
    exact translateOperand_addr (p := p) hp
  have h4 := assignAddrs_all_numeric haddr h3
  intro s hs
  obtain ⟨j, hj⟩ := List.getElem?_of_mem hs
  obtain ⟨s4, hs4, v, e⟩ := (fixAllL_pw (finish_ok hf).1).get' hj
  rw [e]
  exact h4 s4 (List.mem_of_getElem? hs4)

theorem back_origin_numeric {ss0 : List Stmt} {a : Assembly} (h : back ss0 = .ok a) :
    a.origin = .none ∨ a.origin.isNumeric = true := by
  obtain ⟨t, ss4, _, hf⟩ := back_ok h
  rw [(finish_ok hf).2.2]
  rcases originScan_cases a.stmts Value.none with e | ⟨s, hs, _, e⟩
  · exact .inl e
  · exact .inr (e ▸ back_addr_numeric h s hs)

end CoCo.Asm.Rename
