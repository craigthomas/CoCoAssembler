/-
Lemmas/PcrLoop.lean — the PCR size loop (`settle`, `determine`, `pcrPass`, `forceFirst`, `pcrLoop`).

* `settle_inv`: what `settle` stores.  What `determine` reads of an operand: `relIndex_plain`, `exprExtra_plain`, `_expr`,
  `exprForces_false`, `_false_minus`; `maxSum_eq`.  `determine_graph`: every outcome of `determine`, with the test that led to it.
* `Step`: what the loop does to an undecided statement in one move (`determine_step`, `forceFirst_step`); an accepted run
  is a sequence of such moves (`pcrLoop_steps`).
* `Sized s s'`: what an accepted run does to ONE statement from start to end: nothing, or one `settle` (`s.settled`) on
  the first or the second post byte choice, the first only after the distance test (`pcrLoop_sized`).  What the chains
  know of a statement after the loop is read off it by `cases` (`Sized.hint`, `Sized.size_pos`, `Sized.pcrRel` here).
* runs that are not accepted: `pcrLoop_ne_internal` (from an invariant that keeps `determine` and `forceFirst` going),
  `pcrLoop_not_diverged` (every round fixes a statement).
-/
import CoCoVerif.Lemmas.LayoutPasses

namespace CoCo.Asm
open CoCo

/-! ### `settle` -/

/-- `s` settled on `e` bytes of offset -/
def Stmt.settled (s : Stmt) (e hint : Nat) (pb : Value) : Stmt :=
  { s with pkg := { s.pkg with size := s.pkg.size + e, maxSize := s.pkg.size + e, postByte := pb },
           pcrHint := hint, fixedSize := true }

theorem settle_eq_settled (s : Stmt) (e hint c : Nat) :
    settle s e hint c = (orPost s c).map fun pb => s.settled e hint pb := rfl

theorem settle_of {s : Stmt} {e h c raw : Nat} {pb : Value} (hraw : s.pkg.postByte.int? = some raw)
    (hpb : numV (raw ||| c) = .ok pb) : settle s e h c = some (s.settled e h pb) := by
  unfold settle orPost
  rw [hraw]
  dsimp only
  rw [hpb]
  rfl

theorem settle_inv {s s' : Stmt} {e h c : Nat} (hs : settle s e h c = some s') :
    ∃ raw pb, s.pkg.postByte.int? = some raw ∧ numV (raw ||| c) = .ok pb ∧ s' = s.settled e h pb := by
  unfold settle orPost at hs
  cases hr : s.pkg.postByte.int? with
  | none => rw [hr] at hs; cases hs
  | some raw =>
    rw [hr] at hs
    dsimp only at hs
    cases hn : numV (raw ||| c) with
    | error _ => rw [hn] at hs; cases hs
    | ok pb => rw [hn] at hs; cases hs; exact ⟨raw, pb, rfl, hn, rfl⟩

theorem settle_fixedSize {s s' : Stmt} {e h c} (hs : settle s e h c = some s') : s'.fixedSize = true := by
  obtain ⟨_, _, _, _, rfl⟩ := settle_inv hs
  rfl

/-! ### the number of undecided statements -/

def unfixed (ss : List Stmt) : Nat := ss.countP (fun s => !s.fixedSize)

theorem unfixed_le_length (ss : List Stmt) : unfixed ss ≤ ss.length := List.countP_le_length

theorem allFixed_iff_unfixed (ss : List Stmt) : allFixed ss = true ↔ unfixed ss = 0 := by
  simp [allFixed, unfixed, List.countP_eq_zero]

theorem allFixed_mem {ss : List Stmt} (h : allFixed ss = true) {s : Stmt} (hs : s ∈ ss) : s.fixedSize = true := by
  simp only [allFixed, List.all_eq_true] at h
  exact h s hs

theorem allFixed_append (a b : List Stmt) : allFixed (a ++ b) = (allFixed a && allFixed b) := by
  simp [allFixed]

theorem unfixed_set {ss : List Stmt} {i : Nat} {s s' : Stmt} (hi : ss[i]? = some s)
    (hs : s.fixedSize = false) :
    unfixed (ss.set i s') + (if s'.fixedSize then 1 else 0) = unfixed ss := by
  induction ss generalizing i with
  | nil => simp at hi
  | cons a r ih =>
    cases i with
    | zero =>
      simp at hi; subst hi
      simp only [List.set_cons_zero, unfixed, List.countP_cons, hs]
      cases s'.fixedSize <;> simp
    | succ j =>
      simp at hi
      have := ih hi
      simp only [List.set_cons_succ, unfixed, List.countP_cons] at this ⊢
      omega

/-! ### `determine` -/

def maxSum (ss : List Stmt) (lo hi : Nat) : Nat := (sumSizes ss lo hi).2

theorem maxSum_eq (ss : List Stmt) (lo hi : Nat) :
    maxSum ss lo hi = (((ss.drop lo).take (hi - lo)).map (·.pkg.maxSize)).sum :=
  congrArg Prod.snd (sumSizes_eq ss lo hi)

/-- `settle`, a failure being Python's exception -/
def settleO (s : Stmt) (e h c : Nat) : Outcome Stmt :=
  match settle s e h c with
  | some s' => .ok s'
  | none => .internal

theorem settleO_ok {s s' : Stmt} {e h c : Nat} (ho : Outcome.ok s' = settleO s e h c) : settle s e h c = some s' := by
  unfold settleO at ho
  cases hs : settle s e h c with
  | none => rw [hs] at ho; cases ho
  | some x => rw [hs] at ho; cases ho; rfl

theorem settleO_ne_diverged {s : Stmt} {e h c : Nat} : Outcome.diverged ≠ settleO s e h c := by
  unfold settleO
  split <;> nofun

theorem relIndex_plain {v : Value} (he : v.isAddrExpr = false) : relIndex v = v.int? := by
  unfold relIndex
  split
  · simp [Value.isAddrExpr] at he
  · rfl

theorem exprExtra_plain {v : Value} (he : v.isAddrExpr = false) : exprExtra v = 0 := by
  unfold exprExtra
  split
  · simp [Value.isAddrExpr] at he
  · rfl

theorem exprExtra_expr {l r : Value} {op : Char} {m : Mode} {k : Nat} {hh : Option Nat} {mm : Mode} {nn : Bool}
    (hoth : (if l.isAddress then r else l) = .numeric k hh mm nn) : exprExtra (.expr l r op m true) = k := by
  show ((if l.isAddress = true then r.int? else l.int?).getD 0) = k
  by_cases hl : l.isAddress = true
  · rw [if_pos hl] at hoth ⊢; rw [hoth]; rfl
  · rw [if_neg hl] at hoth ⊢; rw [hoth]; rfl

theorem exprForces_false {l r : Value} {op : Char} {m : Mode}
    (hf : exprForces (.expr l r op m true) = false) :
    (op = '+' ∨ op = '-') ∧ ∃ k hh mm nn, (if l.isAddress then r else l) = .numeric k hh mm nn := by
  unfold exprForces at hf
  simp only [Bool.or_eq_false_iff, Bool.not_eq_false'] at hf
  obtain ⟨⟨h1, h2⟩, _⟩ := hf
  refine ⟨?_, ?_⟩
  · rcases (Bool.or_eq_true _ _).mp h1 with h | h
    · exact .inl (by simpa using h)
    · exact .inr (by simpa using h)
  · exact isNumeric_elim h2

/-- the third disjunct of `exprForces`: `number - label` is forced to the 16-bit form, so on an expression
that is NOT forced a `-` has no label on its right -/
theorem exprForces_false_minus {l r : Value} {m : Mode}
    (hf : exprForces (.expr l r '-' m true) = false) : r.isAddress = false := by
  unfold exprForces at hf
  simp only [Bool.or_eq_false_iff] at hf
  simpa using hf.2

/-- the outcomes of `determine ss i s` -/
inductive Determined (ss : List Stmt) (i : Nat) (s : Stmt) : Outcome Stmt → Prop
  | noChoice (h : s.pkg.choices = []) : Determined ss i s .diag
  | badChoices (h0 : s.pkg.choices ≠ []) (h : ∀ c0 c1, s.pkg.choices ≠ [c0, c1]) : Determined ss i s .internal
  /-- `label * k`, `label / k`, `number - label`: 16 bits at once -/
  | forced {c0 c1 : Nat} {o : Outcome Stmt} (hch : s.pkg.choices = [c0, c1]) (hf : exprForces s.pkg.additional = true)
      (ho : o = settleO s 2 4 c1) : Determined ss i s o
  | noTarget {c0 c1 : Nat} (hch : s.pkg.choices = [c0, c1]) (hf : exprForces s.pkg.additional = false)
      (hr : ∀ rel, relIndex s.pkg.additional = some rel → rel > ss.length) : Determined ss i s .internal
  /-- both estimates of the distance within a signed byte -/
  | short {c0 c1 rel : Nat} {o : Outcome Stmt} (hch : s.pkg.choices = [c0, c1])
      (hf : exprForces s.pkg.additional = false) (hr : relIndex s.pkg.additional = some rel) (hlen : rel ≤ ss.length)
      (hb : rel ≤ i → maxSum ss rel i + 2 + ((s.pkg.size - 1) + exprExtra s.pkg.additional) ≤ 128)
      (hw : ¬ rel ≤ i → maxSum ss i rel + 2 + exprExtra s.pkg.additional ≤ 127)
      (ho : o = settleO s 1 2 c0) : Determined ss i s o
  /-- both estimates beyond it -/
  | long {c0 c1 rel : Nat} {o : Outcome Stmt} (hch : s.pkg.choices = [c0, c1])
      (hf : exprForces s.pkg.additional = false) (hr : relIndex s.pkg.additional = some rel) (hlen : rel ≤ ss.length)
      (ho : o = settleO s 2 4 c1) : Determined ss i s o
  | undecided {c0 c1 rel : Nat} (hch : s.pkg.choices = [c0, c1]) (hf : exprForces s.pkg.additional = false)
      (hr : relIndex s.pkg.additional = some rel) (hlen : rel ≤ ss.length) : Determined ss i s (.ok s)

theorem determine_graph (ss : List Stmt) (i : Nat) (s : Stmt) : Determined ss i s (determine ss i s) := by
  unfold determine
  split
  · rename_i c0 c1 hch
    by_cases hfo : exprForces s.pkg.additional = true
    · rw [if_pos hfo]; exact .forced hch hfo rfl
    rw [if_neg hfo]
    have hfo : exprForces s.pkg.additional = false := by simpa using hfo
    cases hr : relIndex s.pkg.additional with
    | none => exact .noTarget hch hfo (fun rel h => by rw [hr] at h; cases h)
    | some rel =>
      dsimp only
      split
      · rename_i hgt; exact .noTarget hch hfo (fun rel' h => by rw [hr] at h; cases h; exact hgt)
      · rename_i hlen
        generalize hpr : (if rel ≤ i then sumSizes ss rel i else sumSizes ss i rel) = pr
        generalize hadj : (if rel ≤ i then s.pkg.size - 1 else 0) + exprExtra s.pkg.additional = adj
        generalize hlim : (if rel ≤ i then 128 else 127) = lim
        obtain ⟨mn, mx⟩ := pr
        dsimp only
        have hmx : (if rel ≤ i then maxSum ss rel i else maxSum ss i rel) = mx := by
          refine Eq.trans ?_ (congrArg Prod.snd hpr)
          unfold maxSum
          split <;> rfl
        by_cases hcond : mn + 2 + adj ≤ lim ∧ mx + 2 + adj ≤ lim
        · rw [if_pos hcond]
          refine .short hch hfo hr (by omega) (fun hb => ?_) (fun hb => ?_) rfl
          · simp only [hb, if_true] at hmx hadj hlim; omega
          · simp only [hb, if_false] at hmx hadj hlim; omega
        · rw [if_neg hcond]
          by_cases hc2 : mn + 2 + adj > lim ∧ mx + 2 + adj > lim
          · rw [if_pos hc2]; exact .long hch hfo hr (by omega) rfl
          · rw [if_neg hc2]; exact .undecided hch hfo hr (by omega)
  · rename_i h; exact .noChoice h
  · rename_i h1 h2; exact .badChoices h2 (fun c0 c1 e => h1 c0 c1 e)

/-- the three ways the size loop treats an undecided statement with the post byte choices `c0`, `c1`: it leaves it
open, settles it on the 16-bit form (`c1`), or settles it on the 8-bit form (`c0`) after the distance test of `determine` -/
def Step (ss : List Stmt) (i : Nat) (s s' : Stmt) : Prop :=
  ∃ c0 c1, s.pkg.choices = [c0, c1] ∧
    (s' = s ∨ settle s 2 4 c1 = some s' ∨
     (settle s 1 2 c0 = some s' ∧ exprForces s.pkg.additional = false ∧
      ∃ rel, relIndex s.pkg.additional = some rel ∧ rel ≤ ss.length ∧
        (rel ≤ i → maxSum ss rel i + 2 + ((s.pkg.size - 1) + exprExtra s.pkg.additional) ≤ 128) ∧
        (¬ rel ≤ i → maxSum ss i rel + 2 + exprExtra s.pkg.additional ≤ 127)))

theorem determine_step {ss : List Stmt} {i : Nat} {s s' : Stmt} (h : determine ss i s = .ok s') : Step ss i s s' := by
  have g := determine_graph ss i s
  rw [h] at g
  cases g with
  | forced hch _ ho => exact ⟨_, _, hch, .inr (.inl (settleO_ok ho))⟩
  | short hch hf hr hlen hb hw ho => exact ⟨_, _, hch, .inr (.inr ⟨settleO_ok ho, hf, _, hr, hlen, hb, hw⟩)⟩
  | long hch _ _ _ ho => exact ⟨_, _, hch, .inr (.inl (settleO_ok ho))⟩
  | undecided hch => exact ⟨_, _, hch, .inl rfl⟩

theorem determine_ok_fixedOrSame {ss : List Stmt} {i : Nat} {s s' : Stmt} (h : determine ss i s = .ok s') :
    s'.fixedSize = true ∨ s' = s := by
  obtain ⟨_, _, _, h | h | ⟨h, _⟩⟩ := determine_step h
  · exact .inr h
  · exact .inl (settle_fixedSize h)
  · exact .inl (settle_fixedSize h)

theorem determine_not_diverged (ss : List Stmt) (i : Nat) (s : Stmt) : determine ss i s ≠ .diverged := by
  intro hd
  have g := determine_graph ss i s
  rw [hd] at g
  cases g with
  | forced _ _ ho | short _ _ _ _ _ _ ho | long _ _ _ _ ho => exact settleO_ne_diverged ho

/-! ### one pass -/

theorem pcrPass_step {n : Nat} {ss : List Stmt} {i : Nat} {p : Bool} {s : Stmt} (hs : ss[i]? = some s) :
    pcrPass (n + 1) ss i p =
      if s.fixedSize then pcrPass n ss (i + 1) p
      else match determine ss i s with
        | .ok s' => pcrPass n (ss.set i s') (i + 1) (p || s'.fixedSize)
        | .diag => .diag
        | .internal => .internal
        | .diverged => .diverged := by
  rw [pcrPass, hs]
  dsimp only
  split
  · rfl
  · cases determine ss i s <;> rfl

theorem pcrPass_end {n : Nat} {ss : List Stmt} {i : Nat} {p : Bool} (hs : ss[i]? = none) :
    pcrPass n ss i p = .ok (ss, p) := by
  cases n with
  | zero => rfl
  | succ n => rw [pcrPass, hs]

/-- induction along an accepted pass: a property of (input list, index, flag, result) that is reflexive and survives
one step holds of every accepted pass -/
theorem pcrPass_ind (Q : List Stmt → Nat → Bool → List Stmt → Bool → Prop)
    (hrefl : ∀ ss i p, Q ss i p ss p)
    (hskip : ∀ ss i p r p' s, ss[i]? = some s → s.fixedSize = true → Q ss (i + 1) p r p' → Q ss i p r p')
    (hstep : ∀ ss i p r p' s s', ss[i]? = some s → s.fixedSize = false → determine ss i s = .ok s' →
      Q (ss.set i s') (i + 1) (p || s'.fixedSize) r p' → Q ss i p r p') :
    ∀ (n : Nat) (ss : List Stmt) (i : Nat) (p : Bool) (r : List Stmt) (p' : Bool),
      pcrPass n ss i p = .ok (r, p') → Q ss i p r p' := by
  intro n
  induction n with
  | zero => intro ss i p r p' h; simp [pcrPass] at h; obtain ⟨rfl, rfl⟩ := h; exact hrefl _ _ _
  | succ n ih =>
    intro ss i p r p' h
    cases hs : ss[i]? with
    | none => rw [pcrPass_end hs] at h; simp at h; obtain ⟨rfl, rfl⟩ := h; exact hrefl _ _ _
    | some s =>
      rw [pcrPass_step hs] at h
      cases hf : s.fixedSize with
      | true => rw [hf] at h; exact hskip _ _ _ _ _ s hs hf (ih _ _ _ _ _ h)
      | false =>
        rw [hf] at h
        simp only [Bool.false_eq_true, if_false] at h
        cases hd : determine ss i s with
        | ok s' => rw [hd] at h; exact hstep _ _ _ _ _ s s' hs hf hd (ih _ _ _ _ _ h)
        | _ => rw [hd] at h; cases h

/-- an accepted pass is a sequence of steps on undecided statements -/
theorem pcrPass_steps {I : List Stmt → Prop}
    (hstep : ∀ {ss : List Stmt} {i : Nat} {s s' : Stmt}, I ss → ss[i]? = some s → s.fixedSize = false →
      Step ss i s s' → I (ss.set i s'))
    {n : Nat} {ss : List Stmt} {i : Nat} {p : Bool} {r : List Stmt} {p' : Bool}
    (h : pcrPass n ss i p = .ok (r, p')) : I ss → I r := by
  refine pcrPass_ind (fun ss _ _ r _ => I ss → I r) (fun _ _ _ hI => hI) (fun _ _ _ _ _ _ _ _ ih => ih) ?_
    n ss i p r p' h
  intro ss i _ r _ s s' hs hf hd ih hI
  exact ih (hstep hI hs hf (determine_step hd))

theorem pcrPass_length {n : Nat} {ss : List Stmt} {i : Nat} {p : Bool} {r : List Stmt} {p' : Bool}
    (h : pcrPass n ss i p = .ok (r, p')) : r.length = ss.length :=
  pcrPass_steps (I := fun r => r.length = ss.length) (fun hI _ _ _ => by simpa using hI) h rfl

/-- the flag never goes down, and a pass without progress changes nothing -/
theorem pcrPass_noprogress {n : Nat} {ss : List Stmt} {i : Nat} {p : Bool} {r : List Stmt} {p' : Bool}
    (h : pcrPass n ss i p = .ok (r, p')) : (p = true → p' = true) ∧ (p' = false → r = ss) := by
  refine pcrPass_ind (fun ss _ p r p' => (p = true → p' = true) ∧ (p' = false → r = ss))
    ?_ ?_ ?_ n ss i p r p' h
  · intro _ _ _; exact ⟨fun h => h, fun _ => rfl⟩
  · intro _ _ _ _ _ _ _ _ ih; exact ih
  · intro ss i p r p' s s' hs hf hd ih
    refine ⟨fun h => ih.1 (by simp [h]), fun hp => ?_⟩
    -- `s'` is not fixed: `determine` left the statement as it was
    rcases determine_ok_fixedOrSame hd with h1 | h1
    · have := ih.1 (by simp [h1]); rw [hp] at this; cases this
    · have := ih.2 hp
      rw [h1, set_self hs] at this
      exact this

/-- a pass never adds an undecided statement, and reports progress only if it fixed one -/
theorem pcrPass_spec (n : Nat) (ss : List Stmt) (i : Nat) (p : Bool) {ss' : List Stmt} {p' : Bool}
    (h : pcrPass n ss i p = .ok (ss', p')) :
    unfixed ss' ≤ unfixed ss ∧ (p' = true → p = true ∨ unfixed ss' < unfixed ss) := by
  refine pcrPass_ind (fun ss _ p ss' p' => unfixed ss' ≤ unfixed ss ∧
    (p' = true → p = true ∨ unfixed ss' < unfixed ss)) ?_ ?_ ?_ n ss i p ss' p' h
  · intro _ _ _; exact ⟨Nat.le_refl _, .inl⟩
  · intro _ _ _ _ _ _ _ _ ih; exact ih
  · intro ss i p r p' s s' hs hf _ ⟨h2, h3⟩
    have hset := unfixed_set (s' := s') hs hf
    refine ⟨by omega, fun hp => ?_⟩
    rcases h3 hp with h3 | h3
    · rcases (Bool.or_eq_true _ _).mp h3 with h3 | h3
      · exact .inl h3
      · right; simp [h3] at hset; omega
    · right; omega

theorem pcrPass_not_diverged (n : Nat) (ss : List Stmt) (i : Nat) (p : Bool) :
    pcrPass n ss i p ≠ .diverged := by
  induction n generalizing ss i p with
  | zero => simp [pcrPass]
  | succ n ih =>
    cases hs : ss[i]? with
    | none => rw [pcrPass_end hs]; nofun
    | some s =>
      rw [pcrPass_step hs]
      split
      · exact ih _ _ _
      · cases hd : determine ss i s with
        | ok s' => exact ih _ _ _
        | diverged => exact absurd hd (determine_not_diverged _ _ _)
        | _ => nofun

/-! ### `forceFirst` -/

/-- `force_pcr_16_bit` -/
theorem forceFirst_step : ∀ {ss r : List Stmt}, forceFirst ss = some r →
    (allFixed ss = true ∧ r = ss) ∨
    ∃ i s s' c0 c1, ss[i]? = some s ∧ s.fixedSize = false ∧ s.pkg.choices = [c0, c1] ∧
      settle s 2 4 c1 = some s' ∧ r = ss.set i s' := by
  intro ss
  induction ss with
  | nil => intro r h; simp [forceFirst] at h; exact .inl ⟨rfl, h⟩
  | cons s rest ih =>
    intro r h
    unfold forceFirst at h
    split at h
    · rename_i hf
      cases hr : forceFirst rest with
      | none => simp [hr] at h
      | some r' =>
        simp [hr] at h; subst h
        rcases ih hr with ⟨h1, h2⟩ | ⟨i, t, t', c0, c1, h1, h2, h3, h4, h5⟩
        · left; rw [h2]; exact ⟨by simpa [allFixed, hf] using h1, rfl⟩
        · right; exact ⟨i + 1, t, t', c0, c1, by simpa using h1, h2, h3, h4, by simp [h5]⟩
    · rename_i hf
      have hf : s.fixedSize = false := by simpa using hf
      split at h
      · rename_i c0 c1 hch
        cases hs : settle s 2 4 c1 with
        | none => simp [hs] at h
        | some s' =>
          simp [hs] at h; subst h
          right; exact ⟨0, s, s', c0, c1, by simp, hf, hch, hs, by simp⟩
      · cases h

theorem forceFirst_length {ss r : List Stmt} (h : forceFirst ss = some r) : r.length = ss.length := by
  rcases forceFirst_step h with ⟨_, rfl⟩ | ⟨_, _, _, _, _, _, _, _, _, rfl⟩
  · rfl
  · simp

theorem forceFirst_spec {ss ss' : List Stmt} (h : forceFirst ss = some ss') :
    unfixed ss' < unfixed ss ∨ (allFixed ss = true ∧ ss' = ss) := by
  rcases forceFirst_step h with h | ⟨i, s, s', _, _, hs, hf, _, hset, rfl⟩
  · exact .inr h
  · have := unfixed_set (s' := s') hs hf
    rw [settle_fixedSize hset] at this
    left; simp at this; omega

/-- `forceFirst` goes through when every undecided statement has two choices and can be settled on the second -/
theorem forceFirst_isSome : ∀ {ss : List Stmt},
    (∀ s ∈ ss, s.fixedSize = false → ∃ c0 c1 s', s.pkg.choices = [c0, c1] ∧ settle s 2 4 c1 = some s') →
    ∃ r, forceFirst ss = some r := by
  intro ss
  induction ss with
  | nil => intro _; exact ⟨[], rfl⟩
  | cons s rest ih =>
    intro hall
    unfold forceFirst
    by_cases hf : s.fixedSize = true
    · rw [if_pos hf]
      obtain ⟨r, hr⟩ := ih (fun x hx => hall x (by simp [hx]))
      rw [hr]
      exact ⟨s :: r, rfl⟩
    · rw [if_neg hf]
      obtain ⟨c0, c1, s', hc, hs'⟩ := hall s (by simp) (by simpa using hf)
      rw [hc]
      dsimp only
      rw [hs']
      exact ⟨s' :: rest, rfl⟩

/-! ### the loop -/

theorem pcrLoop_allFixed {n : Nat} {ss : List Stmt} (h : allFixed ss = true) : pcrLoop n ss = .ok ss := by
  cases n <;> simp [pcrLoop, h]

theorem pcrLoop_zero_ok {ss r : List Stmt} (h : pcrLoop 0 ss = .ok r) : allFixed ss = true ∧ r = ss := by
  rw [pcrLoop] at h
  split at h
  · rename_i hf; cases h; exact ⟨hf, rfl⟩
  · cases h

/-- one round of the size loop on a list with an undecided statement: a pass, after a pass without progress
`forceFirst`, then the loop on the list `n` so obtained -/
theorem pcrLoop_succ_ok {f : Nat} {ss r : List Stmt} (hf : ¬ allFixed ss = true) (h : pcrLoop (f + 1) ss = .ok r) :
    ∃ ss' p n, pcrPass ss.length ss 0 false = .ok (ss', p) ∧ (if p then some ss' else forceFirst ss') = some n ∧
      pcrLoop f n = .ok r := by
  rw [pcrLoop, if_neg hf] at h
  split at h
  · rename_i ss' hp; exact ⟨ss', true, ss', hp, rfl, h⟩
  · rename_i ss' hp
    split at h
    · rename_i n hn; exact ⟨ss', false, n, hp, hn, h⟩
    · cases h
  all_goals cases h

/-- an accepted run is a sequence of rounds that ends in a list with every size fixed -/
theorem pcrLoop_rounds {fin : List Stmt} {Q : List Stmt → Prop} (hend : allFixed fin = true → Q fin)
    (hround : ∀ {ss ss' n : List Stmt} {p : Bool}, pcrPass ss.length ss 0 false = .ok (ss', p) →
      (if p then some ss' else forceFirst ss') = some n → Q n → Q ss) :
    ∀ {fuel : Nat} {ss : List Stmt}, pcrLoop fuel ss = .ok fin → Q ss := by
  intro fuel
  induction fuel with
  | zero =>
    intro ss h
    obtain ⟨hf, rfl⟩ := pcrLoop_zero_ok h
    exact hend hf
  | succ fuel ih =>
    intro ss h
    by_cases hf : allFixed ss = true
    · rw [pcrLoop_allFixed hf] at h
      cases h
      exact hend hf
    · obtain ⟨ss', p, n, hp, hn, h⟩ := pcrLoop_succ_ok hf h
      exact hround hp hn (ih h)

theorem pcrLoop_ok_allFixed (fuel : Nat) (ss : List Stmt) {ss' : List Stmt} (h : pcrLoop fuel ss = .ok ss') :
    allFixed ss' = true :=
  pcrLoop_rounds (Q := fun _ => allFixed ss' = true) id (fun _ _ ih => ih) h

theorem pcrLoop_fixed {fuel : Nat} {ss fin : List Stmt} (h : pcrLoop fuel ss = .ok fin) {i : Nat} {f : Stmt}
    (hf : fin[i]? = some f) : f.fixedSize = true :=
  allFixed_mem (pcrLoop_ok_allFixed fuel ss h) (List.mem_of_getElem? hf)

/-- the size loop is a sequence of steps: a property of the statement list that every `Step` on an undecided
statement keeps holds of the list the loop returns -/
theorem pcrLoop_steps {I : List Stmt → Prop}
    (hstep : ∀ {ss : List Stmt} {i : Nat} {s s' : Stmt}, I ss → ss[i]? = some s → s.fixedSize = false →
      Step ss i s s' → I (ss.set i s'))
    {fuel : Nat} {ss fin : List Stmt} (h : pcrLoop fuel ss = .ok fin) : I ss → I fin := by
  refine pcrLoop_rounds (Q := fun ss => I ss → I fin) (fun _ hI => hI) ?_ h
  intro ss ss' n p hp hn ih hI
  have hI' := pcrPass_steps hstep hp hI
  cases p with
  | true => cases hn; exact ih hI'
  | false =>
    refine ih ?_
    rcases forceFirst_step hn with ⟨_, rfl⟩ | ⟨i, s, s', c0, c1, hs, hf, hch, hset, rfl⟩
    · exact hI'
    · exact hstep hI' hs hf ⟨c0, c1, hch, .inr (.inl hset)⟩

/-! ### the loop on one statement -/

/-- what an accepted run does to one statement: nothing, or one `settle` on `e` bytes of offset with the post byte choice
`c`.  `e = 1`: the distance test of `determine` passed, which it makes only on an operand that is not forced and names a
statement; `e = 2`: the test failed on both estimates, or the operand is forced, or `force_pcr_16_bit`. -/
inductive Sized (s : Stmt) : Stmt → Prop
  | same : Sized s s
  | settled {c0 c1 raw e c : Nat} {pb : Value} (hf : s.fixedSize = false) (hch : s.pkg.choices = [c0, c1])
      (hraw : s.pkg.postByte.int? = some raw) (hpb : numV (raw ||| c) = .ok pb)
      (he : (e = 1 ∧ c = c0 ∧ exprForces s.pkg.additional = false ∧ ∃ rel, relIndex s.pkg.additional = some rel) ∨
            (e = 2 ∧ c = c1)) :
      Sized s (s.settled e (2 * e) pb)

theorem Step.sized {ss : List Stmt} {i : Nat} {s s' : Stmt} (hf : s.fixedSize = false) (h : Step ss i s s') :
    Sized s s' := by
  obtain ⟨c0, c1, hch, rfl | h | ⟨h, hnf, rel, hrel, _⟩⟩ := h
  · exact .same
  · obtain ⟨raw, pb, hraw, hpb, rfl⟩ := settle_inv h
    exact .settled hf hch hraw hpb (.inr ⟨rfl, rfl⟩)
  · obtain ⟨raw, pb, hraw, hpb, rfl⟩ := settle_inv h
    exact .settled hf hch hraw hpb (.inl ⟨rfl, rfl, hnf, rel, hrel⟩)

namespace Sized
variable {s s' : Stmt}

theorem fixed_or (h : Sized s s') : s'.fixedSize = true ∨ s' = s := by
  cases h with
  | same => exact .inr rfl
  | settled => exact .inl rfl

/-- a statement whose size was fixed from the start is left alone -/
theorem of_fixed (h : Sized s s') (hf : s.fixedSize = true) : s' = s := by
  cases h with
  | same => rfl
  | settled hf' => rw [hf] at hf'; cases hf'

/-- a settled statement is fixed, so nothing follows a `settle` -/
theorem trans {a b c : Stmt} (h1 : Sized a b) (h2 : Sized b c) : Sized a c := by
  rcases h1.fixed_or with hb | rfl
  · rw [h2.of_fixed hb]; exact h1
  · exact h2

/-- the width hint counts the offset bytes; the 8-bit form says why it was taken -/
theorem hint (h : Sized s s') (hf : s.fixedSize = false) (hf' : s'.fixedSize = true) :
    (s'.pcrHint = 2 ∧ s'.pkg.size = s.pkg.size + 1 ∧ exprForces s.pkg.additional = false ∧
      ∃ rel, relIndex s.pkg.additional = some rel) ∨
    (s'.pcrHint = 4 ∧ s'.pkg.size = s.pkg.size + 2) := by
  cases h with
  | same => rw [hf] at hf'; cases hf'
  | settled _ _ _ _ he =>
    rcases he with ⟨rfl, _, h3, h4⟩ | ⟨rfl, _⟩
    · exact .inl ⟨rfl, rfl, h3, h4⟩
    · exact .inr ⟨rfl, rfl⟩

/-- a statement the size loop decided has a size -/
theorem size_pos (h : Sized s s') (hf : s.fixedSize = false) (hf' : s'.fixedSize = true) : 0 < s'.pkg.size := by
  rcases h.hint hf hf' with ⟨_, h, _⟩ | ⟨_, h⟩ <;> omega

end Sized

/-- the post byte stays a number out of `numV` through the size loop -/
theorem Sized.postByte {s s' : Stmt} (h : Sized s s') (hc : CodeVal s.pkg.postByte) : CodeVal s'.pkg.postByte := by
  cases h with
  | same => exact hc
  | settled _ _ _ hpb => exact numV_codeVal hpb

theorem pcrLoop_sized {fuel : Nat} {ss ss' : List Stmt} (h : pcrLoop fuel ss = .ok ss') : PW Sized ss ss' := by
  refine pcrLoop_steps (I := fun r => PW Sized ss r) ?_ h (.refl (fun _ => .same) _)
  intro r i s s' hpw hs hf hst
  exact hpw.trans (PW.set (fun _ => .same) hs (hst.sized hf)) (fun _ _ _ => Sized.trans)

/-- `s'` is `s` up to size, maximal size, post byte, width hint and the `fixedSize` flag -/
def PcrRel (s s' : Stmt) : Prop :=
  ∃ sz mx pb hint fx, s' = { s with pkg := { s.pkg with size := sz, maxSize := mx, postByte := pb },
                                    pcrHint := hint, fixedSize := fx }

theorem Sized.pcrRel {s s' : Stmt} (h : Sized s s') : PcrRel s s' := by
  cases h <;> exact ⟨_, _, _, _, _, rfl⟩

theorem pcrLoop_pw (fuel : Nat) (ss : List Stmt) {ss' : List Stmt} (h : pcrLoop fuel ss = .ok ss') :
    PW PcrRel ss ss' :=
  (pcrLoop_sized h).mono fun _ _ => Sized.pcrRel

/-! ### runs that are not accepted -/

/-- no internal error, from an invariant of the statement list that every step keeps, under which `determine` raises
none and `forceFirst` finds its two choices -/
theorem pcrLoop_ne_internal {I : List Stmt → Prop}
    (hstep : ∀ {ss : List Stmt} {i : Nat} {s s' : Stmt}, I ss → ss[i]? = some s → s.fixedSize = false →
      Step ss i s s' → I (ss.set i s'))
    (hdet : ∀ {ss : List Stmt} {i : Nat} {s : Stmt}, I ss → ss[i]? = some s → s.fixedSize = false →
      determine ss i s ≠ .internal)
    (hforce : ∀ {ss : List Stmt}, I ss → ∀ s ∈ ss, s.fixedSize = false →
      ∃ c0 c1 s', s.pkg.choices = [c0, c1] ∧ settle s 2 4 c1 = some s') :
    ∀ (fuel : Nat) {ss : List Stmt}, I ss → pcrLoop fuel ss ≠ .internal := by
  have pass : ∀ (n : Nat) {ss : List Stmt} (i : Nat) (p : Bool), I ss → pcrPass n ss i p ≠ .internal := by
    intro n
    induction n with
    | zero => intro ss i p _; simp [pcrPass]
    | succ n ih =>
      intro ss i p hI
      cases hs : ss[i]? with
      | none => rw [pcrPass_end hs]; nofun
      | some s =>
        rw [pcrPass_step hs]
        cases hf : s.fixedSize with
        | true => exact ih _ _ hI
        | false =>
          cases hd : determine ss i s with
          | ok s' => exact ih _ _ (hstep hI hs hf (determine_step hd))
          | internal => exact absurd hd (hdet hI hs hf)
          | _ => nofun
  intro fuel
  induction fuel with
  | zero => intro ss _; unfold pcrLoop; split <;> nofun
  | succ fuel ih =>
    intro ss hI
    unfold pcrLoop
    split
    · nofun
    · cases hp : pcrPass ss.length ss 0 false with
      | ok x =>
        obtain ⟨ss', fl⟩ := x
        have hI' := pcrPass_steps hstep hp hI
        cases fl with
        | true => exact ih hI'
        | false =>
          dsimp only
          obtain ⟨r, hr⟩ := forceFirst_isSome (hforce hI')
          rw [hr]
          refine ih ?_
          rcases forceFirst_step hr with ⟨_, rfl⟩ | ⟨i, s, s', c0, c1, hs, hf, hch, hset, rfl⟩
          · exact hI'
          · exact hstep hI' hs hf ⟨c0, c1, hch, .inr (.inl hset)⟩
      | internal => exact absurd hp (pass _ _ _ hI)
      | _ => nofun

theorem pcrLoop_not_diverged_of_fuel (fuel : Nat) (ss : List Stmt) (h : unfixed ss ≤ fuel) :
    pcrLoop fuel ss ≠ .diverged := by
  induction fuel generalizing ss with
  | zero =>
    have : allFixed ss = true := (allFixed_iff_unfixed ss).mpr (by omega)
    simp [pcrLoop, this]
  | succ fuel ih =>
    unfold pcrLoop
    split
    · simp
    · rename_i hnf
      have hpos : unfixed ss ≠ 0 := fun h0 => hnf ((allFixed_iff_unfixed ss).mpr h0)
      split
      · rename_i ss' hp
        obtain ⟨h2, h3⟩ := pcrPass_spec _ _ _ _ hp
        have := h3 rfl
        simp at this
        exact ih _ (by omega)
      · rename_i ss' hp
        obtain ⟨h2, _⟩ := pcrPass_spec _ _ _ _ hp
        split
        · rename_i ss'' hff
          rcases forceFirst_spec hff with h4 | ⟨h4, h5⟩
          · exact ih _ (by omega)
          · subst h5
            exact ih _ (by have := (allFixed_iff_unfixed _).mp h4; omega)
        · simp
      · simp
      · simp
      · rename_i hd; exact absurd hd (pcrPass_not_diverged _ _ _ _)

theorem pcrLoop_not_diverged (ss : List Stmt) : pcrLoop (ss.length + 1) ss ≠ .diverged :=
  pcrLoop_not_diverged_of_fuel _ _ (by have := unfixed_le_length ss; omega)

end CoCo.Asm
