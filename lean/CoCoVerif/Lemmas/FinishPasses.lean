/-
Lemmas/FinishPasses.lean — `calculate_address_offset` (`addrOffset`) cut into its two halves: the value of ONE operand
of a label expression (`addrOperand`) and the arithmetic on the two integers in the written order (`addrCombine`;
fix bd9f69a: left `op` right, a result below zero is reduced modulo 65536 for every operator; closed form for `+` and `-`:
`addrCombine_pm_eq`; `addrOffset_bind` is `addrOffset` as the `bind` of the three).  Then the loop bodies of the three passes
of `finish` that use it: `evalSyms` (`evalSym`, `evalSym_eq`), `fixAll` (`fixFit`: `fix_addresses`, then `fit_operand_width`,
`fixFit_eq`) and `finalSymTab` (`finalSym1`), with the equations of the three loops: each is a traversal
(Lemmas/ListPass.lean), and what a successful run does to the list is read off that (`fixAll_ok`, `evalSyms_pw`,
`finalSymTab_pw`); `evalSyms` and `finalSymTab` do not diverge.  `addrOffset`, and so `evalSyms`, depends on the statement list
through `addrOf` only (`addrOffset_column`, `evalSyms_column`).
-/
import CoCoVerif.Lemmas.NumValue
import CoCoVerif.Lemmas.SymTab

namespace CoCo.Asm
open CoCo

/-- the arithmetic of `calculate_address_offset` on the two operand values `a` (left) and `b` (right) -/
def addrCombine (op : Char) (a b : Int) : Outcome Value :=
  let z : Option Int :=
    if op == '+' then some (a + b) else if op == '-' then some (a - b)
    else if op == '*' then some (a * b) else (if b = 0 then none else some (Int.tdiv a b))
  match z with
  | none => .diag
  | some z => (match numericOfInt (if z < 0 then z % 65536 else z) (some 4) .extended with | .ok nv => .ok nv | .error _ => .diag)

/-- the last step of `calculate_address_offset`: a result `z` below zero is reduced modulo `$10000`, one above `$FFFF` is
rejected; in closed form, the value is `z mod $10000` whenever `z ≤ $FFFF` -/
theorem wrapNumeric (z : Int) :
    (match numericOfInt (if z < 0 then z % 65536 else z) (some 4) .extended with
     | .ok nv => Outcome.ok nv | .error _ => .diag)
      = if z ≤ 65535 then .ok (.numeric (z % 65536).toNat (some 4) .extended false) else .diag := by
  by_cases h : z ≤ 65535
  · rw [if_pos h]
    have h0 : 0 ≤ z % 65536 := Int.emod_nonneg _ (by decide)
    have h1 : z % 65536 < 65536 := Int.emod_lt_of_pos _ (by decide)
    have e : (if z < 0 then z % 65536 else z) = (((z % 65536).toNat : Nat) : Int) := by split <;> omega
    rw [e, numericOfInt_nat (by omega)]
    rfl
  · rw [if_neg h, if_neg (by omega), numericOfInt_big (by omega)]

/-- the sum or the difference: the number `calculate_address_offset` computes for the operators `+` and `-` -/
def pm (op : Char) (a c : Int) : Int := if op = '+' then a + c else a - c

theorem pm_plus (a c : Int) : pm '+' a c = a + c := if_pos rfl
theorem pm_minus (a c : Int) : pm '-' a c = a - c := if_neg (by decide)

theorem pm_add_left (op : Char) (a c : Int) (D : Nat) : pm op (a + D) c = pm op a c + D := by
  unfold pm; split <;> omega

/-- `a + c`, `a - c` (SIGNED operands, in the written order): above `$FFFF` the expression is rejected, otherwise the
value is the result modulo `$10000` — a NEGATIVE result is reduced, for both operators -/
theorem addrCombine_pm_eq {op : Char} (hop : op = '+' ∨ op = '-') (a c : Int) :
    addrCombine op a c =
      if pm op a c ≤ 65535 then .ok (.numeric (pm op a c % 65536).toNat (some 4) .extended false) else .diag := by
  unfold addrCombine
  rcases hop with rfl | rfl
  · simp only [beq_self_eq_true, if_true, pm_plus]
    exact wrapNumeric _
  · simp only [show ('-' == '+') = false from rfl, Bool.false_eq_true, if_false, beq_self_eq_true, if_true, pm_minus]
    exact wrapNumeric _

theorem addrCombine_plus_int (a c : Int) :
    addrCombine '+' a c =
      if a + c ≤ 65535 then .ok (.numeric ((a + c) % 65536).toNat (some 4) .extended false) else .diag := by
  rw [addrCombine_pm_eq (.inl rfl), pm_plus]

theorem addrCombine_minus_int (a c : Int) :
    addrCombine '-' a c =
      if a - c ≤ 65535 then .ok (.numeric ((a - c) % 65536).toNat (some 4) .extended false) else .diag := by
  rw [addrCombine_pm_eq (.inr rfl), pm_minus]

/-- the arithmetic of `calculate_address_offset` for `+` and `-`: the value is left `op` right in ℤ modulo 65536
(a result below zero is reduced, one in range is itself, one above 65535 is rejected) -/
theorem addrCombine_pm {op : Char} (hop : op = '+' ∨ op = '-') {a b : Int} {v : Value} {t : Nat}
    (h : addrCombine op a b = .ok v) (ht : v.int? = some t) :
    (op = '+' ∧ (t : Int) = (a + b) % 65536) ∨ (op = '-' ∧ (t : Int) = (a - b) % 65536) := by
  rw [addrCombine_pm_eq hop] at h
  split at h
  · cases h
    obtain rfl : (pm op a b % 65536).toNat = t := Option.some.inj ht
    have h0 : 0 ≤ pm op a b % 65536 := Int.emod_nonneg _ (by decide)
    rcases hop with rfl | rfl
    · rw [pm_plus] at h0 ⊢; exact .inl ⟨rfl, by omega⟩
    · rw [pm_minus] at h0 ⊢; exact .inr ⟨rfl, by omega⟩
  · cases h

/-- every operator: what `calculate_address_offset` accepts is a number in `0 .. $FFFF` in the extended form -/
theorem addrCombine_ok {op : Char} {a b : Int} {v : Value} (h : addrCombine op a b = .ok v) :
    ∃ x, x < 65536 ∧ v = .numeric x (some 4) .extended false := by
  unfold addrCombine at h
  dsimp only at h
  split at h
  · cases h
  · rename_i z _
    rw [wrapNumeric] at h
    split at h
    · cases h
      have h0 : 0 ≤ z % 65536 := Int.emod_nonneg _ (by decide)
      have h1 : z % 65536 < 65536 := Int.emod_lt_of_pos _ (by decide)
      exact ⟨_, by omega, rfl⟩
    · cases h

theorem addrOffset_expr (ss : List Stmt) (l r : Value) (op : Char) (m : Mode) (ae : Bool) :
    addrOffset ss (.expr l r op m ae) =
      (match addrOperand ss l with
       | .ok a =>
         (match addrOperand ss r with
          | .ok b => addrCombine op a b
          | .diag => .diag
          | .internal => .internal
          | .diverged => .diverged)
       | .diag => .diag
       | .internal => .internal
       | .diverged => .diverged) := by
  simp only [addrOffset, addrCombine]
  cases addrOperand ss l <;> try rfl
  cases addrOperand ss r <;> rfl

theorem addrOffset_bind (ss : List Stmt) (l r : Value) (op : Char) (m : Mode) (ae : Bool) :
    addrOffset ss (.expr l r op m ae) =
      (addrOperand ss l).bind fun a => (addrOperand ss r).bind fun b => addrCombine op a b := by
  rw [addrOffset_expr]
  cases addrOperand ss l <;> try rfl
  cases addrOperand ss r <;> rfl

theorem addrOperand_eq (ss : List Stmt) (x : Value) :
    addrOperand ss x =
      if x.isAddress then
        (Outcome.ofOptionI x.int?).bind fun j => (Outcome.ofOptionI (addrIntOf ss j)).map fun a : Nat => (a : Int)
      else if x.isNumeric then (Outcome.ofOptionI x.int?).map fun n : Nat => if x.isNegative then -(n : Int) else n
      else .diag := by
  unfold addrOperand
  split
  · cases x.int? with
    | none => rfl
    | some j => dsimp only [Outcome.ofOptionI, Outcome.bind]; cases addrIntOf ss j <;> rfl
  · split
    · cases x.int? <;> rfl
    · rfl

theorem addrOffset_nonexpr (ss : List Stmt) (v : Value) (h : ∀ l r op m ae, v ≠ .expr l r op m ae) :
    addrOffset ss v = .internal := by
  cases v <;> first | rfl | exact absurd rfl (h _ _ _ _ _)

theorem addrCombine_cases (op : Char) (a b : Int) :
    addrCombine op a b = .diag ∨ ∃ v, addrCombine op a b = .ok v := by
  unfold addrCombine
  generalize (if (op == '+') = true then _ else _ : Option Int) = z
  cases z with
  | none => left; rfl
  | some z => dsimp only; cases numericOfInt (if z < 0 then z % 65536 else z) (some 4) .extended <;> simp

theorem addrCombine_ne_internal (op : Char) (a b : Int) : addrCombine op a b ≠ .internal := by
  rcases addrCombine_cases op a b with h | ⟨v, h⟩ <;> rw [h] <;> simp

theorem addrCombine_ne_diverged (op : Char) (a b : Int) : addrCombine op a b ≠ .diverged := by
  rcases addrCombine_cases op a b with h | ⟨v, h⟩ <;> rw [h] <;> simp

theorem addrOperand_ne_diverged (ss : List Stmt) (v : Value) : addrOperand ss v ≠ .diverged := by
  unfold addrOperand
  repeat' split
  all_goals simp

theorem addrOffset_not_diverged (ss : List Stmt) (v : Value) : addrOffset ss v ≠ .diverged := by
  cases v with
  | expr l r op m ae =>
    rw [addrOffset_bind]
    exact Outcome.bind_ne_diverged (addrOperand_ne_diverged ss l) fun _ _ =>
      Outcome.bind_ne_diverged (addrOperand_ne_diverged ss r) fun _ _ => addrCombine_ne_diverged _ _ _
  | _ => nofun

theorem addrOperand_diag_iff (ss ss' : List Stmt) (v : Value) :
    addrOperand ss v = .diag ↔ addrOperand ss' v = .diag := by
  unfold addrOperand
  repeat' split
  all_goals simp

theorem addrOperand_address (ss : List Stmt) (j : Nat) (m : Mode) :
    addrOperand ss (.address j m) = (match addrIntOf ss j with | some x => .ok (x : Int) | none => .internal) := rfl

theorem addrOperand_address_ok {ss : List Stmt} {j : Nat} {mj : Mode} {a : Int}
    (h : addrOperand ss (.address j mj) = .ok a) : ∃ y : Nat, addrIntOf ss j = some y ∧ a = y := by
  rw [addrOperand_address] at h
  cases hy : addrIntOf ss j with
  | none => rw [hy] at h; cases h
  | some y => rw [hy] at h; cases h; exact ⟨y, rfl, rfl⟩

theorem addrOperand_numeric (ss : List Stmt) (k : Nat) (h : Option Nat) (m : Mode) (n : Bool) :
    addrOperand ss (.numeric k h m n) = .ok (if n then -(k : Int) else k) := rfl

theorem addrOperand_numeric_pos (ss : List Stmt) (k : Nat) (h : Option Nat) (m : Mode) :
    addrOperand ss (.numeric k h m false) = .ok (k : Int) := rfl

theorem addrOperand_other (ss : List Stmt) (v : Value) (ha : v.isAddress = false) (hn : v.isNumeric = false) :
    addrOperand ss v = .diag := by
  simp [addrOperand, ha, hn]

theorem addrOperand_label {ss : List Stmt} {r : Value} {t a : Nat} (hlab : r.isAddress = true) (hi : r.int? = some t)
    (ha : addrIntOf ss t = some a) : addrOperand ss r = .ok (a : Int) := by
  rw [addrOperand_eq, if_pos hlab, hi, Outcome.ofOptionI, Outcome.ok_bind, ha]
  rfl

theorem addrOffset_ok {ss : List Stmt} {l r : Value} {op : Char} {m : Mode} {ae : Bool} {v : Value} :
    addrOffset ss (.expr l r op m ae) = .ok v ↔
      ∃ a b, addrOperand ss l = .ok a ∧ addrOperand ss r = .ok b ∧ addrCombine op a b = .ok v := by
  rw [addrOffset_expr]
  cases addrOperand ss l <;> cases addrOperand ss r <;> simp

/-- whatever the operands, a result of `calculate_address_offset` is a 16-bit number -/
theorem addrOffset_numeric {ss : List Stmt} {v x : Value} (hx : addrOffset ss v = .ok x) :
    ∃ n, n < 65536 ∧ x = .numeric n (some 4) .extended false := by
  cases v with
  | expr l r op m ae =>
    obtain ⟨a, b, _, _, h3⟩ := addrOffset_ok.1 hx
    exact addrCombine_ok h3
  | _ => cases hx

theorem addrOffset_isNumeric {ss : List Stmt} {v x : Value} (hx : addrOffset ss v = .ok x) : x.isNumeric = true := by
  obtain ⟨_, _, rfl⟩ := addrOffset_numeric hx
  rfl

/-- the loop body of `evalSyms` -/
def evalSym (ss : List Stmt) (t : SymTab) (v : Value) : Outcome Value :=
  if v.isExpression || v.isAddrExpr then
    match v.resolve t with
    | .error _ => .diag
    | .ok r =>
      match (if r.isAddrExpr then addrOffset ss r else .ok r) with
      | .ok r' => .ok (if r'.isNumeric then r' else v)
      | o => o
  else .ok v

theorem evalSym_eq (ss : List Stmt) (t : SymTab) (v : Value) :
    evalSym ss t v =
      if v.isExpression || v.isAddrExpr then
        (Outcome.ofR (v.resolve t)).bind fun r =>
          (if r.isAddrExpr then addrOffset ss r else .ok r).map fun r' => if r'.isNumeric then r' else v
      else .ok v := by
  unfold evalSym
  split
  · cases v.resolve t with
    | error e => rfl
    | ok r => dsimp only [Outcome.ofR, Outcome.bind]; cases (if r.isAddrExpr = true then addrOffset ss r else .ok r) <;> rfl
  · rfl

theorem evalSyms_nil (ss : List Stmt) (t : SymTab) : evalSyms ss t [] = .ok [] := rfl

theorem evalSyms_cons (ss : List Stmt) (t : SymTab) (k : Str) (v : Value) (rest : SymTab) :
    evalSyms ss t ((k, v) :: rest) =
      match evalSym ss t v with
      | .ok v' => (match evalSyms ss t rest with | .ok r => .ok ((k, v') :: r) | o => o)
      | .diag => .diag
      | .internal => .internal
      | .diverged => .diverged := by
  rw [evalSyms]; rfl

theorem evalSyms_eq_traverse (ss : List Stmt) (t : SymTab) (i : Nat) (x : SymTab) :
    evalSyms ss t x = Outcome.traverse (fun _ kv => (evalSym ss t kv.2).map fun v' => (kv.1, v')) i x := by
  induction x generalizing i with
  | nil => rfl
  | cons kv rest ih =>
    obtain ⟨k, v⟩ := kv
    rw [evalSyms_cons, ih (i + 1), Outcome.traverse_cons]
    cases evalSym ss t v <;> cases Outcome.traverse _ (i + 1) rest <;> rfl

theorem evalSym_plain (ss : List Stmt) (t : SymTab) {v : Value} (h : ∀ l r op m ae, v ≠ .expr l r op m ae) :
    evalSym ss t v = .ok v := by
  cases v <;> first | rfl | exact absurd rfl (h _ _ _ _ _)

theorem evalSym_address (ss : List Stmt) (t : SymTab) (i : Nat) (m : Mode) :
    evalSym ss t (.address i m) = .ok (.address i m) := rfl

theorem evalSym_numeric (ss : List Stmt) (t : SymTab) (i : Nat) (h : Option Nat) (m : Mode) (n : Bool) :
    evalSym ss t (.numeric i h m n) = .ok (.numeric i h m n) := rfl

theorem evalSym_expr (ss : List Stmt) (t : SymTab) (l r : Value) (op : Char) (m : Mode) (ae : Bool) :
    evalSym ss t (.expr l r op m ae) =
      match (Value.expr l r op m ae).resolve t with
      | .error _ => .diag
      | .ok x =>
        match (if x.isAddrExpr then addrOffset ss x else .ok x) with
        | .ok r' => .ok (if r'.isNumeric then r' else .expr l r op m ae)
        | o => o := by
  cases ae <;> rfl

theorem evalSym_ok_cases {ss : List Stmt} {t : SymTab} {v v' : Value} (h : evalSym ss t v = .ok v') :
    v' = v ∨ (v'.isNumeric = true ∧ ∃ l r op m ae, v = .expr l r op m ae) := by
  cases v with
  | expr l r op m ae =>
    rw [evalSym_expr] at h
    split at h
    · cases h
    · split at h
      · rename_i r' _
        simp only [Outcome.ok.injEq] at h
        subst h
        by_cases hn : r'.isNumeric = true
        · right; rw [if_pos hn]; exact ⟨hn, _, _, _, _, _, rfl⟩
        · left; rw [if_neg hn]
      · rename_i hne
        exact absurd h (hne v')
  | _ => left; cases h; rfl

/-- a successful `evalSyms` keeps the keys and puts every value through `evalSym` -/
theorem evalSyms_pw {ss : List Stmt} {t x r : SymTab} (h : evalSyms ss t x = .ok r) :
    PW (fun kv kv' => kv'.1 = kv.1 ∧ evalSym ss t kv.2 = .ok kv'.2) x r :=
  Outcome.traverse_pw (evalSyms_eq_traverse ss t 0 x ▸ h) fun _ _ _ _ he => by
    obtain ⟨v', hv, rfl⟩ := Outcome.map_eq_ok he
    exact ⟨rfl, hv⟩

theorem evalSyms_length {ss : List Stmt} {t x r : SymTab} (h : evalSyms ss t x = .ok r) : r.length = x.length :=
  (evalSyms_pw h).length_eq

theorem evalSyms_getElem? {ss : List Stmt} {t : SymTab} : ∀ {x r : SymTab}, evalSyms ss t x = .ok r →
    ∀ (i : Nat) (k : Str) (v : Value), x[i]? = some (k, v) → ∃ v', evalSym ss t v = .ok v' ∧ r[i]? = some (k, v') := by
  intro x r h i k v hx
  obtain ⟨⟨k', v'⟩, hr, rfl, hv⟩ := (evalSyms_pw h).get hx
  exact ⟨v', hv, hr⟩

theorem evalSyms_get? {ss : List Stmt} {t x r : SymTab} (h : evalSyms ss t x = .ok r) {k : Str} {v : Value}
    (hk : x.get? k = some v) : ∃ v', r.get? k = some v' ∧ evalSym ss t v = .ok v' :=
  PW.lookup (R := fun v v' => evalSym ss t v = .ok v') (evalSyms_pw h) hk

theorem evalSyms_plain (ss : List Stmt) (t : SymTab) : ∀ (x : SymTab),
    (∀ kv ∈ x, ∀ l r op m ae, kv.2 ≠ .expr l r op m ae) → evalSyms ss t x = .ok x := by
  intro x h
  rw [evalSyms_eq_traverse ss t 0]
  exact Outcome.traverse_id fun _ kv hkv => by rw [evalSym_plain ss t (h kv (List.mem_of_getElem? hkv))]; rfl

theorem evalSym_not_diverged (ss : List Stmt) (t : SymTab) (v : Value) : evalSym ss t v ≠ .diverged := by
  rw [evalSym_eq]
  split
  · refine Outcome.bind_ne_diverged (Outcome.ofR_ne_diverged _) fun r _ => Outcome.map_ne_diverged ?_
    split
    · exact addrOffset_not_diverged _ _
    · nofun
  · nofun

theorem evalSyms_not_diverged (ss : List Stmt) (t t0 : SymTab) : evalSyms ss t t0 ≠ .diverged := by
  rw [evalSyms_eq_traverse ss t 0]
  exact Outcome.traverse_ne_diverged fun _ kv _ => Outcome.map_ne_diverged (evalSym_not_diverged ss t kv.2)

/-- the loop body of `fixAll` -/
def fixFit (ss : List Stmt) (i : Nat) (s : Stmt) : Outcome Stmt :=
  match fixOne ss i s with | .ok s1 => fitWidth s1 | o => o

theorem fixFit_eq (ss : List Stmt) (i : Nat) (s : Stmt) : fixFit ss i s = (fixOne ss i s).bind fitWidth := by
  unfold fixFit; cases fixOne ss i s <;> rfl

theorem fixAll_cons (ss : List Stmt) (i : Nat) (s : Stmt) (rest : List Stmt) :
    fixAll ss i (s :: rest) =
      match fixFit ss i s with
      | .ok s' => (match fixAll ss (i + 1) rest with | .ok r => .ok (s' :: r) | o => o)
      | .diag => .diag
      | .internal => .internal
      | .diverged => .diverged := by
  rw [fixAll]; rfl

theorem fixAll_eq_traverse (ss : List Stmt) (i : Nat) (l : List Stmt) :
    fixAll ss i l = Outcome.traverse (fixFit ss) i l := by
  induction l generalizing i with
  | nil => rfl
  | cons s rest ih =>
    rw [fixAll_cons, ih, Outcome.traverse_cons]
    cases fixFit ss i s <;> cases Outcome.traverse (fixFit ss) (i + 1) rest <;> rfl

theorem fixAll_ok {ss : List Stmt} {i : Nat} {l l' : List Stmt} (h : fixAll ss i l = .ok l') :
    l'.length = l.length ∧
      ∀ j s, l[j]? = some s → ∃ s', l'[j]? = some s' ∧ fixFit ss (i + j) s = .ok s' :=
  Outcome.traverse_eq_ok.1 (fixAll_eq_traverse ss i l ▸ h)

/-- a statement that leaves `fixAll` is `fixFit` of the statement at its position -/
theorem fixAll_mem {as fs : List Stmt} (h : fixAll as 0 as = .ok fs) {x : Stmt} (hx : x ∈ fs) :
    ∃ j s, as[j]? = some s ∧ fixFit as j s = .ok x := by
  obtain ⟨hl, hp⟩ := fixAll_ok h
  obtain ⟨j, hj⟩ := List.getElem?_of_mem hx
  have hjl : j < as.length := by
    have := lt_of_getElem? hj
    omega
  obtain ⟨s', e1, e2⟩ := hp j as[j] (List.getElem?_eq_getElem hjl)
  rw [hj] at e1; cases e1
  rw [Nat.zero_add] at e2
  exact ⟨j, _, List.getElem?_eq_getElem hjl, e2⟩

theorem fixFit_ok {ss : List Stmt} {i : Nat} {s s' : Stmt} :
    fixFit ss i s = .ok s' ↔ ∃ s1, fixOne ss i s = .ok s1 ∧ fitWidth s1 = .ok s' := by
  rw [fixFit_eq]
  exact ⟨Outcome.bind_eq_ok, fun ⟨s1, h1, h2⟩ => by rw [h1]; exact h2⟩

/-- the final value of a symbol: statement indices are replaced by statement addresses -/
def finalVal (ss : List Stmt) (v : Value) : Option Value :=
  match v with
  | .address i _ => addrOf ss i
  | .pyNone => none
  | v => some v

/-- the loop body of `finalSymTab` -/
def finalSym1 (ss : List Stmt) (kv : Str × Value) : Outcome (Str × Value) :=
  match finalVal ss kv.2 with
  | some x => .ok (kv.1, x)
  | none => .internal

theorem finalSym1_eq (ss : List Stmt) (kv : Str × Value) :
    finalSym1 ss kv = (Outcome.ofOptionI (finalVal ss kv.2)).map (kv.1, ·) := by
  unfold finalSym1
  cases finalVal ss kv.2 <;> rfl

/-- the rest of the table first, then the entry -/
theorem finalSymTab_cons (ss : List Stmt) (k : Str) (v : Value) (rest : SymTab) :
    finalSymTab ss ((k, v) :: rest) =
      (finalSymTab ss rest).bind fun r =>
        match finalVal ss v with
        | some x => .ok ((k, x) :: r)
        | none => .internal := by
  rw [finalSymTab]
  cases finalSymTab ss rest with
  | ok r =>
    cases v with
    | address i m =>
      rw [show finalVal ss (.address i m) = addrOf ss i from rfl]
      dsimp only
      cases addrOf ss i <;> rfl
    | _ => rfl
  | _ => rfl

/-- `finalSymTab` walks the table from its end; a step fails in one way only, so the order does not show -/
theorem finalSymTab_eq_traverse (ss : List Stmt) (i : Nat) (t : SymTab) :
    finalSymTab ss t = Outcome.traverse (fun _ => finalSym1 ss) i t := by
  suffices h : finalSymTab ss t = Outcome.traverse (fun _ => finalSym1 ss) i t ∧
      (finalSymTab ss t = .internal ∨ ∃ r, finalSymTab ss t = .ok r) from h.1
  induction t generalizing i with
  | nil => exact ⟨rfl, .inr ⟨_, rfl⟩⟩
  | cons kv rest ih =>
    obtain ⟨k, v⟩ := kv
    obtain ⟨e, hr⟩ := ih (i + 1)
    rw [Outcome.traverse_cons, ← e, finalSymTab_cons]
    unfold finalSym1
    rcases hr with hr | ⟨r, hr⟩ <;> rw [hr] <;> cases finalVal ss v <;>
      simp [Outcome.bind, Outcome.consM]

theorem finalSym1_eq_ok {ss : List Stmt} {kv kv' : Str × Value} :
    finalSym1 ss kv = .ok kv' ↔ kv'.1 = kv.1 ∧ finalVal ss kv.2 = some kv'.2 := by
  unfold finalSym1
  cases finalVal ss kv.2 with
  | none => simp
  | some x => simp [Prod.ext_iff, eq_comm]

/-- a successful `finalSymTab` keeps the keys and replaces every value by its final value -/
theorem finalSymTab_pw {ss : List Stmt} {t r : SymTab} (h : finalSymTab ss t = .ok r) :
    PW (fun kv kv' => kv'.1 = kv.1 ∧ finalVal ss kv.2 = some kv'.2) t r :=
  Outcome.traverse_pw (finalSymTab_eq_traverse ss 0 t ▸ h) fun _ _ _ _ => finalSym1_eq_ok.1

theorem finalVal_keep {ss : List Stmt} {v v' : Value} (hna : v.isAddress = false) (h : finalVal ss v = some v') :
    v' = v := by
  cases v with
  | address => cases hna
  | pyNone => cases h
  | _ => exact (Option.some.inj h).symm

theorem finalSymTab_get {ss : List Stmt} {t t' : SymTab} (h : finalSymTab ss t = .ok t') {k : Str} {v : Value}
    (hk : t.get? k = some v) : ∃ v', t'.get? k = some v' ∧ finalVal ss v = some v' :=
  PW.lookup (R := fun v v' => finalVal ss v = some v') (finalSymTab_pw h) hk

theorem finalSymTab_not_diverged (ss : List Stmt) (t : SymTab) : finalSymTab ss t ≠ .diverged := by
  rw [finalSymTab_eq_traverse ss 0]
  exact Outcome.traverse_ne_diverged fun _ kv _ => by unfold finalSym1; split <;> nofun

/-! ### the address column

`calculate_address_offset`, and with it `evalSyms`, reads the statement list through `addrOf` only. -/

section column
variable {ss ss' : List Stmt} (hA : ∀ j, addrOf ss' j = addrOf ss j)
include hA

theorem addrIntOf_column (j : Nat) : addrIntOf ss' j = addrIntOf ss j := by
  unfold addrIntOf; rw [hA]

theorem addrOperand_column (v : Value) : addrOperand ss' v = addrOperand ss v := by
  simp only [addrOperand_eq, addrIntOf_column hA]

theorem addrOffset_column (v : Value) : addrOffset ss' v = addrOffset ss v := by
  cases v with
  | expr l r op m ae => simp only [addrOffset_bind, addrOperand_column hA]
  | _ => rfl

theorem evalSym_column (t : SymTab) (v : Value) : evalSym ss' t v = evalSym ss t v := by
  simp only [evalSym_eq, addrOffset_column hA]

theorem evalSyms_column (t x : SymTab) : evalSyms ss' t x = evalSyms ss t x := by
  simp only [evalSyms_eq_traverse _ t 0, evalSym_column hA]

end column

end CoCo.Asm
