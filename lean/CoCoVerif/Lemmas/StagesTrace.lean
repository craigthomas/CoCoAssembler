/-
Lemmas/StagesTrace.lean — the history of one statement of an accepted program through the stages of
`assemble`: the parsed statement (a row of the instruction table, an operand out of `createOperand`), the
resolved operand, the translated package, the state after the PCR size loop (untouched when the size was
fixed), after address assignment, after `fixOne` and after `fitWidth`.  `Compiled` is that history with the statements
in closed form (`laidOut`); `Stages.compiled` walks the stages once, and a proof about one statement of an accepted
program starts from it.
-/
import CoCoVerif.Lemmas.FrontInclude
import CoCoVerif.Lemmas.StagesKeep

namespace CoCo.Asm
open CoCo

/-- `front_forall` in the terms of `Stages.hparse`, `Stages.hexpand` -/
theorem expand_parseLines_forall {P : Stmt → Prop} (hP : ∀ l s, parseLine l = .ok (some s) → P s) {fs : Files}
    {lines : List Str} {parsed ss0 : List Stmt} (hp : parseLines lines = .ok parsed)
    (he : expand fs (includeFuel fs) [] parsed = .ok ss0) : ∀ s ∈ ss0, P s :=
  front_forall hP (front_eq_ok.2 ⟨parsed, hp, he⟩)

theorem expand_parsed {fs : Files} {lines : List Str} {parsed ss0 : List Stmt}
    (hp : parseLines lines = .ok parsed) (he : expand fs (includeFuel fs) [] parsed = .ok ss0) : ∀ s ∈ ss0, Parsed s :=
  expand_parseLines_forall (fun _ _ h => parseLine_parsed h) hp he

def mkTranslated (s0 : Stmt) (o : Operand) (p : Pkg) : Stmt :=
  { s0 with operand := o, pkg := p, fixedSize := p.choices.isEmpty }

/-- the history of the final statement `s` of index `i` -/
structure Trace {fs : Files} {lines : List Str} {a : Assembly} (st : Stages fs lines a) (i : Nat) (s : Stmt) where
  s0 : Stmt
  o : Operand
  p : Pkg
  s3 : Stmt
  s4 : Stmt
  sf : Stmt
  /-- the statement after `fitWidth`, before the FCB / FDB lists are evaluated -/
  sw : Stmt
  /-- the statements after `fixAll`, before the FCB / FDB lists are evaluated -/
  x5 : List Stmt
  h0 : st.ss0[i]? = some s0
  parsed : Parsed s0
  hres : resolveOperand s0.operand s0.row st.t = .ok o
  htr : translateOperand o s0.row = .ok p
  h2 : st.ss2[i]? = some (mkTranslated s0 o p)
  h3 : st.ss3[i]? = some s3
  pcr : PcrRel (mkTranslated s0 o p) s3
  fixed : (mkTranslated s0 o p).fixedSize = true → s3 = mkTranslated s0 o p
  h4 : st.ss4[i]? = some s4
  addr : AddrRel s3 s4
  hfix : fixOne st.ss4 i s4 = .ok sf
  /-- `fitWidth` gives `sw`; the final statement is `evalList1` of it (`hlist`) -/
  hfit : fitWidth sf = .ok sw
  hx5 : fixAll st.ss4 0 st.ss4 = .ok x5
  hl5 : evalLists st.t x5 x5 = .ok a.stmts
  hw5 : x5[i]? = some sw
  hlist : evalList1 st.t x5 sw = .ok s

/-- a statement from the size loop on, written out: what the parser read (`s0`), the resolved operand, the package
`translate` made with the size, post byte and hint the size loop left, an address and an operand field.  The statements
between the stages differ in `ad` and `v` only, so what a stage kept holds by `rfl`. -/
def laidOut (s0 : Stmt) (o : Operand) (p : Pkg) (sz mx : Nat) (pb : Value) (hint : Nat) (ad v : Value) : Stmt :=
  { s0 with operand := o,
            pkg := { p with size := sz, maxSize := mx, postByte := pb, address := ad, additional := v },
            pcrHint := hint, fixedSize := true }

/-- statement `i` of an accepted program, stage by stage: parsed as `s0`, operand resolved to `o`, translated to `p`,
through the size loop (`sz mx pb hint`), address `ad`, operand field after `fix_addresses` (`vf`), after
`fit_operand_width` (`vw`), after the list pass (`v`).  `Trace` with the statements in closed form. -/
structure Compiled {fs : Files} {lines : List Str} {a : Assembly} (st : Stages fs lines a) (i : Nat)
    (s0 : Stmt) (o : Operand) (p : Pkg) (sz mx : Nat) (pb : Value) (hint : Nat) (ad vf vw v : Value) : Prop where
  h0 : st.ss0[i]? = some s0
  parsed : Parsed s0
  hres : resolveOperand s0.operand s0.row st.t = .ok o
  htr : translateOperand o s0.row = .ok p
  h2 : st.ss2[i]? = some (mkTranslated s0 o p)
  h3 : st.ss3[i]? = some (laidOut s0 o p sz mx pb hint p.address p.additional)
  sized : Sized (mkTranslated s0 o p) (laidOut s0 o p sz mx pb hint p.address p.additional)
  h4 : st.ss4[i]? = some (laidOut s0 o p sz mx pb hint ad p.additional)
  placed : Placed (laidOut s0 o p sz mx pb hint p.address p.additional) (laidOut s0 o p sz mx pb hint ad p.additional)
  hfix : fixOne st.ss4 i (laidOut s0 o p sz mx pb hint ad p.additional) = .ok (laidOut s0 o p sz mx pb hint ad vf)
  hfit : fitWidth (laidOut s0 o p sz mx pb hint ad vf) = .ok (laidOut s0 o p sz mx pb hint ad vw)
  /-- `x5`: the statements after `fixAll`, before the FCB / FDB lists are evaluated -/
  hlist : ∃ x5, fixAll st.ss4 0 st.ss4 = .ok x5 ∧ evalLists st.t x5 x5 = .ok a.stmts ∧
    x5[i]? = some (laidOut s0 o p sz mx pb hint ad vw) ∧
    evalList1 st.t x5 (laidOut s0 o p sz mx pb hint ad vw) = .ok (laidOut s0 o p sz mx pb hint ad v)

theorem Stages.compiled {fs : Files} {lines : List Str} {a : Assembly} (st : Stages fs lines a)
    {i : Nat} {s : Stmt} (hs : a.stmts[i]? = some s) :
    ∃ s0 o p sz mx pb hint ad vf vw v, Compiled st i s0 o p sz mx pb hint ad vf vw v ∧
      s = laidOut s0 o p sz mx pb hint ad v := by
  obtain ⟨x5, hx5, hl5⟩ := st.fix_split
  obtain ⟨sw, hsw, hlist⟩ := evalLists_get hl5 hs
  obtain ⟨s4, hs4, _⟩ := (fixAll_pw hx5).get' hsw
  obtain ⟨s', hs', hff⟩ := (fixAll_ok hx5).2 i s4 hs4
  obtain ⟨sf, hfix, hfit⟩ := fixFit_ok.1 hff
  rw [hsw] at hs'; cases hs'
  rw [Nat.zero_add] at hfix
  obtain ⟨s3, hs3, hpl⟩ := (assignAddrs_placed st.haddr).get' hs4
  obtain ⟨s2, hs2, hz⟩ := (pcrLoop_sized st.hpcr).get' hs3
  obtain ⟨s1, hs1, p, htr, rfl⟩ := (translateAll_pw st.htranslate).get' hs2
  obtain ⟨s0, hs0, o, hres, rfl⟩ := (resolveAll_pw st.hresolve).get' hs1
  -- every stage from here on writes some fields and keeps the rest
  have hfx : s3.fixedSize = true := pcrLoop_fixed st.hpcr hs3
  obtain ⟨sz, mx, pb, hint, fx, rfl⟩ := hz.pcrRel
  obtain rfl : fx = true := hfx
  obtain ⟨ad, rfl⟩ := hpl.addrRel
  obtain ⟨vf, rfl⟩ := fixOne_same hfix
  obtain ⟨vw, rfl⟩ := fitWidth_same hfit
  obtain ⟨v, rfl⟩ := evalList1_same hlist
  exact ⟨s0, o, p, sz, mx, pb, hint, ad, vf, vw, v,
    ⟨hs0, expand_parsed st.hparse st.hexpand s0 (List.mem_of_getElem? hs0), hres, htr, hs2, hs3, hz, hs4, hpl, hfix, hfit,
      x5, hx5, hl5, hsw, hlist⟩, rfl⟩

/-- the same for the statement that enters `fixAll` -/
theorem Stages.compiled_ss4 {fs : Files} {lines : List Str} {a : Assembly} (st : Stages fs lines a)
    {i : Nat} {s4 : Stmt} (h4 : st.ss4[i]? = some s4) :
    ∃ s0 o p sz mx pb hint ad vf vw v, Compiled st i s0 o p sz mx pb hint ad vf vw v ∧
      s4 = laidOut s0 o p sz mx pb hint ad p.additional := by
  obtain ⟨s, hs, _⟩ := (fixAllL_pw st.hfix).get h4
  obtain ⟨s0, o, p, sz, mx, pb, hint, ad, vf, vw, v, c, rfl⟩ := st.compiled hs
  exact ⟨s0, o, p, sz, mx, pb, hint, ad, vf, vw, v, c, Option.some.inj (h4.symm.trans c.h4)⟩

theorem Stages.trace {fs : Files} {lines : List Str} {a : Assembly} (st : Stages fs lines a)
    {i : Nat} {s : Stmt} (hs : a.stmts[i]? = some s) : Nonempty (Trace st i s) := by
  obtain ⟨s0, o, p, sz, mx, pb, hint, ad, vf, vw, v, c, rfl⟩ := st.compiled hs
  obtain ⟨x5, hx5, hl5, hw5, hlist⟩ := c.hlist
  exact ⟨⟨s0, o, p, _, _, _, _, x5, c.h0, c.parsed, c.hres, c.htr, c.h2, c.h3, c.sized.pcrRel, c.sized.of_fixed, c.h4,
    c.placed.addrRel, c.hfix, c.hfit, hx5, hl5, hw5, hlist⟩⟩

namespace Compiled
variable {fs : Files} {lines : List Str} {a : Assembly} {st : Stages fs lines a} {i : Nat}
  {s0 : Stmt} {o : Operand} {p : Pkg} {sz mx : Nat} {pb : Value} {hint : Nat} {ad vf vw v : Value}

/-- a statement without post byte choices is not touched by the size loop -/
theorem fixed (c : Compiled st i s0 o p sz mx pb hint ad vf vw v) (hc : p.choices = []) :
    sz = p.size ∧ mx = p.maxSize ∧ pb = p.postByte ∧ hint = s0.pcrHint := by
  have e := c.sized.of_fixed (show p.choices.isEmpty = true by rw [hc]; rfl)
  exact ⟨congrArg (·.pkg.size) e, congrArg (·.pkg.maxSize) e, congrArg (·.pkg.postByte) e, congrArg (·.pcrHint) e⟩

/-- one with choices (a `label,PCR` operand) was settled, on a size of at least 1 -/
theorem size_pos (c : Compiled st i s0 o p sz mx pb hint ad vf vw v) (hc : p.choices ≠ []) : 0 < sz :=
  c.sized.size_pos (show p.choices.isEmpty = false by cases hq : p.choices <;> first | exact absurd hq hc | rfl) rfl

/-- an address `translate` gave (ORG) is kept by address assignment -/
theorem preset_addr (c : Compiled st i s0 o p sz mx pb hint ad vf vw v) (hp : p.address.isNone = false) :
    ad = p.address :=
  congrArg (·.pkg.address) (c.placed.preset (show (!p.address.isNone) = true by rw [hp]; rfl))

/-- the list pass leaves a field that is no list alone -/
theorem keep (c : Compiled st i s0 o p sz mx pb hint ad vf vw v) (hb : ∀ hs, vw ≠ .multiByte hs)
    (hw : ∀ hs, vw ≠ .multiWord hs) : v = vw := by
  obtain ⟨x5, _, _, _, hl⟩ := c.hlist
  rw [evalList1_keep st.t x5 (s := laidOut s0 o p sz mx pb hint ad vw) hb hw] at hl
  exact (congrArg (·.pkg.additional) (Outcome.ok.inj hl)).symm

/-- a number stored by `fix_addresses` is a number after `fit_operand_width`, and the list pass leaves it alone -/
theorem numeric (c : Compiled st i s0 o p sz mx pb hint ad vf vw v) (hn : vf.isNumeric = true) :
    vw.isNumeric = true ∧ v = vw := by
  have hw : vw.isNumeric = true := fitWidth_isNumeric c.hfit hn
  exact ⟨hw, c.keep (fun hs e => by rw [e] at hw; cases hw) (fun hs e => by rw [e] at hw; cases hw)⟩

end Compiled

theorem Stages.row_mem {fs : Files} {lines : List Str} {a : Assembly} (st : Stages fs lines a)
    {i : Nat} {s : Stmt} (hs : a.stmts[i]? = some s) : s.row ∈ Gen.instructions := by
  obtain ⟨s0, o, p, sz, mx, pb, hint, ad, vf, vw, v, c, rfl⟩ := st.compiled hs
  exact c.parsed.1

end CoCo.Asm
