/-
Lemmas/EncodeSpecial.lean — the register-operand instructions (SpecialOperand in the Python source,
`translateSpecial`): TFR / EXG by exhaustive evaluation, PSHS / PULS / PSHU / PULU for arbitrary register lists; and a
boolean reflection of `Encodes` used for finite checks and examples.
-/
import CoCoVerif.Lemmas.EncodeLayout
import CoCoVerif.Lemmas.SplitOn
import CoCoVerif.Lemmas.TranslateGraph

namespace CoCo.Asm
open CoCo CoCo.Spec.MC6809
open CoCo.Gen (InstrRow)

/-- the bytes a translated package emits after `fitWidth` (`none`: rejected, or `get_binary_array` fails) -/
def fittedBytes (r : InstrRow) (pkg : Pkg) : Option Bytes :=
  match fitPkg r pkg with
  | .ok p' => pkgBytes p'
  | _ => none

theorem fittedBytes_some {r : InstrRow} {pkg : Pkg} {bytes : Bytes} (h : fittedBytes r pkg = some bytes) :
    ∃ p', fitPkg r pkg = .ok p' ∧ pkgBytes p' = some bytes := by
  unfold fittedBytes at h
  split at h
  · exact ⟨_, by assumption, h⟩
  · cases h

def encCheck (o : Operand) (r : InstrRow) (operand : Spec.MC6809.Operand) : Bool :=
  match translateOperand o r with
  | .ok pkg =>
    match fittedBytes r pkg with
    | some bytes => !pkg.needsRes && bytes.length == pkg.size &&
        decide (decode bytes = some (⟨opOf r.mnemonic, operand⟩, bytes.length))
    | none => false
  | .error _ => false

theorem encodes_of_check {o : Operand} {r : InstrRow} {operand : Spec.MC6809.Operand}
    (h : encCheck o r operand = true) : Encodes o r operand := by
  unfold encCheck at h
  split at h
  · rename_i pkg ht
    split at h
    · rename_i bytes hb
      simp only [Bool.and_eq_true, beq_iff_eq, decide_eq_true_eq, Bool.not_eq_true'] at h
      obtain ⟨p', hf, hb'⟩ := fittedBytes_some hb
      exact ⟨pkg, bytes, ht, h.1.1, emitted_of_fitPkg hf hb', h.1.2, h.2⟩
    · exact absurd h (by simp)
  · exact absurd h (by simp)

/-- size and bytes of a translated and fitted operand (for finding witnesses) -/
def sizeAndBytes (o : Operand) (r : InstrRow) : Option (Nat × Bytes) :=
  match translateOperand o r with
  | .ok pkg => (fittedBytes r pkg).map (fun b => (pkg.size, b))
  | .error _ => none

/-- the datasheet's register codes of the TFR / EXG post byte -/
def dsPairCode (x : String) : Nat :=
  if x = "D" then 0 else if x = "X" then 1 else if x = "Y" then 2 else if x = "U" then 3 else if x = "S" then 4
  else if x = "PC" then 5 else if x = "A" then 8 else if x = "B" then 9 else if x = "CC" then 10 else 11

/-- the datasheet accepts a register pair iff both have the same width -/
def dsPairOk (a b : String) : Bool := decide (dsPairCode a ≥ 8) == decide (dsPairCode b ≥ 8)

def pairOperand (a b : String) : Operand := { kind := .special, text := a.toList ++ ',' :: b.toList, value := .none }

def isErr {α : Type} : R α → Bool | .error _ => true | .ok _ => false

/-- all 100 pairs, both instructions: accepted exactly when the datasheet accepts, and then round trips -/
theorem tfr_exg_check : ∀ r ∈ Gen.instructions, (r.mnemonic = "TFR" ∨ r.mnemonic = "EXG") →
    ∀ a ∈ Gen.registers, ∀ b ∈ Gen.registers,
      (if dsPairOk a b then encCheck (pairOperand a b) r (.pair (dsPairCode a) (dsPairCode b))
       else isErr (translateOperand (pairOperand a b) r)) = true := by
  decide +kernel

/-- the instruction's own stack pointer (`u`: PSHU / PULU) and the other one, which bit $40 stands for -/
def ownSP (u : Bool) : Str := if u then str "U" else str "S"
def otherSP (u : Bool) : Str := if u then str "S" else str "U"

/-- the post byte the model computes for a register list (`other`: the name bit $40 stands for) -/
def pshMask (other : Str) (regs : List Str) : Nat := regs.foldl (fun acc r => acc ||| regMaskPshPul other r) 0

theorem isReg_mem {x : Str} (h : isReg x = true) : ∃ y ∈ Gen.registers, y.toList = x := by
  simp only [isReg, List.any_eq_true, beq_iff_eq] at h
  exact h

theorem registers_facts : ∀ y ∈ Gen.registers, ',' ∉ y.toList ∧ y.toList ≠ [] := by
  decide +kernel

theorem isReg_facts {x : Str} (h : isReg x = true) : ',' ∉ x ∧ x ≠ [] := by
  obtain ⟨y, hy, rfl⟩ := isReg_mem h
  exact registers_facts y hy

theorem pshMask_lt (other : Str) (regs : List Str) : pshMask other regs < 256 :=
  foldl_mask_lt other regs 0 (by omega)

theorem joinWith_ne_nil (c : Char) (regs : List Str) (hne : regs ≠ []) (h : ∀ x ∈ regs, x ≠ []) :
    joinWith c regs ≠ [] := by
  cases regs with
  | nil => exact absurd rfl hne
  | cons a t =>
    have ha := h a (by simp)
    cases t with
    | nil => simpa [joinWith] using ha
    | cons b t => simp [joinWith, ha]

/-- the model reads the instruction's own and the other stack pointer off the mnemonic -/
theorem stackPointers {mn : String} {u : Bool} (hu : (mn == "PSHS" || mn == "PULS") = !u) :
    (if (mn == "PSHS" || mn == "PULS") = true then (str "S", str "U") else (str "U", str "S")) = (ownSP u, otherSP u) := by
  rw [hu]
  cases u <;> rfl

/-- a list of registers none of which is the instruction's own stack pointer (`u`: PSHU / PULU, read off the
mnemonic by `hu`): the post byte is the OR of the masks, bit $40 standing for the other stack pointer -/
theorem translateSpecial_psh {o : Operand} {r : InstrRow} {c : Nat} {regs : List Str} (u : Bool)
    (hm : (r.mnemonic == "PSHS" || r.mnemonic == "PSHU" || r.mnemonic == "PULS" || r.mnemonic == "PULU") = true)
    (hu : (r.mnemonic == "PSHS" || r.mnemonic == "PULS") = !u)
    (hm2 : (r.mnemonic == "EXG" || r.mnemonic == "TFR") = false)
    (hc : r.imm = some c) (hc' : c < 65536)
    (ht : o.text = joinWith ',' regs) (hne : regs ≠ []) (hreg : ∀ x ∈ regs, isReg x = true ∧ x ≠ ownSP u) :
    translateSpecial o r = .ok { opCode := opv c, postByte := .numeric (pshMask (otherSP u) regs) (some 2) .direct false,
                                 size := r.immSz, maxSize := r.immSz } := by
  have hreg1 : ∀ x ∈ regs, isReg x = true := fun x hx => (hreg x hx).1
  have hsplit : splitOn ',' o.text = regs := by
    rw [ht]; exact splitOn_joinWith ',' regs hne (fun x hx => (isReg_facts (hreg1 x hx)).1)
  have hempty : o.text.isEmpty = false := by
    have := joinWith_ne_nil ',' regs hne (fun x hx => (isReg_facts (hreg1 x hx)).2)
    rw [ht]; cases hj : joinWith ',' regs with
    | nil => exact absurd hj this
    | cons _ _ => rfl
  have hall : (regs.all fun x => isReg x && x != ownSP u) = true := by
    rw [List.all_eq_true]
    intro x hx
    simp [(hreg x hx).1, (hreg x hx).2]
  have hn := numV_byte (pshMask_lt (otherSP u) regs)
  unfold pshMask at hn
  unfold translateSpecial
  simp only [hm, if_true, stackPointers hu, hempty, hsplit, hall, hm2, hc, opVal_ok hc', Bool.not_true,
    Bool.false_eq_true, if_false]
  simp only [bind, Except.bind, pure, Except.pure, hn]
  rfl

/-- an empty list, or one with an entry that is no register or is the instruction's own stack pointer -/
theorem translateSpecial_stack_reject {o : Operand} {r : InstrRow} (u : Bool)
    (hm : (r.mnemonic == "PSHS" || r.mnemonic == "PSHU" || r.mnemonic == "PULS" || r.mnemonic == "PULU") = true)
    (hu : (r.mnemonic == "PSHS" || r.mnemonic == "PULS") = !u)
    (hbad : o.text.isEmpty = true ∨ ((splitOn ',' o.text).all (fun x => isReg x && x != ownSP u)) = false) :
    translateSpecial o r = .error .operandType := by
  unfold translateSpecial
  simp only [hm, if_true, stackPointers hu]
  rcases hbad with h | h
  · rw [h]; rfl
  · cases he : o.text.isEmpty
    · simp only [h, Bool.not_false, Bool.false_eq_true, if_false, if_true]; rfl
    · rfl

/-- a list that names the instruction's own stack pointer (`PSHS S`, `PULU A,U`) or something that is no register
is rejected -/
theorem translateSpecial_psh_reject {o : Operand} {r : InstrRow} (u : Bool)
    (hm : (r.mnemonic == "PSHS" || r.mnemonic == "PSHU" || r.mnemonic == "PULS" || r.mnemonic == "PULU") = true)
    (hu : (r.mnemonic == "PSHS" || r.mnemonic == "PULS") = !u)
    (hbad : ∃ x ∈ splitOn ',' o.text, isReg x = false ∨ x = ownSP u) :
    translateSpecial o r = .error .operandType := by
  refine translateSpecial_stack_reject u hm hu (.inr ?_)
  obtain ⟨x, hx, hb⟩ := hbad
  rw [List.all_eq_false]
  exact ⟨x, hx, by rcases hb with hb | hb <;> simp [hb]⟩

/-- the datasheet's push/pull post-byte bits that do not depend on the stack -/
def stackBits : List (Str × Nat) :=
  [(str "CC", 1), (str "A", 2), (str "B", 4), (str "D", 6), (str "DP", 8), (str "X", 0x10), (str "Y", 0x20),
   (str "PC", 0x80)]

/-- datasheet bit of a register name; bit 6 is the OTHER stack pointer (`uStack`: PSHU / PULU);
`none`: not a legal operand of that instruction -/
def dsBit (uStack : Bool) (x : Str) : Option Nat :=
  if x = str "U" then (if uStack then none else some 0x40)
  else if x = str "S" then (if uStack then some 0x40 else none)
  else (stackBits.find? (·.1 == x)).map (·.2)

/-- the datasheet post byte of a register list -/
def dsMask (uStack : Bool) (regs : List Str) : Nat :=
  regs.foldl (fun acc x => acc ||| (dsBit uStack x).getD 0) 0

theorem stackBits_facts : ∀ e ∈ stackBits, isReg e.1 = true ∧ e.1 ≠ str "S" ∧ e.1 ≠ str "U" ∧
    ∀ u : Bool, regMaskPshPul (otherSP u) e.1 = e.2 := by decide +kernel

/-- on every register the datasheet allows for that instruction the model's bit is the datasheet's, and the register
passes the model's check (it is a register and not the instruction's own stack pointer) -/
theorem dsBit_model {u : Bool} {x : Str} {b : Nat} (h : dsBit u x = some b) :
    isReg x = true ∧ x ≠ ownSP u ∧ regMaskPshPul (otherSP u) x = b := by
  unfold dsBit at h
  by_cases hU : x = str "U"
  · subst hU
    cases u <;> simp at h
    subst h
    exact ⟨by decide, by decide, by decide⟩
  · by_cases hS : x = str "S"
    · subst hS
      cases u <;> simp [hU] at h
      subst h
      exact ⟨by decide, by decide, by decide⟩
    · simp only [hU, hS, if_false, Option.map_eq_some_iff] at h
      obtain ⟨e, he, rfl⟩ := h
      have h1 := List.find?_some he
      have h2 := List.mem_of_find?_eq_some he
      have : e.1 = x := by simpa using h1
      subst this
      obtain ⟨f1, f2, f3, f4⟩ := stackBits_facts e h2
      exact ⟨f1, by cases u <;> simpa [ownSP], f4 u⟩

/-- the converse: what the datasheet does not allow, the model rejects -/
theorem dsBit_none {u : Bool} {x : Str} (h : dsBit u x = none) : isReg x = false ∨ x = ownSP u := by
  unfold dsBit at h
  by_cases hU : x = str "U"
  · subst hU; cases u <;> simp at h; exact Or.inr rfl
  · by_cases hS : x = str "S"
    · subst hS; cases u <;> simp [hU] at h; exact Or.inr rfl
    · left
      simp only [hU, hS, if_false, Option.map_eq_none_iff] at h
      cases hreg : isReg x
      · rfl
      · exfalso
        obtain ⟨y, hy, rfl⟩ := isReg_mem hreg
        revert y
        decide +kernel

theorem foldl_mask_eq (u : Bool) (regs : List Str) (h : ∀ x ∈ regs, (dsBit u x).isSome) (a : Nat) :
    regs.foldl (fun acc r => acc ||| regMaskPshPul (otherSP u) r) a =
      regs.foldl (fun acc x => acc ||| (dsBit u x).getD 0) a := by
  induction regs generalizing a with
  | nil => rfl
  | cons x t ih =>
    have h1 := h x (by simp)
    obtain ⟨b, hb⟩ := Option.isSome_iff_exists.mp h1
    simp only [List.foldl_cons, hb, Option.getD_some, (dsBit_model hb).2.2]
    exact ih (fun y hy => h y (by simp [hy])) _

theorem pshMask_eq_dsMask (u : Bool) (regs : List Str) (h : ∀ x ∈ regs, (dsBit u x).isSome) :
    pshMask (otherSP u) regs = dsMask u regs := foldl_mask_eq u regs h 0

/-- every register list the datasheet allows for the instruction (S in a PSHU / PULU list included) is encoded with
the datasheet's post byte -/
theorem enc_psh {o : Operand} {r : InstrRow} {c : Nat} {regs : List Str} (u : Bool)
    (hk : o.kind = .special)
    (hm : (r.mnemonic == "PSHS" || r.mnemonic == "PSHU" || r.mnemonic == "PULS" || r.mnemonic == "PULU") = true)
    (hu : (r.mnemonic == "PSHS" || r.mnemonic == "PULS") = !u)
    (hm2 : (r.mnemonic == "EXG" || r.mnemonic == "TFR") = false)
    (hc : r.imm = some c) (hlk : lookup c = some (opOf r.mnemonic, .list)) (hs : r.immSz = opcodeLen c + 1)
    (ht : o.text = joinWith ',' regs) (hne : regs ≠ [])
    (hreg : ∀ x ∈ regs, (dsBit u x).isSome) :
    Encodes o r (.list (dsMask u regs)) := by
  have hreg' : ∀ x ∈ regs, isReg x = true ∧ x ≠ ownSP u := by
    intro x hx
    obtain ⟨b, hb⟩ := Option.isSome_iff_exists.mp (hreg x hx)
    exact ⟨(dsBit_model hb).1, (dsBit_model hb).2.1⟩
  have htr := translateSpecial_psh u hm hu hm2 hc (cell_lt hlk) ht hne hreg'
  have hp := pshMask_lt (otherSP u) regs
  rw [pshMask_eq_dsMask u regs hreg] at htr hp
  rw [← translateOperand_special hk] at htr
  refine PkgLayout.encodes (c := c) (am := .list) (pb := [dsMask u regs]) (w := 0) ?_ htr rfl rfl rfl
  exact ⟨hlk, rfl, .byte hp, by simp [hs], .inl ⟨rfl, rfl⟩⟩

end CoCo.Asm
