/-
Lemmas/FrontEndOperand.lean — the source-text front end of one machine instruction: `Operand.create_from_str`
(`createOperand`) followed by `resolve_symbols` (`resolveOperand`), as `frontEnd` (empty symbol table) and `frontEndT`;
`encodeText` / `encodeTextT` take the text on to size and bytes, and `Encodes` of the resolved operand gives the
text-level statement `TextEncodes`.  Then what `createOperand` makes of a plain and of a bracketed text, and the texts
without a number (empty, `l,r` whose left part stays text); the texts that hold a number are Lemmas/FrontEndAtom.lean.
-/
import CoCoVerif.Lemmas.CreateLit
import CoCoVerif.Lemmas.EncodeWitness
import CoCoVerif.Lemmas.ResolveGraph

namespace CoCo.Asm
open CoCo CoCo.Spec.MC6809
open CoCo.Gen (InstrRow)

/-- operand text to the resolved operand: `createOperand` then `resolveOperand` with the EMPTY symbol table -/
def frontEnd (row : InstrRow) (text : Str) : R Operand :=
  match createOperand text row with
  | .ok o => resolveOperand o row []
  | .error e => .error e

/-- operand text of an instruction of row `row` to `(size, bytes)`: `createOperand`, `resolveOperand` (empty
symbol table), `translateOperand`, `fitWidth` on the statement that carries row, operand and package, and
`stmtBytes` of the fitted statement; `none` = rejected at any of these stages -/
def encodeText (row : InstrRow) (text : Str) : Option (Nat × Bytes) :=
  match frontEnd row text with
  | .ok o =>
    match translateOperand o row with
    | .ok pkg =>
      (match fitWidth (mkStmt row o pkg) with
       | .ok s' => (stmtBytes s').map (fun b => (pkg.size, b))
       | _ => none)
    | .error _ => none
  | .error _ => none

theorem fitted_mkStmt (row : InstrRow) (o : Operand) (pkg : Pkg) (f : Bytes → Nat × Bytes) :
    (match fitWidth (mkStmt row o pkg) with
     | .ok s' => (stmtBytes s').map f
     | _ => none) = (fittedBytes row pkg).map f := by
  rw [fitWidth_eq]
  show (match (fitPkg row pkg).map (fun p => { mkStmt row o pkg with pkg := p }) with
     | .ok s' => (stmtBytes s').map f
     | _ => none) = (fittedBytes row pkg).map f
  unfold fittedBytes
  cases fitPkg row pkg <;> rfl

theorem asmOne_eq_encodeText (mn operand : String) :
    asmOne mn operand = (findRow mn.toList).bind (fun row => encodeText row operand.toList) := by
  cases h1 : findRow mn.toList with
  | none => simp [asmOne, asmOperand, h1]
  | some row =>
    cases h2 : createOperand operand.toList row with
    | error e => simp [asmOne, asmOperand, encodeText, frontEnd, h1, h2]
    | ok o =>
      cases h3 : resolveOperand o row [] with
      | error e => simp [asmOne, asmOperand, encodeText, frontEnd, h1, h2, h3]
      | ok o' =>
        cases h4 : translateOperand o' row with
        | error e => simp [asmOne, asmOperand, encodeText, frontEnd, sizeAndBytes, h1, h2, h3, h4]
        | ok pkg =>
          simp only [asmOne, asmOperand, encodeText, frontEnd, sizeAndBytes, h1, h2, h3, h4, Option.bind_some]
          exact (fitted_mkStmt row o' pkg _).symm

/-- the text-level statement of C01 (iii): the operand text assembles to `size` bytes which the datasheet decoder
reads back as the operation of the row with operand `x`, consuming all of them -/
def TextEncodes (r : InstrRow) (text : Str) (x : Spec.MC6809.Operand) : Prop :=
  ∃ size bytes, encodeText r text = some (size, bytes) ∧ bytes.length = size ∧
    decode bytes = some (⟨opOf r.mnemonic, x⟩, size)

/-! The same with a symbol table `t` handed to `resolveOperand` (operands that name an EQU symbol,
Lemmas/FrontEndSymbol.lean); for `t = []` these are the definitions above. -/

def frontEndT (t : SymTab) (row : InstrRow) (text : Str) : R Operand :=
  match createOperand text row with
  | .ok o => resolveOperand o row t
  | .error e => .error e

/-- operand text of an instruction of row `row` to `(size, bytes)` under the symbol table `t` (`encodeText` is the
case `t = []`) -/
def encodeTextT (t : SymTab) (row : InstrRow) (text : Str) : Option (Nat × Bytes) :=
  match frontEndT t row text with
  | .ok o =>
    match translateOperand o row with
    | .ok pkg =>
      (match fitWidth (mkStmt row o pkg) with
       | .ok s' => (stmtBytes s').map (fun b => (pkg.size, b))
       | _ => none)
    | .error _ => none
  | .error _ => none

theorem frontEndT_nil (row : InstrRow) (text : Str) : frontEndT [] row text = frontEnd row text := rfl
theorem encodeTextT_nil (row : InstrRow) (text : Str) : encodeTextT [] row text = encodeText row text := rfl

/-- `TextEncodes` under the symbol table `t` -/
def TextEncodesT (t : SymTab) (r : InstrRow) (text : Str) (x : Spec.MC6809.Operand) : Prop :=
  ∃ size bytes, encodeTextT t r text = some (size, bytes) ∧ bytes.length = size ∧
    decode bytes = some (⟨opOf r.mnemonic, x⟩, size)

theorem textEncodesT_nil (r : InstrRow) (text : Str) (x : Spec.MC6809.Operand) :
    TextEncodesT [] r text x ↔ TextEncodes r text x := Iff.rfl

theorem textEncodesT_of {t : SymTab} {r : InstrRow} {text : Str} {o : Operand} {x : Spec.MC6809.Operand}
    (hf : frontEndT t r text = .ok o) (he : Encodes o r x) : TextEncodesT t r text x := by
  obtain ⟨pkg, bytes, ht, _, hb, hl, hd⟩ := he
  refine ⟨pkg.size, bytes, ?_, hl, by rw [← hl]; exact hd⟩
  obtain ⟨s', hf', hb'⟩ := hb (mkStmt r o pkg) rfl rfl rfl
  simp [encodeTextT, hf, ht, hf', hb']

theorem encodeTextT_none_of {t : SymTab} {r : InstrRow} {text : Str} {o : Operand} {e : Exn}
    (hf : frontEndT t r text = .ok o) (ht : translateOperand o r = .error e) : encodeTextT t r text = none := by
  simp only [encodeTextT, hf, ht]

theorem encodeTextT_none_of_fit {t : SymTab} {r : InstrRow} {text : Str} {o : Operand} {pkg : Pkg}
    (hf : frontEndT t r text = .ok o) (ht : translateOperand o r = .ok pkg)
    (hd : ∀ s : Stmt, s.row = r → s.operand = o → s.pkg = pkg → fitWidth s = .diag) : encodeTextT t r text = none := by
  simp only [encodeTextT, hf, ht, hd (mkStmt r o pkg) rfl rfl rfl]

theorem textEncodes_of {r : InstrRow} {text : Str} {o : Operand} {x : Spec.MC6809.Operand}
    (hf : frontEnd r text = .ok o) (he : Encodes o r x) : TextEncodes r text x :=
  textEncodesT_of (t := []) hf he

theorem encodeText_none_of {r : InstrRow} {text : Str} {o : Operand} {e : Exn}
    (hf : frontEnd r text = .ok o) (ht : translateOperand o r = .error e) : encodeText r text = none :=
  encodeTextT_none_of (t := []) hf ht

/-! ### a zero offset written out (`0,R`): translated exactly like the empty offset -/

theorem ne_pcr_of_noSub {right : Str} (hpcr : hasSub (str "PCR") right = false) : (right == str "PCR") = false := by
  cases hb : right == str "PCR"
  · rfl
  · have : right = str "PCR" := by simpa using hb
    subst this
    exact absurd hpcr (by decide)

/-- needs a register other than PCR: `0,PCR` is an offset of 0 from the program counter, not `,PCR` -/
theorem translateIndexed_zero_val (o : Operand) (r : InstrRow) {h : Option Nat} {m : Mode} {n : Bool} {right : Str}
    (hl : o.left = .val (.numeric 0 h m n)) (hr : o.right = some right) (hpcr : hasSub (str "PCR") right = false) :
    translateIndexed o r = translateIndexed { o with left := .text [] } r := by
  have hne := ne_pcr_of_noSub hpcr
  simp only [translateIndexed, hl, hr, pure_bind, hpcr, hne, Bool.false_and, Bool.not_false, Bool.and_false]
  rfl

theorem translateExtInd_zero_val (o : Operand) (r : InstrRow) {h : Option Nat} {m : Mode} {n : Bool} {right : Str}
    (hl : o.left = .val (.numeric 0 h m n)) (hr : o.right = some right) (hpcr : hasSub (str "PCR") right = false) :
    translateExtIndirect o r = translateExtIndirect { o with left := .text [] } r := by
  have hne := ne_pcr_of_noSub hpcr
  simp only [translateExtIndirect, hl, hr, pure_bind, hpcr, hne, Bool.false_and, Bool.not_false, Bool.and_false]
  rfl

theorem translateOperand_zero_val (o : Operand) (r : InstrRow) {h : Option Nat} {m : Mode} {n : Bool} {right : Str}
    (hk : o.kind = .indexed ∨ o.kind = .extIndirect) (hl : o.left = .val (.numeric 0 h m n))
    (hr : o.right = some right) (hpcr : hasSub (str "PCR") right = false) :
    translateOperand o r = translateOperand { o with left := .text [] } r := by
  rcases hk with hk | hk
  · rw [translateOperand_indexed hk, translateOperand_indexed (o := { o with left := .text [] }) hk]
    exact translateIndexed_zero_val o r hl hr hpcr
  · rw [translateOperand_extInd hk, translateOperand_extInd (o := { o with left := .text [] }) hk]
    exact translateExtInd_zero_val o r hl hr hpcr

/-- the flags that steer `createOperand` into the machine-instruction part of the cascade -/
structure InstrFlags (row : InstrRow) : Prop where
  notPseudo : row.isPseudo = false
  notSpecial : row.isSpecial = false
  notShort : row.isShortBranch = false
  notLong : row.isLongBranch = false
  notStr : row.isStringDefine = false

section cascade
variable {row : InstrRow} (hf : InstrFlags row)
include hf

theorem createOperand_empty :
    createOperand [] row = .ok { kind := .inherent, text := [], value := .none } := by
  simp [createOperand, hf.notPseudo, hf.notSpecial, hf.notShort, hf.notLong]

/-- an operand text that is not bracketed: `left,right` is indexed, a value in IMMEDIATE mode is immediate, any other
value is an UnknownOperand -/
theorem createOperand_plain {s : Str} {v : Value} (hne : s ≠ []) (hb : s.head? ≠ some '[')
    (hv : createV s false row.is16Bit = .ok v) :
    createOperand s row = .ok (match v with
      | .leftRight l r _ => { kind := .indexed, text := s, value := v, left := .text l, right := some r }
      | _ => { kind := if v.isImmediate then .immediate else .unknown, text := s, value := v }) := by
  have he : s.isEmpty = false := by cases s <;> simp_all
  have hb' : (s.head? == some '[') = false := by simpa using hb
  simp only [createOperand, hf.notPseudo, hf.notSpecial, hf.notShort, hf.notLong, hf.notStr, he, hb', hv,
    Bool.false_eq_true, if_false, Bool.or_self, Bool.false_and]
  cases v <;> first | rfl | (dsimp only; split <;> rfl)

theorem createOperand_bracket {inner : Str} {v : Value} (hv : createV inner false row.is16Bit = .ok v) :
    createOperand ('[' :: (inner ++ [']'])) row = .ok (match v with
      | .leftRight l r _ =>
        { kind := .extIndirect, text := '[' :: (inner ++ [']']), value := v, left := .text l, right := some r }
      | _ => { kind := .extIndirect, text := '[' :: (inner ++ [']']), value := v }) := by
  have h1 : (('[' :: (inner ++ [']'])).getLast? == some ']') = true := by
    simp [List.getLast?_cons, List.getLast?_append]
  have h2 : (('[' :: (inner ++ [']'])).drop 1).dropLast = inner := by simp
  simp only [createOperand, hf.notPseudo, hf.notSpecial, hf.notShort, hf.notLong, hf.notStr, Bool.false_eq_true,
    if_false, Bool.or_self, List.isEmpty_cons, List.head?_cons, beq_self_eq_true, h1, Bool.and_self, if_true, h2, hv]
  cases v <;> rfl

end cascade

theorem resolve_numeric (i : Nat) (h : Option Nat) (m : Mode) (n : Bool) (t : SymTab) :
    (Value.numeric i h m n).resolve t = .ok (.numeric i h m n) := rfl

/-- the value `NumericValue(i)` in DIRECT mode that `resolve_symbols` puts into a DirectOperand -/
theorem numericOfInt_direct {i : Nat} (hi : i < 65536) :
    numericOfInt i none .direct = .ok (.numeric i (if i < 256 then some 2 else none) .direct false) := by
  rw [numericOfInt_nat (by omega), initHint_direct, postInit_direct]

theorem resolveOperand_inherent (row : InstrRow) (t : SymTab) :
    resolveOperand { kind := .inherent, text := [], value := .none } row t =
      .ok { kind := .inherent, text := [], value := .none } :=
  Resolved.sound (.value (.inr (.inl rfl)) rfl)

/-- `l,R` and `[l,R]` (`k` is the kind): the left text `l` goes through `ResolvedLeft` -/
theorem resolveOperand_leftRight (row : InstrRow) (s l r : Str) (m : Mode) (t : SymTab) {k : OpKind}
    (hk : k = .indexed ∨ k = .extIndirect) {o' : Operand}
    (h : ResolvedLeft row t { kind := k, text := s, value := .leftRight l r m, left := .text l, right := some r } l o') :
    resolveOperand { kind := k, text := s, value := .leftRight l r m, left := .text l, right := some r } row t =
      .ok o' := by
  rcases hk with rfl | rfl
  · exact Resolved.sound (.indexedLeft rfl rfl h)
  · exact Resolved.sound (.extLeft rfl rfl rfl h)

theorem createV_leftRight {l r : Str} (hh : OperandHead (l ++ ',' :: r)) (hs : splitExpr (l ++ ',' :: r) = none)
    (hl : ',' ∉ l) (hr : ',' ∉ r) (is16 : Bool) :
    createV (l ++ ',' :: r) false is16 = .ok (.leftRight l r .extended) := by
  have := create_leftRight (fuel := 3) (is16 := is16) (defExt := true) hh.plain hs hl hr
  simpa [createV] using this

theorem isABD_dec {x : Str} (hx : IsDecLit x) : isABD x = false := by
  have hall := List.all_eq_true.mp hx.2
  simp only [isABD, Bool.or_eq_false_iff, beq_eq_false_iff_ne]
  refine ⟨⟨?_, ?_⟩, ?_⟩ <;> (rintro rfl; have := hall _ (List.mem_singleton.mpr rfl); revert this; decide)

theorem isABD_neg (x : Str) : isABD ('-' :: x) = false := by
  simp [isABD]

/-- the IndexedOperand of `l,r`, with what stands for the left side -/
abbrev idxOperand (l r : Str) (left : Side) : Operand :=
  { kind := .indexed, text := l ++ ',' :: r, value := .leftRight l r .extended, left := left, right := some r }

/-- the ExtendedIndexedOperand of `[l,r]` -/
abbrev indOperand (l r : Str) (left : Side) : Operand :=
  { kind := .extIndirect, text := '[' :: ((l ++ ',' :: r) ++ [']']), value := .leftRight l r .extended, left := left,
    right := some r }

section families
variable {row : InstrRow} (hf : InstrFlags row)
include hf

theorem frontEnd_empty : frontEnd row [] = .ok { kind := .inherent, text := [], value := .none } := by
  simp [frontEnd, createOperand_empty hf, resolveOperand_inherent]

/-- `l,r` : what `resolve_symbols` makes of the left text decides the operand -/
theorem frontEndT_indexed {t : SymTab} {l r : Str} {o' : Operand} (hh : OperandHead (l ++ ',' :: r))
    (hs : splitExpr (l ++ ',' :: r) = none) (hl : ',' ∉ l) (hr : ',' ∉ r)
    (h : ResolvedLeft row t (idxOperand l r (.text l)) l o') : frontEndT t row (l ++ ',' :: r) = .ok o' := by
  rw [frontEndT, createOperand_plain hf (by simp) hh.noBracket (createV_leftRight hh hs hl hr row.is16Bit)]
  exact resolveOperand_leftRight _ _ _ _ _ _ (.inl rfl) h

theorem frontEndT_bracket {t : SymTab} {l r : Str} {o' : Operand} (hh : OperandHead (l ++ ',' :: r))
    (hs : splitExpr (l ++ ',' :: r) = none) (hl : ',' ∉ l) (hr : ',' ∉ r)
    (h : ResolvedLeft row t (indOperand l r (.text l)) l o') :
    frontEndT t row ('[' :: ((l ++ ',' :: r) ++ [']'])) = .ok o' := by
  rw [frontEndT, createOperand_bracket hf (createV_leftRight hh hs hl hr row.is16Bit)]
  exact resolveOperand_leftRight _ _ _ _ _ _ (.inr rfl) h

end families

end CoCo.Asm
