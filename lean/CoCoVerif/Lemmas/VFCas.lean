/-
Lemmas/VFCas.lean — cassette side of the VirtualFile proofs: short buffers are never disks, what the sniffer
says about a written cassette.
-/
import CoCoVerif.Model.VirtualFile
import CoCoVerif.Lemmas.Cassette

namespace CoCo.VF
open CoCo CoCo.Props

theorem write_nil : Cas.write [] = [] := rfl

theorem dskList_short (buf : Bytes) (h : buf.length < 161280) : Dsk.list buf = .diag := by
  unfold Dsk.list
  rw [if_pos (by show buf.length < Gen.imageSize; unfold Gen.imageSize; exact h)]

/-- a buffer the disk reader refuses and the cassette reader lists: a cassette if some file is listed or the
buffer is empty -/
theorem sniff_of_casList {buf : Bytes} {fs : List CFile} (hd : Dsk.list buf = .diag) (hc : Cas.list buf = .ok fs) :
    sniff buf = if !fs.isEmpty || buf.isEmpty then .ok (fs, .cassette) else .ok ([], .binary) := by
  unfold sniff
  rw [hd]
  simp only [hc]

/-- the hypotheses of `C06_roundtrip_partial` on a list of files -/
def CasOK (fs : List CFile) : Prop :=
  (∀ f ∈ fs, AsciiName f.name) ∧ (∀ f ∈ fs, ValidFile f) ∧ (∀ f ∈ fs, K_C06_emptyData f.data = false)

theorem CasOK_iff {fs : List CFile} :
    CasOK fs ↔ ∀ f ∈ fs, AsciiName f.name ∧ ValidFile f ∧ K_C06_emptyData f.data = false :=
  ⟨fun h f hf => ⟨h.1 f hf, h.2.1 f hf, h.2.2 f hf⟩,
    fun h => ⟨fun f hf => (h f hf).1, fun f hf => (h f hf).2.1, fun f hf => (h f hf).2.2⟩⟩

theorem CasOK.nil : CasOK [] := CasOK_iff.mpr nofun

theorem CasOK.append {a b : List CFile} (ha : CasOK a) (hb : CasOK b) : CasOK (a ++ b) :=
  CasOK_iff.mpr (List.forall_mem_append.mpr ⟨CasOK_iff.mp ha, CasOK_iff.mp hb⟩)

end CoCo.VF

namespace CoCo.Props
open CoCo CoCo.VF

/-- what the sniffer says of any written cassette below the disk image size: the files `list_write` names and
`cassette`, or, when none is listed from a non-empty image (E1), a raw binary -/
theorem sniff_write (fs : List CFile) (hn : ∀ f ∈ fs, AsciiName f.name) (hlen : (Cas.write fs).length < 161280) :
    sniff (Cas.write fs) =
      if !(fs.takeWhile (fun f => !f.data.isEmpty)).isEmpty || fs.isEmpty
      then .ok ((fs.takeWhile (fun f => !f.data.isEmpty)).map Cas.norm, .cassette) else .ok ([], .binary) := by
  rw [sniff_of_casList (dskList_short _ hlen) (list_write fs hn), List.isEmpty_map, Cas.write_isEmpty]

/-- the sniffer on a tool-written cassette below the disk image size.
Exclusions: E1 (inherited from C06) and G1 (`K_C09_bigCassette`) -/
theorem sniff_written_cassette (fs : List CFile) (hn : ∀ f ∈ fs, AsciiName f.name)
    (hv : ∀ f ∈ fs, ValidFile f) (hK : ∀ f ∈ fs, K_C06_emptyData f.data = false)
    (hlen : (Cas.write fs).length < 161280) :
    sniff (Cas.write fs) = .ok (fs.map Cas.norm, .cassette) := by
  rw [sniff_write fs hn hlen, takeWhile_all (fun f hf => by simpa [K_C06_emptyData] using hK f hf),
    Bool.not_or_self, if_pos rfl]

end CoCo.Props
