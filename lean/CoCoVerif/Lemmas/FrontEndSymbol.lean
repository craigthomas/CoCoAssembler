/-
Lemmas/FrontEndSymbol.lean — an operand that NAMES A SYMBOL bound, in the table `t` handed to `resolve_symbols`, to a
numeric constant (`Binds t nm z`; what `NAME EQU <literal>` stores): what `resolve` makes of the name, and what
`createOperand` on the EQU row stores for a literal.  `resolve_symbols` turns such a symbol into
`NumericValue(symbol.signed())`: the size hint and mode the EQU stored play no role, only the signed value `z`, as
`symNum z` (hint 2 / DIRECT below 256 in magnitude, no hint / EXTENDED otherwise, negative flag for `z < 0`).
-/
import CoCoVerif.Lemmas.CreateForward
import CoCoVerif.Lemmas.ResolveValue
import CoCoVerif.Lemmas.SymTab

namespace CoCo.Asm
open CoCo
open CoCo.Gen (InstrRow)

/-- a symbol name as `Value.create_from_str` reads it: not empty, made of `[\w@]`, not a string of digits (so it is
not a number literal; a name cannot contain an operator, a comma, a quote or a mode prefix, so it is not an
expression, a `left,right` pair or a character literal either).  Decidable. -/
abbrev IsSymName (nm : Str) : Prop := Rename.isSymName nm = true

/-- `nm` is bound in `t` to a numeric constant of signed value `z` — whatever size hint and mode the EQU stored -/
def Binds (t : SymTab) (nm : Str) (z : Int) : Prop :=
  ∃ i h m ng, t.get? nm = some (.numeric i h m ng) ∧ z = (if ng then -(i : Int) else i)

/-- a Boolean test for `Binds` (for kernel-checked witnesses) -/
def _root_.CoCo.Props.bindsB (t : SymTab) (nm : Str) (z : Int) : Bool :=
  match t.get? nm with
  | some (.numeric i _ _ ng) => decide (z = if ng then -(i : Int) else i)
  | _ => false

theorem _root_.CoCo.Props.bindsB_sound {t : SymTab} {nm : Str} {z : Int} (h : Props.bindsB t nm z = true) :
    Binds t nm z := by
  unfold Props.bindsB at h
  split at h
  · rename_i i hh m ng hg
    exact ⟨i, hh, m, ng, hg, of_decide_eq_true h⟩
  · cases h

/-- `NumericValue(z)` with neither size hint nor mode: what `resolve` returns for a symbol of value `z` -/
def symNum (z : Int) : Value :=
  .numeric z.natAbs (if z.natAbs < 256 then some 2 else none) (if z.natAbs < 256 then .direct else .extended)
    (decide (z < 0))

theorem resolve_symbol_binds {t : SymTab} {nm : Str} {z : Int} (hb : Binds t nm z) (hz : z ≤ 65535) (m : Mode) :
    (Value.symbol nm m).resolve t = .ok (symNum z) := by
  obtain ⟨i, h, m', ng, hg, rfl⟩ := hb
  rw [resolve_symbol_number hg]
  exact numericOfInt_plain hz

theorem symNum_isNumeric (z : Int) : (symNum z).isNumeric = true := rfl

/-- `nm` : a symbol in the default mode -/
theorem createV_sym {nm : Str} (h : IsSymName nm) (is16 : Bool) :
    createV nm false is16 = .ok (.symbol nm .extended) := by
  simpa [createV] using Rename.create_symName h 3 is16 true

/-! ### what `NAME EQU <literal>` puts into the symbol table

`buildSymTab` stores `s.operand.value` of a statement whose row is a pseudo DEFINE (only `EQU` is); the operand is
`createOperand <literal> EQU`, with the EQU normalisation of `PseudoOperand.__init__`. -/

def equRow : InstrRow := (findRow "EQU".toList).getD default

theorem equRow_flags : equRow.isPseudo = true ∧ equRow.isPseudoDefine = true ∧ equRow.isStringDefine = false ∧
    equRow.is16Bit = false ∧ equRow.isMultiByte = false ∧ equRow.isMultiWord = false ∧ equRow.isInclude = false ∧
    (equRow.mnemonic == "END") = false := by decide +kernel

theorem createOperand_equ {s : Str} {i : Nat} {h : Option Nat} {m : Mode} {ng : Bool}
    (hv : createV s false false = .ok (.numeric i h m ng)) :
    createOperand s equRow =
      if s.head? == some '$' && s.length > 3 then
        (numericOfInt i none .extended).map (fun nv => { kind := .pseudo, text := s, value := nv })
      else if numHexLen i h == 2 then
        (numericOfInt (if ng then -(i : Int) else i) none .direct).map
          (fun nv => { kind := .pseudo, text := s, value := nv })
      else .ok { kind := .pseudo, text := s, value := .numeric i h m ng } := by
  obtain ⟨f1, f2, f3, f4, f5, f6, f7, f8⟩ := equRow_flags
  simp only [createOperand, f1, f2, f3, f4, f5, f6, f7, f8, hv, if_true, Bool.false_eq_true, if_false, Bool.false_or,
    Bool.false_and, Value.isNumeric, Bool.and_self, Value.int?, Value.hexLen?, Value.isNegative]
  by_cases c1 : (s.head? == some '$' && decide (s.length > 3)) = true
  · simp only [c1, if_true]
  · simp only [c1, if_false, Bool.false_eq_true]
    by_cases c2 : numHexLen i h = 2
    · simp [c2]; rfl
    · simp [c2]

/-- `NAME EQU lit` for a literal that `createV` reads as a number: whichever way `PseudoOperand.__init__` rebuilds it
(`$` and more than two digits: EXTENDED; two hex digits: DIRECT; else as created), the stored value is a number of the
same signed value -/
theorem createOperand_equ_value {s : Str} {i : Nat} {h : Option Nat} {m : Mode} {ng : Bool} {o : Operand}
    (hv : createV s false false = .ok (.numeric i h m ng)) (hd : s.head? = some '$' → ng = false)
    (ho : createOperand s equRow = .ok o) :
    ∃ i' h' m' ng', o.value = .numeric i' h' m' ng' ∧
      (if ng' then -(i' : Int) else i') = (if ng then -(i : Int) else i) := by
  rw [createOperand_equ hv] at ho
  have key : ∀ {z : Int} {mode : Mode},
      (numericOfInt z none mode).map (fun nv => ({ kind := .pseudo, text := s, value := nv } : Operand)) = .ok o →
      ∃ i' h' m' ng', o.value = .numeric i' h' m' ng' ∧ (if ng' then -(i' : Int) else i') = z := by
    intro z mode hz
    obtain ⟨nv, hn, rfl⟩ := exceptMap_ok hz
    refine ⟨_, _, _, _, (numericOfInt_ok hn).2, ?_⟩
    by_cases hlt : z < 0 <;> simp [hlt] <;> omega
  split at ho
  · rename_i c1
    have : ng = false := hd (by simp only [Bool.and_eq_true, beq_iff_eq] at c1; exact c1.1)
    subst this
    exact key ho
  · split at ho
    · exact key ho
    · cases ho; exact ⟨_, _, _, _, rfl, rfl⟩

/-- a statement `label EQU …` whose operand value is a number binds its label, in the table `resolve_symbols` uses -/
theorem binds_of_equ_stmt {ss : List Stmt} {t : SymTab} (hbuild : buildSymTab ss 0 [] = some t) {j : Nat} {s : Stmt}
    (hs : ss[j]? = some s) (hl : s.label.isEmpty = false) (hd : s.row.isPseudoDefine = true)
    {i : Nat} {h : Option Nat} {m : Mode} {ng : Bool} (hv : s.operand.value = .numeric i h m ng) :
    Binds t s.label (if ng then -(i : Int) else i) := by
  obtain ⟨h1, h2⟩ := buildSymTab_some hbuild
  have hn := h2 (by simp [SymTab.keys])
  have hm := symEntries_mem (i := 0) hs hl
  rw [hd, if_pos rfl, hv] at hm
  have hg : t.get? s.label = some (.numeric i h m ng) := by
    refine get?_of_mem hn ?_
    rw [h1]; simpa using hm
  exact ⟨i, h, m, ng, hg, rfl⟩

end CoCo.Asm
