/-
Lemmas/NoIntPcr.lean — C13, "no internal error": the statement invariant `StmtOK`, its establishment by
`buildSymTab` / `resolveAll` / `translateAll` on parsed statements, and the PCR size loop.
-/
import CoCoVerif.Lemmas.NoIntOp
import CoCoVerif.Lemmas.OrgFirst

namespace CoCo.Asm
open CoCo
open CoCo.Gen (InstrRow)

/-- a translated statement (`N` = number of statements of the program) -/
structure StmtOK (N : Nat) (s : Stmt) : Prop where
  val : s.operand.value.Good N
  addr : s.pkg.address.Good 0            -- no label in a preset address: a 16-bit magnitude
  codes : s.pkg.opCode ≠ .pyNone ∧ s.pkg.postByte ≠ .pyNone   -- `hex_len()` is defined on both (`fitWidth`)
  choices : ChoicesOK N s.pkg
  rel : s.operand.kind = .relative →
    (∃ b, s.pkg.additional.int? = some b) ∧ (s.row.isShortBranch = false → 1 ≤ s.pkg.size)
  needs : s.pkg.needsRes = true →
    s.operand.value.isLeftRight = true ∧ (s.operand.kind = .indexed ∨ s.operand.kind = .extIndirect)
  addl : s.pkg.needsRes = true → AddlOK N s.pkg.additional   -- what `fix_addresses` resolves, with or without choices

theorem settle_ok {N : Nat} {s : Stmt} (hs : StmtOK N s) {c0 c1 : Nat} (hch : s.pkg.choices = [c0, c1])
    (e hint c : Nat) (hc : c = c0 ∨ c = c1) : ∃ s', settle s e hint c = some s' ∧ StmtOK N s' := by
  rcases hs.choices with h0 | ⟨d0, d1, hd, hd0, hd1, ⟨raw, hraw, hrawlt, _⟩, hadd⟩
  · rw [hch] at h0; cases h0
  · rw [hch] at hd
    simp only [List.cons.injEq, and_true] at hd
    obtain ⟨rfl, rfl⟩ := hd
    have hclt : c < 256 := by rcases hc with rfl | rfl <;> assumption
    obtain ⟨pb, hpb⟩ := numV_ok (a := raw ||| c) (by have := or_lt_256 hrawlt hclt; omega)
    refine ⟨_, settle_of hraw hpb, hs.val, hs.addr, ⟨hs.codes.1, (numV_codeVal hpb).ne_pyNone⟩,
      .inr ⟨c0, c1, hch, hd0, hd1, ⟨raw ||| c, numV_int hpb, or_lt_256 hrawlt hclt, numV_hexLen hpb (or_lt_256 hrawlt hclt)⟩, hadd⟩,
      fun hk => ?_, hs.needs, hs.addl⟩
    obtain ⟨h1, h2⟩ := hs.rel hk
    exact ⟨h1, fun hsb => by have := h2 hsb; show 1 ≤ s.pkg.size + e; omega⟩

/-- the statement invariant of C13 inside the size loop: an undecided statement has post byte choices (`translateAll`
sets `fixedSize := choices.isEmpty`, and a statement only changes by being settled) -/
def LoopOK (N : Nat) (s : Stmt) : Prop := StmtOK N s ∧ (s.fixedSize = false → s.pkg.choices ≠ [])

theorem LoopOK.two {N : Nat} {s : Stmt} (h : LoopOK N s) (hf : s.fixedSize = false) :
    ∃ c0 c1, s.pkg.choices = [c0, c1] := by
  rcases h.1.choices with h0 | ⟨c0, c1, hc, _⟩
  · exact absurd h0 (h.2 hf)
  · exact ⟨c0, c1, hc⟩

theorem Sized.ok {N : Nat} {s s' : Stmt} (hs : StmtOK N s) (h : Sized s s') : StmtOK N s' := by
  cases h with
  | same => exact hs
  | @settled c0 c1 _ e c _ _ hch hraw hpb he =>
    have hc : c = c0 ∨ c = c1 := by
      rcases he with ⟨_, hc, _⟩ | ⟨_, hc⟩
      · exact .inl hc
      · exact .inr hc
    obtain ⟨t, ht, hok⟩ := settle_ok hs hch e (2 * e) c hc
    rw [settle_of hraw hpb] at ht
    cases ht
    exact hok

theorem Sized.loopOK {N : Nat} {s s' : Stmt} (hs : LoopOK N s) (h : Sized s s') : LoopOK N s' := by
  refine ⟨h.ok hs.1, fun hf => ?_⟩
  rcases h.fixed_or with h' | rfl
  · rw [h'] at hf; cases hf
  · exact hs.2 hf

theorem determine_ne_internal {N : Nat} {ss : List Stmt} (hlen : ss.length = N) (i : Nat) {s : Stmt} (hs : StmtOK N s) :
    determine ss i s ≠ .internal := by
  intro hi
  have g := determine_graph ss i s
  rw [hi] at g
  have settled : ∀ {c0 c1 e h c : Nat}, s.pkg.choices = [c0, c1] → c = c0 ∨ c = c1 → Outcome.internal ≠ settleO s e h c := by
    intro c0 c1 e h c hch hc ho
    obtain ⟨s', hs', _⟩ := settle_ok hs hch e h c hc
    unfold settleO at ho
    rw [hs'] at ho
    cases ho
  cases g with
  | badChoices h0 h =>
    rcases hs.choices with h' | ⟨c0, c1, h', _⟩
    · exact h0 h'
    · exact h c0 c1 h'
  | forced hch _ ho => exact settled hch (.inr rfl) ho
  | noTarget hch _ hr =>
    -- the target of the offset is a statement of the program
    rcases hs.choices with h' | ⟨_, _, _, _, _, _, _, ⟨r, hr', hrlt⟩, _⟩
    · rw [hch] at h'; cases h'
    · have := hr r hr'; omega
  | short hch _ _ _ _ _ ho => exact settled hch (.inl rfl) ho
  | long hch _ _ _ ho => exact settled hch (.inr rfl) ho

theorem pcrLoop_good {N : Nat} (fuel : Nat) (ss : List Stmt) (hlen : ss.length = N) (hall : ∀ s ∈ ss, LoopOK N s) :
    (pcrLoop fuel ss).Meets .internal fun r => r.length = N ∧ ∀ s ∈ r, StmtOK N s := by
  refine ⟨?_, fun r h => ⟨by rw [(pcrLoop_sized h).length_eq, hlen], fun s' hs' => ?_⟩⟩
  · refine pcrLoop_ne_internal (I := fun r => r.length = N ∧ ∀ s ∈ r, LoopOK N s) ?_ ?_ ?_ fuel ⟨hlen, hall⟩
    · intro r i s s' ⟨hl, ha⟩ hs hf hst
      refine ⟨by simpa using hl, fun x hx => ?_⟩
      rcases List.mem_or_eq_of_mem_set hx with hx | rfl
      · exact ha x hx
      · exact (hst.sized hf).loopOK (ha s (List.mem_of_getElem? hs))
    · intro r i s ⟨hl, ha⟩ hs _
      exact determine_ne_internal hl i (ha s (List.mem_of_getElem? hs)).1
    · intro r ⟨_, ha⟩ s hs hf
      obtain ⟨c0, c1, hc⟩ := (ha s hs).two hf
      obtain ⟨s', hs', _⟩ := settle_ok (ha s hs).1 hc 2 4 c1 (.inr rfl)
      exact ⟨c0, c1, s', hc, hs'⟩
  · obtain ⟨s, hs, hz⟩ := (pcrLoop_sized h).mem' hs'
    exact hz.ok (hall s hs).1

/-- every long branch of the instruction table has a size (used for backward long branches) -/
theorem longBranch_size : ∀ r ∈ Gen.instructions, r.isLongBranch = true → 1 ≤ r.relSz :=
  fun r hr hl => table_relSz r hr (by rw [hl, Bool.or_true])

theorem buildSymTab_good (N : Nat) (a : List Stmt) (i0 : Nat) (t0 t : SymTab)
    (h : buildSymTab a i0 t0 = some t) (hg : ∀ s ∈ a, s.operand.value.Good N)
    (h0 : SymTab.Good N t0) (hlen : i0 + a.length ≤ N) : SymTab.Good N t := by
  rw [(buildSymTab_some h).1]
  intro kv hkv
  rcases List.mem_append.1 hkv with hkv | hkv
  · exact h0 kv hkv
  · obtain ⟨j, s, hs, _, _, hv⟩ := mem_symEntries.1 (show (kv.1, kv.2) ∈ _ from hkv)
    rw [hv]
    split
    · exact hg s (List.mem_of_getElem? hs)
    · show i0 + j < N
      have := lt_of_getElem? hs
      omega

theorem buildSymTab_parsed_good {ss0 : List Stmt} {t : SymTab} (hpar : ∀ s ∈ ss0, Parsed s)
    (h0 : buildSymTab ss0 0 [] = some t) : SymTab.Good ss0.length t :=
  buildSymTab_good ss0.length ss0 0 [] t h0 (fun s hs => let ⟨_, _, ht⟩ := hpar s hs; (createOperand_init ht).good _)
    (fun kv hkv => by simp at hkv) (by simp)

/-- a parsed statement, resolved against a good table and translated, as it enters the size loop -/
theorem translated_ok {N : Nat} {t : SymTab} {s0 : Stmt} {o : Operand} {p : Pkg} (ht : SymTab.Good N t) (hN : 0 < N)
    (hpar : Parsed s0) (hres : resolveOperand s0.operand s0.row t = .ok o) (htr : translateOperand o s0.row = .ok p) :
    LoopOK N (mkTranslated s0 o p) := by
  obtain ⟨hrow, txt, hcr⟩ := hpar
  have hr := resolveOperand_res ht (createOperand_init hcr) hres
  have hp := translateOperand_ok hN hr (longBranch_size s0.row hrow) htr
  refine ⟨⟨hr.good, hp.addr, hp.codes, hp.choices, hp.rel, hp.needs, hp.addl⟩, fun hf hc => ?_⟩
  have hf : p.choices.isEmpty = false := hf
  rw [show p.choices = [] from hc] at hf
  cases hf

/-- the C13 invariant of a statement of an accepted program after the size loop -/
theorem Compiled.stmtOK {fs : Files} {lines : List Str} {a : Assembly} {st : Stages fs lines a} {i : Nat}
    {s0 : Stmt} {o : Operand} {p : Pkg} {sz mx : Nat} {pb : Value} {hint : Nat} {ad vf vw v : Value}
    (c : Compiled st i s0 o p sz mx pb hint ad vf vw v) :
    StmtOK st.ss0.length (laidOut s0 o p sz mx pb hint p.address p.additional) :=
  c.sized.ok (translated_ok (buildSymTab_parsed_good (expand_parsed st.hparse st.hexpand) st.hsym)
    (List.length_pos_of_mem (List.mem_of_getElem? c.h0)) c.parsed c.hres c.htr).1

theorem translated_good {ss0 ss1 ss2 : List Stmt} {t : SymTab} (hpar : ∀ s ∈ ss0, Parsed s)
    (h0 : buildSymTab ss0 0 [] = some t) (h1 : resolveAll t ss0 = some ss1) (h2 : translateAll ss1 = some ss2) :
    SymTab.Good ss0.length t ∧ ss2.length = ss0.length ∧ ∀ s ∈ ss2, LoopOK ss0.length s := by
  have ht := buildSymTab_parsed_good hpar h0
  refine ⟨ht, by rw [translateAll_length h2, resolveAll_length h1], fun s2 hs2 => ?_⟩
  obtain ⟨j, hj⟩ := List.getElem?_of_mem hs2
  obtain ⟨s1, hs1, p, htr, rfl⟩ := (translateAll_pw h2).get' hj
  obtain ⟨s0, hs0, o, hres, rfl⟩ := (resolveAll_pw h1).get' hs1
  have hm := List.mem_of_getElem? hs0
  exact translated_ok (s0 := s0) ht (List.length_pos_of_mem hm) (hpar s0 hm) hres htr

end CoCo.Asm
