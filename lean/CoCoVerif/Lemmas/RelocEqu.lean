/-
Lemmas/RelocEqu.lean — relocation (C18-R1): the pass `evalSyms` over the symbol table.

An EQU defined by an expression is replaced by its VALUE before the final symbol table is made (`evalSyms ss5 t t`, then
`finalSymTab ss5 t1`).  Under relocation an entry that is not an expression, or an expression of constants (`EquConst`), is
the same in both programs: `evalSym` does not look at the statement list at all.  An EQU defined by a LABEL expression
(`T EQU L+1`; `EquLabel C`: the entry resolves — against the table, which is the same in both programs — to an address
expression `x` in the class `C`) has the value `addrOffset ss x`, which moves like the operand of a statement with that
expression: by `D` (`NumExpr`), by `D` modulo `$10000` (`ModExpr`), not at all (`DiffExpr`, `label - label`), by MINUS `D`
modulo `$10000` (`NegExpr`, `number - label`).  `EquRelOf` collects what the final table entries of the two programs have
to do with each other; when every entry is in one of the classes (`EquCovered`) the two runs have the same outcome kind.
-/
import CoCoVerif.Lemmas.RelocAll
import CoCoVerif.Lemmas.RelocEmit
import CoCoVerif.Lemmas.RelocMod

namespace CoCo.Asm
open CoCo

/-- what `fixAll` leaves alone, and all that `calculate_address_offset` reads of the statements -/
def SameAddr (s s' : Stmt) : Prop := s'.pkg.address = s.pkg.address

theorem SameButAdditional.sameAddr {s s' : Stmt} (h : SameButAdditional s s') : SameAddr s s' := by
  obtain ⟨v, rfl⟩ := h; rfl

theorem fixAll_sameAddr {ss l l' : List Stmt} {i : Nat} (h : fixAll ss i l = .ok l') : PW SameAddr l l' :=
  (fixAll_pw h).mono fun _ _ => SameButAdditional.sameAddr

section same
variable {as fs : List Stmt}

theorem addrOf_sameAddr (h : PW SameAddr as fs) (j : Nat) : addrOf fs j = addrOf as j := by
  rcases addrOf_rel (Rv := fun v v' => v' = v) h j with ⟨e, e'⟩ | ⟨v, v', e, e', rfl⟩ <;> rw [e, e']

theorem addrIntOf_sameAddr (h : PW SameAddr as fs) (j : Nat) : addrIntOf fs j = addrIntOf as j :=
  addrIntOf_column (addrOf_sameAddr h) j

theorem addrOffset_sameAddr (h : PW SameAddr as fs) (v : Value) : addrOffset fs v = addrOffset as v :=
  addrOffset_column (addrOf_sameAddr h) v

theorem evalSyms_sameAddr (h : PW SameAddr as fs) (t : SymTab) : ∀ (x : SymTab), evalSyms fs t x = evalSyms as t x :=
  evalSyms_column (addrOf_sameAddr h) t

end same

def Value.isEquExpr (v : Value) : Bool := v.isExpression || v.isAddrExpr

/-- the entry is NOT an EQU defined by a label expression: it is no expression at all (a label, an EQU of a number), or
an expression whose value — resolved against the table `t` — is not an address expression (an expression of
constants) -/
def EquConst (t : SymTab) (v : Value) : Prop :=
  v.isEquExpr = true → ∀ x, v.resolve t = .ok x → x.isAddrExpr = false

def EquPlain (t : SymTab) (v : Value) : Prop := v.isAddress = false ∧ EquConst t v

/-- the entry is an EQU defined by a label expression: it resolves against the table `t` to an address expression in
the class `C` -/
def EquLabel (C : Value → Prop) (t : SymTab) (v : Value) : Prop :=
  v.isEquExpr = true ∧ ∃ x, v.resolve t = .ok x ∧ x.isAddrExpr = true ∧ C x

def NoLabelEqu (t : SymTab) : Prop := ∀ kv ∈ t, EquConst t kv.2

def EquCovered (D : Nat) (as : List Stmt) (t : SymTab) (v : Value) : Prop :=
  v.isAddress = true ∨ EquPlain t v ∨ EquLabel (NumExpr D as) t v ∨ EquLabel (ModExpr D as) t v ∨
    EquLabel DiffExpr t v ∨ EquLabel (NegExpr as) t v

/-- what the FINAL values `x` (original program) and `x'` (program moved by `D`) of the table entry defined as `v`
have to do with each other: a label's values are related by `L`; an EQU that is not defined by a label expression
stays; an EQU defined by a label expression moves like that expression -/
def EquRelOf (L : Value → Value → Prop) (D : Nat) (as : List Stmt) (t : SymTab) (v x x' : Value) : Prop :=
  (v.isAddress = true → L x x') ∧
  (EquPlain t v → x' = x) ∧
  (EquLabel (NumExpr D as) t v → x' = shiftV D x) ∧
  (EquLabel (ModExpr D as) t v → x' = shiftVmod D x) ∧
  (EquLabel DiffExpr t v → x' = x) ∧
  (EquLabel (NegExpr as) t v → x' = shiftVneg D x)

/-- `EquRelOf` for layouts whose address values are rendered alike: a label moves by `D` -/
def EquRel (D : Nat) (as : List Stmt) (t : SymTab) (v x x' : Value) : Prop :=
  (v.isAddress = true → x' = shiftV D x) ∧
  (EquPlain t v → x' = x) ∧
  (EquLabel (NumExpr D as) t v → x' = shiftV D x) ∧
  (EquLabel (ModExpr D as) t v → x' = shiftVmod D x) ∧
  (EquLabel DiffExpr t v → x' = x) ∧
  (EquLabel (NegExpr as) t v → x' = shiftVneg D x)

theorem EquRelOf.equRel {D : Nat} {as : List Stmt} {t : SymTab} {v x x' : Value}
    (h : EquRelOf (WideAddr D) D as t v x x') : EquRel D as t v x x' :=
  ⟨fun hA => (h.1 hA).shiftV, h.2⟩

theorem equConst_address (t : SymTab) (i : Nat) (m : Mode) : EquConst t (.address i m) :=
  fun he => by cases he

theorem evalSym_label (ss : List Stmt) {t : SymTab} {v x : Value} (hv : v.isEquExpr = true)
    (hx : v.resolve t = .ok x) (hC : x.isAddrExpr = true) : evalSym ss t v = addrOffset ss x := by
  unfold Value.isEquExpr at hv
  unfold evalSym
  rw [if_pos hv, hx]
  dsimp only
  rw [if_pos hC]
  cases ho : addrOffset ss x with
  | ok r' => dsimp only; rw [if_pos (addrOffset_isNumeric ho)]
  | _ => rfl

theorem evalSym_const (ss ss' : List Stmt) {t : SymTab} {v : Value} (hp : EquConst t v) :
    evalSym ss' t v = evalSym ss t v := by
  unfold evalSym
  by_cases hv : (v.isExpression || v.isAddrExpr) = true
  · rw [if_pos hv, if_pos hv]
    cases hx : v.resolve t with
    | error e => rfl
    | ok x =>
      dsimp only
      have := hp hv x hx
      rw [if_neg (by rw [this]; simp), if_neg (by rw [this]; simp)]
  · rw [if_neg hv, if_neg hv]

theorem evalSyms_const (ss ss' : List Stmt) (t : SymTab) : ∀ (x : SymTab), (∀ kv ∈ x, EquConst t kv.2) →
    evalSyms ss' t x = evalSyms ss t x := by
  intro x h
  rw [evalSyms_eq_traverse ss' t 0, evalSyms_eq_traverse ss t 0]
  exact Outcome.traverse_congr fun _ kv hkv => by rw [evalSym_const ss ss' (h kv (List.mem_of_getElem? hkv))]

section classes
variable {D : Nat} {as as' : List Stmt}

/-- a label EQU moves as `addrOffset` of its expression does -/
theorem evalSym_reloc {C : Value → Prop} {g : Value → Value}
    (hg : ∀ x, C x → addrOffset as' x = (addrOffset as x).map g) {t : SymTab} {v : Value} (hc : EquLabel C t v) :
    evalSym as' t v = (evalSym as t v).map g := by
  obtain ⟨hv, x, hx, hA, hC⟩ := hc
  rw [evalSym_label as' hv hx hA, evalSym_label as hv hx hA, hg x hC]

/-- `T EQU L+1`, `T EQU L-2`: the value moves by `D` -/
theorem evalSym_reloc_num (h : PW (AddrShiftI D) as as') {t : SymTab} {v : Value}
    (hc : EquLabel (NumExpr D as) t v) : evalSym as' t v = (evalSym as t v).map (shiftV D) :=
  evalSym_reloc (fun _ => addrOffset_numExpr h) hc

/-- `T EQU L+N` that both layouts accept: the value moves by `D` modulo `$10000` -/
theorem evalSym_reloc_mod (h : PW (AddrShiftI D) as as') {t : SymTab} {v : Value}
    (hc : EquLabel (ModExpr D as) t v) : evalSym as' t v = (evalSym as t v).map (shiftVmod D) :=
  evalSym_reloc (fun _ => addrOffset_modExpr h) hc

/-- `T EQU $4000-L`: the value moves by MINUS `D` modulo `$10000` -/
theorem evalSym_reloc_neg (h : PW (AddrShiftI D) as as') {t : SymTab} {v : Value}
    (hc : EquLabel (NegExpr as) t v) : evalSym as' t v = (evalSym as t v).map (shiftVneg D) :=
  evalSym_reloc (fun _ => addrOffset_negExpr h) hc

/-- `LEN EQU END-START` -/
theorem evalSym_reloc_diff (h : PW (AddrShiftI D) as as') {t : SymTab} {v : Value}
    (hc : EquLabel DiffExpr t v) : evalSym as' t v = evalSym as t v := by
  obtain ⟨hv, x, hx, hA, hC⟩ := hc
  rw [evalSym_label as' hv hx hA, evalSym_label as hv hx hA, addrOffset_diffExpr h hC]

end classes

def ValSame (v v' : Value) : Prop := v' = v ∨ (v.isNumeric = true ∧ v'.isNumeric = true)

def TabSame (kv kv' : Str × Value) : Prop := kv'.1 = kv.1 ∧ ValSame kv.2 kv'.2

theorem shiftV_isNumeric (D : Nat) (v : Value) (h : v.isNumeric = true) : (shiftV D v).isNumeric = true := by
  cases v <;> first | rfl | cases h

theorem shiftVmod_isNumeric (D : Nat) (v : Value) (h : v.isNumeric = true) : (shiftVmod D v).isNumeric = true := by
  cases v <;> first | rfl | cases h

theorem shiftVneg_isNumeric (D : Nat) (v : Value) (h : v.isNumeric = true) : (shiftVneg D v).isNumeric = true := by
  cases v <;> first | rfl | cases h

section kind
variable {D : Nat} {as as' : List Stmt}

theorem outRel_map_numeric {f : Value → Value} (hf : ∀ v, v.isNumeric = true → (f v).isNumeric = true)
    {o o' : Outcome Value} (he : o' = o.map f) (hn : ∀ v1, o = .ok v1 → v1.isNumeric = true) :
    OutRel ValSame o o' :=
  OutRel.of_eq_map he (fun v1 h1 => .inr ⟨hn v1 h1, hf v1 (hn v1 h1)⟩)

theorem EquLabel.numeric {C : Value → Prop} {ss : List Stmt} {t : SymTab} {v v1 : Value} (hc : EquLabel C t v)
    (h1 : evalSym ss t v = .ok v1) : v1.isNumeric = true := by
  obtain ⟨hv, x, hx, hA, _⟩ := hc
  rw [evalSym_label ss hv hx hA] at h1
  exact addrOffset_isNumeric h1

theorem evalSym_outRel (h : PW (AddrShiftI D) as as') {t : SymTab} {v : Value} (hc : EquCovered D as t v) :
    OutRel ValSame (evalSym as t v) (evalSym as' t v) := by
  have same : evalSym as' t v = evalSym as t v → OutRel ValSame (evalSym as t v) (evalSym as' t v) := by
    intro he
    rw [he]
    cases evalSym as t v with
    | ok v1 => exact .ok (.inl rfl)
    | _ => constructor
  rcases hc with hc | hc | hc | hc | hc | hc
  · cases v with
    | address i m => exact same rfl
    | _ => cases hc
  · exact same (evalSym_const as as' hc.2)
  · exact outRel_map_numeric (shiftV_isNumeric D) (evalSym_reloc_num h hc) (fun _ => hc.numeric)
  · exact outRel_map_numeric (shiftVmod_isNumeric D) (evalSym_reloc_mod h hc) (fun _ => hc.numeric)
  · exact same (evalSym_reloc_diff h hc)
  · exact outRel_map_numeric (shiftVneg_isNumeric D) (evalSym_reloc_neg h hc) (fun _ => hc.numeric)

theorem evalSyms_outRel (h : PW (AddrShiftI D) as as') (t : SymTab) : ∀ (x : SymTab),
    (∀ kv ∈ x, EquCovered D as t kv.2) → OutRel (PW TabSame) (evalSyms as t x) (evalSyms as' t x) := by
  intro x hc
  rw [evalSyms_eq_traverse as t 0, evalSyms_eq_traverse as' t 0]
  refine Outcome.traverse_outRel rfl fun _ kv kv' hkv hkv' => ?_
  rw [hkv] at hkv'
  cases hkv'
  exact (evalSym_outRel h (hc kv (List.mem_of_getElem? hkv))).map fun _ _ r0 => ⟨rfl, r0⟩

theorem finalVal_numeric (ss : List Stmt) {v : Value} (h : v.isNumeric = true) : finalVal ss v = some v := by
  cases v <;> first | rfl | cases h

theorem finalSymTab_outRel {fs fs' : List Stmt} (h : PW (AddrShiftI D) fs fs') : ∀ (t1 t1' : SymTab),
    PW TabSame t1 t1' → OutRel (fun _ _ => True) (finalSymTab fs t1) (finalSymTab fs' t1') := by
  intro t1 t1' hp
  rw [finalSymTab_eq_traverse fs 0, finalSymTab_eq_traverse fs' 0]
  refine (Outcome.traverse_outRel (R := fun _ _ => True) hp.1 fun j kv kv' hkv hkv' => ?_).mono fun _ _ _ => trivial
  obtain ⟨_, hv⟩ := hp.2 j kv kv' hkv hkv'
  have hs : (finalVal fs' kv'.2).isSome = (finalVal fs kv.2).isSome := by
    rcases hv with hv | ⟨hv1, hv2⟩
    · rw [hv]
      cases kv.2 <;> first | rfl | exact addrOf_isSome_reloc h _
    · rw [finalVal_numeric _ hv1, finalVal_numeric _ hv2]
      rfl
  unfold finalSym1
  cases h1 : finalVal fs kv.2 <;> cases h2 : finalVal fs' kv'.2 <;> rw [h1, h2] at hs <;>
    first | exact .ok trivial | exact .internal | cases hs

end kind

/-- the final symbol tables of two accepted programs, entry by entry.  `as`, `as'` are the layouts (the statements that
enter `fixAll`), `fs`, `fs'` the final statements, whose address values are related by `L`; the classes are those of the
entry `v` of the table `t` built from the labels, in the layout `as`. -/
theorem symtab_reloc_entry_of {L : Value → Value → Prop} {D : Nat} {as as' fs fs' : List Stmt}
    (hI : PW (AddrShiftI D) as as') (hs : PW SameAddr as fs) (hs' : PW SameAddr as' fs')
    (hL : PW (fun s s' => L s.pkg.address s'.pkg.address) fs fs')
    {t t1 t1' r r' : SymTab} (e : evalSyms fs t t = .ok t1) (e' : evalSyms fs' t t = .ok t1')
    (f : finalSymTab fs t1 = .ok r) (f' : finalSymTab fs' t1' = .ok r')
    {j : Nat} {k : Str} {v : Value} (hj : t[j]? = some (k, v)) :
    ∃ x x', r[j]? = some (k, x) ∧ r'[j]? = some (k, x') ∧ EquRelOf L D as t v x x' := by
  rw [evalSyms_sameAddr hs] at e
  rw [evalSyms_sameAddr hs'] at e'
  obtain ⟨v1, h1, g1⟩ := evalSyms_getElem? e j k v hj
  obtain ⟨v1', h1', g1'⟩ := evalSyms_getElem? e' j k v hj
  obtain ⟨x, hx, fx⟩ := finalSymTab_getElem? f j k v1 g1
  obtain ⟨x', hx', fx'⟩ := finalSymTab_getElem? f' j k v1' g1'
  refine ⟨x, x', hx, hx', ?_⟩
  have moved : ∀ (g : Value → Value) (C : Value → Prop), (∀ w, w.isNumeric = true → (g w).isNumeric = true) →
      EquLabel C t v → evalSym as' t v = (evalSym as t v).map g → x' = g x := by
    intro g C hg hc he
    have n1 := hc.numeric h1
    rw [h1, h1'] at he
    simp only [Outcome.map_ok, Outcome.ok.injEq] at he
    rw [finalVal_numeric _ n1] at fx
    rw [he, finalVal_numeric _ (hg _ n1)] at fx'
    cases fx; cases fx'; rfl
  have same : v1.isAddress = false → evalSym as' t v = evalSym as t v → x' = x := by
    intro hna he
    rw [h1, h1'] at he
    cases he
    rw [finalVal_indep fs fs' hna, fx] at fx'
    cases fx'; rfl
  refine ⟨?_, ?_, ?_, ?_, ?_, ?_⟩
  · intro hA
    cases v with
    | address i m =>
      rw [evalSym_address] at h1 h1'
      cases h1; cases h1'
      obtain ⟨s, hi, rfl⟩ := addrOf_eq_some.mp fx
      obtain ⟨s', hi', rfl⟩ := addrOf_eq_some.mp fx'
      exact hL.2 i s s' hi hi'
    | _ => cases hA
  · rintro ⟨hna, hc⟩
    refine same ?_ (evalSym_const as as' hc)
    rcases evalSym_ok_cases h1 with rfl | ⟨hn, _⟩
    · exact hna
    · cases v1 <;> first | rfl | cases hn
  · exact fun hc => moved _ _ (shiftV_isNumeric D) hc (evalSym_reloc_num hI hc)
  · exact fun hc => moved _ _ (shiftVmod_isNumeric D) hc (evalSym_reloc_mod hI hc)
  · intro hc
    refine same ?_ (evalSym_reloc_diff hI hc)
    have := hc.numeric h1
    cases v1 <;> first | rfl | cases this
  · exact fun hc => moved _ _ (shiftVneg_isNumeric D) hc (evalSym_reloc_neg hI hc)

theorem symtab_reloc_entry {D : Nat} {as as' fs fs' : List Stmt} (hI : PW (AddrShiftI D) as as')
    (hs : PW SameAddr as fs) (hs' : PW SameAddr as' fs') (hsh : PW (AddrShift D) fs fs')
    {t t1 t1' r r' : SymTab} (e : evalSyms fs t t = .ok t1) (e' : evalSyms fs' t t = .ok t1')
    (f : finalSymTab fs t1 = .ok r) (f' : finalSymTab fs' t1' = .ok r')
    {j : Nat} {k : Str} {v : Value} (hj : t[j]? = some (k, v)) :
    ∃ x x', r[j]? = some (k, x) ∧ r'[j]? = some (k, x') ∧ EquRel D as t v x x' := by
  obtain ⟨x, x', hx, hx', h⟩ := symtab_reloc_entry_of hI hs hs' (hsh.mono fun _ _ r => r.2) e e' f f' hj
  exact ⟨x, x', hx, hx', h.equRel⟩

end CoCo.Asm
