/-
Lemmas/EncodeLists.lean — symbols, expressions and labels INSIDE an FCB / FDB list (fix e6da74c), on top of
Lemmas/EvalLists.lean: `evalElem` by the form of the resolved element (what an element that was kept for the symbol
table is replaced by) and `evalElems` position by position (literals keep their digits, pending elements are
evaluated).
-/
import CoCoVerif.Lemmas.EncodeData
import CoCoVerif.Lemmas.EvalLists
import CoCoVerif.Lemmas.ResolveValue

namespace CoCo.Asm
open CoCo

/-- `NumericValue.fit(w).hex()` as `evalElem` uses it: "does not fit" is a diagnostic -/
def renderAt (w : Nat) (n : Nat) (neg : Bool) : Outcome Str :=
  match fitNum n neg w with
  | .ok f => (match f.hex? with | some h => .ok h | none => .internal)
  | .error _ => .diag

/-- at the width of a data field: the two's complement digits of a number in range (two digits: −128..255; four:
−32768..65535), a diagnostic for any other -/
theorem renderAt_of {w : Nat} {fits : Nat → Bool → Bool} {field : Nat → Bool → Nat} {hex : Nat → Str}
    (k : FieldKind w fits field hex) (n : Nat) (neg : Bool) :
    renderAt w n neg = if fits n neg then .ok (hex (field n neg)) else .diag := by
  cases hf : fits n neg
  · simp [renderAt, k.misfit hf]
  · obtain ⟨f, h1, h2⟩ := k.fit hf
    simp [renderAt, h1, h2]

/-- a literal is rendered the same way when the line is parsed (`elemHex`) -/
theorem elemHex_eq_renderAt {w : Nat} {x : Str} {i : Nat} {h : Option Nat} {m : Mode} {neg : Bool}
    (hn : numericOfStr x none .none = .ok (.numeric i h m neg)) :
    (match elemHex w x with | .ok s => Outcome.ok s | .error _ => .diag) =
      (match renderAt w i neg with | .internal => .diag | o => o) := by
  simp only [elemHex, hn, renderAt]
  cases fitNum i neg w with
  | error e => rfl
  | ok f => simp only []; cases hh : f.hex? <;> simp

variable {ss : List Stmt} {t : SymTab} {w : Nat} {x : Str}

theorem elemRender_numeric (w n : Nat) (h : Option Nat) (m : Mode) (neg : Bool) :
    elemRender w (.ok (.numeric n h m neg)) = renderAt w n neg := rfl

/-- an element that is read and resolved: its number on the final addresses, at the width of the directive -/
theorem evalElem_resolved {v r : Value} (hc : create 4 x false false true = .ok v) (hr : v.resolve t = .ok r) :
    evalElem ss t w x = elemRender w (elemNum ss r) := by
  rw [evalElem_eq, hc]
  dsimp only
  rw [hr]

/-- a text `Value.create_from_str` refuses: a diagnostic -/
theorem evalElem_create_error {e : Exn} (hc : create 4 x false false true = .error e) : evalElem ss t w x = .diag := by
  rw [evalElem_eq, hc]

/-- a value `resolve` refuses (an undefined symbol, an EQU cycle, a division by zero, an unresolved expression) -/
theorem evalElem_resolve_error {v : Value} {e : Exn} (hc : create 4 x false false true = .ok v)
    (hr : v.resolve t = .error e) : evalElem ss t w x = .diag := by
  rw [evalElem_eq, hc]
  dsimp only
  rw [hr]

/-- a value that resolves to a NUMBER (a constant, an expression of constants): the number at the width of the
directive -/
theorem evalElem_numeric {v : Value} {n : Nat} {h : Option Nat} {m : Mode} {neg : Bool}
    (hc : create 4 x false false true = .ok v) (hr : v.resolve t = .ok (.numeric n h m neg)) :
    evalElem ss t w x = renderAt w n neg :=
  (evalElem_resolved hc hr).trans (elemRender_numeric w n h m neg)

/-- a value that resolves to a LABEL (statement `j`): the address of that statement at the width of the directive -/
theorem evalElem_address {v : Value} {j : Nat} {mo : Mode} {a : Nat} {h : Option Nat} {m : Mode} {neg : Bool}
    (hc : create 4 x false false true = .ok v) (hr : v.resolve t = .ok (.address j mo))
    (ha : addrOf ss j = some (.numeric a h m neg)) : evalElem ss t w x = renderAt w a neg := by
  rw [evalElem_resolved hc hr]
  show elemRender w (match addrOf ss j with | some a => .ok a | none => .internal) = _
  rw [ha]
  rfl

/-- a label that points at no statement (unreachable: `buildSymTab` only enters indices of statements) -/
theorem evalElem_address_missing {v : Value} {j : Nat} {mo : Mode}
    (hc : create 4 x false false true = .ok v) (hr : v.resolve t = .ok (.address j mo))
    (ha : addrOf ss j = none) : evalElem ss t w x = .internal := by
  rw [evalElem_resolved hc hr]
  show elemRender w (match addrOf ss j with | some a => .ok a | none => .internal) = _
  rw [ha]
  rfl

/-- a value that resolves to a LABEL EXPRESSION (`L1+1`, `L2-L1`): `calculate_address_offset` on the final addresses,
then the width -/
theorem evalElem_addrExpr {v l r : Value} {op : Char} {mo : Mode}
    (hc : create 4 x false false true = .ok v) (hr : v.resolve t = .ok (.expr l r op mo true)) :
    evalElem ss t w x =
      (match addrOffset ss (.expr l r op mo true) with
       | .ok (.numeric n _ _ neg) => renderAt w n neg
       | .ok _ => .diag
       | .diag => .diag
       | .internal => .internal
       | .diverged => .diverged) := by
  rw [evalElem_resolved hc hr]
  show elemRender w (addrOffset ss (.expr l r op mo true)) = _
  cases addrOffset ss (.expr l r op mo true) with
  | ok a => cases a <;> rfl
  | _ => rfl

/-- a value that resolves to something without a number (a string …): a diagnostic -/
theorem evalElem_other {v r : Value} (hc : create 4 x false false true = .ok v) (hr : v.resolve t = .ok r)
    (h1 : r.isAddress = false) (h2 : r.isAddrExpr = false) (h3 : r.isNumeric = false) : evalElem ss t w x = .diag := by
  rw [evalElem_resolved hc hr]
  simp only [elemNum, h1, h2, Bool.false_eq_true, if_false]
  cases r <;> first | rfl | cases h3

/-- a symbol bound to a numeric constant: `NumericValue(symbol.signed())` -/
theorem resolve_symbol_numeric {name : Str} {mo : Mode} {v : Nat} {h : Option Nat} {m : Mode} {neg : Bool}
    (ht : t.get? name = some (.numeric v h m neg)) (hlt : v < 65536) :
    (Value.symbol name mo).resolve t = .ok (.numeric v (if v < 256 then some 2 else none)
      (if v < 256 then .direct else .extended) (neg && decide (0 < v))) := by
  rw [resolve_symbol_number ht]
  have e : (if neg = true then -(v : Int) else v).natAbs = v := by split <;> omega
  have d : decide ((if neg = true then -(v : Int) else v) < 0) = (neg && decide (0 < v)) := by
    cases neg <;> simp
  rw [numericOfInt_plain (by split <;> omega), e, d]

theorem resolve_symbol_address {name : Str} {mo : Mode} {j : Nat} {m : Mode}
    (ht : t.get? name = some (.address j m)) : (Value.symbol name mo).resolve t = .ok (.address j .none) := by
  rw [resolve_symbol_of_get ht rfl]
  rfl

/-- the sign `resolve` gives to `-0` does not matter to the rendering -/
theorem renderAt_negZero (w : Nat) (v : Nat) (neg : Bool) : renderAt w v (neg && decide (0 < v)) = renderAt w v neg := by
  cases neg
  · rfl
  · by_cases h0 : 0 < v
    · simp [h0]
    · have : v = 0 := by omega
      subst this
      simp [renderAt, fitNum]

/-- is this element replaced when the lists are evaluated?  (a symbol or an expression that is not a literal) -/
def isPending (w : Nat) (x : Str) : Bool := pendingElem x && (elemHex w x matches .error _)

theorem isPending_of_ok {x h : Str} (he : elemHex w x = .ok h) : isPending w x = false := by
  simp [isPending, he]

theorem isPending_of_not_pending (hp : pendingElem x = false) : isPending w x = false := by
  simp [isPending, hp]

theorem isPending_of_error {e : Exn} (hp : pendingElem x = true) (he : elemHex w x = .error e) : isPending w x = true := by
  simp [isPending, hp, he]

/-- what `elemHexP` stores for an element when the line is parsed: a literal's digits, zeros for a pending element -/
theorem elemHexP_of_isPending (hp : isPending w x = true) : elemHexP w x = .ok (List.replicate w '0') := by
  unfold isPending at hp
  unfold elemHexP
  cases he : elemHex w x with
  | ok h => simp [he] at hp
  | error e => simp [he] at hp; simp [hp]

theorem elemHexP_of_not_isPending (hp : isPending w x = false) : elemHexP w x = elemHex w x := by
  unfold isPending at hp
  unfold elemHexP
  cases he : elemHex w x with
  | ok h => rfl
  | error e =>
    have : pendingElem x = false := by simpa [he] using hp
    simp [this]

/-- the test `evalElems` makes (`pendingAt`, in `evalElem1`) -/
theorem isPending_eq_pendingAt : isPending = pendingAt := rfl

theorem encl_evalElems_nil_left (hs : List Str) : evalElems ss t w [] hs = .ok [] :=
  evalElems_nil_left ss t w hs

theorem encl_evalElems_nil_right (xs : List Str) : evalElems ss t w xs [] = .ok [] :=
  evalElems_nil_right ss t w xs

/-- a PENDING position is evaluated; the first failure, from left to right, is the result -/
theorem evalElems_cons_eval {xs hs : List Str} {h : Str} (hp : isPending w x = true) :
    evalElems ss t w (x :: xs) (h :: hs) =
      (match evalElem ss t w x with
       | .ok h' => (match evalElems ss t w xs hs with | .ok r => .ok (h' :: r) | o => o)
       | .diag => .diag
       | .internal => .internal
       | .diverged => .diverged) := by
  rw [evalElems_cons, evalElem1, ← isPending_eq_pendingAt, hp, if_pos rfl]
  rfl

/-- success, position by position: the result has the length of the list, a literal position keeps its digits, a
pending position holds the value `evalElem` gives -/
theorem evalElems_ok_iff (xs hs r : List Str) (hl : xs.length = hs.length) :
    evalElems ss t w xs hs = .ok r ↔
      r.length = xs.length ∧
      ∀ i (hi : i < xs.length) (hh : i < hs.length) (hr : i < r.length), evalElem1 ss t w xs[i] hs[i] = .ok r[i] := by
  rw [evalElems_eq_traverse ss t w 0, Outcome.traverse_eq_ok, List.length_zip,
    show min xs.length hs.length = xs.length by omega]
  refine and_congr_right fun _ => ⟨fun H i hi hh hr => ?_, fun H j p hp => ?_⟩
  · obtain ⟨b, hb, he⟩ := H i (xs[i], hs[i]) (List.getElem?_zip_eq_some.2 ⟨List.getElem?_eq_getElem hi,
      List.getElem?_eq_getElem hh⟩)
    rw [List.getElem?_eq_getElem hr] at hb
    cases hb
    simpa using he
  · obtain ⟨h1, h2⟩ := List.getElem?_zip_eq_some.1 hp
    obtain ⟨hi, e1⟩ := List.getElem_of_getElem? h1
    obtain ⟨hh, e2⟩ := List.getElem_of_getElem? h2
    have hr : j < r.length := by omega
    exact ⟨r[j], List.getElem?_eq_getElem hr, by simpa [e1, e2] using H j hi hh hr⟩

/-- a pending element without a value refuses the list (if nothing before it fails in another way, the result is that
diagnostic; in any case the result is not a success) -/
theorem evalElems_not_ok_of_mem (xs hs : List Str) (hl : xs.length = hs.length) (i : Nat) (hi : i < xs.length)
    (hh : i < hs.length) (hne : ∀ v, evalElem1 ss t w xs[i] hs[i] ≠ .ok v) (r : List Str) :
    evalElems ss t w xs hs ≠ .ok r := by
  intro he
  obtain ⟨hlen, hpos⟩ := (evalElems_ok_iff xs hs r hl).mp he
  exact hne _ (hpos i hi hh (by omega))

/-- `multi w value = .ok hs`: one entry per element of the operand text, a literal's digits or `w` zeros for an element
that is kept for the symbol table.  (So `evalElems … (listElems value) hs` runs over lists of the same length.) -/
theorem multi_ok_positions {value : Str} {hs : List Str} (h : multi w value = .ok hs) :
    hs.length = (listElems value).length ∧
    ∀ i (hi : i < (listElems value).length) (hh : i < hs.length),
      (isPending w (listElems value)[i] = true → hs[i] = List.replicate w '0') ∧
      (isPending w (listElems value)[i] = false → elemHex w (listElems value)[i] = .ok hs[i]) := by
  unfold multi at h
  split at h
  · cases h
  · obtain ⟨hlen, hpos⟩ := mapM_eq_ok.1 h
    refine ⟨hlen, fun i hi hh => ⟨fun hp => ?_, fun hp => ?_⟩⟩
    · have : elemHexP w _ = .ok _ := hpos i _ _ (List.getElem?_eq_getElem hi) (List.getElem?_eq_getElem hh)
      rw [elemHexP_of_isPending hp] at this
      injection this with this
      exact this.symm
    · have : elemHexP w _ = .ok _ := hpos i _ _ (List.getElem?_eq_getElem hi) (List.getElem?_eq_getElem hh)
      rw [elemHexP_of_not_isPending hp] at this
      exact this

end CoCo.Asm
