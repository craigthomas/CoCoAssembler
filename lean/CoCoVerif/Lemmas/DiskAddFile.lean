/-
Lemmas/DiskAddFile.lean — file-length arithmetic and the complete effect of one `add_file` on the image (`Effect`,
`addFile_ok`), stated in the vocabulary of the Disk BASIC spec (`fatAt`, `dirEntry`, `granuleBytes`, `streamOf`);
`addFiles` over cons and append; the writer does not see the normalisation of a listed file whose name has no blanks
(`dsk_addFile_norm`).
-/
import CoCoVerif.Lemmas.DiskFat
import CoCoVerif.Lemmas.DiskGranules
import CoCoVerif.Lemmas.NamePad
import CoCoVerif.Props.DiskDefs
namespace CoCo.Dsk
open CoCo Spec.DiskBasic CoCo.Props

def fpre (f : CFile) : Bytes := preamble (kindOf f.ftype f.dtype) f.data.length f.load
def fpost (f : CFile) : Option Bytes := postamble (kindOf f.ftype f.dtype) f.exec
def flsb (f : CFile) : Nat := lastSectorBytes f.data.length (fpre f).length (postLen (fpost f))
def flgs (f : CFile) : Nat := lastGranuleSectors f.data.length (fpre f).length (postLen (fpost f))

theorem postLen_eq (p : Option Bytes) : postLen p = (postBytes p).length := by
  cases p <;> rfl

theorem streamOfFile_eq (f : CFile) : streamOfFile f = fpre f ++ f.data ++ postBytes (fpost f) := by
  unfold streamOfFile fpre fpost postBytes; rfl

theorem streamOfFile_ml {f : CFile} (h : f.ftype = 2) :
    streamOfFile f = [0x00, f.data.length / 256, f.data.length % 256, f.load / 256, f.load % 256]
      ++ f.data ++ [0xFF, 0x00, 0x00, f.exec / 256, f.exec % 256] := by
  unfold streamOfFile; rw [kindOf_ml _ h]; rfl

theorem streamOfFile_ascii {f : CFile} (h : f.ftype ≠ 2) (hd : f.dtype = 0xFF) : streamOfFile f = f.data := by
  unfold streamOfFile; rw [kindOf_ascii h hd]; simp [preamble, postamble]

theorem streamOfFile_basic {f : CFile} (h : f.ftype ≠ 2) (hd : f.dtype ≠ 0xFF) :
    streamOfFile f = [0xFF, f.data.length / 256, f.data.length % 256] ++ f.data := by
  unfold streamOfFile; rw [kindOf_basic h hd]; simp [preamble, postamble]

theorem fpre_length_le (f : CFile) : (fpre f).length ≤ 5 := by
  unfold fpre preamble; cases kindOf f.ftype f.dtype <;> simp

theorem fpost_length_le (f : CFile) : (postBytes (fpost f)).length ≤ 5 := by
  unfold fpost postamble postBytes; cases kindOf f.ftype f.dtype <;> simp

theorem stream_length (f : CFile) :
    (streamOfFile f).length = (fpre f).length + f.data.length + (postBytes (fpost f)).length := by
  rw [streamOfFile_eq]; simp; omega

theorem needs_eq (f : CFile) :
    granulesNeeded f.data.length (fpre f).length (postLen (fpost f)) = needs f := by
  unfold granulesNeeded needs
  rw [stream_length, postLen_eq, G_eq, Nat.add_comm f.data.length]

theorem needs_pos (f : CFile) : 1 ≤ needs f := by unfold needs; omega

theorem needs_bound (f : CFile) :
    (streamOfFile f).length < needs f * 2304 ∧ (needs f - 1) * 2304 ≤ (streamOfFile f).length := by
  unfold needs; omega

theorem needs_le (f : CFile) (h : f.data.length ≤ 65535) : needs f ≤ 29 := by
  unfold needs
  have h1 := fpre_length_le f
  have h2 := fpost_length_le f
  rw [stream_length]; omega

theorem flgs_range (f : CFile) : 1 ≤ flgs f ∧ flgs f ≤ 9 := by
  unfold flgs lastGranuleSectors sectorsNeeded granulesNeeded
  rw [G_eq, bytesPerSector_eq]
  omega

theorem flsb_lt (f : CFile) : flsb f < 256 := by
  unfold flsb lastSectorBytes sectorsNeeded granulesNeeded
  simp only [G_eq, bytesPerSector_eq]
  omega

/-- the three numbers the tool records (granules, sectors in the last one, bytes in the last sector) give
back the length of the stored stream -/
theorem implied_eq (f : CFile) : impliedLength (needs f) (flgs f) (flsb f) = (streamOfFile f).length := by
  have h1 := flgs_range f
  unfold impliedLength
  rw [if_neg (by omega)]
  unfold flgs flsb lastGranuleSectors lastSectorBytes sectorsNeeded granulesNeeded needs
  rw [stream_length, postLen_eq]
  simp only [G_eq, bytesPerSector_eq]
  omega

theorem dirEntryBytes_length (f : CFile) (a c : Nat) : (dirEntryBytes f a c).length = 32 := by
  unfold dirEntryBytes; simp [padUpper_length]

theorem streamOf_congr {b b' : Bytes} {c : List Nat} (h : ∀ g ∈ c, granuleBytes b' g = granuleBytes b g) :
    streamOf b' c = streamOf b c := by
  unfold streamOf
  congr 1
  exact List.map_congr_left h

theorem addFile_unfold (order : List Nat) (b : Bytes) (f : CFile) (h : f.data.length ≤ 65535) :
    addFile order b f =
      match alloc order (needs f) b with
      | .ok (gs, b1) =>
        match findEmptyDir b1 with
        | .ok (some e) =>
          match gs with
          | [] => .internal
          | g0 :: _ =>
            ofOpt (do
              let b2 ← writeBytes b1 (DIR + e * 32) (dirEntryBytes f g0 (flsb f))
              let b3 ← writeToGranules b2 f.data gs (fpre f) (fpost f) true
              let b4 ← writeFat b3 gs (flgs f)
              writeBytes b4 78660 (List.replicate 188 0x00))
        | .ok none => .diag
        | .diag => .diag
        | .internal => .internal
        | .diverged => .diverged
      | .diag => .diag
      | .internal => .internal
      | .diverged => .diverged := by
  unfold addFile
  rw [if_neg (by omega), ← needs_eq]
  rfl

/-- what storing one file does to the image, in the spec's vocabulary -/
structure Effect (b b' : Bytes) (f : CFile) (gs : List Nat) (e : Nat) : Prop where
  len : b'.length = 161280
  fat_other : ∀ g, g < 68 → g ∉ gs → fatAt b' g = fatAt b g
  fat_chain : Encodes b' gs (flgs f)
  dir_other : ∀ k, k < 72 → k ≠ e → dirEntry b' k = dirEntry b k
  dir_new : dirEntry b' e = dirEntryBytes f (gs.headD 0) (flsb f)
  gran_other : ∀ g, g < 68 → g ∉ gs → granuleBytes b' g = granuleBytes b g
  stream : (streamOf b' gs).take (streamOfFile f).length = streamOfFile f
  t17a : (b'.drop 78336).take 256 = (b.drop 78336).take 256
  t17b : (b'.drop 81152).take 1792 = (b.drop 81152).take 1792

/-- `add_file` once the allocation loop has given the granules `gs` and the directory search the slot `e`: it
succeeds. It writes, in this order, the directory entry, the stream along `gs`, the table entries of `gs` and
zeros over the unused part of the table sector; every clause of `Effect` is about offsets that all, or all
later, writes avoid. -/
theorem addFile_ok {order : List Nat} {b b1 : Bytes} {f : CFile} {gs : List Nat} {e : Nat}
    (hd : f.data.length ≤ 65535) (hb : b.length = 161280) (a : Allocated b (needs f) gs b1) (he : e < 72)
    (halloc : alloc order (needs f) b = .ok (gs, b1)) (hdir : findEmptyDir b1 = .ok (some e)) :
    ∃ b', addFile order b f = .ok b' ∧ Effect b b' f gs e := by
  have hlt : ∀ g ∈ gs, g < 68 := fun g hg => (a.free g hg).1
  have hlen := a.length
  have hn := needs_pos f
  cases gs with
  | nil => simp at hlen; omega
  | cons g0 rest =>
    have hde := dirEntryBytes_length f g0 (flsb f)
    have hbound := needs_bound f
    rw [stream_length] at hbound
    have hpre := fpre_length_le f
    have hpost := fpost_length_le f
    -- the writes, each with the offsets it may change
    have hin2 : DIR + e * 32 + (dirEntryBytes f g0 (flsb f)).length ≤ b1.length := by
      rw [hde, DIR_eq, a.within.len, hb]; omega
    have w2 : Within (fun i => 78848 + e * 32 ≤ i ∧ i < 78848 + e * 32 + 32) b1 _ :=
      (within_splice hin2).mono (fun i hi => by rw [hde, DIR_eq] at hi; exact hi)
    have hb2 := w2.len.trans (a.within.len.trans hb)
    have hwtg := writeToGranules_eq (g0 :: rest) _ f.data (fpre f) (fpost f) hb2 hlt (by omega) (by omega)
      (by rw [hlen]; omega)
    rw [← streamOfFile_eq] at hwtg
    have w3 := within_writeStream (s := streamOfFile f) hb2 hlt
    have hb3 := w3.len.trans hb2
    obtain ⟨b4, hfat, w4, henc⟩ := writeFat_spec (g0 :: rest) _ (flgs f) hb3 hlt
    have hin5 : 78660 + (List.replicate 188 0x00).length ≤ b4.length := by
      rw [List.length_replicate, w4.len, hb3]; omega
    have w5 : Within (fun i => 78660 ≤ i ∧ i < 78848) b4 _ :=
      (within_splice hin5).mono (fun i hi => by rw [List.length_replicate] at hi; exact hi)
    -- from each intermediate buffer to the last
    have w45 := w4.then w5
    have w35 := w3.then w45
    have w15 := (a.within.then w2).then w35
    have hb5 := w15.len.trans hb
    have hrun : addFile order b f = .ok (splice b4 78660 (List.replicate 188 0x00)) := by
      rw [addFile_unfold order b f hd, halloc]
      simp only [hdir]
      rw [writeBytes_eq hin2]
      simp only [Option.bind_eq_bind, Option.bind_some, hwtg, hfat]
      rw [writeBytes_eq hin5]
      rfl
    have hrd := splice_read (b := b1) (p := DIR + e * 32) (xs := dirEntryBytes f g0 (flsb f)) (by omega)
    rw [hde, DIR_eq] at hrd
    have hstream := writeStream_read (s := streamOfFile f) a.nodup hlt hb2
      (by rw [hlen]; have := needs_bound f; omega)
    -- of the arithmetic so far, what follows needs `e < 72` only
    clear hd hb hlen hn hde hbound hpre hpost hin2 hb2 hwtg hb3 hin5
    -- a slice of track 17 clear of the table, the rewritten rest of its sector and slot `e` is not changed
    have t17 : ∀ q n, 78336 ≤ q → q + n ≤ 82944 → (q + n ≤ 78592 ∨ 78848 ≤ q) →
        (q + n ≤ 78848 + e * 32 ∨ 78848 + e * 32 + 32 ≤ q) →
        ((splice b4 78660 (List.replicate 188 0x00)).drop q).take n = (b.drop q).take n := by
      intro q n h1 h2 h3 h4
      apply w15.slice
      rintro i h1 h2 ((h | h) | h | h | h)
      · have := fatOf_range hlt h; omega
      · omega
      · have := granOf_range hlt h; omega
      · have := fatOf_range hlt h; omega
      · omega
    refine ⟨_, hrun, hb5, ?_, ?_, ?_, ?_, ?_, ?_, ?_, ?_⟩
    · intro g hg hgn
      apply fatAt_congr
      apply w15.get
      rw [FAT_eq]
      rintro ((⟨g', hg', e'⟩ | h) | h | ⟨g', hg', e'⟩ | h)
      · rw [FAT_eq] at e'; exact hgn ((by omega : g = g') ▸ hg')
      · omega
      · have := granOf_range hlt h; omega
      · rw [FAT_eq] at e'; exact hgn ((by omega : g = g') ▸ hg')
      · omega
    · apply Encodes_congr _ _ _ (henc (a.nodup))
      intro g hg
      apply fatAt_congr
      apply w5.get
      have := hlt g hg
      rw [FAT_eq]; omega
    · intro k hk hke
      rw [dirEntry_eq, dirEntry_eq]
      exact t17 _ _ (by omega) (by omega) (by omega) (by omega)
    · rw [dirEntry_eq, show 78848 + 32 * e = 78848 + e * 32 by omega]
      refine Eq.trans (w35.slice ?_) hrd
      rintro i h1 h2 (h | h | h)
      · have := granOf_range hlt h; omega
      · have := fatOf_range hlt h; omega
      · omega
    · intro g hg hgn
      rw [granuleBytes_eq, granuleBytes_eq]
      have ht := seek_track17 g hg
      apply w15.slice
      rintro i h1 h2 ((h | h) | ⟨g', hg', h⟩ | h | h)
      · have := fatOf_range hlt h; omega
      · omega
      · have := seek_disj g g' hg (hlt g' hg') (fun e' => hgn (e' ▸ hg')); omega
      · have := fatOf_range hlt h; omega
      · omega
    · refine Eq.trans (congrArg (List.take _) (streamOf_congr ?_)) hstream
      intro g hg
      rw [granuleBytes_eq, granuleBytes_eq]
      have ht := seek_track17 g (hlt g hg)
      apply w45.slice
      rintro i h1 h2 (h | h)
      · have := fatOf_range hlt h; omega
      · omega
    · exact t17 _ _ (by omega) (by omega) (by omega) (by omega)
    · exact t17 _ _ (by omega) (by omega) (by omega) (by omega)

theorem addFiles_cons (order : List Nat) (b : Bytes) (f : CFile) (fs : List CFile) :
    addFiles order b (f :: fs) = (addFile order b f).bind (fun b' => addFiles order b' fs) := by
  rw [addFiles]
  cases addFile order b f <;> rfl

end CoCo.Dsk

namespace CoCo.VF
open CoCo CoCo.Props

theorem kindOf_norm (f : CFile) : Dsk.kindOf (Dsk.norm f).ftype (Dsk.norm f).dtype = Dsk.kindOf f.ftype f.dtype := rfl

theorem preamble_norm (f : CFile) :
    Dsk.preamble (Dsk.kindOf f.ftype f.dtype) (Dsk.norm f).data.length (Dsk.norm f).load
      = Dsk.preamble (Dsk.kindOf f.ftype f.dtype) f.data.length f.load := by
  unfold Dsk.norm
  cases h : Dsk.kindOf f.ftype f.dtype <;> simp [Dsk.preamble]

theorem postamble_norm (f : CFile) :
    Dsk.postamble (Dsk.kindOf f.ftype f.dtype) (Dsk.norm f).exec
      = Dsk.postamble (Dsk.kindOf f.ftype f.dtype) f.exec := by
  unfold Dsk.norm
  cases h : Dsk.kindOf f.ftype f.dtype <;> simp [Dsk.postamble]

theorem dirEntryBytes_norm (f : CFile) (hs : NoSpace f) (a c : Nat) :
    Dsk.dirEntryBytes (Dsk.norm f) a c = Dsk.dirEntryBytes f a c := by
  unfold Dsk.dirEntryBytes
  have h1 : Dsk.padUpper 8 (Dsk.norm f).name = Dsk.padUpper 8 f.name := padUpper_norm_name 8 f.name hs
  have h2 : Dsk.padUpper 3 (Dsk.norm f).ext = Dsk.padUpper 3 f.ext := padUpper_padUpper 3 f.ext
  rw [h1, h2]
  rfl

/-- the disk writer does not see `Dsk.norm`: it pads and uppercases name and extension itself (a name without
blanks or NULs pads back to the same 8 bytes) and uses load and exec address of a machine-language file only -/
theorem _root_.CoCo.Props.dsk_addFile_norm (order : List Nat) (b : Bytes) (f : CFile) (hs : NoSpace f) :
    Dsk.addFile order b (Dsk.norm f) = Dsk.addFile order b f := by
  unfold Dsk.addFile
  simp only [kindOf_norm, preamble_norm, postamble_norm, dirEntryBytes_norm f hs]
  rfl

theorem addFiles_norm (order : List Nat) (fs : List CFile) (hs : ∀ f ∈ fs, NoSpace f) :
    ∀ b, Dsk.addFiles order b (fs.map Dsk.norm) = Dsk.addFiles order b fs := by
  induction fs with
  | nil => intro b; rfl
  | cons f rest ih =>
    intro b
    rw [List.map_cons, Dsk.addFiles_cons, Dsk.addFiles_cons, dsk_addFile_norm order b f (hs f List.mem_cons_self)]
    congr 1
    funext b'
    exact ih (fun g hg => hs g (List.mem_cons_of_mem _ hg)) b'

theorem addFiles_append (order : List Nat) (xs ys : List CFile) :
    ∀ b, Dsk.addFiles order b (xs ++ ys) = (Dsk.addFiles order b xs).bind (fun b' => Dsk.addFiles order b' ys) := by
  induction xs with
  | nil => intro b; rfl
  | cons f rest ih =>
    intro b
    simp only [List.cons_append, Dsk.addFiles]
    cases Dsk.addFile order b f with
    | ok b' => exact ih b'
    | diag => rfl
    | internal => rfl
    | diverged => rfl

theorem write_norm_append_dsk (order : List Nat) (a b : List CFile) (hs : ∀ f ∈ a, NoSpace f) :
    Dsk.write order (a.map Dsk.norm ++ b) = Dsk.write order (a ++ b) := by
  unfold Dsk.write
  rw [addFiles_append, addFiles_append, addFiles_norm order a hs]

theorem write_prefix_ok {order : List Nat} {a b : List CFile} {img : Bytes}
    (h : Dsk.write order (a ++ b) = .ok img) : ∃ img0, Dsk.write order a = .ok img0 := by
  unfold Dsk.write at h ⊢
  rw [addFiles_append] at h
  cases hx : Dsk.addFiles order Dsk.blank a with
  | ok b' => exact ⟨b', rfl⟩
  | diag => rw [hx] at h; simp [Outcome.bind] at h
  | internal => rw [hx] at h; simp [Outcome.bind] at h
  | diverged => rw [hx] at h; simp [Outcome.bind] at h

end CoCo.VF
