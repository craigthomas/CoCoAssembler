/-
Lemmas/RelocFinish.lean — relocation (C18-R1): the list pass and `finish` on two layouts `D` apart.

What the list pass needs of the three shifts (a list field is not a number: they leave it alone) and of the layout (every
address is a number), and `finish_outRel`: `evalSyms`, `finalSymTab`, origin and name run in step on the two programs once
`fixAllL` does, for any relation `F` between the final statements that keeps row and operand and relates the addresses.
-/
import CoCoVerif.Lemmas.AssembleStages
import CoCoVerif.Lemmas.RelocEqu
import CoCoVerif.Lemmas.RelocList

namespace CoCo.Props
open CoCo CoCo.Asm

section
variable {D : Nat} {as as' : List Stmt}

theorem shiftV_list {v : Value} (h : v.isList = true) : shiftV D v = v := by
  cases v <;> first | rfl | cases h
theorem shiftV_nonlist {v : Value} (h : v.isList = false) : (shiftV D v).isList = false := by
  cases v <;> first | rfl | cases h
theorem shiftVmod_list {v : Value} (h : v.isList = true) : shiftVmod D v = v := by
  cases v <;> first | rfl | cases h
theorem shiftVmod_nonlist {v : Value} (h : v.isList = false) : (shiftVmod D v).isList = false := by
  cases v <;> first | rfl | cases h
theorem shiftVneg_list {v : Value} (h : v.isList = true) : shiftVneg D v = v := by
  cases v <;> first | rfl | cases h
theorem shiftVneg_nonlist {v : Value} (h : v.isList = false) : (shiftVneg D v).isList = false := by
  cases v <;> first | rfl | cases h

theorem addrOf_numeric_any (h : PW (AddrShiftAny D) as as') : ∀ j v, addrOf as j = some v → v.isNumeric = true := by
  intro j v hv
  rcases addrOf_reloc_any h j with ⟨e, _⟩ | ⟨w, w', e, _, a, hh, m, hh', m', rfl, _, _⟩
  · rw [e] at hv; cases hv
  · rw [e] at hv; cases hv; rfl

theorem addrOf_numeric (h : PW (AddrShift D) as as') : ∀ j v, addrOf as j = some v → v.isNumeric = true :=
  addrOf_numeric_any (h.mono (fun _ _ => AddrShift.toAny))

theorem fixAllL_sameAddr {t : SymTab} {l l' : List Stmt} (h : fixAllL t l = .ok l') : PW SameAddr l l' :=
  (fixAllL_pw h).mono (fun _ _ => SameButAdditional.sameAddr)

/-- the two readings of a table without EQUs defined by label expressions: entry by entry (labels move by `D`, the other
entries stay), and as one `zipWith` over the label table -/
theorem symtab_zipWith {t r r' : SymTab} (hl' : r'.length = t.length) (hequ : NoLabelEqu t)
    (h : ∀ (j : Nat) (k : Str) (v : Value), t[j]? = some (k, v) →
      ∃ x x', r[j]? = some (k, x) ∧ r'[j]? = some (k, x') ∧ EquRel D as t v x x') :
    r' = List.zipWith (fun (kv kw : Str × Value) => (kw.1, if kv.2.isAddress then shiftV D kw.2 else kw.2)) t r := by
  apply List.ext_getElem?
  intro j
  rw [List.getElem?_zipWith]
  cases hj : t[j]? with
  | none =>
    have : t.length ≤ j := List.getElem?_eq_none_iff.mp hj
    rw [List.getElem?_eq_none_iff.mpr (by omega)]
  | some kv =>
    obtain ⟨k, v⟩ := kv
    obtain ⟨x, x', hx, hx', hr⟩ := h j k v hj
    rw [hx, hx']
    dsimp only
    cases hA : v.isAddress with
    | true => rw [hr.1 hA]; rfl
    | false => rw [hr.2.1 ⟨hA, hequ (k, v) (List.mem_of_getElem? hj)⟩]; rfl

theorem equCovered_of_noLabelEqu {as : List Stmt} {t : SymTab} (h : NoLabelEqu t) : ∀ kv ∈ t, EquCovered D as t kv.2 := by
  intro kv hkv
  by_cases ha : kv.2.isAddress = true
  · exact .inl ha
  · exact .inr (.inl ⟨by simpa using ha, h kv hkv⟩)

/-- the back end after `assignAddrs` on two layouts `D` apart whose `fixAllL` results are related by `F`, where `F` keeps
row and operand and relates the two addresses by `L` (and as numbers `D` apart): the same outcome kind; the final tables are
related entry by entry (`EquRelOf L`), the origins by `L` unless both are absent, the names are equal -/
theorem finish_outRel {F : Stmt → Stmt → Prop} {L : Value → Value → Prop} {t : SymTab}
    (hfix : OutRel (PW F) (fixAllL t as) (fixAllL t as')) (hI : PW (AddrShiftI D) as as')
    (hrow : ∀ x x', F x x' → x'.row = x.row ∧ x'.operand = x.operand)
    (hint : ∀ x x', F x x' → AddrShiftI D x x') (hL : ∀ x x', F x x' → L x.pkg.address x'.pkg.address)
    (hequ : ∀ kv ∈ t, EquCovered D as t kv.2) :
    OutRel (fun A B => PW F A.stmts B.stmts ∧ A.symtab.length = t.length ∧ B.symtab.length = t.length ∧
        (∀ (j : Nat) (k : Str) (v : Value), t[j]? = some (k, v) →
          ∃ x x', A.symtab[j]? = some (k, x) ∧ B.symtab[j]? = some (k, x') ∧ EquRelOf L D as t v x x') ∧
        ((A.origin = .none ∧ B.origin = .none) ∨ L A.origin B.origin) ∧ B.name = A.name)
      (finish t as) (finish t as') := by
  rw [finish_eq, finish_eq]
  refine hfix.bind fun fs fs' hfa hfb hr => ?_
  have hs := fixAllL_sameAddr hfa
  have hs' := fixAllL_sameAddr hfb
  have hev := evalSyms_outRel hI t t hequ
  rw [← evalSyms_sameAddr hs, ← evalSyms_sameAddr hs'] at hev
  refine hev.bind fun t1 t1' he he' hp => ?_
  refine (finalSymTab_outRel (hr.mono hint) t1 t1' hp).bind fun r r' hf hf' _ => .ok ⟨hr, ?_, ?_, ?_, ?_, ?_⟩
  · exact (finalSymTab_length hf).trans (evalSyms_length he)
  · exact (finalSymTab_length hf').trans (evalSyms_length he')
  · exact fun j k v hj => symtab_reloc_entry_of hI hs hs' (hr.mono hL) he he' hf hf' hj
  · exact PW.foldl_last (Ro := fun o o' => (o = .none ∧ o' = .none) ∨ L o o') (fun s => s.row.isOrigin)
      (fun s => s.row.isOrigin) (·.pkg.address) (·.pkg.address)
      (hr.mono fun _ _ r => ⟨by rw [(hrow _ _ r).1], .inr (hL _ _ r)⟩) (.inl ⟨rfl, rfl⟩)
  · exact name_reloc fs fs' none (hr.mono hrow)

/-- `finish_outRel` for layouts whose address values are rendered alike (`AddrShift`) and a table without EQUs defined by
label expressions: labels and the origin move by `D`, the other entries stay -/
theorem finish_outRel_const {F : Stmt → Stmt → Prop} {t : SymTab}
    (hfix : OutRel (PW F) (fixAllL t as) (fixAllL t as')) (hI : PW (AddrShiftI D) as as')
    (hrow : ∀ x x', F x x' → x'.row = x.row ∧ x'.operand = x.operand)
    (hsh : ∀ x x', F x x' → AddrShift D x x') (hequ : NoLabelEqu t) :
    OutRel (fun A B => PW F A.stmts B.stmts ∧
        B.symtab = List.zipWith (fun (kv kw : Str × Value) => (kw.1, if kv.2.isAddress then shiftV D kw.2 else kw.2))
          t A.symtab ∧
        B.origin = shiftV D A.origin ∧ B.name = A.name)
      (finish t as) (finish t as') :=
  (finish_outRel (L := WideAddr D) hfix hI hrow (fun _ _ r => (hsh _ _ r).toI) (fun _ _ r => (hsh _ _ r).2)
    (equCovered_of_noLabelEqu hequ)).mono
    fun A B ⟨h1, h2, h3, h4, h5, h6⟩ =>
      ⟨h1, symtab_zipWith h3 hequ (fun j k v hj => by
          obtain ⟨x, x', hx, hx', hr⟩ := h4 j k v hj
          exact ⟨x, x', hx, hx', hr.equRel⟩),
        h5.elim (fun ⟨a, b⟩ => by rw [a, b]; rfl) WideAddr.shiftV, h6⟩

end

end CoCo.Props
