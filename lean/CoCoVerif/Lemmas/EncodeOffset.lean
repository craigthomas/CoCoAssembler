/-
Lemmas/EncodeOffset.lean — constant-offset indexed operands `n,R` and `[n,R]`: the branches of
`translateOffset` computed symbolically, and the round trip through the datasheet post-byte decoder.
-/
import CoCoVerif.Lemmas.EncodeClasses

namespace CoCo.Asm
open CoCo CoCo.Spec.MC6809
open CoCo.Gen (InstrRow)

/-- the hypotheses on the register text shared by every branch: no auto increment, not PCR -/
structure PlainReg (right : Str) : Prop where
  noPlus : hasSub ['+'] right = false
  noMinus : hasSub ['-'] right = false
  noPcr : hasSub (str "PCR") right = false

theorem PlainReg.noSign {right : Str} (hr : PlainReg right) : (hasSub ['+'] right || hasSub ['-'] right) = false := by
  rw [hr.noPlus, hr.noMinus]
  rfl

theorem is4_or_is8 (i : Nat) (neg : Bool) : (is4Bit i neg || is8Bit i neg) = is8Bit i neg := by
  cases neg <;> simp [is4Bit, is8Bit] <;> omega

theorem is4Bit_of_not8 {i : Nat} {neg : Bool} (h8 : is8Bit i neg = false) : is4Bit i neg = false :=
  (Bool.or_eq_false_iff.mp (by rw [is4_or_is8, h8])).1

/-- no 5-bit form: inside brackets there is none, outside the number is too wide for it -/
theorem not5 {ind : Bool} {i : Nat} {neg : Bool} (h : ind = true ∨ is4Bit i neg = false) :
    (!ind && is4Bit i neg) = false := by
  rcases h with rfl | h
  · rfl
  · rw [h]
    exact Bool.and_false _

section branches
variable {ind : Bool} {row : InstrRow} {c i : Nat} {h : Option Nat} {m : Mode} {neg : Bool} {right : Str} {raw0 : Nat}
  (hop : opVal row.ind = .ok (opv c)) (hr : PlainReg right)
include hop hr

/-- 5-bit offset: in the post byte, no byte follows -/
theorem translateOffset_off5 (h5 : is4Bit i neg = true)
    (hraw : (if neg then raw0 ||| 0x10 ||| (0x10 - i) else raw0 ||| i) < 256) :
    translateOffset false row (.numeric i h m neg) right raw0 =
      .ok { opCode := opv c,
            postByte := .numeric (if neg then raw0 ||| 0x10 ||| (0x10 - i) else raw0 ||| i) (some 2) .direct false,
            additional := .none, size := row.indSz, maxSize := row.indSz } := by
  rw [translateOffset_numeric hr.noSign, offBody_off5 hop hr.noPcr h5, numV_byte hraw]
  rfl

/-- 8-bit offset: the model keeps a non-negative literal as the field and builds the two's complement byte of a negative
one itself; `size` counts it -/
theorem translateOffset_off8 (h5 : ind = true ∨ is4Bit i neg = false) (h8 : is8Bit i neg = true) (h1 : neg = true → 1 ≤ i)
    (hraw : raw0 ||| ((if ind then 0x90 else 0x80) + 0x08) < 256) :
    translateOffset ind row (.numeric i h m neg) right raw0 =
      .ok { opCode := opv c, postByte := .numeric (raw0 ||| ((if ind then 0x90 else 0x80) + 0x08)) (some 2) .direct false,
            additional := .numeric (byteField i neg) (if neg then some 2 else h) (if neg then .direct else m) false,
            size := row.indSz + 1, maxSize := row.indSz + 1 } := by
  rw [translateOffset_numeric hr.noSign, offBody_off8 hop hr.noPcr (not5 h5) h8]
  unfold offBase
  rw [numV_byte hraw]
  cases neg
  · rfl
  · have h2 : i ≤ 128 := by simpa [is8Bit] using h8
    have := h1 rfl
    rw [if_pos rfl, numV_byte (show 0x100 - i < 256 by omega), show byteField i true = 0x100 - i by
      simp only [byteField, if_true]; omega]
    rfl

/-- 8-bit non-negative offset (`ind`: inside brackets, where there is no 5-bit form) -/
theorem translateOffset_pos8 (hlo : ind = true ∨ 16 ≤ i) (hi : i ≤ 127)
    (hraw : raw0 ||| ((if ind then 0x90 else 0x80) + 0x08) < 256) :
    translateOffset ind row (.numeric i h m false) right raw0 =
      .ok { opCode := opv c, postByte := .numeric (raw0 ||| ((if ind then 0x90 else 0x80) + 0x08)) (some 2) .direct false,
            additional := .numeric i h m false, size := row.indSz + 1, maxSize := row.indSz + 1, needsRes := false } :=
  translateOffset_off8 hop hr (hlo.imp id fun h16 => by simp [is4Bit]; omega) (by simpa [is8Bit] using hi)
    (fun e => by cases e) hraw

/-- a number outside −128..127: the 16-bit form, its field built by `NumericValue` from the number, or from
65536 − n for −n -/
theorem translateOffset_wide (h8 : is8Bit i neg = false) (hraw : raw0 ||| ((if ind then 0x90 else 0x80) + 0x09) < 256) :
    translateOffset ind row (.numeric i h m neg) right raw0 = do
      let a ← if neg then numericOfInt ((0x10000 : Int) - i) none .none else numericOfInt i (some 4) .none
      return { opCode := opv c, postByte := .numeric (raw0 ||| ((if ind then 0x90 else 0x80) + 0x09)) (some 2) .direct false,
               additional := a, size := row.indSz + 2, maxSize := row.indSz + 2 } := by
  rw [translateOffset_numeric hr.noSign, offBody_off16 hop hr.noPcr (not5 (.inr (is4Bit_of_not8 h8))) h8]
  unfold offBase
  rw [numV_byte hraw]
  rfl

/-- 16-bit offset: the two's complement word -/
theorem translateOffset_off16 (h8 : is8Bit i neg = false) (hf : fitsWord i neg = true)
    (hraw : raw0 ||| ((if ind then 0x90 else 0x80) + 0x09) < 256) :
    translateOffset ind row (.numeric i h m neg) right raw0 =
      .ok { opCode := opv c, postByte := .numeric (raw0 ||| ((if ind then 0x90 else 0x80) + 0x09)) (some 2) .direct false,
            additional := .numeric (wordField i neg) (if neg then none else some 4) .extended false,
            size := row.indSz + 2, maxSize := row.indSz + 2 } := by
  rw [translateOffset_wide hop hr h8 hraw]
  cases neg
  · have h2 : i ≤ 65535 := by simpa [fitsWord] using hf
    rw [if_neg Bool.false_ne_true, numericOfInt_hint 4 (show i < 65536 by omega)]
    rfl
  · have h1 : ¬ i ≤ 128 := by simpa [is8Bit] using h8
    have h2 : i ≤ 32768 := by simpa [fitsWord] using hf
    have e : (0x10000 : Int) - (i : Int) = ((0x10000 - i : Nat) : Int) := by omega
    rw [if_pos rfl, e, show wordField i true = 0x10000 - i by simp only [wordField, if_true]; omega]
    rw [show numericOfInt ((0x10000 - i : Nat) : Int) none .none = _ from
      numV_word (show 256 ≤ 0x10000 - i by omega) (show 0x10000 - i < 65536 by omega)]
    rfl

end branches

/-- `o` is an index operand: `n,R` (`ind = false`), or `[n,R]` in brackets (`ind = true`), whose value is then neither
a label nor a number (that would be `[address]`) -/
def IdxOperand (ind : Bool) (o : Operand) : Prop :=
  if ind then o.kind = .extIndirect ∧ o.value.isAddress = false ∧ o.value.isAddrExpr = false ∧ o.value.isNumeric = false
  else o.kind = .indexed

/-- a number on the left is an offset unless it is a literal 0 before a pointer register -/
theorem idxNoOffset_numeric {o : Operand} {right : Str} {i : Nat} {h : Option Nat} {m : Mode} {neg : Bool}
    (hl : o.left = .val (.numeric i h m neg)) (hi : i ≠ 0 ∨ hasSub (str "PCR") right = true) :
    idxNoOffset o right = false := by
  unfold idxNoOffset
  rw [hl]
  cases i with
  | zero =>
    rcases hi with hi | hi
    · exact absurd rfl hi
    · simp only [hi, Bool.not_true]
  | succ j => rfl

section val
variable {o : Operand} {r : InstrRow} {c : Nat} {v : Value} {right : Str} (hI : IdxCell r c) (hl : o.left = .val v)
  (hno : idxNoOffset o right = false) (hr : o.right = some right) (hvr : validIndexReg right = true)
include hI hl hno hr hvr

theorem translateIndexed_val : translateIndexed o r = translateOffset false r v right (regBits right) := by
  rw [translateIndexed_body hI hr hvr (pcrNoOffset_val hl), idxBody_val hI hl hno]

theorem translateExtInd_val (hna : o.value.isAddress = false) (hne : o.value.isAddrExpr = false)
    (hnn : o.value.isNumeric = false) :
    translateExtIndirect o r = translateOffset true r v right (0x80 ||| regBits right) := by
  rw [translateExtIndirect_body hI hna hne hnn hr hvr (pcrNoOffset_val hl), extBody_val hl hno]

/-- both operand classes at once: a value on the left that is an offset goes to `translateOffset` -/
theorem translateOperand_val {ind : Bool} (hk : IdxOperand ind o) :
    translateOperand o r = translateOffset ind r v right (idxRaw ind right) := by
  cases ind
  · exact (translateOperand_indexed hk).trans (translateIndexed_val hI hl hno hr hvr)
  · have hk : o.kind = .extIndirect ∧ _ := hk
    exact (translateOperand_extInd hk.1).trans (translateExtInd_val hI hl hno hr hvr hk.2.1 hk.2.2.1 hk.2.2.2)

end val

/-- X, Y, U, S by their datasheet register number -/
def regName (k : Nat) : Str := match k with | 0 => ['X'] | 1 => ['Y'] | 2 => ['U'] | _ => ['S']

theorem k_cases {k : Nat} (h : k < 4) : k = 0 ∨ k = 1 ∨ k = 2 ∨ k = 3 := by omega

theorem regName_plain : ∀ k, k < 4 → PlainReg (regName k) := by
  intro k hk
  rcases k_cases hk with rfl | rfl | rfl | rfl <;> exact ⟨by decide, by decide, by decide⟩

theorem regName_valid (k : Nat) : validIndexReg (regName k) = true := by
  match k with
  | 0 | 1 | 2 => rfl
  | _ + 3 => rfl

theorem regBits_regName : ∀ k, k < 4 → regBits (regName k) = 32 * k := by decide +kernel

theorem or_low : ∀ k, k < 4 → ∀ x, x < 32 → (32 * k) ||| x = 32 * k + x := by decide +kernel
theorem or_high : ∀ k, k < 4 → ∀ x, x < 32 → (32 * k) ||| (128 + x) = 128 + 32 * k + x := by decide +kernel
theorem or_high' : ∀ k, k < 4 → ∀ x, x < 32 → (128 ||| 32 * k) ||| (128 + x) = 128 + 32 * k + x := by decide +kernel
theorem or_neg5 : ∀ i, i < 17 → 1 ≤ i → 0x10 ||| (0x10 - i) = 32 - i := by decide +kernel

/-- the post byte of the 8-bit, 16-bit and PC-relative forms: `1kk0xxxx`, in brackets `1kk1xxxx` -/
theorem idxRaw_form (ind : Bool) {right : Str} {k x : Nat} (hk : k < 4) (hr : regBits right = 32 * k) (hx : x < 16) :
    idxRaw ind right ||| (offBase ind + x) = 128 + 32 * k + (x + if ind then 16 else 0) := by
  unfold idxRaw
  rw [hr]
  cases ind
  · exact or_high k hk x (by omega)
  · have := or_high' k hk (x + 16) (by omega)
    rwa [show 128 + (x + 16) = 0x90 + x by omega] at this

theorem idxRaw_regName (ind : Bool) {k x : Nat} (hk : k < 4) (hx : x < 16) :
    idxRaw ind (regName k) ||| ((if ind then 0x90 else 0x80) + x) = 128 + 32 * k + (x + if ind then 16 else 0) :=
  idxRaw_form ind hk (regBits_regName k hk) hx

theorem sext16_neg {i : Nat} (h1 : 1 ≤ i) (h2 : i ≤ 32768) : sext (65536 - i) 16 = -(i : Int) := by
  have : 65536 - i ≥ 32768 := by omega
  simp [sext, this]; omega

theorem sext_byteField {i : Nat} {neg : Bool} (h : is8Bit i neg = true) :
    sext (byteField i neg) 8 = (if neg then -(i : Int) else (i : Int)) := by
  cases neg
  · have h : ¬ i ≥ 128 := by simp [is8Bit] at h; omega
    simp [byteField, sext, h]
  · have h : i ≤ 128 := by simpa [is8Bit] using h
    by_cases h0 : i = 0
    · subst h0; decide
    · have e : (256 - i) % 256 = 256 - i := by omega
      have : 256 - i ≥ 128 := by omega
      simp [byteField, e, sext, this]; omega

theorem is8Bit_fits {i : Nat} {neg : Bool} (h : is8Bit i neg = true) : fitsByte i neg = true := by
  cases neg <;> simp [is8Bit, fitsByte] at h ⊢ <;> omega

theorem decode_off8 (ind : Bool) {k : Nat} (hk4 : k < 4) (b : Nat) (rest : Bytes) :
    decodePostByte ((128 + 32 * k + (8 + if ind then 16 else 0)) :: b :: rest) = some (.off k (sext b 8) ind 8, 2) := by
  rw [decodePostByte_form hk4 (by cases ind <;> decide)]
  cases ind <;> rfl

/-- the decoder on a 16-bit offset post byte (`q` = 9 direct, 25 indirect) -/
theorem decode_off16 {k q hi lo : Nat} (hk4 : k < 4) (hq : q = 9 ∨ q = 25) (rest : Bytes) :
    decodePostByte ((128 + 32 * k + q) :: hi :: lo :: rest) = some (.off k (sext (hi * 256 + lo) 16) (q = 25) 16, 3) := by
  rw [decodePostByte_form hk4 (by omega)]
  rcases hq with rfl | rfl <;> rfl

section offset
variable {o : Operand} {r : InstrRow} {c i k : Nat} {h : Option Nat} {m : Mode} {neg : Bool} (hI : IdxCell r c)
include hI

/-- `n,R` with −16 ≤ n ≤ 15, n ≠ 0: the offset is in the post byte, no byte follows -/
theorem enc_off5 (hk : o.kind = .indexed) (hl : o.left = .val (.numeric i h m neg)) (hi : i ≠ 0)
    (h5 : is4Bit i neg = true) (hk4 : k < 4) (hr : o.right = some (regName k)) :
    Encodes o r (.idx (.off k (if neg then -(i : Int) else (i : Int)) false 5)) := by
  have ht := translateOperand_val hI hl (idxNoOffset_numeric hl (.inl hi)) hr (regName_valid k) (ind := false) hk
  rw [show idxRaw false (regName k) = 32 * k from regBits_regName k hk4] at ht
  -- the post byte `0kkvvvvv`, `vvvvv` the offset in two's complement
  obtain ⟨v, hv, hp, hsx⟩ : ∃ v, v < 32 ∧ (if neg then 32 * k ||| 0x10 ||| (0x10 - i) else 32 * k ||| i) = 32 * k + v ∧
      sext v 5 = (if neg then -(i : Int) else (i : Int)) := by
    cases neg
    · have h2 : i ≤ 15 := by simpa [is4Bit] using h5
      have e : ¬ i ≥ 16 := by omega
      exact ⟨i, by omega, or_low k hk4 i (by omega), by simp [sext, e]⟩
    · have h2 : i ≤ 16 := by simpa [is4Bit] using h5
      have e : 32 - i ≥ 16 := by omega
      refine ⟨32 - i, by omega, ?_, by simp [sext, e]; omega⟩
      rw [if_pos rfl, Nat.or_assoc, or_neg5 i (by omega) (by omega), or_low k hk4 _ (by omega)]
  rw [translateOffset_off5 hI.opVal (regName_plain k hk4) h5 (by rw [hp]; omega), hp] at ht
  refine (hI.layout (w := 0) (by omega) (.inl ⟨rfl, rfl⟩)).encodes_idx ht rfl rfl ?_
  rw [decodePostByte_off5 hk4 hv, hsx]

/-- `n,R` and `[n,R]` with −128 ≤ n ≤ 127 (outside brackets: and no 5-bit form), whatever the size hint of the
literal: the post byte and the two's complement byte, which `size` counts -/
theorem enc_off8 (ind : Bool) (hk : IdxOperand ind o) (hl : o.left = .val (.numeric i h m neg)) (hi : i ≠ 0)
    (h5 : ind = true ∨ is4Bit i neg = false) (h8 : is8Bit i neg = true) (hk4 : k < 4)
    (hr : o.right = some (regName k)) :
    Encodes o r (.idx (.off k (if neg then -(i : Int) else (i : Int)) ind 8)) := by
  have hp := idxRaw_regName ind hk4 (x := 8) (by decide)
  have hp256 : 128 + 32 * k + (8 + if ind then 16 else 0) < 256 := by cases ind <;> simp <;> omega
  have ht := translateOperand_val hI hl (idxNoOffset_numeric hl (.inl hi)) hr (regName_valid k) hk
  rw [translateOffset_off8 hI.opVal (regName_plain k hk4) h5 h8 (fun _ => by omega) (by rw [hp]; exact hp256),
    hp] at ht
  refine (hI.layout (w := 1) hp256 (.inr ⟨.inl rfl, rfl⟩)).encodes_idx ht rfl
    (fieldBytes_byte (fitsByte_pos (byteField_lt (is8Bit_fits h8)))) ?_
  rw [decode_off8 ind hk4, show byteField (byteField i neg) false = byteField i neg from rfl, sext_byteField h8]

/-- `n,R` and `[n,R]` with n outside −128..127 (−32768 ≤ n ≤ 65535): the post byte and the two's complement word,
both bytes counted in `size` -/
theorem enc_off16 (ind : Bool) (hk : IdxOperand ind o) (hl : o.left = .val (.numeric i h m neg))
    (h8 : is8Bit i neg = false) (hf : fitsWord i neg = true) (hk4 : k < 4) (hr : o.right = some (regName k)) :
    Encodes o r (.idx (.off k (sext (wordField i neg) 16) ind 16)) := by
  have hp := idxRaw_regName ind hk4 (x := 9) (by decide)
  have hp256 : 128 + 32 * k + (9 + if ind then 16 else 0) < 256 := by cases ind <;> simp <;> omega
  have hi : i ≠ 0 := by rintro rfl; cases neg <;> simp [is8Bit] at h8
  have ht := translateOperand_val hI hl (idxNoOffset_numeric hl (.inl hi)) hr (regName_valid k) hk
  rw [translateOffset_off16 hI.opVal (regName_plain k hk4) h8 hf (by rw [hp]; exact hp256), hp] at ht
  refine (hI.layout (w := 2) hp256 (.inr ⟨.inr rfl, rfl⟩)).encodes_idx ht rfl
    (fieldBytes_word (fitsWord_pos (wordField_lt hf))) ?_
  rw [decode_off16 hk4 (by cases ind <;> simp), show wordField (wordField i neg) false = wordField i neg from rfl, hi_lo]
  cases ind <;> rfl

end offset

/-- whether a numeric offset from the PC takes the 16-bit form: spelt in extended mode, or outside −128..127 -/
def pcrWide (i : Nat) (m : Mode) (neg : Bool) : Bool := m == .extended || !(is8Bit i neg)

theorem translateOffset_pcr {ind : Bool} {row : InstrRow} {c i : Nat} {h : Option Nat} {m : Mode} {neg : Bool}
    {raw0 : Nat} (hop : opVal row.ind = .ok (opv c))
    (hraw : raw0 ||| ((if ind then 0x90 else 0x80) + (if pcrWide i m neg then 0x0D else 0x0C)) < 256) :
    translateOffset ind row (.numeric i h m neg) (str "PCR") raw0 =
      .ok { opCode := opv c,
            postByte := .numeric (raw0 ||| ((if ind then 0x90 else 0x80) + (if pcrWide i m neg then 0x0D else 0x0C)))
              (some 2) .direct false,
            additional := .numeric i h m neg,
            size := row.indSz + (if pcrWide i m neg then 2 else 1),
            maxSize := row.indSz + (if pcrWide i m neg then 2 else 1) } := by
  have he : (m == .extended || !(is4Bit i neg || is8Bit i neg)) = pcrWide i m neg := by rw [is4_or_is8]; rfl
  rw [translateOffset_numeric (by decide), offBody_pcrNum hop (by decide)]
  dsimp only
  rw [he]
  unfold offBase
  cases hw : pcrWide i m neg <;> simp only [hw, Bool.false_eq_true, ↓reduceIte] at hraw ⊢ <;> rw [numV_byte hraw] <;> rfl

/-- the decoder on a PC-relative post byte (`$8C`/`$9C`: 8-bit, `$8D`/`$9D`: 16-bit) -/
theorem decode_pcr8 (ind : Bool) (b : Nat) (rest : Bytes) :
    decodePostByte (((if ind then 0x90 else 0x80) + 0x0C) :: b :: rest) = some (.pcr (sext b 8) (ind = true) 8, 2) := by
  cases ind <;> simp [decodePostByte_cons]
theorem decode_pcr16 (ind : Bool) (hi lo : Nat) (rest : Bytes) :
    decodePostByte (((if ind then 0x90 else 0x80) + 0x0D) :: hi :: lo :: rest) =
      some (.pcr (sext (hi * 256 + lo) 16) (ind = true) 16, 3) := by
  cases ind <;> simp [decodePostByte_cons]

section pcr
variable {o : Operand} {r : InstrRow} {c i : Nat} {h : Option Nat} {m : Mode} {neg : Bool} (ind : Bool)
  (hI : IdxCell r c) (hk : IdxOperand ind o) (hl : o.left = .val (.numeric i h m neg)) (hr : o.right = some (str "PCR"))
include hI hk hl hr

/-- the package of `n,PCR` / `[n,PCR]`: post byte `$8C`/`$8D`, in brackets `$9C`/`$9D`, and the literal as the field -/
theorem translateOperand_pcr :
    translateOperand o r =
      .ok { opCode := opv c,
            postByte := .numeric ((if ind then 0x90 else 0x80) + (if pcrWide i m neg then 0x0D else 0x0C))
              (some 2) .direct false,
            additional := .numeric i h m neg,
            size := r.indSz + (if pcrWide i m neg then 2 else 1),
            maxSize := r.indSz + (if pcrWide i m neg then 2 else 1) } := by
  have hp : idxRaw ind (str "PCR") ||| ((if ind then 0x90 else 0x80) + (if pcrWide i m neg then 0x0D else 0x0C)) =
      (if ind then 0x90 else 0x80) + (if pcrWide i m neg then 0x0D else 0x0C) := by
    cases ind <;> cases pcrWide i m neg <;> decide
  rw [translateOperand_val hI hl (idxNoOffset_numeric hl (.inr (by decide))) hr (by decide) hk,
    translateOffset_pcr hI.opVal (by rw [hp]; cases ind <;> cases pcrWide i m neg <;> decide), hp]

/-- `n,PCR` and `[n,PCR]`, 8-bit form: the literal is not spelt in extended mode and −128 ≤ n ≤ 127 -/
theorem enc_pcr8 (hw : pcrWide i m neg = false) :
    Encodes o r (.idx (.pcr (if neg then -(i : Int) else (i : Int)) (ind = true) 8)) := by
  have h8 : is8Bit i neg = true := by
    simp only [pcrWide, Bool.or_eq_false_iff, Bool.not_eq_false'] at hw; exact hw.2
  have ht := translateOperand_pcr ind hI hk hl hr
  simp only [hw, Bool.false_eq_true, if_false] at ht
  refine (hI.layout (w := 1) (by cases ind <;> decide) (.inr ⟨.inl rfl, rfl⟩)).encodes_idx ht rfl
    (fieldBytes_byte (is8Bit_fits h8)) ?_
  rw [decode_pcr8, sext_byteField h8]

/-- 16-bit form: the literal is spelt in extended mode, or n is outside −128..127 (−32768 ≤ n ≤ 65535) -/
theorem enc_pcr16 (hw : pcrWide i m neg = true) (hf : fitsWord i neg = true) :
    Encodes o r (.idx (.pcr (sext (wordField i neg) 16) (ind = true) 16)) := by
  have ht := translateOperand_pcr ind hI hk hl hr
  simp only [hw, if_true] at ht
  refine (hI.layout (w := 2) (by cases ind <;> decide) (.inr ⟨.inr rfl, rfl⟩)).encodes_idx ht rfl
    (fieldBytes_word hf) ?_
  rw [decode_pcr16, hi_lo]

end pcr

/-- a negative offset below −128, whatever its magnitude: the 16-bit form with SOME numeric field (which
`fit_operand_width` accepts or refuses) -/
theorem translateOffset_neg16_any {ind : Bool} {row : InstrRow} {c i : Nat} {h : Option Nat} {m : Mode} {right : Str}
    {raw0 : Nat} (hc : row.ind = some c) (hc' : c < 65536) (hr : PlainReg right)
    (hlo : 129 ≤ i) (hraw : raw0 ||| ((if ind then 0x90 else 0x80) + 0x09) < 256) :
    ∃ n' h' m' neg', translateOffset ind row (.numeric i h m true) right raw0 =
      .ok { opCode := opv c, postByte := .numeric (raw0 ||| ((if ind then 0x90 else 0x80) + 0x09)) (some 2) .direct false,
            additional := .numeric n' h' m' neg', size := row.indSz + 2, maxSize := row.indSz + 2,
            needsRes := false } := by
  have h8 : is8Bit i true = false := by simp [is8Bit]; omega
  have hle : ¬ ((65536 : Int) - (i : Int) > 65535) := by omega
  obtain ⟨x, hx⟩ : ∃ x, numericOfInt ((65536 : Int) - (i : Int)) none .none = .ok x := by
    simp [numericOfInt, hle]
  obtain ⟨n', h', m', neg', rfl⟩ := numericOfInt_numeric hx
  rw [translateOffset_wide (indOp hc hc') hr h8 hraw, if_pos rfl, hx]
  exact ⟨n', h', m', neg', rfl⟩

end CoCo.Asm
