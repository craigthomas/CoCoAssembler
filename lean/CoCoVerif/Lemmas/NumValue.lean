/-
Lemmas/NumValue.lean — numbers as values: what `NumericValue(int)` (`numericOfInt`) builds (`numericOfInt_eq` is its
closed form, `numericOfInt_ok` the inversion), `numV` (the one- or two-byte value the translators build) and the size
hint after `__post_init__` (`HintOK`, which `initHint` and `postInit` keep).  Every module that renders, fits or computes
a number starts here.  In front: `signedK` (the integer a number with its sign flag stands for) and the eliminators of
the value kinds; `CodeVal` is what `translate` and the PCR loop store as op code and post byte.
-/
import CoCoVerif.Model.Operands

namespace CoCo.Asm

/-- the integer a `NumericValue` stands for (`int` with the `negative` flag): what `NumericValue.fit` looks at, and the
constant `k` of `label ± k`, where a number written or defined with a minus sign counts negatively -/
def signedK (k : Nat) (n : Bool) : Int := if n then -(k : Int) else k

theorem signedK_natAbs (d : Int) : signedK d.natAbs (decide (d < 0)) = d := by
  unfold signedK
  by_cases hd : d < 0
  · simp only [hd, decide_true, if_true]; omega
  · simp only [hd, decide_false, Bool.false_eq_true, if_false]; omega

theorem signedK_bound (k : Nat) (nn : Bool) : -(k : Int) ≤ signedK k nn ∧ signedK k nn ≤ k := by
  unfold signedK; split <;> omega

theorem isNumeric_elim {v : Value} (h : v.isNumeric = true) : ∃ n hh m neg, v = .numeric n hh m neg := by
  cases v <;> first | exact ⟨_, _, _, _, rfl⟩ | cases h

theorem isAddress_of_isNumeric {v : Value} (h : v.isNumeric = true) : v.isAddress = false := by
  cases v <;> first | rfl | cases h

theorem Value.eq_address {v : Value} (h : v.isAddress = true) : ∃ j m, v = .address j m := by
  cases v with
  | address j m => exact ⟨j, m, rfl⟩
  | _ => cases h

theorem Value.eq_addrExpr {v : Value} (h : v.isAddrExpr = true) : ∃ l r op m, v = .expr l r op m true := by
  cases v with
  | expr l r op m ae => cases ae with
    | true => exact ⟨l, r, op, m, rfl⟩
    | false => cases h
  | _ => cases h

theorem isExpression_elim {s : Value} (h : s.isExpression = true) : ∃ l r op m, s = .expr l r op m false := by
  cases s with
  | expr l r op m b =>
    cases b with
    | false => exact ⟨l, r, op, m, rfl⟩
    | true => simp [Value.isExpression] at h
  | _ => simp [Value.isExpression] at h

theorem _root_.CoCo.Props.not_expr_of_flags {v : Value} (h1 : v.isExpression = false) (h2 : v.isAddrExpr = false) :
    ∀ l r op m ae, v ≠ .expr l r op m ae := by
  intro l r op m ae he
  subst he
  cases ae
  · cases h1
  · cases h2

theorem isLeftRight_false_of_ne {v : Value} (h : ∀ l r m, v = .leftRight l r m → False) : v.isLeftRight = false := by
  cases v <;> first | rfl | exact (h _ _ _ rfl).elim

/-- the two sides of an address expression whose other side is a number: `label op number` or `number op label` -/
theorem addrExpr_sides {l r : Value} {k : Nat} {hh : Option Nat} {mm : Mode} {nn : Bool}
    (hlr : l.isAddress = true ∨ r.isAddress = true) (hoth : (if l.isAddress then r else l) = .numeric k hh mm nn) :
    (∃ j mj, l = .address j mj ∧ r = .numeric k hh mm nn) ∨ (∃ j mj, l = .numeric k hh mm nn ∧ r = .address j mj) := by
  by_cases hl : l.isAddress = true
  · rw [if_pos hl] at hoth
    obtain ⟨j, mj, rfl⟩ := Value.eq_address hl
    exact .inl ⟨j, mj, rfl, hoth⟩
  · rw [if_neg hl] at hoth
    obtain ⟨j, mj, rfl⟩ := Value.eq_address (hlr.resolve_left hl)
    exact .inr ⟨j, mj, hoth, rfl⟩

/-! `NumericValue(z, size_hint, mode)` for a Python int `z`: rejected above 65535; otherwise the magnitude and the sign,
with the size hint and the mode that `Value.__init__` (`initHint`) and `post_init_direct_check` (`postInit`) settle.  Every
other fact about `numericOfInt` is read off `numericOfInt_eq`. -/

theorem initHint_none (h : Option Nat) : initHint h .none = h := rfl
theorem initHint_direct (h : Option Nat) : initHint h .direct = h := rfl
theorem initHint_extended (h : Option Nat) : initHint h .extended = some 4 := rfl

/-- a size hint that is given stays; only a missing mode is settled (EXTENDED) -/
theorem postInit_hint (i h : Nat) (m : Mode) :
    postInit i (some h) m = (some h, if m == .none then .extended else m) := rfl

/-- neither hint nor mode: a direct byte below 256, extended from there on -/
theorem postInit_none (i : Nat) :
    postInit i none .none = if i < 256 then (some 2, .direct) else (none, .extended) := by
  by_cases h : i < 256 <;> simp [postInit, h]

theorem postInit_direct (i : Nat) : postInit i none .direct = (if i < 256 then some 2 else none, .direct) := by
  by_cases h : i < 256 <;> simp [postInit, h]

theorem numericOfInt_eq (z : Int) (hint : Option Nat) (mode : Mode) :
    numericOfInt z hint mode =
      if z > 65535 then .error .valueType
      else .ok (.numeric z.natAbs (postInit z.natAbs (initHint hint mode) mode).1
        (postInit z.natAbs (initHint hint mode) mode).2 (decide (z < 0))) := rfl

theorem numericOfInt_big {z : Int} (h : z > 65535) (hint : Option Nat) (m : Mode) :
    numericOfInt z hint m = .error .valueType := by
  rw [numericOfInt_eq, if_pos h]

theorem numericOfInt_of_le {z : Int} (h : z ≤ 65535) {hint : Option Nat} {mode : Mode} :
    numericOfInt z hint mode = .ok (.numeric z.natAbs (postInit z.natAbs (initHint hint mode) mode).1
      (postInit z.natAbs (initHint hint mode) mode).2 (decide (z < 0))) := by
  rw [numericOfInt_eq, if_neg (by omega)]

theorem numericOfInt_nat {n : Nat} (h : n ≤ 65535) {hint : Option Nat} {mode : Mode} :
    numericOfInt (n : Int) hint mode = .ok (.numeric n (postInit n (initHint hint mode) mode).1
      (postInit n (initHint hint mode) mode).2 false) := by
  rw [numericOfInt_of_le (by omega), Int.natAbs_natCast, decide_eq_false (by omega)]

theorem numericOfInt_ok {z : Int} {hint : Option Nat} {mode : Mode} {x : Value} (h : numericOfInt z hint mode = .ok x) :
    z ≤ 65535 ∧ x = .numeric z.natAbs (postInit z.natAbs (initHint hint mode) mode).1
      (postInit z.natAbs (initHint hint mode) mode).2 (decide (z < 0)) := by
  rw [numericOfInt_eq] at h
  split at h
  · cases h
  · cases h; exact ⟨by omega, rfl⟩

theorem numericOfInt_numeric {z : Int} {hint : Option Nat} {mode : Mode} {x : Value}
    (h : numericOfInt z hint mode = .ok x) : ∃ i h' m neg, x = .numeric i h' m neg :=
  ⟨_, _, _, _, (numericOfInt_ok h).2⟩

theorem numericOfInt_isNumeric {z : Int} {h : Option Nat} {m : Mode} {x : Value}
    (hx : numericOfInt z h m = .ok x) : x.isNumeric = true := by
  rw [(numericOfInt_ok hx).2]
  rfl

theorem numericOfInt_notAddr {v : Int} {h : Option Nat} {m : Mode} {x : Value}
    (hx : numericOfInt v h m = .ok x) : x.isAddress = false :=
  isAddress_of_isNumeric (numericOfInt_isNumeric hx)

theorem numericOfInt_not_str {v : Int} {h : Option Nat} {m : Mode} {r : Value} {x : Str}
    (hr : numericOfInt v h m = .ok r) : r ≠ .str x := by
  intro he
  have := numericOfInt_isNumeric hr
  rw [he] at this; cases this

/-- `NumericValue(z)` without size hint and mode: a magnitude below 256 is a direct byte, any other is extended -/
theorem numericOfInt_plain {z : Int} (hz : z ≤ 65535) :
    numericOfInt z Option.none .none = .ok (.numeric z.natAbs (if z.natAbs < 256 then some 2 else Option.none)
      (if z.natAbs < 256 then .direct else .extended) (decide (z < 0))) := by
  rw [numericOfInt_of_le hz, initHint_none, postInit_none]
  split <;> rfl

/-- with a size hint and no mode: the hint stays, the mode is EXTENDED -/
theorem numericOfInt_hint {v : Nat} (hint : Nat) (h : v < 65536) :
    numericOfInt (v : Int) (some hint) .none = .ok (.numeric v (some hint) .extended false) :=
  numericOfInt_nat (by omega)

/-! `numV v` is `NumericValue(v)` for a natural number (op codes, post bytes, addresses): defined up to 65535, one byte
(direct) below 256 and a word (extended) from there on. -/

theorem numV_byte {v : Nat} (h : v < 256) : numV v = .ok (.numeric v (some 2) .direct false) := by
  rw [numV, numericOfInt_nat (by omega), initHint_none, postInit_none, if_pos h]

theorem numV_word {v : Nat} (h1 : 256 ≤ v) (h2 : v < 65536) : numV v = .ok (.numeric v none .extended false) := by
  rw [numV, numericOfInt_nat (by omega), initHint_none, postInit_none, if_neg (by omega)]

theorem numV_ok {a : Nat} (h : a ≤ 65535) : ∃ v, numV a = .ok v := ⟨_, numericOfInt_nat h⟩

theorem numV_eq {a : Nat} {v : Value} (hv : numV a = .ok v) : ∃ h m, v = .numeric a h m false ∧ a ≤ 65535 := by
  obtain ⟨hle, rfl⟩ := numericOfInt_ok hv
  exact ⟨_, _, by rw [Int.natAbs_natCast, decide_eq_false (by omega)], by omega⟩

theorem numV_int {a : Nat} {v : Value} (h : numV a = .ok v) : v.int? = some a := by
  obtain ⟨_, _, rfl, _⟩ := numV_eq h
  rfl

/-- what `translate` and the PCR loop store as op code / post byte -/
def CodeVal (v : Value) : Prop := v = .none ∨ ∃ n, numV n = .ok v

theorem numV_codeVal {n : Nat} {v : Value} (h : numV n = .ok v) : CodeVal v := .inr ⟨n, h⟩

theorem opVal_codeVal {o : Option Nat} {v : Value} (h : opVal o = .ok v) : CodeVal v := by
  cases o with
  | none => cases h
  | some n => exact .inr ⟨n, h⟩

/-- the size hints the parser gives a number -/
def HintOK (h : Option Nat) : Prop := h = none ∨ h = some 2 ∨ h = some 4

theorem initHint_ok {h : Option Nat} (hh : HintOK h) (m : Mode) : HintOK (initHint h m) := by
  unfold initHint
  split
  · exact .inr (.inr rfl)
  · exact hh

theorem postInit_ok {h : Option Nat} (hh : HintOK h) (i : Nat) (m : Mode) : HintOK (postInit i h m).1 := by
  unfold postInit
  dsimp only
  split
  · split
    · exact .inr (.inl rfl)
    · exact hh
  · exact hh

/-- `#` and `>` stay on a number -/
theorem postInit_mode_kept (i : Nat) (h : Option Nat) {m : Mode} (hm : m = .immediate ∨ m = .explExtended) :
    (postInit i h m).2 = m := by
  rcases hm with rfl | rfl <;> cases h <;> simp [postInit]

end CoCo.Asm
