/-
Lemmas/RelocStages.lean — relocation (C18-R1): two accepted runs side by side.  `pa`, `pb` are the parsed statement lists of
two INCLUDE-free programs that differ only in the numeric operand of their ORG statements (`PW (OrgRel D P) pa pb`), `stA`,
`stB` the `Stages` of their runs.  The symbol table is the same and the lists entering `assignAddrs` are related; the
statements entering `fixAll` are equal up to the address, or ORG statements, which the rest of the run leaves alone; at any
origin the layouts and the final statements are `D` apart as numbers (`reloc_layout_any`).  In any accepted run every
statement entering `fixAll` is `RefFitted` (`stages_refFitted`).
-/
import CoCoVerif.Lemmas.OrgFirst
import CoCoVerif.Lemmas.RelocAny
import CoCoVerif.Lemmas.RelocFront

namespace CoCo.Props
open CoCo CoCo.Asm
open CoCo

theorem orgRel_noInclude {D : Nat} {P : Nat → Prop} {pa pb : List Stmt} (h : PW (OrgRel D P) pa pb)
    (hinc : ∀ s ∈ pa, s.row.isInclude = false) : ∀ s ∈ pb, s.row.isInclude = false := by
  intro s' hs'
  obtain ⟨j, hj⟩ := List.getElem?_of_mem hs'
  obtain ⟨s, hs, hr⟩ := h.get' hj
  have := hinc s (List.mem_of_getElem? hs)
  rw [hr.inert]; simpa using this

theorem expand_id {fs : Files} {p ss0 : List Stmt} (hinc : ∀ s ∈ p, s.row.isInclude = false)
    (h : expand fs (includeFuel fs) [] p = .ok ss0) : ss0 = p := by
  rw [expand_includeFuel_plain fs p hinc] at h
  cases h; rfl

theorem reloc_stages {fs : Files} {la lb : List Str} {pa pb : List Stmt} {D : Nat} {P : Nat → Prop} {A B : Assembly}
    (hpa : parseLines la = .ok pa) (hpb : parseLines lb = .ok pb) (hrel : PW (OrgRel D P) pa pb)
    (hinc : ∀ s ∈ pa, s.row.isInclude = false) (stA : Stages fs la A) (stB : Stages fs lb B) :
    stB.t = stA.t ∧ PW (OrgRelT D P) stA.ss3 stB.ss3 := by
  obtain ⟨parsed, ss0, t, ss1, ss2, ss3, ss4, t1, a0, a1, a2, a3, a4, a5, a6, a7, a8, a9, a10⟩ := stA
  obtain ⟨parsed', ss0', t', ss1', ss2', ss3', ss4', t1', b0, b1, b2, b3, b4, b5, b6, b7, b8, b9, b10⟩ := stB
  dsimp only
  rw [hpa] at a0; cases a0
  rw [hpb] at b0; cases b0
  have e0 := expand_id hinc a1
  have e0' := expand_id (orgRel_noInclude hrel hinc) b1
  subst e0 e0'
  rw [buildSymTab_orgRel _ _ _ _ hrel, a2] at b2
  cases b2
  have r1 := resolveAll_orgRel hrel a3 b3
  have r2 := translateAll_orgRel r1 a4 b4
  have hl : ss2'.length = ss2.length := r2.1
  rw [hl] at b5
  exact ⟨rfl, pcrLoop_orgRelT r2 a5 b5⟩

/-- the first statement is a preset ORG in both programs, so the run of the second may be started at `0 + D` -/
theorem reloc_ss3 {fs : Files} {la lb : List Str} {pa pb : List Stmt} {D : Nat} {P : Nat → Prop} {A B : Assembly}
    (hpa : parseLines la = .ok pa) (hpb : parseLines lb = .ok pb) (hrel : PW (OrgRel D P) pa pb)
    (hinc : ∀ s ∈ pa, s.row.isInclude = false)
    (hhead : ∃ s0 r0, pa = s0 :: r0 ∧ s0.row.mnemonic = "ORG")
    (stA : Stages fs la A) (stB : Stages fs lb B) :
    PW (OrgRelT D P) stA.ss3 stB.ss3 ∧
    (∃ x0 y0 n0, stA.ss3 = x0 :: y0 ∧ x0.pkg.address = .numeric n0 (some 4) .extended false) ∧
    assignAddrs stB.ss3 (0 + D) = .ok stB.ss4 ∧
    ∀ s ∈ stA.ss3, ∀ o h m n, s.pkg.address = .numeric o h m n → P o := by
  obtain ⟨_, h3⟩ := reloc_stages hpa hpb hrel hinc stA stB
  have hpar : stA.parsed = pa := by have := stA.hparse; rw [hpa] at this; cases this; rfl
  have hA35 : PW KeepRel stA.parsed stA.ss3 := by
    have e : stA.ss0 = stA.parsed := expand_id (by rw [hpar]; exact hinc) stA.hexpand
    rw [← e]
    exact (stA.keep01.trans stA.keep12 (fun _ _ _ => KeepRel.trans)).trans stA.keep23 (fun _ _ _ => KeepRel.trans)
  obtain ⟨s0, r0, hp0, hm0⟩ := hhead
  rw [hpar, hp0] at hA35
  obtain ⟨x0, y0, e3, hk, _⟩ := hA35.cons_left
  have h3' := h3
  rw [e3] at h3'
  obtain ⟨x0', y0', e3', hr0, _⟩ := h3'.cons_left
  obtain ⟨n0, hpre, hpre'⟩ : ∃ n, x0.pkg.address = .numeric n (some 4) .extended false ∧
      x0'.pkg.address = .numeric (n + D) (some 4) .extended false := by
    rcases hr0 with ⟨_, _, hm⟩ | ⟨_, _, _, _, _, _, _, n, _, ha, ha'⟩
    · rw [hk.2, hm0] at hm; exact absurd hm (by decide)
    · exact ⟨n, ha, ha'⟩
  refine ⟨h3, ⟨x0, y0, n0, e3, hpre⟩, ?_, ?_⟩
  · have hb := stB.haddr
    rwa [e3', assignAddrs_head_preset hpre' 0 (0 + D), ← e3'] at hb
  · intro s hs o hh m n ha
    obtain ⟨j, hj⟩ := List.getElem?_of_mem hs
    obtain ⟨s', _, hr⟩ := h3.get hj
    rcases hr with ⟨_, hnone, _⟩ | ⟨_, _, _, _, _, _, _, n1, hP, ha1, _⟩
    · rw [ha] at hnone; cases hnone
    · rw [ha] at ha1; cases ha1; exact hP

theorem assignAddrs_keep {l l' : List Stmt} {a : Nat} (h : assignAddrs l a = .ok l') :
    PW (fun s s' => AddrRel s s' ∧ (s.preset = true → s' = s)) l l' :=
  (assignAddrs_placed h).mono fun _ _ hp => ⟨hp.addrRel, hp.preset⟩

theorem fixOne_pseudo_numeric (ss : List Stmt) (i : Nat) {s : Stmt} (hk : s.operand.kind = .pseudo)
    (hv : s.operand.value.isNumeric = true) (hn : s.pkg.needsRes = false) : fixOne ss i s = .ok s := by
  refine fixOne_inert ss i s (by simp [hk]) ?_ ?_ ?_ hn
  · intro h; rw [h] at hv; cases hv
  · cases hx : s.operand.value <;> rw [hx] at hv <;> first | rfl | cases hv
  · cases hx : s.operand.value <;> rw [hx] at hv <;> first | rfl | cases hv

theorem fixFit_org (ss : List Stmt) (i : Nat) {s : Stmt} (hrow : s.row ∈ Gen.instructions)
    (hm : s.row.mnemonic = "ORG") (hk : s.operand.kind = .pseudo)
    (hv : s.operand.value.isNumeric = true) (hn : s.pkg.needsRes = false) : fixFit ss i s = .ok s :=
  fixFit_ok.2 ⟨s, fixOne_pseudo_numeric ss i hk hv hn, fitWidth_ok (fitPkg_skip _ (table_org_skipped _ hrow hm))⟩

/-- an ORG statement that enters `fixAll` has an empty operand field, so the list pass leaves it alone -/
theorem stages_org_additional {fs : Files} {lines : List Str} {A : Assembly} (st : Stages fs lines A) {i : Nat}
    {s4 t : Stmt} (h4 : st.ss4[i]? = some s4) (ht : A.stmts[i]? = some t) (hm : s4.row.mnemonic = "ORG")
    (hk : s4.operand.kind = .pseudo) : s4.pkg.additional = .none := by
  obtain ⟨s0, o, p, sz, mx, pb, hint, ad, vf, vw, v, c, rfl⟩ := st.compiled_ss4 h4
  show p.additional = .none
  rw [(translate_org_eq hk hm c.htr).1]

/-- the statements that enter `fixAll` in the two programs are equal except for the address, unless they are ORG
statements, which `assignAddrs` leaves as `translate` made them: a number as operand, no `needsRes` -/
theorem reloc_ss4 {fs : Files} {la lb : List Str} {pa pb : List Stmt} {D : Nat} {P : Nat → Prop} {A B : Assembly}
    (hpa : parseLines la = .ok pa) (hpb : parseLines lb = .ok pb) (hrel : PW (OrgRel D P) pa pb)
    (hinc : ∀ s ∈ pa, s.row.isInclude = false) (stA : Stages fs la A) (stB : Stages fs lb B)
    {i : Nat} {s4 s4' : Stmt} (hs4 : stA.ss4[i]? = some s4) (hs4' : stB.ss4[i]? = some s4') :
    s4' = s4.setAddress s4'.pkg.address ∨
      (Inert s4 s4' ∧ s4.row.mnemonic = "ORG" ∧ s4.operand.kind = .pseudo ∧ s4'.operand.kind = .pseudo ∧
        s4.operand.value.isNumeric = true ∧ s4'.operand.value.isNumeric = true ∧ s4.pkg.needsRes = false) := by
  obtain ⟨_, h3⟩ := reloc_stages hpa hpb hrel hinc stA stB
  obtain ⟨s3, hs3, ⟨v, hv⟩, hkeep⟩ := (assignAddrs_keep stA.haddr).get' hs4
  obtain ⟨s3', hs3', ⟨v', hv'⟩, hkeep'⟩ := (assignAddrs_keep stB.haddr).get' hs4'
  rcases h3.2 i s3 s3' hs3 hs3' with ⟨rfl, _, _⟩ | ⟨hin, hm, hn, hk, hk', hnum, hnum', n, _, ha, ha'⟩
  · left; rw [hv, hv']; rfl
  · cases hkeep (by simp [Stmt.preset, ha, Value.isNone])
    cases hkeep' (by simp [Stmt.preset, ha', Value.isNone])
    exact .inr ⟨hin, hm, hk, hk', hnum, hnum', hn⟩

/-- statement `i` on its way through `fixAllL` in the two programs: `fixFit`, then the list pass on what `fixAll` gave.
The statements that enter are equal up to the address, or they are ORG statements, which `fixAllL` leaves alone. -/
theorem reloc_pair {fs : Files} {la lb : List Str} {pa pb : List Stmt} {D : Nat} {P : Nat → Prop} {A B : Assembly}
    (hpa : parseLines la = .ok pa) (hpb : parseLines lb = .ok pb) (hrel : PW (OrgRel D P) pa pb)
    (hinc : ∀ s ∈ pa, s.row.isInclude = false) (stA : Stages fs la A) (stB : Stages fs lb B) {i : Nat} {s4 t t' : Stmt}
    (hs4 : stA.ss4[i]? = some s4) (ht : A.stmts[i]? = some t) (ht' : B.stmts[i]? = some t') :
    ∃ s4' u u' x5 x5', stB.ss4[i]? = some s4' ∧
      fixAll stA.ss4 0 stA.ss4 = .ok x5 ∧ fixAll stB.ss4 0 stB.ss4 = .ok x5' ∧ x5[i]? = some u ∧ x5'[i]? = some u' ∧
      fixFit stA.ss4 i s4 = .ok u ∧ fixFit stB.ss4 i s4' = .ok u' ∧
      evalList1 stA.t x5 u = .ok t ∧ evalList1 stA.t x5' u' = .ok t' ∧
      (s4' = s4.setAddress s4'.pkg.address ∨
        (t = s4 ∧ t' = s4' ∧ Inert s4 s4' ∧ s4.pkg.additional = .none ∧ s4.operand.value.isNumeric = true ∧
          s4.pkg.needsRes = false)) := by
  obtain ⟨htt, h3⟩ := reloc_stages hpa hpb hrel hinc stA stB
  obtain ⟨s4', hs4'⟩ : ∃ s4', stB.ss4[i]? = some s4' := by
    have hi : i < stB.ss4.length := by
      rw [(assignAddrs_pw stB.haddr).1, h3.1, ← (assignAddrs_pw stA.haddr).1]
      exact lt_of_getElem? hs4
    exact ⟨_, List.getElem?_eq_getElem hi⟩
  obtain ⟨x5, hx5, hl5⟩ := fixAllL_ok.mp stA.hfix
  obtain ⟨x5', hx5', hl5'⟩ := fixAllL_ok.mp stB.hfix
  obtain ⟨u, hu, hfu⟩ := (fixAll_ok hx5).2 i s4 hs4
  obtain ⟨u', hu', hfu'⟩ := (fixAll_ok hx5').2 i s4' hs4'
  rw [Nat.zero_add] at hfu hfu'
  obtain ⟨t0, ht0, hlu⟩ := (evalLists_ok hl5).2 i u hu
  obtain ⟨t0', ht0', hlu'⟩ := (evalLists_ok hl5').2 i u' hu'
  rw [ht] at ht0; cases ht0
  rw [ht'] at ht0'; cases ht0'
  rw [htt] at hlu'
  refine ⟨s4', u, u', x5, x5', hs4', hx5, hx5', hu, hu', hfu, hfu', hlu, hlu', ?_⟩
  rcases reloc_ss4 hpa hpb hrel hinc stA stB hs4 hs4' with he | ⟨hin, hm, hk, hk', hnum, hnum', hn⟩
  · exact .inl he
  · right
    obtain ⟨w, hw⟩ := fixFit_same hfu
    obtain ⟨w', hw'⟩ := fixFit_same hfu'
    obtain ⟨z, hz⟩ := evalList1_same hlu
    obtain ⟨z', hz'⟩ := evalList1_same hlu'
    have hrow : s4.row ∈ Gen.instructions := by have := stA.row_mem ht; rw [hz, hw] at this; exact this
    have hrow' : s4'.row ∈ Gen.instructions := by have := stB.row_mem ht'; rw [hz', hw'] at this; exact this
    rw [fixFit_org _ _ hrow hm hk hnum hn] at hfu
    rw [fixFit_org _ _ hrow' (by rw [hin]; simpa using hm) hk' hnum' (by rw [hin]; simpa using hn)] at hfu'
    cases hfu; cases hfu'
    -- an ORG statement has no operand field: the list pass leaves it alone
    have hadd : s4.pkg.additional = .none := stages_org_additional stA hs4 ht hm hk
    have hadd' : s4'.pkg.additional = .none := by rw [hin]; simpa using hadd
    rw [evalList1_keep _ _ (by rw [hadd]; intro hs e; cases e) (by rw [hadd]; intro hs e; cases e)] at hlu
    rw [evalList1_keep _ _ (by rw [hadd']; intro hs e; cases e) (by rw [hadd']; intro hs e; cases e)] at hlu'
    cases hlu; cases hlu'
    exact ⟨rfl, rfl, hin, hadd, hnum, hn⟩

/-- statement `i` of a class whose field after `fixFit` is a number that relocation maps by `f` (`Moved`, `MovedMod`,
`MovedNeg`): it is no ORG statement, the list pass leaves both statements alone, so the final statements are what `fixFit`
gives, and `t'` is `f t` up to the address -/
theorem reloc_pair_field {fs : Files} {la lb : List Str} {pa pb : List Stmt} {D : Nat} {P : Nat → Prop} {A B : Assembly}
    (hpa : parseLines la = .ok pa) (hpb : parseLines lb = .ok pb) (hrel : PW (OrgRel D P) pa pb)
    (hinc : ∀ s ∈ pa, s.row.isInclude = false) (stA : Stages fs la A) (stB : Stages fs lb B) {i : Nat} {s4 t t' : Stmt}
    {f : Stmt → Stmt} (hs4 : stA.ss4[i]? = some s4) (ht : A.stmts[i]? = some t) (ht' : B.stmts[i]? = some t')
    (hnot : s4.operand.value.isNumeric = false ∨ s4.pkg.needsRes = true)
    (hmv : ∀ s4', s4' = s4.setAddress s4'.pkg.address →
      fixFit stB.ss4 i s4' = (fixFit stA.ss4 i s4).map (fun t => (f t).setAddress s4'.pkg.address))
    (hnum : ∀ u, fixFit stA.ss4 i s4 = .ok u →
      u.pkg.additional.isNumeric = true ∧ (f u).pkg.additional.isNumeric = true) :
    ∃ s4', s4' = s4.setAddress s4'.pkg.address ∧ fixFit stA.ss4 i s4 = .ok t ∧ fixFit stB.ss4 i s4' = .ok t' ∧
      t' = (f t).setAddress s4'.pkg.address := by
  obtain ⟨s4', u, u', x5, x5', _, _, _, _, _, hfu, hfu', hlu, hlu', he | ⟨_, _, _, _, hv, hn⟩⟩ :=
    reloc_pair hpa hpb hrel hinc stA stB hs4 ht ht'
  · obtain ⟨n1, n2⟩ := hnum u hfu
    have e := hmv s4' he
    rw [hfu, hfu'] at e
    simp only [Outcome.map_ok, Outcome.ok.injEq] at e
    rw [evalList1_numeric _ _ n1] at hlu
    rw [evalList1_numeric _ _ (by rw [e]; exact n2)] at hlu'
    cases hlu; cases hlu'
    exact ⟨s4', he, hfu, hfu', e⟩
  · rw [hv, hn] at hnot
    exact absurd hnot (by decide)

/-- every statement that enters `fixAll` in an accepted run of `assemble` is `RefFitted`: a statement whose operand
value is a label (`.address`) is an instruction or FCB / FDB — the directives that `fit_operand_width` skips keep their
symbol operands (`resolve_symbols` looks up the operands of FCB, FDB, RMB, ORG only, and RMB / ORG with a label are
rejected by `translate`), and so do the special instructions (PSHS, TFR, ...) -/
theorem stages_refFitted {fs : Files} {lines : List Str} {A : Assembly} (st : Stages fs lines A) {i : Nat} {s4 : Stmt}
    (h4 : st.ss4[i]? = some s4) : RefFitted s4 := by
  obtain ⟨s0, o, p, sz, mx, pb, hint, ad, vf, vw, v, c, rfl⟩ := st.compiled_ss4 h4
  intro (ha : o.value.isAddress = true)
  show fitSkipped s0.row = false
  obtain ⟨hmem, txt, hcr⟩ := c.parsed
  obtain ⟨k1, k2, _, _⟩ := createOperand_kind hcr
  have hna : s0.operand.value.isAddress = false := st.ss0_notAddr s0 (List.mem_of_getElem? c.h0)
  cases hsk : fitSkipped s0.row with
  | false => rfl
  | true =>
    exfalso
    cases hp : s0.row.isPseudo with
    | true =>
      have hk := k1 hp
      cases hm : (s0.row.mnemonic == "FCB" || s0.row.mnemonic == "FDB" || s0.row.mnemonic == "RMB" ||
          s0.row.mnemonic == "ORG") with
      | false =>
        rw [resolveOperand_pseudo c.hres hm (.inl hk), hna] at ha
        cases ha
      | true =>
        cases hd : (s0.row.mnemonic == "FCB" || s0.row.mnemonic == "FDB") with
        | true =>
          rw [table_data_fitted _ hmem hd] at hsk
          cases hsk
        | false =>
          have hro : (s0.row.mnemonic == "RMB" || s0.row.mnemonic == "ORG") = true := by
            simp only [Bool.or_eq_true, Bool.or_eq_false_iff] at hm hd ⊢
            rcases hm with ((h | h) | h) | h
            · rw [h] at hd; cases hd.1
            · rw [h] at hd; cases hd.2
            · exact .inl h
            · exact .inr h
          have hnum := translate_rmb_org_numeric ((resolveOperand_kind_pseudo c.hres).mpr hk) hro c.htr
          cases hv : o.value with
          | address j m => rw [hv] at hnum; cases hnum
          | _ => rw [hv] at ha; cases ha
    | false =>
      have hsp : s0.row.isSpecial = true := by
        unfold fitSkipped at hsk
        rw [hp] at hsk
        simpa using hsk
      rw [resolveOperand_special_id (k2 hp hsp) c.hres, hna] at ha
      cases ha

def OrgOkAny (D : Nat) (n : Nat) : Prop := n + D < 65536

/-- two accepted runs at any origin: the label tables coincide; the layouts, and the final statements, are `D` apart as
numbers -/
theorem reloc_layout_any {fs : Files} {la lb : List Str} {pa pb : List Stmt} {D : Nat} {A B : Assembly}
    (hpa : parseLines la = .ok pa) (hpb : parseLines lb = .ok pb) (hrel : PW (OrgRel D (OrgOkAny D)) pa pb)
    (hinc : ∀ s ∈ pa, s.row.isInclude = false)
    (hhead : ∃ s0 r0, pa = s0 :: r0 ∧ s0.row.mnemonic = "ORG")
    (stA : Stages fs la A) (stB : Stages fs lb B) :
    stB.t = stA.t ∧ PW (AddrShiftAny D) stA.ss4 stB.ss4 ∧ PW (AddrShiftAny D) A.stmts B.stmts := by
  obtain ⟨ht, _⟩ := reloc_stages hpa hpb hrel hinc stA stB
  obtain ⟨h3, _, hb, hbounds⟩ := reloc_ss3 hpa hpb hrel hinc hhead stA stB
  have hshift : PW (AddrShiftAny D) stA.ss4 stB.ss4 :=
    assignAddrs_reloc_any D _ _ 0 _ _ (h3.mono (fun _ _ => OrgRelT.orgShift)) (OrgRelT.all_orgWide h3) hbounds
      stA.haddr hb
  exact ⟨ht, hshift, addrShiftAny_sameButAdditional hshift (fixAllL_pw stA.hfix) (fixAllL_pw stB.hfix)⟩

end CoCo.Props
