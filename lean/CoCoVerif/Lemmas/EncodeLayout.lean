/-
Lemmas/EncodeLayout.lean — the layer between `translate` and the emitted bytes.  `PkgLayout r p c am pb w`: the package `p`
is the op code cell `c` (which the datasheet knows as the row's operation in mode `am`), the post byte `pb` and a field of `w`
bytes.  It is a `ByteLayout` (`PkgLayout.bytes`), so what `fit_operand_width` and the emission make of such a package is
`ByteLayout.cases` (Lemmas/FitWidth.lean).  On the decoder's side `TailOk am pb w` says that `pb` and ANY `w` bytes are
the operand of one instruction.
-/
import CoCoVerif.Lemmas.EncodeDecode

namespace CoCo.Asm
open CoCo CoCo.Spec.MC6809
open CoCo.Gen (InstrRow)

/-- the decoder accepts `pb` followed by ANY `w` field bytes as the operand of one instruction in mode `am`, and takes
all of them -/
def TailOk (am : AM) (pb : Bytes) (w : Nat) : Prop :=
  ∀ (op : String) (n : Nat) (f : Bytes), f.length = w →
    ∃ x, decodeTail op am n (pb ++ f) = some (⟨op, x⟩, n + pb.length + w)

theorem len_two {α : Type} {l : List α} (h : l.length = 2) : ∃ a b, l = [a, b] := by
  match l, h with
  | [a, b], _ => exact ⟨a, b, rfl⟩

/-- the modes without a post byte: the field is the `operandLen` bytes the datasheet gives the mode -/
theorem tailOk_field {am : AM} (h : am ∉ [AM.idx, .pair, .list]) : TailOk am [] (operandLen am) := by
  intro op n f hf
  cases am
  case idx | pair | list => exact absurd (by decide) h
  case inh => exact ⟨_, rfl⟩
  case imm8 | dir | rel8 => obtain ⟨a, rfl⟩ := List.length_eq_one_iff.mp hf; exact ⟨_, rfl⟩
  case imm16 | ext | rel16 => obtain ⟨a, b, rfl⟩ := len_two hf; exact ⟨_, rfl⟩

theorem tailOk_list (m : Nat) : TailOk .list [m] 0 :=
  fun _ _ _ _ => ⟨_, rfl⟩

theorem tfrLegal_pair : ∀ p ∈ tfrLegal,
    (pairCodeOk (p / 16) && pairCodeOk (p % 16) && (decide (p / 16 ≥ 8) == decide (p % 16 ≥ 8))) = true := by decide

theorem tailOk_pair {p : Nat} (h : p ∈ tfrLegal) : TailOk .pair [p] 0 :=
  fun _ _ _ _ => ⟨.pair (p / 16) (p % 16), by simp [decodeTail, tfrLegal_pair p h]⟩

/-- indexed mode: the post byte `p` announces `w` more bytes -/
theorem tailOk_idx {p w : Nat} (h : ∀ f : Bytes, f.length = w → ∃ i, decodePostByte (p :: f) = some (i, 1 + w)) :
    TailOk .idx [p] w := by
  intro op n f hf
  obtain ⟨i, hi⟩ := h f hf
  exact ⟨.idx i, by simp [decodeTail, hi, Nat.add_assoc]⟩

/-- the number of bytes the indexed mode with form bits `q` (post byte `1kkqqqqq`) takes, the post byte included.
`q % 16` = 0 1 2 3 4 5 6 11 are `,R+ ,R++ ,-R ,--R ,R B,R A,R D,R`, the post byte alone (`,R+` and `,-R` have no bracketed
form); 8 and 12 an 8-bit offset from a register or the PC, one more byte; 9 and 13 a 16-bit one, two more.  `none`: no
such mode (`[address]`, `q = 31`, exists as post byte `$9F` only: `tailOk_extInd`) -/
def formLen (q : Nat) : Option Nat :=
  match q % 16 with
  | 1 | 3 | 4 | 5 | 6 | 11 => some 1
  | 0 | 2 => if q / 16 = 1 then none else some 1
  | 8 | 12 => some 2
  | 9 | 13 => some 3
  | _ => none

theorem tailOk_form {k q w : Nat} (hk : k < 4) (hq : q < 32) (h : formLen q = some (1 + w)) :
    TailOk .idx [128 + 32 * k + q] w := by
  refine tailOk_idx fun f hf => ?_
  rw [decodePostByte_form hk hq]
  unfold formLen at h
  generalize q % 16 = m at h ⊢
  -- one case per form: with `m` a literal the decoder's tests are settled, and `f` has the bytes the form reads
  split at h <;> simp at h ⊢
  all_goals first
    | exact h
    | (obtain rfl : w = 1 := by omega
       obtain ⟨a, rfl⟩ := List.length_eq_one_iff.mp hf
       exact ⟨_, rfl⟩)
    | (obtain rfl : w = 2 := by omega
       obtain ⟨a, b, rfl⟩ := len_two hf
       exact ⟨_, rfl⟩)

/-- a post byte below 128 carries a 5-bit offset: nothing follows -/
theorem tailOk_low {p : Nat} (h : p < 128) : TailOk .idx [p] 0 :=
  tailOk_idx fun f _ => ⟨_, by rw [decodePostByte_cons, if_pos h]⟩

/-- `[address]`: post byte `$9F` and the two address bytes -/
theorem tailOk_extInd : TailOk .idx [0x9F] 2 := by
  refine tailOk_idx fun f hf => ?_
  obtain ⟨a, b, rfl⟩ := len_two hf
  exact ⟨_, rfl⟩

/-- the byte layout of a package `translate` returned for row `r`: the op code is the table cell `c`, which the
datasheet knows as the row's operation in mode `am`; the post byte emits `pb`; `size` counts these and `w` more bytes,
for which the package holds nothing (`w = 0`) or a number that `fit_operand_width` will render (`w = 1, 2`) -/
structure PkgLayout (r : InstrRow) (p : Pkg) (c : Nat) (am : AM) (pb : Bytes) (w : Nat) : Prop where
  cell : lookup c = some (opOf r.mnemonic, am)
  op : p.opCode = opv c
  post : CodeOk p.postByte pb
  size : p.size = opcodeLen c + pb.length + w
  fld : (w = 0 ∧ p.additional = .none) ∨
    ((w = 1 ∨ w = 2) ∧ p.additional.isNumeric = true ∧ r.isPseudo = false ∧ r.isSpecial = false)

section layout
variable {r : InstrRow} {p : Pkg} {c : Nat} {am : AM} {pb : Bytes} {w : Nat}

/-- an instruction's package is a byte layout: the op code cell `c` emits `opcodeBytes c` -/
theorem PkgLayout.bytes (h : PkgLayout r p c am pb w) : ByteLayout r p (opcodeBytes c) pb w :=
  ⟨h.op ▸ codeOk_opv (cell_lt h.cell), h.post, by rw [h.size, opcodeBytes_length],
    h.fld.imp id fun ⟨hw, hn, hp, hsp⟩ => ⟨hw, hn, by simp [fitSkipped, hp, hsp]⟩⟩

/-- a field that fits: the fitted package emits `size` bytes, which the decoder reads, in full, as it reads post byte
and field after the op code -/
theorem PkgLayout.decoded {x : Spec.MC6809.Operand} {f : Bytes} (h : PkgLayout r p c am pb w)
    (hf : fieldBytes w p.additional = some f)
    (hdec : decodeTail (opOf r.mnemonic) am (opcodeLen c) (pb ++ f) =
      some (⟨opOf r.mnemonic, x⟩, opcodeLen c + pb.length + w)) :
    ∃ p' bytes, fitPkg r p = .ok p' ∧ pkgBytes p' = some bytes ∧ bytes.length = p.size ∧
      decode bytes = some (⟨opOf r.mnemonic, x⟩, bytes.length) := by
  have hl := fieldBytes_length hf
  have := h.bytes.cases
  rw [hf] at this
  obtain ⟨p', hfit, hb⟩ := this
  refine ⟨p', _, hfit, hb, ?_, ?_⟩
  · simp [opcodeBytes_length, h.size, hl, Nat.add_assoc]
  · rw [List.append_assoc, decode_opcode h.cell, hdec]
    simp [opcodeBytes_length, hl, Nat.add_assoc]

/-- a package whose field fits, and whose bytes the decoder reads as `x`, encodes `x` -/
theorem PkgLayout.encodes {o : Operand} {x : Spec.MC6809.Operand} {f : Bytes} (h : PkgLayout r p c am pb w)
    (ht : translateOperand o r = .ok p) (hnr : p.needsRes = false) (hf : fieldBytes w p.additional = some f)
    (hdec : decodeTail (opOf r.mnemonic) am (opcodeLen c) (pb ++ f) =
      some (⟨opOf r.mnemonic, x⟩, opcodeLen c + pb.length + w)) : Encodes o r x := by
  obtain ⟨p', bytes, hfit, hb, hl, hd⟩ := h.decoded hf hdec
  exact ⟨p, bytes, ht, hnr, emitted_of_fitPkg hfit hb, hl, hd⟩

/-- the same in indexed mode, from what the post-byte decoder reads -/
theorem PkgLayout.encodes_idx {o : Operand} {q : Nat} {i : Idx} {f : Bytes} (h : PkgLayout r p c .idx [q] w)
    (ht : translateOperand o r = .ok p) (hnr : p.needsRes = false) (hf : fieldBytes w p.additional = some f)
    (hdec : decodePostByte (q :: f) = some (i, 1 + w)) : Encodes o r (.idx i) :=
  h.encodes ht hnr hf (by simp [decodeTail, hdec, Nat.add_assoc])

/-- a field that does not fit: every statement carrying the package is refused by `fitWidth` (a diagnostic) -/
theorem PkgLayout.rejected {o : Operand} (h : PkgLayout r p c am pb w) (hf : fieldBytes w p.additional = none) :
    ∀ s : Stmt, s.row = r → s.operand = o → s.pkg = p → fitWidth s = .diag := by
  have := h.bytes.cases
  rw [hf] at this
  exact fun s hr _ hp => refused_iff_fitPkg.mpr this s hr hp

/-- every fitted version of the package emits `size` bytes that decode, as a whole, to one instruction of the row -/
def SoundPkg (r : InstrRow) (p : Pkg) : Prop :=
  ∀ p', fitPkg r p = .ok p' → ∃ bytes, pkgBytes p' = some bytes ∧ bytes.length = p.size ∧
    ∃ x, decode bytes = some (⟨opOf r.mnemonic, x⟩, bytes.length)

/-- a package whose post byte announces the field that `size` counts is sound -/
theorem PkgLayout.sound (h : PkgLayout r p c am pb w) (hd : TailOk am pb w) : SoundPkg r p := by
  intro p' hp'
  cases hf : fieldBytes w p.additional with
  | none =>
    have := h.bytes.cases
    rw [hf] at this
    rw [this] at hp'
    cases hp'
  | some f =>
    obtain ⟨x, hx⟩ := hd (opOf r.mnemonic) (opcodeLen c) f (fieldBytes_length hf)
    obtain ⟨p'', bytes, hfit, hb, hl, hdec⟩ := h.decoded hf hx
    rw [hfit] at hp'
    cases hp'
    exact ⟨bytes, hb, hl, x, hdec⟩

end layout

end CoCo.Asm
