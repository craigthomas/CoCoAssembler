/-
Lemmas/CreateGraph.lean — the graphs of `NumericValue(str)` (`numericOfStr`), `Value.create_from_str` (`create`) and
`Operand.create_from_str` (`createOperand`): everything they can return, as inductive relations with one constructor
per way they succeed (`NumericOf`, `CreateOf`, `OperandOf`), with the inversion theorems `numericOfStr_graph`,
`create_graph` and `createOperand_graph`.  An invariant of parsed numbers, values or operands is proved by induction
(or cases) on the graph, one line per constructor, instead of unfolding the model function again.  For computing
`create` on a given text there is the normal form `create_cons` (string test, mode prefix `modePrefix`, then
`createTail`: expression, left/right pair, number, symbol).  `PV` is what every parsed value satisfies (`CreateOf.pv`).
Last, read off `OperandOf`: the kind of a parsed operand against the class of its row (`createOperand_kind`,
`_kind_rev`, `_relative`), that its left side is never a value (`createOperand_left`), and that the characters of a
string value are characters of the text (`create_str_mem`, `createOperand_str_mem`).  `parseBase_bound`, `digitVal_bit`
and `isCharLit_bound` bound what the branches of `numericOfStr` compute.
-/
import CoCoVerif.Lemmas.NumValue
import CoCoVerif.Lemmas.OutcomeBasics
import CoCoVerif.Lemmas.SplitOn

namespace CoCo.Asm
open CoCo.Gen (InstrRow)

/-- The numbers `NumericValue(str, size_hint, mode)` builds, one constructor per literal form: a character, binary
(8 or 16 digits), hexadecimal (up to 4 digits), negative decimal, decimal.  Eight binary or two hexadecimal digits
without a size hint and without `>` make a one-byte (direct) number. -/
inductive NumericOf (hint : Option Nat) (mode : Mode) : Str → Value → Prop
  | char {c : Char} (hc : isCharLit c = true) :
      NumericOf hint mode [apos, c]
        (.numeric c.toNat (if (initHint hint mode).isNone then some 2 else initHint hint mode) mode false)
  | binShort {bits : Str} (hb : ∀ c ∈ bits, (c == '0' || c == '1') = true) (hl : bits.length = 8)
      (hh : hint = none) (hm : mode ≠ .explExtended) :
      NumericOf hint mode ('%' :: bits)
        (.numeric (parseBase 2 bits) (some 2) (if mode != .immediate then .direct else mode) false)
  | bin {bits : Str} (hb : ∀ c ∈ bits, (c == '0' || c == '1') = true) (hl : bits.length = 8 ∨ bits.length = 16) :
      NumericOf hint mode ('%' :: bits) (.numeric (parseBase 2 bits) (initHint hint mode) mode false)
  | hexShort {hs : Str} (hb : ∀ c ∈ hs, isHexD c = true) (hl : hs.length = 2) (hh : hint = none)
      (hm : mode ≠ .explExtended) :
      NumericOf hint mode ('$' :: hs)
        (.numeric (parseBase 16 hs) (some 2) (if mode != .immediate then .direct else mode) false)
  | hex {hs : Str} (hb : ∀ c ∈ hs, isHexD c = true) (hne : hs ≠ []) (hl : hs.length ≤ 4) :
      NumericOf hint mode ('$' :: hs)
        (.numeric (parseBase 16 hs) (initHint hint mode) (if mode == .none then .extended else mode) false)
  | neg {ds : Str} (hd : ∀ c ∈ ds, isDigit c = true) (hne : ds ≠ []) (hv : parseBase 10 ds ≤ 32768) :
      NumericOf hint mode ('-' :: ds) (.numeric (parseBase 10 ds) (initHint hint mode) mode true)
  | dec {ds : Str} (hd : ∀ c ∈ ds, isDigit c = true) (hne : ds ≠ []) (hv : parseBase 10 ds ≤ 65535) :
      NumericOf hint mode ds
        (.numeric (parseBase 10 ds) (postInit (parseBase 10 ds) (initHint hint mode) mode).1
          (postInit (parseBase 10 ds) (initHint hint mode) mode).2 false)

theorem numericOfStr_graph {s : Str} {hint : Option Nat} {mode : Mode} {x : Value}
    (h : numericOfStr s hint mode = .ok x) : NumericOf hint mode s x := by
  unfold numericOfStr at h
  extract_lets selfHint charTry at h
  cases hchar : charTry with
  | some v =>
    rw [hchar] at h
    cases h
    dsimp only [charTry] at hchar
    split at hchar
    · rcases ite_cases hchar with ⟨hq, hchar⟩ | ⟨-, hchar⟩
      · cases hchar
        obtain ⟨rfl, hc⟩ := by simpa using hq
        exact .char hc
      · cases hchar
    · cases hchar
  | none =>
    rw [hchar] at h
    clear hchar
    clear_value charTry
    dsimp only at h
    split at h
    · rename_i bits
      rcases ite_cases h with ⟨hb, h⟩ | ⟨-, h⟩
      · obtain ⟨-, hb⟩ : bits ≠ [] ∧ ∀ c ∈ bits, (c == '0' || c == '1') = true := by simpa using hb
        rcases ite_cases h with ⟨-, h⟩ | ⟨hl, h⟩
        · cases h
        have hl : bits.length = 8 ∨ bits.length = 16 := by
          simp only [bne_iff_ne, ne_eq, Bool.and_eq_true, not_and, Decidable.not_not] at hl
          exact (Decidable.em _).imp id hl
        rcases ite_cases h with ⟨hs, h⟩ | ⟨-, h⟩
        · cases h
          obtain ⟨⟨h8, hh⟩, hm⟩ := by simpa using hs
          exact .binShort hb h8 hh hm
        · cases h
          exact .bin hb hl
      · cases h
    · rename_i hs
      rcases ite_cases h with ⟨hb, h⟩ | ⟨-, h⟩
      · obtain ⟨hne, hb⟩ := by simpa using hb
        rcases ite_cases h with ⟨-, h⟩ | ⟨hl, h⟩
        · cases h
        cases h
        by_cases hsh : (hs.length == 2 && hint.isNone && mode != Mode.explExtended) = true
        · rw [if_pos hsh]
          obtain ⟨⟨h2, hh⟩, hm⟩ := by simpa using hsh
          have e : (if ((if mode != .immediate then Mode.direct else mode) == .none) = true then Mode.extended
              else (if mode != .immediate then Mode.direct else mode)) = (if mode != .immediate then .direct else mode) := by
            cases mode <;> rfl
          dsimp only
          rw [e]
          exact .hexShort hb h2 hh hm
        · rw [if_neg hsh]
          exact .hex hb hne (by simpa using hl)
      · cases h
    · rename_i ds
      rcases ite_cases h with ⟨hb, h⟩ | ⟨-, h⟩
      · obtain ⟨hne, hd⟩ := by simpa using hb
        rcases ite_cases h with ⟨-, h⟩ | ⟨hv, h⟩
        · cases h
        · cases h
          exact .neg hd hne (by simpa using hv)
      · cases h
    · rcases ite_cases h with ⟨hb, h⟩ | ⟨-, h⟩
      · obtain ⟨hne, hd⟩ := by simpa using hb
        rcases ite_cases h with ⟨-, h⟩ | ⟨hv, h⟩
        · cases h
        · cases h
          exact .dec hd hne (by simpa using hv)
      · cases h

theorem numericOfStr_hintOK {s : Str} {h : Option Nat} {m : Mode} {x : Value} (hx : numericOfStr s h m = .ok x) :
    ∃ i hh mm neg, x = .numeric i hh mm neg ∧ (HintOK h → HintOK hh) := by
  have h1 : HintOK h → HintOK (initHint h m) := fun hh => initHint_ok hh m
  cases numericOfStr_graph hx with
  | char =>
    refine ⟨_, _, _, _, rfl, fun hh => ?_⟩
    split
    · exact .inr (.inl rfl)
    · exact h1 hh
  | binShort | hexShort => exact ⟨_, _, _, _, rfl, fun _ => .inr (.inl rfl)⟩
  | bin | hex | neg => exact ⟨_, _, _, _, rfl, h1⟩
  | dec => exact ⟨_, _, _, _, rfl, fun hh => postInit_ok (h1 hh) _ _⟩

theorem numericOfStr_numeric {s : Str} {hint : Option Nat} {mode : Mode} {x : Value}
    (h : numericOfStr s hint mode = .ok x) : ∃ i h' m neg, x = .numeric i h' m neg :=
  let ⟨i, hh, m, neg, e, _⟩ := numericOfStr_hintOK h
  ⟨i, hh, m, neg, e⟩

theorem numericOfStr_isNumeric {s : Str} {h : Option Nat} {m : Mode} {x : Value}
    (hx : numericOfStr s h m = .ok x) : x.isNumeric = true := by
  obtain ⟨_, _, _, _, rfl⟩ := numericOfStr_numeric hx
  rfl

theorem parseBase_bound (b : Nat) (cs : Str) (hd : ∀ c ∈ cs, digitVal c < b) :
    parseBase b cs < b ^ cs.length := by
  unfold parseBase
  have key : ∀ (cs : Str) (acc : Nat), (∀ c ∈ cs, digitVal c < b) →
      cs.foldl (fun acc c => acc * b + digitVal c) acc + 1 ≤ (acc + 1) * b ^ cs.length := by
    intro cs
    induction cs with
    | nil => intro acc _; simp
    | cons c cs ih =>
      intro acc hd
      have hc := hd c (by simp)
      have := ih (acc * b + digitVal c) (fun x hx => hd x (by simp [hx]))
      simp only [List.foldl_cons, List.length_cons]
      refine Nat.le_trans this ?_
      rw [Nat.pow_succ, Nat.mul_comm (b ^ cs.length) b, ← Nat.mul_assoc]
      apply Nat.mul_le_mul_right
      rw [Nat.add_mul]; omega
  have := key cs 0 hd
  simp at this
  omega

theorem digitVal_bit {c : Char} (h : (c == '0' || c == '1') = true) : digitVal c < 2 := by
  simp only [Bool.or_eq_true, beq_iff_eq] at h
  rcases h with rfl | rfl <;> decide

theorem isCharLit_bound {c : Char} (h : isCharLit c = true) : c.toNat ≤ 65535 := by
  have e : c.toNat = c.val.toNat := rfl
  simp only [isCharLit, isAlpha, isDigit, Bool.or_eq_true, Bool.and_eq_true, decide_eq_true_eq, Char.le_def,
    UInt32.le_iff_toNat_le, beq_iff_eq, List.contains_eq_mem, decide_eq_true_eq] at h
  have ez : ('z' : Char).val.toNat = 122 := rfl
  have eZ : ('Z' : Char).val.toNat = 90 := rfl
  have e9 : ('9' : Char).val.toNat = 57 := rfl
  have es : ('/' : Char).val.toNat = 47 := rfl
  rw [ez, eZ, e9, es] at h
  rcases h with (((h | h) | h) | h) | h
  · rcases h with h | h <;> omega
  · omega
  · have : ∀ x ∈ "><\";:,.#?$%^&*()=!".toList, x.toNat ≤ 65535 := by decide
    exact this c h
  · subst h; decide
  · omega

/-- the mode prefix of `create_from_str`: `<`, `>`, `#` select the mode and are dropped; without one the mode is the
default and the text stays whole -/
def modePrefix (defExt : Bool) (c : Char) (rest : Str) : Mode × Str :=
  if c == '<' then (Mode.explDirect, rest) else if c == '>' then (Mode.explExtended, rest)
  else if c == '#' then (Mode.immediate, rest) else (if defExt then Mode.extended else Mode.none, c :: rest)

theorem modePrefix_snd (defExt : Bool) (c : Char) (rest : Str) :
    (modePrefix defExt c rest).2 = rest ∨ (modePrefix defExt c rest).2 = c :: rest := by
  unfold modePrefix
  split
  · exact .inl rfl
  split
  · exact .inl rfl
  split
  · exact .inl rfl
  · exact .inr rfl

theorem modePrefix_subset {defExt : Bool} {c : Char} {rest : Str} {mode : Mode} {value : Str}
    (hp : modePrefix defExt c rest = (mode, value)) {ch : Char} (h : ch ∈ value) : ch ∈ c :: rest := by
  have e : value = (modePrefix defExt c rest).2 := by rw [hp]
  rcases modePrefix_snd defExt c rest with h' | h' <;> rw [h'] at e <;> subst e
  · exact List.mem_cons_of_mem _ h
  · exact h

theorem modePrefix_plain {defExt : Bool} {c : Char} (h1 : c ≠ '<') (h2 : c ≠ '>') (h3 : c ≠ '#') (rest : Str) :
    modePrefix defExt c rest = (if defExt then Mode.extended else Mode.none, c :: rest) := by
  simp [modePrefix, h1, h2, h3]

/-- `create_from_str` after the string test and the mode prefix: a two-term expression, a `left,right` pair, a
number, a symbol -/
def createTail (fuel : Nat) (is16 : Bool) (mode : Mode) (value : Str) : R Value :=
  let sizeHint : Option Nat := if is16 then some 4 else Option.none
  let exprTry : Option Value :=
    match splitExpr value with
    | Option.none => Option.none
    | some (l, op, r) =>
      match create fuel l false false false, create fuel r false false false with
      | .ok lv, .ok rv =>
        let m := if mode == .none && (lv.isExtendedLike || rv.isExtendedLike) then Mode.extended else mode
        some (.expr lv rv op m false)
      | _, _ => Option.none
  match exprTry with
  | some v => .ok v
  | Option.none =>
    let lrTry : Option Value :=
      if value.contains ',' then
        match splitOn ',' value with
        | [l, r] => some (.leftRight l r mode)
        | _ => Option.none
      else Option.none
    match lrTry with
    | some v => .ok v
    | Option.none =>
      match numericOfStr value sizeHint mode with
      | .ok v => .ok v
      | .error _ =>
        if value != [] && value.all isSym then .ok (.symbol value mode)
        else .error .valueType

theorem create_cons (fuel : Nat) (c : Char) (rest : Str) (isStr is16 defExt : Bool) :
    create (fuel + 1) (c :: rest) isStr is16 defExt =
      if (isStr && (c :: rest).getLast? == some c && rest.dropLast.all (fun ch => ch.toNat ≤ 255)) = true
      then .ok (.str rest.dropLast)
      else createTail fuel is16 (modePrefix defExt c rest).1 (modePrefix defExt c rest).2 := by
  have hdrop : (c :: rest).drop 1 = rest := rfl
  rw [create]
  dsimp only
  rw [hdrop]
  by_cases hs : (isStr && (c :: rest).getLast? == some c && rest.dropLast.all (fun ch => ch.toNat ≤ 255)) = true
  · rw [if_pos hs, if_pos hs]
  · rw [if_neg hs, if_neg hs]
    rfl

/-- a text without operator and comma: a number, else a symbol -/
theorem createTail_atom {value : Str} (hs : splitExpr value = none) (hc : value.contains ',' = false)
    (fuel : Nat) (is16 : Bool) (mode : Mode) :
    createTail fuel is16 mode value =
      match numericOfStr value (if is16 then some 4 else none) mode with
      | .ok v => .ok v
      | .error _ => if (value != [] && value.all isSym) = true then .ok (.symbol value mode) else .error .valueType := by
  unfold createTail
  rw [hs, hc]
  rfl

/-- The values `create fuel s isStr is16 defExt` returns.  `mode` and `value` are what the mode prefix leaves. -/
inductive CreateOf : (isStr is16 defExt : Bool) → Str → Value → Prop
  /-- StringValue: the same delimiter at both ends, one-byte characters between them -/
  | str {is16 defExt : Bool} {c : Char} {rest : Str} (hlast : (c :: rest).getLast? = some c)
      (hbyte : ∀ ch ∈ rest.dropLast, ch.toNat < 256) : CreateOf true is16 defExt (c :: rest) (.str rest.dropLast)
  /-- ExpressionValue: both operands are parsed on their own; an extended operand makes a modeless expression extended -/
  | expr {isStr is16 defExt : Bool} {c : Char} {rest : Str} {mode : Mode} {value l r : Str} {op : Char} {lv rv : Value}
      (hp : modePrefix defExt c rest = (mode, value)) (hs : splitExpr value = some (l, op, r))
      (hl : CreateOf false false false l lv) (hr : CreateOf false false false r rv) :
      CreateOf isStr is16 defExt (c :: rest)
        (.expr lv rv op (if (mode == .none && (lv.isExtendedLike || rv.isExtendedLike)) = true then .extended else mode)
          false)
  | leftRight {isStr is16 defExt : Bool} {c : Char} {rest : Str} {mode : Mode} {value l r : Str}
      (hp : modePrefix defExt c rest = (mode, value)) (hc : ',' ∈ value) (hs : splitOn ',' value = [l, r]) :
      CreateOf isStr is16 defExt (c :: rest) (.leftRight l r mode)
  | numeric {isStr is16 defExt : Bool} {c : Char} {rest : Str} {mode : Mode} {value : Str} {i : Nat} {h : Option Nat}
      {m : Mode} {neg : Bool} (hp : modePrefix defExt c rest = (mode, value))
      (hn : numericOfStr value (if is16 then some 4 else none) mode = .ok (.numeric i h m neg)) :
      CreateOf isStr is16 defExt (c :: rest) (.numeric i h m neg)
  | symbol {isStr is16 defExt : Bool} {c : Char} {rest : Str} {mode : Mode} {value : Str}
      (hp : modePrefix defExt c rest = (mode, value)) (hne : value ≠ []) (hsym : ∀ ch ∈ value, isSym ch = true) :
      CreateOf isStr is16 defExt (c :: rest) (.symbol value mode)

theorem createTail_graph {fuel : Nat} {is16 : Bool} {mode : Mode} {value : Str} {v : Value}
    (ih : ∀ {s : Str} {w : Value}, create fuel s false false false = .ok w → CreateOf false false false s w)
    {isStr defExt : Bool} {c : Char} {rest : Str} (hp : modePrefix defExt c rest = (mode, value))
    (h : createTail fuel is16 mode value = .ok v) : CreateOf isStr is16 defExt (c :: rest) v := by
  unfold createTail at h
  dsimp only at h
  split at h
  · rename_i hexpr
    cases h
    split at hexpr
    · cases hexpr
    · rename_i l op r hs
      split at hexpr
      · rename_i lv rv hl hr; cases hexpr; exact .expr hp hs (ih hl) (ih hr)
      · cases hexpr
  · split at h
    · rename_i hlr
      cases h
      split at hlr
      · rename_i hc
        split at hlr
        · rename_i l r hs; cases hlr; exact .leftRight hp (List.contains_iff_mem.mp hc) hs
        · cases hlr
      · cases hlr
    · split at h
      · rename_i w hn
        cases h
        obtain ⟨i, h', m, neg, rfl⟩ := numericOfStr_numeric hn
        exact .numeric hp hn
      · split at h
        · rename_i hsym
          cases h
          simp only [Bool.and_eq_true, bne_iff_ne, ne_eq, List.all_eq_true] at hsym
          exact .symbol hp hsym.1 hsym.2
        · cases h

theorem create_graph : ∀ {fuel : Nat} {s : Str} {isStr is16 defExt : Bool} {v : Value},
    create fuel s isStr is16 defExt = .ok v → CreateOf isStr is16 defExt s v
  | 0, _, _, _, _, _, h => by cases h
  | _ + 1, [], _, _, _, _, h => by cases h
  | fuel + 1, c :: rest, isStr, is16, defExt, v, h => by
    rw [create_cons] at h
    split at h
    · rename_i hstr
      cases h
      simp only [Bool.and_eq_true, beq_iff_eq, List.all_eq_true, decide_eq_true_eq] at hstr
      obtain ⟨⟨rfl, hlast⟩, hbyte⟩ := hstr
      exact .str hlast (fun ch hch => Nat.lt_succ_of_le (hbyte ch hch))
    · exact createTail_graph (fun hw => create_graph hw) rfl h

theorem createV_graph {s : Str} {isStr is16 defExt : Bool} {v : Value} (h : createV s isStr is16 defExt = .ok v) :
    CreateOf isStr is16 defExt s v := create_graph h

theorem create_str_mem {fuel : Nat} {s : Str} {a b c : Bool} {x : Str}
    (h : create fuel s a b c = .ok (.str x)) : ∀ ch ∈ x, ch ∈ s := by
  cases create_graph h with
  | str => exact fun ch hch => List.mem_cons_of_mem _ ((List.dropLast_sublist _).subset hch)

theorem createV_str_mem {s : Str} {a b c : Bool} {x : Str} (h : createV s a b c = .ok (.str x)) :
    ∀ ch ∈ x, ch ∈ s := create_str_mem h

/-- the parser builds no label -/
theorem CreateOf.notAddr {isStr is16 defExt : Bool} {s : Str} {v : Value} (h : CreateOf isStr is16 defExt s v) :
    v.isAddress = false := by
  cases h <;> rfl

theorem CreateOf.notNone {isStr is16 defExt : Bool} {s : Str} {v : Value} (h : CreateOf isStr is16 defExt s v) :
    v.isNone = false := by
  cases h <;> rfl

/-- a `left,right` pair is only built from a text with a comma -/
theorem CreateOf.comma {isStr is16 defExt : Bool} {s l r : Str} {m : Mode}
    (h : CreateOf isStr is16 defExt s (.leftRight l r m)) : ',' ∈ s := by
  cases h with
  | leftRight hp hc _ => exact modePrefix_subset hp hc

/-- a value as `Value.create_from_str` / `PseudoOperand.__init__` build it -/
def PV : Value → Prop
  | .none => True
  | .numeric _ h _ _ => HintOK h
  | .symbol _ _ => True
  | .expr _ _ _ _ ae => ae = false
  | .leftRight l _ _ => ',' ∉ l
  | .str cs => ∀ c ∈ cs, c.toNat < 256          -- `StringValue` raises on wider characters
  | .multiByte hs => ∀ h ∈ hs, h.length = 2
  | .multiWord hs => ∀ h ∈ hs, h.length = 4
  | .pyNone => False
  | .address _ _ => False

theorem numericOfInt_pv {v : Int} {h : Option Nat} {m : Mode} {x : Value} (hh : HintOK h)
    (hx : numericOfInt v h m = .ok x) : PV x := by
  rw [(numericOfInt_ok hx).2]
  exact postInit_ok (initHint_ok hh m) _ _

theorem numericOfStr_pv {s : Str} {h : Option Nat} {m : Mode} {x : Value} (hh : HintOK h)
    (hx : numericOfStr s h m = .ok x) : PV x ∧ x.isNumeric = true := by
  obtain ⟨_, _, _, _, rfl, hok⟩ := numericOfStr_hintOK hx
  exact ⟨hok hh, rfl⟩

theorem CreateOf.pv {a b c : Bool} {s : Str} {v : Value} (h : CreateOf a b c s v) : PV v := by
  cases h with
  | str _ hbyte => exact hbyte
  | expr => rfl
  | leftRight _ _ hs => exact splitOn_parts_noSep ',' _ _ (by rw [hs]; simp)
  | numeric _ hn =>
    obtain ⟨_, _, _, _, e, hok⟩ := numericOfStr_hintOK hn
    cases e
    refine hok ?_
    cases b
    · exact .inl rfl
    · exact .inr (.inr rfl)
  | symbol => trivial

theorem exceptMap_ok {α β} {f : α → β} {x : R α} {y : β} (h : x.map f = .ok y) : ∃ a, x = .ok a ∧ y = f a := by
  cases x with
  | error e => cases h
  | ok a => cases h; exact ⟨a, rfl, rfl⟩

/-- The value `PseudoOperand.__init__` parses: a literal list for FCB / FDB with a comma, nothing for INCLUDE and a
bare END, otherwise what `create_from_str` makes of the text. -/
inductive PseudoValueOf (row : InstrRow) (s : Str) : Value → Prop
  | bytes {hs : List Str} (hm : row.isMultiByte = true) (hc : ',' ∈ s) (h : multi 2 s = .ok hs) :
      PseudoValueOf row s (.multiByte hs)
  | words {hs : List Str} (hm : row.isMultiByte = false) (hw : row.isMultiWord = true) (hc : ',' ∈ s)
      (h : multi 4 s = .ok hs) : PseudoValueOf row s (.multiWord hs)
  | nothing (hm : row.isMultiByte = false) (hw : row.isMultiWord = false)
      (h : (row.isInclude || (row.mnemonic == "END" && s.isEmpty)) = true) : PseudoValueOf row s .none
  | value {v : Value} (hc : (row.isMultiByte || row.isMultiWord) = true → ',' ∉ s)
      (h : createV s row.isStringDefine row.is16Bit = .ok v) : PseudoValueOf row s v

/-- The operands `createOperand s row` returns, one constructor per `return` of the cascade. -/
inductive OperandOf (row : InstrRow) (s : Str) : Operand → Prop
  | pseudo {v : Value} (hp : row.isPseudo = true) (hv : PseudoValueOf row s v) :
      OperandOf row s { kind := .pseudo, text := s, value := v }
  /-- `EQU $hhhh`: the constant is extended whatever its size -/
  | equExt {v nv : Value} {i : Nat} (hp : row.isPseudo = true) (hv : PseudoValueOf row s v)
      (hd : row.isPseudoDefine = true) (hn : v.isNumeric = true) (hi : v.int? = some i)
      (hs : (s.head? == some '$' && decide (s.length > 3)) = true) (h : numericOfInt i none .extended = .ok nv) :
      OperandOf row s { kind := .pseudo, text := s, value := nv }
  /-- `EQU` of a one-byte number: the constant is direct -/
  | equDir {v nv : Value} {i : Nat} (hp : row.isPseudo = true) (hv : PseudoValueOf row s v)
      (hd : row.isPseudoDefine = true) (hn : v.isNumeric = true) (hi : v.int? = some i) (hl : v.hexLen? = some 2)
      (h : numericOfInt (if v.isNegative then -(i : Int) else i) none .direct = .ok nv) :
      OperandOf row s { kind := .pseudo, text := s, value := nv }
  | special (hp : row.isPseudo = false) (hsp : row.isSpecial = true) :
      OperandOf row s { kind := .special, text := s, value := .none }
  | relative {v : Value} (hp : row.isPseudo = false) (hsp : row.isSpecial = false)
      (hb : (row.isShortBranch || row.isLongBranch) = true) (h : createV s row.isStringDefine row.is16Bit = .ok v) :
      OperandOf row s { kind := .relative, text := s, value := v }
  | inherent (hp : row.isPseudo = false) (hsp : row.isSpecial = false)
      (hb : (row.isShortBranch || row.isLongBranch) = false) (he : s = []) :
      OperandOf row s { kind := .inherent, text := [], value := .none }
  /-- `[left,right]` -/
  | bracketPair {l r : Str} {m : Mode} (hp : row.isPseudo = false) (hsp : row.isSpecial = false)
      (hb : (row.isShortBranch || row.isLongBranch) = false) (hne : s ≠ [])
      (hbr : s.head? = some '[' ∧ s.getLast? = some ']')
      (h : createV ((s.drop 1).dropLast) row.isStringDefine row.is16Bit = .ok (.leftRight l r m)) :
      OperandOf row s
        { kind := .extIndirect, text := s, value := .leftRight l r m, left := .text l, right := some r }
  /-- `[value]` -/
  | bracket {v : Value} (hp : row.isPseudo = false) (hsp : row.isSpecial = false)
      (hb : (row.isShortBranch || row.isLongBranch) = false) (hne : s ≠ [])
      (hbr : s.head? = some '[' ∧ s.getLast? = some ']')
      (h : createV ((s.drop 1).dropLast) row.isStringDefine row.is16Bit = .ok v) (hlr : v.isLeftRight = false) :
      OperandOf row s { kind := .extIndirect, text := s, value := v }
  | indexed {l r : Str} {m : Mode} (hp : row.isPseudo = false) (hsp : row.isSpecial = false)
      (hb : (row.isShortBranch || row.isLongBranch) = false) (hne : s ≠ [])
      (h : createV s row.isStringDefine row.is16Bit = .ok (.leftRight l r m)) :
      OperandOf row s { kind := .indexed, text := s, value := .leftRight l r m, left := .text l, right := some r }
  | immediate {v : Value} (hp : row.isPseudo = false) (hsp : row.isSpecial = false)
      (hb : (row.isShortBranch || row.isLongBranch) = false) (hne : s ≠ [])
      (h : createV s row.isStringDefine row.is16Bit = .ok v) (hlr : v.isLeftRight = false)
      (him : v.isImmediate = true) : OperandOf row s { kind := .immediate, text := s, value := v }
  | unknown {v : Value} (hp : row.isPseudo = false) (hsp : row.isSpecial = false)
      (hb : (row.isShortBranch || row.isLongBranch) = false) (hne : s ≠ [])
      (h : createV s row.isStringDefine row.is16Bit = .ok v) (hlr : v.isLeftRight = false)
      (him : v.isImmediate = false) : OperandOf row s { kind := .unknown, text := s, value := v }

theorem createOperand_graph {s : Str} {row : InstrRow} {o : Operand} (h : createOperand s row = .ok o) :
    OperandOf row s o := by
  unfold createOperand at h
  rcases ite_cases h with ⟨hp, h⟩ | ⟨hp, h⟩
  · extract_lets v0 at h
    have hv : ∀ {v}, v0 = .ok v → PseudoValueOf row s v := by
      intro v hv0
      dsimp only [v0] at hv0
      rcases ite_cases hv0 with ⟨hm, hv0⟩ | ⟨hm, hv0⟩
      · rcases ite_cases hv0 with ⟨hc, hv0⟩ | ⟨hc, hv0⟩
        · obtain ⟨hs, hmul, rfl⟩ := exceptMap_ok hv0
          exact .bytes hm (List.contains_iff_mem.mp hc) hmul
        · exact .value (fun _ hmem => hc (List.contains_iff_mem.mpr hmem)) hv0
      have hm := eq_false_of_ne_true hm
      rcases ite_cases hv0 with ⟨hw, hv0⟩ | ⟨hw, hv0⟩
      · rcases ite_cases hv0 with ⟨hc, hv0⟩ | ⟨hc, hv0⟩
        · obtain ⟨hs, hmul, rfl⟩ := exceptMap_ok hv0
          exact .words hm hw (List.contains_iff_mem.mp hc) hmul
        · exact .value (fun _ hmem => hc (List.contains_iff_mem.mpr hmem)) hv0
      have hw := eq_false_of_ne_true hw
      rcases ite_cases hv0 with ⟨hinc, hv0⟩ | ⟨-, hv0⟩
      · cases hv0
        exact .nothing hm hw hinc
      · exact .value (fun hmw => by rw [hm, hw] at hmw; cases hmw) hv0
    clear_value v0
    cases hv0 : v0 with
    | error e => rw [hv0] at h; cases h
    | ok v =>
      rw [hv0] at h
      have hv := hv hv0
      dsimp only at h
      rcases ite_cases h with ⟨hequ, h⟩ | ⟨-, h⟩
      · obtain ⟨hd, hn⟩ : row.isPseudoDefine = true ∧ v.isNumeric = true := by simpa using hequ
        cases hi : v.int? with
        | none => rw [hi] at h; cases h
        | some i =>
          rw [hi] at h
          dsimp only at h
          rcases ite_cases h with ⟨hs, h⟩ | ⟨-, h⟩
          · obtain ⟨nv, hnv, rfl⟩ := exceptMap_ok h
            exact .equExt hp hv hd hn hi hs hnv
          rcases ite_cases h with ⟨hl, h⟩ | ⟨-, h⟩
          · obtain ⟨nv, hnv, rfl⟩ := exceptMap_ok h
            exact .equDir hp hv hd hn hi (by simpa using hl) hnv
          · cases h
            exact .pseudo hp hv
      · cases h
        exact .pseudo hp hv
  have hp := eq_false_of_ne_true hp
  rcases ite_cases h with ⟨hsp, h⟩ | ⟨hsp, h⟩
  · cases h
    exact .special hp hsp
  have hsp := eq_false_of_ne_true hsp
  rcases ite_cases h with ⟨hb, h⟩ | ⟨hb, h⟩
  · obtain ⟨v, hv, rfl⟩ := exceptMap_ok h
    exact .relative hp hsp hb hv
  have hb := eq_false_of_ne_true hb
  rcases ite_cases h with ⟨he, h⟩ | ⟨he, h⟩
  · cases h
    exact .inherent hp hsp hb (List.isEmpty_iff.mp he)
  have hne : s ≠ [] := fun e => he (List.isEmpty_iff.mpr e)
  extract_lets ext at h
  cases hext : ext with
  | some o' =>
    rw [hext] at h
    cases h
    dsimp only [ext] at hext
    rcases ite_cases hext with ⟨hbr, hext⟩ | ⟨-, hext⟩
    · have hbr : s.head? = some '[' ∧ s.getLast? = some ']' := by simpa using hbr
      split at hext
      · rename_i v hv
        split at hext
        · cases hext
          exact .bracketPair hp hsp hb hne hbr hv
        · rename_i hnlr
          cases hext
          exact .bracket hp hsp hb hne hbr hv (isLeftRight_false_of_ne (fun l r m e => hnlr l r m e))
      · cases hext
    · cases hext
  | none =>
    rw [hext] at h
    dsimp only at h
    split at h
    · cases h
    rename_i v hv
    split at h
    · cases h
      exact .indexed hp hsp hb hne hv
    · rename_i hnlr
      have hlr := isLeftRight_false_of_ne (fun l r m e => hnlr l r m e)
      rcases ite_cases h with ⟨him, h⟩ | ⟨him, h⟩
      · cases h
        exact .immediate hp hsp hb hne hv hlr him
      · cases h
        exact .unknown hp hsp hb hne hv hlr (eq_false_of_ne_true him)

theorem createOperand_kind {s : Str} {row : InstrRow} {o : Operand} (h : createOperand s row = .ok o) :
    (row.isPseudo = true → o.kind = .pseudo) ∧
    (row.isPseudo = false → row.isSpecial = true → o.kind = .special) ∧
    (row.isPseudo = false → row.isSpecial = false → (row.isShortBranch || row.isLongBranch) = true →
      o.kind = .relative) ∧
    (row.isPseudo = false → row.isSpecial = false → (row.isShortBranch || row.isLongBranch) = false →
      o.kind = .inherent ∨ o.kind = .extIndirect ∨ o.kind = .indexed ∨ o.kind = .immediate ∨ o.kind = .unknown) := by
  cases createOperand_graph h with
  | pseudo hp | equExt hp | equDir hp => simp [hp]
  | special hp hsp => simp [hp, hsp]
  | relative hp hsp hb => simp [hp, hsp, hb]
  | inherent hp hsp hb | bracketPair hp hsp hb | bracket hp hsp hb | indexed hp hsp hb | immediate hp hsp hb
  | unknown hp hsp hb => simp [hp, hsp, hb]

theorem createOperand_kind_rev {s : Str} {row : InstrRow} {o : Operand} (h : createOperand s row = .ok o) :
    (o.kind = .pseudo → row.isPseudo = true) ∧
    (o.kind = .special → row.isSpecial = true) := by
  cases createOperand_graph h with
  | pseudo hp | equExt hp | equDir hp => exact ⟨fun _ => hp, nofun⟩
  | special _ hsp => exact ⟨nofun, fun _ => hsp⟩
  | _ => exact ⟨nofun, nofun⟩

theorem createOperand_relative {s : Str} {row : InstrRow} {o : Operand} (h : createOperand s row = .ok o)
    (hk : o.kind = .relative) : (row.isShortBranch || row.isLongBranch) = true := by
  cases createOperand_graph h with
  | relative _ _ hb => exact hb
  | _ => cases hk

/-- `createOperand` never builds a `.val` left-hand side (that is what `resolve_symbols` does) -/
theorem createOperand_left {s : Str} {row : InstrRow} {o : Operand} (h : createOperand s row = .ok o) :
    ∀ v, o.left ≠ .val v := by
  cases createOperand_graph h <;> intro v e <;> cases e

theorem createOperand_str_mem {s : Str} {row : InstrRow} {o : Operand} {x : Str}
    (h : createOperand s row = .ok o) (hx : o.value = .str x) : ∀ ch ∈ x, ch ∈ s := by
  cases createOperand_graph h with
  | pseudo _ hv =>
    cases hv with
    | value _ hcr => cases hx; exact createV_str_mem hcr
    | _ => cases hx
  | equExt _ _ _ _ _ _ hn => exact absurd hx (numericOfInt_not_str hn)
  | equDir _ _ _ _ _ _ hn => exact absurd hx (numericOfInt_not_str hn)
  | special | inherent | bracketPair | indexed => cases hx
  | relative _ _ _ hcr => cases hx; exact createV_str_mem hcr
  | bracket _ _ _ _ _ hcr =>
    cases hx
    exact fun ch hch => List.mem_of_mem_drop ((List.dropLast_sublist _).subset (createV_str_mem hcr ch hch))
  | immediate _ _ _ _ hcr => cases hx; exact createV_str_mem hcr
  | unknown _ _ _ _ hcr => cases hx; exact createV_str_mem hcr

end CoCo.Asm
