/-
Lemmas/RelocListLabel.lean — relocation (C18-R1): LABEL elements of FCB / FDB lists.

`Lemmas/RelocList.lean` covers the lists none of whose elements resolves to a label (`ListsConst`).  Here: the elements that
DO move.  `ssA`, `ssB` are the statements of a program and of the program moved by `D` (`PW (AddrShiftAny D) ssA ssB`: same
length, the address of statement `j` in `ssB` is the one in `ssA` plus `D`, everything inside the 64K space), `t` the label
table (the same in both: it holds statement indices).  A plain label (`FDB L`) and `label ± N` (`ModExpr`) move by `D`
modulo `$10000`; `label - label` (`DiffExpr`) and what resolves to no label or label expression keep their digits
(`ValueCovered`).  `movedDigits`: the digits expected in the moved program, computed from the original layout; position by
position the list pass on the moved program gives exactly those (`evalElems_reloc`).
-/
import CoCoVerif.Lemmas.RelocAll
import CoCoVerif.Lemmas.RelocList

namespace CoCo.Asm
open CoCo

section
variable {D : Nat} {ssA ssB : List Stmt}

theorem elemNum_reloc_label (h : PW (AddrShiftAny D) ssA ssB) (j : Nat) (m : Mode) :
    (elemNum ssA (.address j m) = .internal ∧ elemNum ssB (.address j m) = .internal) ∨
    ∃ a hh mm hh' mm', addrIntOf ssA j = some a ∧ addrIntOf ssB j = some (a + D) ∧ a + D < 65536 ∧
      elemNum ssA (.address j m) = .ok (.numeric a hh mm false) ∧
      elemNum ssB (.address j m) = .ok (.numeric (a + D) hh' mm' false) := by
  rw [elemNum_address, elemNum_address]
  rcases addrOf_reloc_any h j with ⟨e1, e2⟩ | ⟨v, v', e1, e2, a, hh, mm, hh', mm', rfl, rfl, hlt⟩
  · rw [e1, e2]; exact .inl ⟨rfl, rfl⟩
  · refine .inr ⟨a, hh, mm, hh', mm', ?_, ?_, hlt, ?_, ?_⟩
    · exact addrIntOf_of_addrOf e1
    · exact addrIntOf_of_addrOf e2
    · rw [e1]
    · rw [e2]

/-- a plain LABEL element of an FCB / FDB list (`FDB L`): when the original program renders it, the
digits are those of the address `a` of the label's statement; in the program moved by `D` they are those of `a + D`
(which is below `$10000`; at the width 2 of an FCB list the element is rejected when `a + D` has more than two digits) -/
theorem evalElem_reloc_label (h : PW (AddrShiftAny D) ssA ssB) {t : SymTab} {w : Nat} {x : Str} {v : Value}
    {j : Nat} {m : Mode} {gA : Str} (hw : w = 2 ∨ w = 4)
    (hv : create 4 x false false true = .ok v) (hr : v.resolve t = .ok (.address j m))
    (hA : evalElem ssA t w x = .ok gA) :
    ∃ a, addrIntOf ssA j = some a ∧ addrIntOf ssB j = some (a + D) ∧ a + D < 65536 ∧ gA = fmtHex w a ∧
      evalElem ssB t w x = if a + D < 16 ^ w then .ok (fmtHex w (a + D)) else .diag := by
  rw [evalElem_of hv hr] at hA ⊢
  rcases elemNum_reloc_label h j m with ⟨e1, _⟩ | ⟨a, hh, mm, hh', mm', i1, i2, hlt, e1, e2⟩
  · rw [e1] at hA; cases hA
  · rw [e1] at hA
    rw [e2]
    obtain ⟨_, rfl⟩ := elemRender_nat_ok hw hA
    exact ⟨a, i1, i2, hlt, rfl, elemRender_nat hw _ _ _⟩

/-- the jump table case: a label element of an FDB list holds the address, resp. the address `+ D` -/
theorem evalElem_reloc_label_word (h : PW (AddrShiftAny D) ssA ssB) {t : SymTab} {x : Str} {v : Value}
    {j : Nat} {m : Mode} {gA : Str}
    (hv : create 4 x false false true = .ok v) (hr : v.resolve t = .ok (.address j m))
    (hA : evalElem ssA t 4 x = .ok gA) :
    ∃ a, addrIntOf ssA j = some a ∧ addrIntOf ssB j = some (a + D) ∧ a + D < 65536 ∧ gA = fmtHex 4 a ∧
      evalElem ssB t 4 x = .ok (fmtHex 4 (a + D)) := by
  obtain ⟨a, i1, i2, hlt, e, hB⟩ := evalElem_reloc_label h (.inr rfl) hv hr hA
  refine ⟨a, i1, i2, hlt, e, ?_⟩
  rw [hB, if_pos (by have : (16 : Nat) ^ 4 = 65536 := by decide
                     omega)]

/-- a label element of an FCB list: rendered while `a + D` has two digits, rejected otherwise -/
theorem evalElem_reloc_label_byte (h : PW (AddrShiftAny D) ssA ssB) {t : SymTab} {x : Str} {v : Value}
    {j : Nat} {m : Mode} {gA : Str}
    (hv : create 4 x false false true = .ok v) (hr : v.resolve t = .ok (.address j m))
    (hA : evalElem ssA t 2 x = .ok gA) :
    ∃ a, addrIntOf ssA j = some a ∧ addrIntOf ssB j = some (a + D) ∧ gA = fmtHex 2 a ∧
      (a + D < 256 → evalElem ssB t 2 x = .ok (fmtHex 2 (a + D))) ∧
      (256 ≤ a + D → evalElem ssB t 2 x = .diag) := by
  obtain ⟨a, i1, i2, hlt, e, hB⟩ := evalElem_reloc_label h (.inl rfl) hv hr hA
  have e16 : (16 : Nat) ^ 2 = 256 := by decide
  refine ⟨a, i1, i2, e, fun hf => ?_, fun hf => ?_⟩
  · rw [hB, if_pos (by omega)]
  · rw [hB, if_neg (by omega)]

/-- an element `label ± N` (`ModExpr`: the moved layout accepts it): the value `z` of the original program
moves by `D` modulo `$10000` -/
theorem evalElem_reloc_modExpr (h : PW (AddrShiftI D) ssA ssB) {t : SymTab} {w : Nat} {x : Str} {v r : Value} {gA : Str}
    (hw : w = 2 ∨ w = 4) (hv : create 4 x false false true = .ok v) (hr : v.resolve t = .ok r)
    (hc : ModExpr D ssA r) (hA : evalElem ssA t w x = .ok gA) :
    ∃ z, z < 65536 ∧ addrOffset ssA r = .ok (.numeric z (some 4) .extended false) ∧ gA = fmtHex w z ∧
      evalElem ssB t w x = if (z + D) % 65536 < 16 ^ w then .ok (fmtHex w ((z + D) % 65536)) else .diag := by
  obtain ⟨z, hz, e1, e2⟩ := hc.reloc h
  obtain ⟨l, r', op, m, rfl⟩ := hc.isAddrExpr
  rw [evalElem_of hv hr, elemNum_addrExpr] at hA ⊢
  rw [e1] at hA
  rw [e2]
  obtain ⟨_, rfl⟩ := elemRender_nat_ok hw hA
  exact ⟨z, hz, e1, rfl, elemRender_nat hw _ _ _⟩

/-- an element `label - label`: the same in both programs -/
theorem evalElem_reloc_diffExpr (h : PW (AddrShiftI D) ssA ssB) {t : SymTab} (w : Nat) {x : Str} {v r : Value}
    (hv : create 4 x false false true = .ok v) (hr : v.resolve t = .ok r) (hc : DiffExpr r) :
    evalElem ssB t w x = evalElem ssA t w x := by
  have e := addrOffset_diffExpr h hc
  obtain ⟨l, r', m, rfl, _⟩ := hc
  rw [evalElem_of hv hr, evalElem_of hv hr, elemNum_addrExpr, elemNum_addrExpr, e]

end

/-- the resolved element moves with the program: a label, or `label ± number` (the label on the left, or `+`) -/
def valueMovesB : Value → Bool
  | .address _ _ => true
  | .expr l r op _ true => (if l.isAddress then r else l).isNumeric && (l.isAddress || (r.isAddress && op == '+'))
  | _ => false

theorem valueMovesB_expr (l r : Value) (op : Char) (m : Mode) :
    valueMovesB (.expr l r op m true) =
      ((if l.isAddress then r else l).isNumeric && (l.isAddress || (r.isAddress && op == '+'))) := rfl

def numVal : Outcome Value → Option Nat
  | .ok (.numeric n _ _ false) => some n
  | _ => none

def elemMovesB (t : SymTab) (x : Str) : Bool :=
  match create 4 x false false true with
  | .ok v => (match v.resolve t with | .ok r => valueMovesB r | .error _ => false)
  | .error _ => false

/-- the number the list element `x` stands for in the layout `ss` -/
def elemVal (ss : List Stmt) (t : SymTab) (x : Str) : Option Nat :=
  match create 4 x false false true with
  | .ok v => (match v.resolve t with | .ok r => numVal (elemNum ss r) | .error _ => none)
  | .error _ => none

/-- the digits of the evaluated element `x` in the program moved by `D`, from the layout `ssA` of the original program and
the digits `gA` the original program has: an element that moves holds its value `+ D` (modulo `$10000`), any other element
keeps its digits -/
def movedElem (D : Nat) (ssA : List Stmt) (t : SymTab) (w : Nat) (x gA : Str) : Str :=
  if elemMovesB t x then (match elemVal ssA t x with | some z => fmtHex w ((z + D) % 65536) | none => gA) else gA

/-- the digits of a list in the program moved by `D`, position by position: an evaluated element (`pendingAt`) that moves
holds its value `+ D`, every other position has the digits `gsA` of the original program -/
def movedDigits (D : Nat) (ssA : List Stmt) (t : SymTab) (w : Nat) : List Str → List Str → List Str
  | x :: xs, g :: gs => (if pendingAt w x then movedElem D ssA t w x g else g) :: movedDigits D ssA t w xs gs
  | _, _ => []

theorem movedDigits_nil_left (D : Nat) (ssA : List Stmt) (t : SymTab) (w : Nat) (gs : List Str) :
    movedDigits D ssA t w [] gs = [] := by
  unfold movedDigits; rfl

theorem movedDigits_nil_right (D : Nat) (ssA : List Stmt) (t : SymTab) (w : Nat) (xs : List Str) :
    movedDigits D ssA t w xs [] = [] := by
  cases xs <;> (unfold movedDigits; rfl)

theorem movedDigits_cons (D : Nat) (ssA : List Stmt) (t : SymTab) (w : Nat) (x : Str) (xs : List Str) (g : Str)
    (gs : List Str) :
    movedDigits D ssA t w (x :: xs) (g :: gs) =
      (if pendingAt w x then movedElem D ssA t w x g else g) :: movedDigits D ssA t w xs gs := by
  rw [movedDigits]

theorem elemMovesB_of {t : SymTab} {x : Str} {v r : Value}
    (hv : create 4 x false false true = .ok v) (hr : v.resolve t = .ok r) : elemMovesB t x = valueMovesB r := by
  unfold elemMovesB
  rw [hv]
  dsimp only
  rw [hr]

theorem elemVal_of {ss : List Stmt} {t : SymTab} {x : Str} {v r : Value}
    (hv : create 4 x false false true = .ok v) (hr : v.resolve t = .ok r) :
    elemVal ss t x = numVal (elemNum ss r) := by
  unfold elemVal
  rw [hv]
  dsimp only
  rw [hr]

theorem movedElem_unresolved {D : Nat} {ssA : List Stmt} {t : SymTab} {w : Nat} {x gA : Str}
    (h : elemMovesB t x = false) : movedElem D ssA t w x gA = gA := by
  unfold movedElem
  rw [h]
  rfl

/-- what the resolved element `r` may be: no label and no label expression; a plain label; `label ± N` that the moved
layout accepts (`ModExpr`); `label - label` (`DiffExpr`).  Not covered: `N - label` (moves by MINUS `D`), products and
quotients of labels. -/
def ValueCovered (D : Nat) (ssA : List Stmt) (r : Value) : Prop :=
  (r.isAddress = false ∧ r.isAddrExpr = false) ∨ r.isAddress = true ∨ ModExpr D ssA r ∨ DiffExpr r

/-- the list element `x` resolves to a value of one of the four classes (or is rejected before) -/
def ElemCovered (D : Nat) (ssA : List Stmt) (t : SymTab) (x : Str) : Prop :=
  ∀ v r, create 4 x false false true = .ok v → v.resolve t = .ok r → ValueCovered D ssA r

/-- the moved value of the element has `w` digits (no condition at `w = 4`: `elemFits_word`) -/
def ElemFits (D : Nat) (ssA : List Stmt) (t : SymTab) (w : Nat) (x : Str) : Prop :=
  elemMovesB t x = true → ∀ z, elemVal ssA t x = some z → (z + D) % 65536 < 16 ^ w

theorem elemFits_word (D : Nat) (ssA : List Stmt) (t : SymTab) (x : Str) : ElemFits D ssA t 4 x := by
  intro _ z _
  have : (16 : Nat) ^ 4 = 65536 := by decide
  omega

theorem ElemConst.covered {D : Nat} {ssA : List Stmt} {t : SymTab} {x : Str} (h : ElemConst t x) :
    ElemCovered D ssA t x := fun v r hv hr => .inl (h v r hv hr)

theorem valueMovesB_const {r : Value} (h1 : r.isAddress = false) (h2 : r.isAddrExpr = false) :
    valueMovesB r = false := by
  cases r <;> first | rfl | cases h1 | skip
  rename_i l r op m ae
  cases ae
  · rfl
  · cases h2

theorem valueMovesB_modExpr {D : Nat} {ssA : List Stmt} {r : Value} (h : ModExpr D ssA r) : valueMovesB r = true := by
  obtain ⟨l, r', op, m, tt, a, k, nn, rfl, hl, _⟩ := h
  obtain ⟨hh, mm, ho⟩ := hl.other
  rw [valueMovesB_expr, ho]
  rcases hl.side with hs | ⟨hs, rfl⟩
  · simp [hs, Value.isNumeric]
  · simp [hs, Value.isNumeric]

theorem valueMovesB_diffExpr {r : Value} (h : DiffExpr r) : valueMovesB r = false := by
  obtain ⟨l, r', m, rfl, ho⟩ := h
  rw [valueMovesB_expr]
  have : (if l.isAddress then r' else l).isNumeric = false := by
    generalize (if l.isAddress then r' else l) = q at ho
    cases q <;> first | rfl | cases ho
  simp only [this, Bool.false_and]

section
variable {D : Nat} {ssA ssB : List Stmt}

/-- the resolved element `r` in the two layouts: rendered in the original program with the digits `gA`, it is rendered in
the moved program with the digits `movedElem` says -/
theorem elemRender_reloc (h : PW (AddrShiftAny D) ssA ssB) {w : Nat} {r : Value} {gA : Str} (hw : w = 2 ∨ w = 4)
    (hc : ValueCovered D ssA r)
    (hfit : valueMovesB r = true → ∀ z, numVal (elemNum ssA r) = some z → (z + D) % 65536 < 16 ^ w)
    (hA : elemRender w (elemNum ssA r) = .ok gA) :
    elemRender w (elemNum ssB r) =
      .ok (if valueMovesB r then (match numVal (elemNum ssA r) with | some z => fmtHex w ((z + D) % 65536) | none => gA)
           else gA) := by
  have hI : PW (AddrShiftI D) ssA ssB := h.mono (fun _ _ => AddrShiftAny.toI)
  rcases hc with ⟨h1, h2⟩ | h1 | hm | hd
  · rw [valueMovesB_const h1 h2, elemNum_const h1 h2]
    rw [elemNum_const h1 h2] at hA
    exact hA
  · cases r <;> first | cases h1 | skip
    rename_i j m
    have hmv : valueMovesB (.address j m) = true := rfl
    rcases elemNum_reloc_label h j m with ⟨e1, _⟩ | ⟨a, hh, mm, hh', mm', _, _, hlt, e1, e2⟩
    · rw [e1] at hA; cases hA
    · have hf := hfit hmv a (by rw [e1]; rfl)
      rw [hmv, e1, e2]
      simp only [if_true, numVal]
      have e : (a + D) % 65536 = a + D := by omega
      rw [e] at hf ⊢
      rw [elemRender_nat hw, if_pos hf]
  · obtain ⟨z, hz, e1, e2⟩ := hm.reloc hI
    have hmv := valueMovesB_modExpr hm
    obtain ⟨l, r', op, m, rfl⟩ := hm.isAddrExpr
    rw [elemNum_addrExpr] at hfit ⊢
    have hf := hfit hmv z (by rw [e1]; rfl)
    rw [hmv, elemNum_addrExpr, e1, e2]
    simp only [if_true, numVal]
    rw [elemRender_nat hw, if_pos hf]
  · have e := addrOffset_diffExpr hI hd
    rw [valueMovesB_diffExpr hd]
    obtain ⟨l, r', m, rfl, _⟩ := hd
    rw [elemNum_addrExpr] at hA ⊢
    rw [e]
    exact hA

/-- one evaluated element of a list, all classes: the digits in the moved program are `movedElem` -/
theorem evalElem_reloc (h : PW (AddrShiftAny D) ssA ssB) {t : SymTab} {w : Nat} {x gA : Str} (hw : w = 2 ∨ w = 4)
    (hc : ElemCovered D ssA t x) (hfit : ElemFits D ssA t w x) (hA : evalElem ssA t w x = .ok gA) :
    evalElem ssB t w x = .ok (movedElem D ssA t w x gA) := by
  rcases evalElem_cases t x with hd | ⟨v, r, hv, hr, e⟩
  · rw [hd] at hA; cases hA
  · unfold ElemFits at hfit
    unfold movedElem
    rw [elemMovesB_of hv hr, elemVal_of hv hr] at hfit ⊢
    rw [e] at hA ⊢
    exact elemRender_reloc h hw (hc v r hv hr) hfit hA

theorem evalElem1_reloc (h : PW (AddrShiftAny D) ssA ssB) {t : SymTab} {w : Nat} {x g gA : Str} (hw : w = 2 ∨ w = 4)
    (hc : pendingAt w x = true → ElemCovered D ssA t x) (hfit : pendingAt w x = true → ElemFits D ssA t w x)
    (hA : evalElem1 ssA t w x g = .ok gA) :
    evalElem1 ssB t w x g = .ok (if pendingAt w x then movedElem D ssA t w x gA else gA) := by
  unfold evalElem1 at hA ⊢
  cases hp : pendingAt w x with
  | false =>
    rw [hp] at hA
    simp only [Bool.false_eq_true, if_false] at hA ⊢
    exact hA
  | true =>
    rw [hp] at hA
    simp only [if_true] at hA ⊢
    exact evalElem_reloc h hw (hc hp) (hfit hp) hA

/-- the digits of a list, position by position: when the original program gives the digits `gsA`, the
program moved by `D` gives `movedDigits D ssA t w xs gsA` — the digits of the original program except at the positions of
labels and of `label ± N`, which hold the value `+ D` -/
theorem evalElems_reloc (h : PW (AddrShiftAny D) ssA ssB) {t : SymTab} {w : Nat} (hw : w = 2 ∨ w = 4) :
    ∀ (xs hs gsA : List Str),
    (∀ x ∈ xs, pendingAt w x = true → ElemCovered D ssA t x) →
    (∀ x ∈ xs, pendingAt w x = true → ElemFits D ssA t w x) →
    evalElems ssA t w xs hs = .ok gsA →
    evalElems ssB t w xs hs = .ok (movedDigits D ssA t w xs gsA) := by
  intro xs hs
  induction xs, hs using zipInduction with
  | nil_left hs =>
    intro gsA _ _ _
    rw [evalElems_nil_left, movedDigits_nil_left]
  | nil_right xs =>
    intro gsA _ _ hA
    rw [evalElems_nil_right] at hA ⊢
    cases hA
    rw [movedDigits_nil_right]
  | cons x xs g hs ih =>
    intro gsA hc hfit hA
    obtain ⟨gA, rA, h1, h2, rfl⟩ := Outcome.consM_eq_ok (evalElems_cons_consM .. ▸ hA)
    rw [evalElems_cons, evalElem1_reloc h hw (hc x (by simp)) (hfit x (by simp)) h1]
    dsimp only
    rw [ih rA (fun y hy => hc y (by simp [hy])) (fun y hy => hfit y (by simp [hy])) h2, movedDigits_cons]

end

/-- every evaluated element of the FCB / FDB list statement `s` is in one of the four classes (`ElemCovered`); in an FCB
list the moved values have two digits.  `ListsConst` is the special case "no element moves". -/
def ListsCovered (D : Nat) (ssA : List Stmt) (t : SymTab) (s : Stmt) : Prop :=
  (∀ hs, s.pkg.additional = .multiByte hs → ∀ x ∈ listElems s.operand.text, pendingAt 2 x = true →
    ElemCovered D ssA t x ∧ ElemFits D ssA t 2 x) ∧
  (∀ hs, s.pkg.additional = .multiWord hs → ∀ x ∈ listElems s.operand.text, pendingAt 4 x = true →
    ElemCovered D ssA t x)

theorem ListsCovered.kind {D : Nat} {ssA : List Stmt} {t : SymTab} {s : Stmt} (hc : ListsCovered D ssA t s) {w : Nat}
    {mk : List Str → Value} (k : ListKind w mk) {hs : List Str} (ha : s.pkg.additional = mk hs) :
    ∀ x ∈ listElems s.operand.text, pendingAt w x = true → ElemCovered D ssA t x ∧ ElemFits D ssA t w x := by
  cases k
  · exact hc.1 hs ha
  · exact fun x hx hp => ⟨hc.2 hs ha x hx hp, elemFits_word D ssA t x⟩

theorem elemMovesB_const {t : SymTab} {x : Str} (h : ElemConst t x) : elemMovesB t x = false := by
  unfold elemMovesB
  cases hv : create 4 x false false true with
  | error e => rfl
  | ok v =>
    dsimp only
    cases hr : v.resolve t with
    | error e => rfl
    | ok r =>
      dsimp only
      obtain ⟨h1, h2⟩ := h v r hv hr
      exact valueMovesB_const h1 h2

theorem ListsConst.covered {D : Nat} {ssA : List Stmt} {t : SymTab} {s : Stmt} (h : ListsConst t s) :
    ListsCovered D ssA t s :=
  ⟨fun hs e x hx hp => ⟨(h.1 hs e x hx hp).covered, fun hm => by rw [elemMovesB_const (h.1 hs e x hx hp)] at hm; cases hm⟩,
   fun hs e x hx hp => (h.2 hs e x hx hp).covered⟩

/-- the operand field of a list statement in the moved program, from the statement `y` the original program ends with:
the digits `movedDigits` gives; a field that is not a list as it is -/
def movedList (D : Nat) (ssA : List Stmt) (t : SymTab) (y : Stmt) : Value :=
  match y.pkg.additional with
  | .multiByte gs => .multiByte (movedDigits D ssA t 2 (listElems y.operand.text) gs)
  | .multiWord gs => .multiWord (movedDigits D ssA t 4 (listElems y.operand.text) gs)
  | v => v

section
variable {D : Nat} {ssA ssB : List Stmt} {R : Stmt → Stmt → Prop}

/-- one statement through the list pass, original and moved program (`x`, `x'` related as the statements
that leave `fixAll` are: same operand, same list field): when the original program ends with the statement `y`, the moved
program ends with `x'` whose list field holds the digits `movedList` says; a statement that is not a list is left alone -/
theorem evalList1_reloc (hR : ListStable R) (h : PW (AddrShiftAny D) ssA ssB) (t : SymTab) {x x' y : Stmt}
    (hx : R x x') (hc : ListsCovered D ssA t x) (hA : evalList1 t ssA x = .ok y) :
    evalList1 t ssB x' =
      .ok (if x.pkg.additional.isList then { x' with pkg := { x'.pkg with additional := movedList D ssA t y } } else x') := by
  cases hl : x.pkg.additional.isList with
  | false =>
    obtain ⟨b1, b2⟩ := Value.isList_false (hR.nonlist hx hl)
    rw [evalList1_keep t ssB b1 b2]
    rfl
  | true =>
    have he := hR.list hx hl
    obtain ⟨w, mk, hs, k, ha⟩ := Value.isList_kind hl
    have hcw := hc.kind k ha
    simp only [if_true]
    -- the digits of the original program are some `gs`; those of the moved program are `movedDigits` of them
    rw [evalList1_map k t ssA ha] at hA
    obtain ⟨gs, hg, rfl⟩ := Outcome.map_eq_ok hA
    have ho : listElems x'.operand.text = listElems x.operand.text := by rw [hR.operand hx]
    rw [evalList1_map k t ssB (he.trans ha), ho,
      evalElems_reloc h k.width _ hs gs (fun z hz hp => (hcw z hz hp).1) (fun z hz hp => (hcw z hz hp).2) hg]
    cases k <;> rfl

end

/-- the words of an FDB list in the program moved by `D`, from the words `ns` of the original program: an evaluated element
that moves (a label, `label ± N`) holds its value `+ D` modulo `$10000`, every other position keeps its word -/
def movedWords (D : Nat) (ssA : List Stmt) (t : SymTab) : List Str → List Nat → List Nat
  | x :: xs, n :: ns =>
    (if pendingAt 4 x && elemMovesB t x then (match elemVal ssA t x with | some z => (z + D) % 65536 | none => n) else n)
      :: movedWords D ssA t xs ns
  | _, _ => []

theorem movedDigits_words (D : Nat) (ssA : List Stmt) (t : SymTab) : ∀ (xs : List Str) (ns : List Nat),
    movedDigits D ssA t 4 xs (ns.map wordHex) = (movedWords D ssA t xs ns).map wordHex := by
  intro xs ns
  induction xs, ns using zipInduction with
  | nil_left ns => rw [movedDigits_nil_left]; unfold movedWords; rfl
  | nil_right xs => rw [List.map_nil, movedDigits_nil_right]; cases xs <;> rfl
  | cons x xs n ns ih =>
    rw [List.map_cons, movedDigits_cons, ih, movedWords, List.map_cons]
    congr 1
    unfold movedElem
    cases pendingAt 4 x with
    | false => rfl
    | true =>
      cases elemMovesB t x with
      | false => rfl
      | true =>
        simp only [if_true, Bool.and_self]
        cases elemVal ssA t x with
        | none => rfl
        | some z =>
          dsimp only
          rw [fmtHex_word (Nat.mod_lt _ (by decide))]
          rfl

theorem movedWords_lt (D : Nat) (ssA : List Stmt) (t : SymTab) : ∀ (xs : List Str) (ns : List Nat),
    (∀ n ∈ ns, n < 65536) → ∀ n ∈ movedWords D ssA t xs ns, n < 65536 := by
  intro xs ns
  induction xs, ns using zipInduction with
  | nil_left ns => intro _ n hn; unfold movedWords at hn; cases hn
  | nil_right xs => intro _ n hn; cases xs <;> cases hn
  | cons x xs n0 ns ih =>
    intro hns n hn
    rw [movedWords, List.mem_cons] at hn
    rcases hn with rfl | hn
    · have h0 := hns n0 (by simp)
      split
      · split
        · exact Nat.mod_lt _ (by decide)
        · exact h0
      · exact h0
    · exact ih (fun m hm => hns m (by simp [hm])) n hn

/-- the bytes of the moved jump table: the big-endian bytes of `movedWords` -/
theorem emitValue_movedWords (D : Nat) (ssA : List Stmt) (t : SymTab) (xs : List Str) (ns : List Nat)
    (hns : ∀ n ∈ ns, n < 65536) :
    emitValue (.multiWord (movedDigits D ssA t 4 xs (ns.map wordHex))) = some (wordBytes (movedWords D ssA t xs ns)) := by
  rw [movedDigits_words, emitValue_multiWord _ (movedWords_lt D ssA t xs ns hns)]

def addrShiftAnyB (D : Nat) (s s' : Stmt) : Bool :=
  s'.pkg.size == s.pkg.size &&
  (match s.pkg.address, s'.pkg.address with
   | .numeric a _ _ false, .numeric b _ _ false => b == a + D && decide (a + D < 65536)
   | _, _ => false)

theorem addrShiftAnyB_sound {D : Nat} {s s' : Stmt} (h : addrShiftAnyB D s s' = true) : AddrShiftAny D s s' := by
  unfold addrShiftAnyB at h
  rw [Bool.and_eq_true] at h
  obtain ⟨h1, h2⟩ := h
  refine ⟨by simpa using h1, ?_⟩
  split at h2
  · rename_i a hh mm b hh' mm' e1 e2
    rw [Bool.and_eq_true] at h2
    obtain ⟨h3, h4⟩ := h2
    have h3 : b = a + D := by simpa using h3
    subst h3
    exact ⟨a, hh, mm, hh', mm', e1, e2, by simpa using h4⟩
  · cases h2

def pwB (f : Stmt → Stmt → Bool) : List Stmt → List Stmt → Bool
  | [], [] => true
  | a :: l, b :: l' => f a b && pwB f l l'
  | _, _ => false

theorem pwB_sound {f : Stmt → Stmt → Bool} {R : Stmt → Stmt → Prop} (hf : ∀ a b, f a b = true → R a b) :
    ∀ (l l' : List Stmt), pwB f l l' = true → PW R l l' := by
  intro l
  induction l with
  | nil =>
    intro l' h
    cases l' with
    | nil => exact .nil
    | cons b l' => unfold pwB at h; cases h
  | cons a l ih =>
    intro l' h
    cases l' with
    | nil => unfold pwB at h; cases h
    | cons b l' =>
      rw [pwB, Bool.and_eq_true] at h
      exact .cons (hf a b h.1) (ih l' h.2)

/-- `ElemCovered` for the two simplest classes, executable: the element is rejected, resolves to no label and no label
expression, or resolves to a plain label -/
def elemCoveredB (t : SymTab) (x : Str) : Bool :=
  match create 4 x false false true with
  | .ok v => (match v.resolve t with | .ok r => (!r.isAddress && !r.isAddrExpr) || r.isAddress | .error _ => true)
  | .error _ => true

theorem elemCoveredB_sound {D : Nat} {ssA : List Stmt} {t : SymTab} {x : Str} (h : elemCoveredB t x = true) :
    ElemCovered D ssA t x := by
  intro v r hv hr
  unfold elemCoveredB at h
  rw [hv] at h
  dsimp only at h
  rw [hr] at h
  dsimp only at h
  cases hA : r.isAddress with
  | true => exact .inr (.inl hA)
  | false =>
    rw [hA] at h
    exact .inl ⟨hA, by simpa using h⟩

end CoCo.Asm
