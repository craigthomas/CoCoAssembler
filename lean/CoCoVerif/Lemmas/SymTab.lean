/-
Lemmas/SymTab.lean — the symbol table: what `buildSymTab` binds (`symEntries`, `buildSymTab_some`; a second definition of a
label is a diagnostic, `buildSymTab_dup`), what `SymTab.get?` finds (an entry of the table, `get?_mem_key`; the entry, when
the keys are distinct, `get?_of_mem`); `buildSymTab` over `++` and over a run of copies of a statement
(`buildSymTab_append`, `_replicate`); two tables related entry by entry, with the same keys, answer the same lookups
(`PW.lookup`).
-/
import CoCoVerif.Model.Program
import CoCoVerif.Lemmas.ListPass

namespace CoCo.Asm
open CoCo

/-- the entries `buildSymTab` appends for the statements `ss`, the first of which has index `i` -/
def symEntries : List Stmt → Nat → SymTab
  | [], _ => []
  | s :: r, i =>
    if s.label.isEmpty then symEntries r (i + 1)
    else (s.label, if s.row.isPseudoDefine then s.operand.value else .address i .none) :: symEntries r (i + 1)

def SymTab.keys (t : SymTab) : List Str := t.map (·.1)

theorem get?_isSome_iff (t : SymTab) (k : Str) : (t.get? k).isSome = true ↔ k ∈ SymTab.keys t := by
  induction t with
  | nil => simp [SymTab.get?, SymTab.keys]
  | cons kv r ih =>
    obtain ⟨k', v⟩ := kv
    simp only [SymTab.get?, SymTab.keys, List.find?_cons, List.map_cons, List.mem_cons] at ih ⊢
    by_cases hk : k' = k
    · subst hk; simp
    · have : (k' == k) = false := by simpa using hk
      simp only [this]
      rw [ih]
      constructor
      · intro h; exact Or.inr h
      · rintro (h | h)
        · exact absurd h.symm hk
        · exact h

theorem get?_of_mem {t : SymTab} {k : Str} {v : Value} (hn : (SymTab.keys t).Nodup) (hm : (k, v) ∈ t) :
    t.get? k = some v := by
  induction t with
  | nil => simp at hm
  | cons kv r ih =>
    obtain ⟨k', v'⟩ := kv
    simp only [SymTab.keys, List.map_cons, List.nodup_cons] at hn
    simp only [List.mem_cons, Prod.mk.injEq] at hm
    rcases hm with ⟨rfl, rfl⟩ | hm
    · simp [SymTab.get?]
    · have hne : k' ≠ k := by
        intro he; subst he
        exact hn.1 (List.mem_map.mpr ⟨(k', v), hm, rfl⟩)
      have : (k' == k) = false := by simpa using hne
      have ih' := ih hn.2 hm
      simp only [SymTab.get?, List.find?_cons, this] at ih' ⊢
      exact ih'

theorem get?_mem_key {t : SymTab} {k : Str} {v : Value} (h : t.get? k = some v) : (k, v) ∈ t := by
  unfold SymTab.get? at h
  cases hf : t.find? (·.1 == k) with
  | none => rw [hf] at h; cases h
  | some kv =>
    rw [hf] at h
    have hm := List.mem_of_find?_eq_some hf
    have hp := List.find?_some hf
    obtain ⟨k', v'⟩ := kv
    simp only [beq_iff_eq] at hp
    simp only [Option.map_some, Option.some.injEq] at h
    subst hp h
    exact hm

/-- two tables related entry by entry, with the same keys: a lookup that succeeds in one succeeds in the other -/
theorem PW.lookup {R : Value → Value → Prop} {t t' : SymTab} (h : PW (fun kv kv' => kv'.1 = kv.1 ∧ R kv.2 kv'.2) t t')
    {k : Str} {v : Value} (hk : t.get? k = some v) : ∃ v', t'.get? k = some v' ∧ R v v' := by
  induction t generalizing t' with
  | nil => cases hk
  | cons kv r ih =>
    obtain ⟨kv', r', rfl, ⟨hkey, hr⟩, hrest⟩ := h.cons_left
    by_cases hkk : (kv.1 == k) = true
    · simp only [SymTab.get?, List.find?_cons, hkk, hkey, Option.map_some, Option.some.injEq] at hk ⊢
      exact ⟨_, rfl, hk ▸ hr⟩
    · simp only [SymTab.get?, List.find?_cons, hkk, hkey] at hk ⊢
      exact ih hrest hk

theorem buildSymTab_some {ss : List Stmt} {i : Nat} {t t' : SymTab} (h : buildSymTab ss i t = some t') :
    t' = t ++ symEntries ss i ∧ ((SymTab.keys t).Nodup → (SymTab.keys t').Nodup) := by
  induction ss generalizing i t with
  | nil => simp [buildSymTab] at h; subst h; simp [symEntries]
  | cons s r ih =>
    unfold buildSymTab at h
    split at h
    · rename_i he
      obtain ⟨h1, h2⟩ := ih h
      exact ⟨by simp [symEntries, he, h1], h2⟩
    · rename_i he
      split at h
      · cases h
      · rename_i hg
        obtain ⟨h1, h2⟩ := ih h
        refine ⟨by simp [symEntries, he, h1], ?_⟩
        intro hn
        apply h2
        have hnot : s.label ∉ SymTab.keys t := by
          intro hm; exact hg ((get?_isSome_iff t s.label).mpr hm)
        simp only [SymTab.keys, List.map_append, List.map_cons, List.map_nil] at hn hnot ⊢
        rw [List.nodup_append]
        refine ⟨hn, by simp, ?_⟩
        intro x hx y hy
        simp at hy; subst hy
        intro he; subst he; exact hnot hx

theorem mem_symEntries {ss : List Stmt} {i0 : Nat} {k : Str} {v : Value} :
    (k, v) ∈ symEntries ss i0 ↔ ∃ (j : Nat) (s : Stmt), ss[j]? = some s ∧ s.label.isEmpty = false ∧ k = s.label ∧
      v = (if s.row.isPseudoDefine then s.operand.value else .address (i0 + j) .none) := by
  induction ss generalizing i0 with
  | nil => simp [symEntries]
  | cons s0 rest ih =>
    -- the entries of the tail, with indices counted from the head
    have tail : (k, v) ∈ symEntries rest (i0 + 1) ↔ ∃ (j : Nat) (s : Stmt), (s0 :: rest)[j + 1]? = some s ∧
        s.label.isEmpty = false ∧ k = s.label ∧
        v = (if s.row.isPseudoDefine then s.operand.value else .address (i0 + (j + 1)) .none) := by
      rw [ih]
      simp only [List.getElem?_cons_succ, Nat.add_assoc, Nat.add_comm 1]
    unfold symEntries
    split
    · rename_i he
      rw [tail]
      constructor
      · rintro ⟨j, s, h⟩; exact ⟨j + 1, s, h⟩
      · rintro ⟨j, s, hs, hl, h⟩
        cases j with
        | zero => cases hs; rw [he] at hl; cases hl
        | succ j => exact ⟨j, s, hs, hl, h⟩
    · rename_i he
      rw [List.mem_cons, tail]
      constructor
      · rintro (h | ⟨j, s, h⟩)
        · cases h; exact ⟨0, s0, rfl, by simpa using he, rfl, rfl⟩
        · exact ⟨j + 1, s, h⟩
      · rintro ⟨j, s, hs, hl, hk, hv⟩
        cases j with
        | zero => cases hs; left; rw [hk, hv]; rfl
        | succ j => exact .inr ⟨j, s, hs, hl, hk, hv⟩

theorem symEntries_mem {ss : List Stmt} {i j : Nat} {s : Stmt} (hs : ss[j]? = some s)
    (hl : s.label.isEmpty = false) :
    (s.label, if s.row.isPseudoDefine then s.operand.value else .address (i + j) .none) ∈ symEntries ss i :=
  mem_symEntries.mpr ⟨j, s, hs, hl, rfl, rfl⟩

/-- an `.address` entry among the entries `buildSymTab` makes was made for a labelled statement that is not an EQU
(the operand values of parsed statements are never addresses) -/
theorem symEntries_address {ss : List Stmt} (hna : ∀ s ∈ ss, s.operand.value.isAddress = false) {i0 : Nat}
    {k : Str} {i : Nat} {m : Mode} (h : (k, Value.address i m) ∈ symEntries ss i0) :
    ∃ j s, i = i0 + j ∧ ss[j]? = some s ∧ s.label.isEmpty = false ∧ s.row.isPseudoDefine = false := by
  obtain ⟨j, s, hs, hl, _, hv⟩ := mem_symEntries.mp h
  cases hp : s.row.isPseudoDefine with
  | true =>
    rw [hp, if_pos rfl] at hv
    have := hna s (List.mem_of_getElem? hs)
    rw [← hv] at this
    cases this
  | false =>
    rw [hp, if_neg (by simp)] at hv
    cases hv
    exact ⟨j, s, rfl, hs, hl, hp⟩

theorem symEntries_keys (ss : List Stmt) (i : Nat) :
    SymTab.keys (symEntries ss i) = (ss.map (·.label)).filter (fun l => !l.isEmpty) := by
  induction ss generalizing i with
  | nil => simp [symEntries, SymTab.keys]
  | cons s r ih =>
    unfold symEntries
    split
    · rename_i he; rw [ih]; simp [he]
    · rename_i he
      have ih' := ih (i + 1)
      simp only [SymTab.keys] at ih' ⊢
      simp [he, ih']

/-- two statements with the same non-empty label: `save_symbol` raises -/
theorem buildSymTab_dup {ss : List Stmt} {i j : Nat} {s t : Stmt} (hij : i < j) (hs : ss[i]? = some s)
    (ht : ss[j]? = some t) (hl : s.label = t.label) (hne : s.label.isEmpty = false) :
    buildSymTab ss 0 [] = none := by
  cases h : buildSymTab ss 0 [] with
  | none => rfl
  | some tab =>
    exfalso
    obtain ⟨h1, h2⟩ := buildSymTab_some h
    have hn := h2 (by simp [SymTab.keys])
    rw [h1] at hn
    simp only [List.nil_append, symEntries_keys] at hn
    -- the filtered label list has a duplicate: `s.label` before position `j`, `t.label` at it
    have hsplit : ss = ss.take j ++ t :: ss.drop (j + 1) := by
      obtain ⟨hlen_j, rfl⟩ := List.getElem_of_getElem? ht
      simp
    have hmem : s ∈ ss.take j := by
      rw [List.mem_iff_getElem?]
      exact ⟨i, by rw [List.getElem?_take]; simp [hij, hs]⟩
    rw [hsplit] at hn
    simp only [List.map_append, List.map_cons, List.filter_append, List.filter_cons] at hn
    have hte : (!t.label.isEmpty) = true := by rw [← hl]; simp [hne]
    simp only [hte, if_true] at hn
    rw [List.nodup_append] at hn
    obtain ⟨_, _, hdisj⟩ := hn
    refine hdisj s.label ?_ t.label List.mem_cons_self hl
    exact List.mem_filter.mpr ⟨List.mem_map.mpr ⟨s, hmem, rfl⟩, by simp [hne]⟩

theorem buildSymTab_append (a b : List Stmt) : ∀ (i : Nat) (t : SymTab),
    buildSymTab (a ++ b) i t = (buildSymTab a i t).bind (fun t' => buildSymTab b (i + a.length) t') := by
  induction a with
  | nil => intro i t; simp [buildSymTab]
  | cons s rest ih =>
    intro i t
    have e : i + 1 + rest.length = i + (rest.length + 1) := by omega
    rw [List.cons_append, buildSymTab, buildSymTab]
    split
    · rw [ih, e]; rfl
    · split
      · rfl
      · rw [ih, e]; rfl

/-- `save_symbol` reads of a statement its label, whether it is an EQU / SET, and the operand value: statements that
agree with `f s` in these build the table of `ss.map f` -/
theorem _root_.CoCo.Props.buildSymTab_congr (f : Stmt → Stmt) : ∀ (ss ss' : List Stmt) (i : Nat) (t : SymTab),
    PW (fun s s' => s'.label = (f s).label ∧ s'.row.isPseudoDefine = (f s).row.isPseudoDefine ∧
      s'.operand.value = (f s).operand.value) ss ss' →
    buildSymTab ss' i t = buildSymTab (ss.map f) i t := by
  intro ss
  induction ss with
  | nil => intro ss' i t h; rw [h.nil_left]; rfl
  | cons s rest ih =>
    intro ss' i t h
    obtain ⟨s', rest', rfl, ⟨hl, hp, hv⟩, hrest⟩ := h.cons_left
    rw [List.map_cons, buildSymTab, buildSymTab, hl, hp, hv]
    simp only [ih rest' _ _ hrest]

theorem buildSymTab_replicate {a : Stmt} (ha : a.label.isEmpty = true) (rest : List Stmt) :
    ∀ n i t, buildSymTab (List.replicate n a ++ rest) i t = buildSymTab rest (i + n) t := by
  intro n
  induction n with
  | zero => intro i t; rfl
  | succ n ih =>
    intro i t
    rw [List.replicate_succ, List.cons_append, buildSymTab, if_pos ha, ih]
    congr 1; omega

end CoCo.Asm
