/-
Lemmas/RelocAddr.lean — relocation (C18-R1): address assignment.

Two statement lists that differ only in their preset (ORG) addresses, all moved by `D`, come out of `assignAddrs` with every
address moved by `D`.  Three relations between the results, `AddrShift → AddrShiftAny → AddrShiftI`: `AddrShiftI` speaks of
the numbers only (sizes equal, `address.int` moves by `D`) and needs no side condition; `AddrShiftAny` adds `a + D` inside
the 64K space, hints and modes free; `AddrShift` relates the VALUES (same hint and mode, rendered with two bytes), which
needs `256 ≤ a` for the addresses `assignAddrs` creates itself (`numV a` is a one-byte DIRECT value below 256, known
finding A11).  The VALUE matters because `fix_addresses` copies it into the operand field of a plain label, the final
symbol table binds a label to it, and the origin of the assembly is the value of the last ORG statement.
-/
import CoCoVerif.Lemmas.LayoutPasses

namespace CoCo.Asm
open CoCo

def shiftV (D : Nat) : Value → Value
  | .numeric a h m n => .numeric (a + D) h m n
  | v => v

@[simp] theorem shiftV_numeric (D a : Nat) (h : Option Nat) (m : Mode) (n : Bool) :
    shiftV D (.numeric a h m n) = .numeric (a + D) h m n := rfl

/-- the statements that ENTER `assignAddrs` -/
def OrgShift (D : Nat) (s s' : Stmt) : Prop :=
  s'.pkg.size = s.pkg.size ∧
  ((s.pkg.address = .none ∧ s'.pkg.address = .none) ∨
   (∃ o h m n, s.pkg.address = .numeric o h m n ∧ s'.pkg.address = .numeric (o + D) h m n))

def AddrShiftI (D : Nat) (s s' : Stmt) : Prop :=
  s'.pkg.size = s.pkg.size ∧ ∃ a, addrNat s = some a ∧ addrNat s' = some (a + D)

def IntAddr (D : Nat) (v v' : Value) : Prop :=
  ∃ a h m h' m', v = .numeric a h m false ∧ v' = .numeric (a + D) h' m' false ∧ a + D < 65536

def AddrShiftAny (D : Nat) (s s' : Stmt) : Prop :=
  s'.pkg.size = s.pkg.size ∧ IntAddr D s.pkg.address s'.pkg.address

/-- rendered with two bytes: hint 4 (what `ORG $hhhh` gives), or no hint and at least 256 (what `numV` gives) -/
def WideAddr (D : Nat) (v v' : Value) : Prop :=
  ∃ a h m, v = .numeric a h m false ∧ v' = .numeric (a + D) h m false ∧
    (h = some 4 ∨ (h = none ∧ 256 ≤ a)) ∧ a + D < 65536

def AddrShift (D : Nat) (s s' : Stmt) : Prop :=
  s'.pkg.size = s.pkg.size ∧ WideAddr D s.pkg.address s'.pkg.address

theorem WideAddr.shiftV {D : Nat} {v v' : Value} (h : WideAddr D v v') : v' = shiftV D v := by
  obtain ⟨a, hh, m, rfl, rfl, _, _⟩ := h; rfl

theorem WideAddr.intAddr {D : Nat} {v v' : Value} (h : WideAddr D v v') : IntAddr D v v' := by
  obtain ⟨a, hh, m, e1, e2, _, hlt⟩ := h
  exact ⟨a, hh, m, hh, m, e1, e2, hlt⟩

theorem IntAddr.int {D : Nat} {v v' : Value} (h : IntAddr D v v') :
    ∃ a, v.int? = some a ∧ v'.int? = some (a + D) ∧ a + D < 65536 := by
  obtain ⟨a, hh, m, hh', m', rfl, rfl, hlt⟩ := h
  exact ⟨a, rfl, rfl, hlt⟩

theorem AddrShift.toAny {D : Nat} {s s' : Stmt} (h : AddrShift D s s') : AddrShiftAny D s s' :=
  ⟨h.1, h.2.intAddr⟩

theorem AddrShiftAny.toI {D : Nat} {s s' : Stmt} (h : AddrShiftAny D s s') : AddrShiftI D s s' := by
  obtain ⟨a, h2, h3, _⟩ := h.2.int
  exact ⟨h.1, a, h2, h3⟩

theorem AddrShift.toI {D : Nat} {s s' : Stmt} (h : AddrShift D s s') : AddrShiftI D s s' := h.toAny.toI

/-- what `ORG $hhhh` produces -/
def OrgWide (s : Stmt) : Prop :=
  s.pkg.address = .none ∨ ∃ o m, s.pkg.address = .numeric o (some 4) m false

theorem OrgWide.shape {s : Stmt} (h : OrgWide s) {o : Nat} {hh : Option Nat} {m : Mode} {n : Bool}
    (h0 : s.pkg.address = .numeric o hh m n) : hh = some 4 ∧ n = false := by
  rcases h with h1 | ⟨o1, m1, h1⟩
  · rw [h0] at h1; cases h1
  · rw [h0] at h1; cases h1; exact ⟨rfl, rfl⟩

theorem assignAddrs_none {s : Stmt} {rest : List Stmt} {a : Nat} (h : s.pkg.address = .none) :
    assignAddrs (s :: rest) a =
      (match numV a with
       | .ok v => (match assignAddrs rest (a + s.pkg.size) with
                   | .ok r => .ok ({ s with pkg := { s.pkg with address := v } } :: r) | o => o)
       | .error _ => .diag) := by
  rw [assignAddrs_cons_eq, placeOne_none h, Outcome.bind_map_left]
  cases numV a with
  | error e => rfl
  | ok v => dsimp only [Outcome.ofR, Outcome.bind]; cases assignAddrs rest (a + s.pkg.size) <;> rfl

theorem assignAddrs_numeric {s : Stmt} {rest : List Stmt} {a o : Nat} {hh : Option Nat} {m : Mode} {n : Bool}
    (h : s.pkg.address = .numeric o hh m n) :
    assignAddrs (s :: rest) a =
      (match assignAddrs rest (o + s.pkg.size) with | .ok r => .ok (s :: r) | o => o) := by
  rw [assignAddrs_cons_eq, placeOne_numeric h, Outcome.ok_bind]
  cases assignAddrs rest (o + s.pkg.size) <;> rfl

theorem assignAddrs_none_ok {s : Stmt} {rest as : List Stmt} {a : Nat} (h0 : s.pkg.address = .none)
    (h : assignAddrs (s :: rest) a = .ok as) :
    ∃ v r, numV a = .ok v ∧ assignAddrs rest (a + s.pkg.size) = .ok r ∧
      as = { s with pkg := { s.pkg with address := v } } :: r := by
  rw [assignAddrs_cons_eq, placeOne_none h0, Outcome.bind_map_left] at h
  obtain ⟨v, hv, h⟩ := Outcome.bind_eq_ok h
  obtain ⟨r, hr, rfl⟩ := Outcome.map_eq_ok h
  exact ⟨v, r, Outcome.ofR_eq_ok hv, hr, rfl⟩

theorem assignAddrs_numeric_ok {s : Stmt} {rest as : List Stmt} {a o : Nat} {hh : Option Nat} {m : Mode} {n : Bool}
    (h0 : s.pkg.address = .numeric o hh m n) (h : assignAddrs (s :: rest) a = .ok as) :
    ∃ r, assignAddrs rest (o + s.pkg.size) = .ok r ∧ as = s :: r := by
  rw [assignAddrs_cons_eq, placeOne_numeric h0, Outcome.ok_bind] at h
  obtain ⟨r, hr, rfl⟩ := Outcome.map_eq_ok h
  exact ⟨r, hr, rfl⟩

theorem assignAddrs_head_preset {s : Stmt} {rest : List Stmt} {o : Nat} {hh : Option Nat} {m : Mode} {n : Bool}
    (h : s.pkg.address = .numeric o hh m n) (a b : Nat) :
    assignAddrs (s :: rest) a = assignAddrs (s :: rest) b := by
  rw [assignAddrs_cons_eq, assignAddrs_cons_eq, placeOne_numeric h, placeOne_numeric h]

theorem numV_ok_iff (a : Nat) : (∃ v, numV a = .ok v) ↔ a < 65536 :=
  ⟨fun ⟨_, h⟩ => by obtain ⟨_, _, _, hle⟩ := numV_eq h; omega, fun h => numV_ok (by omega)⟩

theorem numV_error {a : Nat} (h : ¬ a < 65536) : ∃ e, numV a = .error e :=
  ⟨_, numericOfInt_big (by omega) _ _⟩

/-- from the relocated layout back to the original one: no side condition -/
theorem assignAddrs_reloc_bwd (D : Nat) : ∀ (ss ss' : List Stmt) (a : Nat) (as' : List Stmt),
    PW (OrgShift D) ss ss' → assignAddrs ss' (a + D) = .ok as' →
    ∃ as, assignAddrs ss a = .ok as ∧ PW (AddrShiftI D) as as' := by
  intro ss
  induction ss with
  | nil =>
    intro ss' a as' hpw h
    rw [hpw.nil_left] at h
    cases h
    exact ⟨[], rfl, .nil⟩
  | cons s rest ih =>
    intro ss' a as' hpw h
    obtain ⟨s', rest', rfl, ⟨hsz, hcase⟩, hrest⟩ := hpw.cons_left
    rcases hcase with ⟨h0, h0'⟩ | ⟨o, hh, m, n, h0, h0'⟩
    · obtain ⟨v', r', hv', hr', rfl⟩ := assignAddrs_none_ok h0' h
      have hlt : a + D < 65536 := (numV_ok_iff (a + D)).mp ⟨v', hv'⟩
      obtain ⟨v, hv⟩ := (numV_ok_iff a).mpr (by omega)
      rw [hsz, Nat.add_right_comm] at hr'
      obtain ⟨r, hr, hpr⟩ := ih _ _ _ hrest hr'
      refine ⟨{ s with pkg := { s.pkg with address := v } } :: r, by rw [assignAddrs_none h0, hv, hr],
        .cons ⟨hsz, a, ?_, ?_⟩ hpr⟩
      · simpa [addrNat] using numV_int hv
      · simpa [addrNat] using numV_int hv'
    · obtain ⟨r', hr', rfl⟩ := assignAddrs_numeric_ok h0' h
      rw [hsz, Nat.add_right_comm] at hr'
      obtain ⟨r, hr, hpr⟩ := ih _ _ _ hrest hr'
      exact ⟨s :: r, by rw [assignAddrs_numeric h0, hr],
        .cons ⟨hsz, o, by simp [addrNat, h0, Value.int?], by simp [addrNat, h0', Value.int?]⟩ hpr⟩

/-- from the original layout to the relocated one: every address must stay below `$10000` -/
theorem assignAddrs_reloc_fwd (D : Nat) : ∀ (ss ss' : List Stmt) (a : Nat) (as : List Stmt),
    PW (OrgShift D) ss ss' → assignAddrs ss a = .ok as →
    (∀ s ∈ as, ∀ n, addrNat s = some n → n + D < 65536) →
    ∃ as', assignAddrs ss' (a + D) = .ok as' ∧ PW (AddrShiftI D) as as' := by
  intro ss
  induction ss with
  | nil =>
    intro ss' a as hpw h _
    rw [hpw.nil_left]
    cases h
    exact ⟨[], rfl, .nil⟩
  | cons s rest ih =>
    intro ss' a as hpw h hb
    obtain ⟨s', rest', rfl, ⟨hsz, hcase⟩, hrest⟩ := hpw.cons_left
    rcases hcase with ⟨h0, h0'⟩ | ⟨o, hh, m, n, h0, h0'⟩
    · obtain ⟨v, r, hv, hr, rfl⟩ := assignAddrs_none_ok h0 h
      have hlt : a + D < 65536 :=
        hb { s with pkg := { s.pkg with address := v } } (by simp) a (by simpa [addrNat] using numV_int hv)
      obtain ⟨v', hv'⟩ := (numV_ok_iff (a + D)).mpr hlt
      obtain ⟨r', hr', hpr⟩ := ih _ _ _ hrest hr (fun x hx => hb x (by simp [hx]))
      refine ⟨{ s' with pkg := { s'.pkg with address := v' } } :: r',
        by rw [assignAddrs_none h0', hv', hsz, Nat.add_right_comm, hr'], .cons ⟨hsz, a, ?_, ?_⟩ hpr⟩
      · simpa [addrNat] using numV_int hv
      · simpa [addrNat] using numV_int hv'
    · obtain ⟨r, hr, rfl⟩ := assignAddrs_numeric_ok h0 h
      obtain ⟨r', hr', hpr⟩ := ih _ _ _ hrest hr (fun x hx => hb x (by simp [hx]))
      exact ⟨s' :: r', by rw [assignAddrs_numeric h0', hsz, Nat.add_right_comm, hr'],
        .cons ⟨hsz, o, by simp [addrNat, h0, Value.int?], by simp [addrNat, h0', Value.int?]⟩ hpr⟩

/-- when both layouts exist, the address VALUES correspond by `Rv`, provided the two renderings `numV a`, `numV (a + D)` do
so for every running address (`P a`: an invariant of the running address that the presets establish and that survives
adding a size) and the preset values do -/
theorem assignAddrs_reloc_rel (D : Nat) {P : Nat → Prop} {Rv : Value → Value → Prop} (hP : ∀ a k, P a → P (a + k))
    (hnum : ∀ a v v', P a → numV a = .ok v → numV (a + D) = .ok v' → Rv v v') :
    ∀ (ss ss' : List Stmt) (a : Nat) (as as' : List Stmt), PW (OrgShift D) ss ss' →
    (∀ s ∈ ss, ∀ o h m n, s.pkg.address = .numeric o h m n → P o ∧ Rv (.numeric o h m n) (.numeric (o + D) h m n)) →
    (P a ∨ ∃ s0 r0 o h m n, ss = s0 :: r0 ∧ s0.pkg.address = .numeric o h m n) →
    assignAddrs ss a = .ok as → assignAddrs ss' (a + D) = .ok as' →
    PW (fun s s' => s'.pkg.size = s.pkg.size ∧ Rv s.pkg.address s'.pkg.address) as as' := by
  intro ss
  induction ss with
  | nil =>
    intro ss' a as as' hpw _ _ h h'
    rw [hpw.nil_left] at h'
    cases h; cases h'
    exact .nil
  | cons s rest ih =>
    intro ss' a as as' hpw hpre ha h h'
    obtain ⟨s', rest', rfl, ⟨hsz, hcase⟩, hrest⟩ := hpw.cons_left
    have hpre' := fun x hx => hpre x (List.mem_cons_of_mem _ hx)
    rcases hcase with ⟨h0, h0'⟩ | ⟨o, hh, m, n, h0, h0'⟩
    · have hPa : P a := ha.resolve_right (by
        rintro ⟨s0, r0, o, hh, m, n, he, h1⟩
        cases he; rw [h0] at h1; cases h1)
      obtain ⟨v, r, hv, hr, rfl⟩ := assignAddrs_none_ok h0 h
      obtain ⟨v', r', hv', hr', rfl⟩ := assignAddrs_none_ok h0' h'
      rw [hsz, Nat.add_right_comm] at hr'
      exact .cons ⟨hsz, hnum a v v' hPa hv hv'⟩ (ih _ _ _ _ hrest hpre' (.inl (hP _ _ hPa)) hr hr')
    · obtain ⟨hPo, hRo⟩ := hpre s (List.mem_cons_self ..) o hh m n h0
      obtain ⟨r, hr, rfl⟩ := assignAddrs_numeric_ok h0 h
      obtain ⟨r', hr', rfl⟩ := assignAddrs_numeric_ok h0' h'
      rw [hsz, Nat.add_right_comm] at hr'
      exact .cons ⟨hsz, by rw [h0, h0']; exact hRo⟩ (ih _ _ _ _ hrest hpre' (.inl (hP _ _ hPo)) hr hr')

theorem assignAddrs_reloc_wide (D : Nat) : ∀ (ss ss' : List Stmt) (a : Nat) (as as' : List Stmt),
    PW (OrgShift D) ss ss' → (∀ s ∈ ss, OrgWide s) →
    (256 ≤ a ∨ ∃ s0 r0 o h m n, ss = s0 :: r0 ∧ s0.pkg.address = .numeric o h m n) →
    (∀ s ∈ ss, ∀ o h m n, s.pkg.address = .numeric o h m n → 256 ≤ o ∧ o + D < 65536) →
    assignAddrs ss a = .ok as → assignAddrs ss' (a + D) = .ok as' → PW (AddrShift D) as as' := by
  intro ss ss' a as as' hpw hw ha ho h h'
  refine assignAddrs_reloc_rel D (P := fun a => 256 ≤ a) (Rv := WideAddr D) (fun _ _ h => by omega) ?_
    ss ss' a as as' hpw ?_ ha h h'
  · intro a v v' ha256 hv hv'
    have hlt : a + D < 65536 := (numV_ok_iff (a + D)).mp ⟨v', hv'⟩
    rw [numV_word ha256 (by omega)] at hv
    rw [numV_word (by omega) hlt] at hv'
    cases hv; cases hv'
    exact ⟨a, none, .extended, rfl, rfl, .inr ⟨rfl, ha256⟩, hlt⟩
  · intro s hs o hh m n h0
    obtain ⟨ho256, hoD⟩ := ho s hs o hh m n h0
    obtain ⟨rfl, rfl⟩ := (hw s hs).shape h0
    exact ⟨ho256, o, some 4, m, rfl, rfl, .inl rfl, hoD⟩

theorem assignAddrs_reloc_any (D : Nat) : ∀ (ss ss' : List Stmt) (a : Nat) (as as' : List Stmt),
    PW (OrgShift D) ss ss' → (∀ s ∈ ss, OrgWide s) →
    (∀ s ∈ ss, ∀ o h m n, s.pkg.address = .numeric o h m n → o + D < 65536) →
    assignAddrs ss a = .ok as → assignAddrs ss' (a + D) = .ok as' → PW (AddrShiftAny D) as as' := by
  intro ss ss' a as as' hpw hw ho h h'
  refine assignAddrs_reloc_rel D (P := fun _ => True) (Rv := IntAddr D) (fun _ _ _ => trivial) ?_
    ss ss' a as as' hpw ?_ (.inl trivial) h h'
  · intro a v v' _ hv hv'
    obtain ⟨g, m, rfl, _⟩ := numV_eq hv
    obtain ⟨g', m', rfl, _⟩ := numV_eq hv'
    exact ⟨a, g, m, g', m', rfl, rfl, (numV_ok_iff (a + D)).mp ⟨_, hv'⟩⟩
  · intro s hs o hh m n h0
    obtain ⟨_, rfl⟩ := (hw s hs).shape h0
    exact ⟨trivial, o, hh, m, hh, m, rfl, rfl, ho s hs o hh m _ h0⟩

section lookups
variable {D : Nat} {as as' : List Stmt}

theorem AddrShiftI.sizes (h : PW (AddrShiftI D) as as') : PW (fun s s' => s'.pkg.size = s.pkg.size) as as' :=
  h.mono (fun _ _ r => r.1)

theorem sumSize_reloc (h : PW (AddrShiftI D) as as') (lo hi : Nat) : sumSize as' lo hi = sumSize as lo hi :=
  sumSize_congr (AddrShiftI.sizes h) lo hi

theorem addrIntOf_reloc (h : PW (AddrShiftI D) as as') (j : Nat) :
    addrIntOf as' j = (addrIntOf as j).map (· + D) := by
  rw [addrIntOf_eq, addrIntOf_eq]
  rcases h.getElem? j with ⟨e, e'⟩ | ⟨s, s', e, e', _, a, h1, h2⟩
  · rw [e, e']; rfl
  · rw [e, e', Option.bind_some, Option.bind_some, h1, h2]; rfl

theorem addrOf_reloc (h : PW (AddrShift D) as as') (j : Nat) :
    addrOf as' j = (addrOf as j).map (shiftV D) := by
  rcases addrOf_rel (h.mono fun _ _ r => r.2) j with ⟨e, e'⟩ | ⟨v, v', e, e', hw⟩
  · rw [e, e']; rfl
  · rw [e, e', hw.shiftV]; rfl

theorem addrOf_reloc_any (h : PW (AddrShiftAny D) as as') (j : Nat) :
    (addrOf as j = none ∧ addrOf as' j = none) ∨
    ∃ v v', addrOf as j = some v ∧ addrOf as' j = some v' ∧ IntAddr D v v' :=
  addrOf_rel (h.mono fun _ _ r => r.2) j

theorem addrOf_isSome_reloc (h : PW (AddrShiftI D) as as') (j : Nat) :
    (addrOf as' j).isSome = (addrOf as j).isSome := by
  rcases addrOf_rel (Rv := fun _ _ => True) (h.mono fun _ _ _ => trivial) j with ⟨e, e'⟩ | ⟨v, v', e, e', _⟩
  · rw [e, e']
  · rw [e, e']; rfl

theorem addrIntOf_bound (h : PW (AddrShiftAny D) as as') {t a : Nat} (ha : addrIntOf as t = some a) :
    a + D < 65536 := by
  obtain ⟨s, hs, hn⟩ := addrIntOf_eq_some.1 ha
  obtain ⟨s', _, hr⟩ := h.get hs
  obtain ⟨x, hx, _, hlt⟩ := hr.2.int
  rw [addrNat, hx] at hn
  cases hn
  exact hlt

end lookups

end CoCo.Asm
