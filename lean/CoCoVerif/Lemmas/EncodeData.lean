/-
Lemmas/EncodeData.lean — the data directives (FCB FDB RMB FCC and the directives that emit nothing):
what `translatePseudo` builds for each mnemonic, what `emitValue` reads back from the values it
builds, and what the multi-value parser (`multi`, `elemHex`) prints for decimal literals, at the width of FCB or FDB
(`FieldKind`: one statement for both).
-/
import CoCoVerif.Lemmas.CreateLit
import CoCoVerif.Lemmas.FitWidth

namespace CoCo.Asm
open CoCo
open CoCo.Gen (InstrRow)

theorem stmtBytes_additional (s : Stmt) (h1 : s.pkg.opCode = .none) (h2 : s.pkg.postByte = .none) :
    stmtBytes s = emitValue s.pkg.additional := by
  simp only [stmtBytes, h1, h2, emitValue_none]
  cases emitValue s.pkg.additional <;> rfl

/-- every value except Python `None` has an `.int` and a `hex_len()` -/
theorem int_byteLen_of_ne_pyNone (v : Value) (h : v ≠ .pyNone) :
    ∃ i bl, v.int? = some i ∧ v.byteLen? = some bl := by
  cases v <;> simp_all [Value.int?, Value.byteLen?, Value.hexLen?, Value.hex?]

/-! `translatePseudo`, mnemonic by mnemonic.  A single FCB / FDB value is handed on AS IT IS (size 1 / 2) and rendered
at the directive's width by `fitWidth` after the address pass; RMB and ORG insist on a non-negative number. -/

/-- Python `None` (a symbol without a value) under FCB FDB RMB ORG: an attribute error -/
theorem translatePseudo_pyNone (o : Operand) (row : InstrRow) (h : o.value = .pyNone)
    (hm : row.mnemonic = "FCB" ∨ row.mnemonic = "FDB" ∨ row.mnemonic = "RMB" ∨ row.mnemonic = "ORG") :
    translatePseudo o row = .error .other := by
  rcases hm with hm | hm | hm | hm <;> simp [translatePseudo, h, hm] <;> rfl

theorem translatePseudo_FCB_single {o : Operand} {row : InstrRow} (hm : row.mnemonic = "FCB")
    (hv : o.value ≠ .pyNone) (hnm : o.value.isMultiByte = false) :
    translatePseudo o row = .ok { additional := o.value, size := 1, maxSize := 1 } := by
  -- the `None` guard (a match on `o.value`) is discharged by `hv` from the context
  simp [translatePseudo, hm, hnm]
  rfl

theorem translatePseudo_FCB_multi {o : Operand} {row : InstrRow} {bl : Nat} (hm : row.mnemonic = "FCB")
    (hb : o.value.byteLen? = some bl) (hnm : o.value.isMultiByte = true) :
    translatePseudo o row = .ok { additional := o.value, size := bl, maxSize := bl } := by
  have hv : o.value ≠ .pyNone := fun e => by rw [e] at hnm; cases hnm
  simp [translatePseudo, hm, hnm, hb]
  rfl

theorem translatePseudo_FDB_single {o : Operand} {row : InstrRow} (hm : row.mnemonic = "FDB")
    (hv : o.value ≠ .pyNone) (hnm : o.value.isMultiWord = false) :
    translatePseudo o row = .ok { additional := o.value, size := 2, maxSize := 2 } := by
  simp [translatePseudo, hm, hnm]
  rfl

theorem translatePseudo_FDB_multi {o : Operand} {row : InstrRow} {bl : Nat} (hm : row.mnemonic = "FDB")
    (hb : o.value.byteLen? = some bl) (hnm : o.value.isMultiWord = true) :
    translatePseudo o row = .ok { additional := o.value, size := bl, maxSize := bl } := by
  have hv : o.value ≠ .pyNone := fun e => by rw [e] at hnm; cases hnm
  simp [translatePseudo, hm, hnm, hb]
  rfl

theorem translatePseudo_RMB {o : Operand} {row : InstrRow} {n : Nat} {h : Option Nat} {m : Mode}
    (hm : row.mnemonic = "RMB") (hv : o.value = .numeric n h m false) :
    translatePseudo o row = .ok { additional := .numeric 0 (some (n * 2)) .extended false, size := n, maxSize := n } := by
  simp [translatePseudo, hm, hv, Value.isNumeric, Value.isNegative, Value.int?, numericOfInt_of_le, initHint_none, postInit_hint]
  rfl

/-- `RMB -n`: "not a number of bytes to reserve" -/
theorem translatePseudo_RMB_neg {o : Operand} {row : InstrRow} {n : Nat} {h : Option Nat} {m : Mode}
    (hm : row.mnemonic = "RMB") (hv : o.value = .numeric n h m true) :
    translatePseudo o row = .error .operandType := by
  simp [translatePseudo, hm, hv, Value.isNumeric, Value.isNegative]
  rfl

/-- RMB of anything that is not a number (an unresolved symbol, a string, a label …) -/
theorem translatePseudo_RMB_nonNumeric {o : Operand} {row : InstrRow} (hm : row.mnemonic = "RMB")
    (hv : o.value ≠ .pyNone) (hn : o.value.isNumeric = false) :
    translatePseudo o row = .error .operandType := by
  simp [translatePseudo, hm, hn]
  rfl

theorem translatePseudo_ORG {o : Operand} {row : InstrRow} {n : Nat} {h : Option Nat} {m : Mode}
    (hm : row.mnemonic = "ORG") (hv : o.value = .numeric n h m false) :
    translatePseudo o row = .ok { address := o.value } := by
  simp [translatePseudo, hm, hv, Value.isNumeric, Value.isNegative]
  rfl

/-- `ORG -n`: "not an address" -/
theorem translatePseudo_ORG_neg {o : Operand} {row : InstrRow} {n : Nat} {h : Option Nat} {m : Mode}
    (hm : row.mnemonic = "ORG") (hv : o.value = .numeric n h m true) :
    translatePseudo o row = .error .operandType := by
  simp [translatePseudo, hm, hv, Value.isNumeric, Value.isNegative]
  rfl

theorem translatePseudo_ORG_nonNumeric {o : Operand} {row : InstrRow} (hm : row.mnemonic = "ORG")
    (hv : o.value ≠ .pyNone) (hn : o.value.isNumeric = false) :
    translatePseudo o row = .error .operandType := by
  simp [translatePseudo, hm, hn]
  rfl

theorem translatePseudo_FCC {o : Operand} {row : InstrRow} {bl : Nat} (hm : row.mnemonic = "FCC")
    (hb : o.value.byteLen? = some bl) :
    translatePseudo o row = .ok { additional := o.value, size := bl, maxSize := bl } := by
  simp [translatePseudo, hm, hb]
  rfl

/-- every other pseudo mnemonic (EQU SETDP NAM END INCLUDE SET): the empty package, whatever the value -/
theorem translatePseudo_other {o : Operand} {row : InstrRow}
    (h1 : row.mnemonic ≠ "FCB") (h2 : row.mnemonic ≠ "FDB") (h3 : row.mnemonic ≠ "RMB")
    (h4 : row.mnemonic ≠ "ORG") (h5 : row.mnemonic ≠ "FCC") :
    translatePseudo o row = .ok {} := by
  simp [translatePseudo, h1, h2, h3, h4, h5]
  rfl

/-- `NumericValue(0, size_hint=2n)`: `n` zero bytes -/
theorem emit_zeros (n : Nat) (m : Mode) : emitValue (.numeric 0 (some (n * 2)) m false) = some (List.replicate n 0) := by
  rw [Nat.mul_comm, emit_hinted m (Nat.pow_pos (by decide)) (by decide), bytesBE_zero]

theorem natHexF_two {v : Nat} (h1 : 16 ≤ v) (h2 : v < 256) : natHexF 20 v = [v / 16, v % 16] := by
  have a : ¬ v < 16 := by omega
  have b : v / 16 < 16 := by omega
  simp [natHexF, a, b]

/-- a decimal literal with an optional minus sign -/
def sdec (e : Bool × Str) : Str := if e.1 then '-' :: e.2 else e.2

theorem sdec_ne_nil {e : Bool × Str} (hx : IsDecLit e.2) : sdec e ≠ [] := by
  unfold sdec; split
  · simp
  · exact hx.1

theorem sdec_no_comma {e : Bool × Str} (hx : IsDecLit e.2) : ',' ∉ sdec e := by
  have := decLit_no_comma hx
  unfold sdec; split
  · simpa using this
  · exact this

/-- `NumericValue` of a signed decimal text: a number of that sign if within −32768 … 65535 (the range `fitsWord`),
else refused -/
theorem numericOfStr_sdec {e : Bool × Str} (hx : IsDecLit e.2) (sizeHint : Option Nat) (mode : Mode) :
    (fitsWord (parseBase 10 e.2) e.1 = true →
      ∃ h m, numericOfStr (sdec e) sizeHint mode = .ok (.numeric (parseBase 10 e.2) h m e.1)) ∧
    (fitsWord (parseBase 10 e.2) e.1 = false → numericOfStr (sdec e) sizeHint mode = .error .valueType) := by
  obtain ⟨neg, ds⟩ := e
  dsimp only at hx ⊢
  cases neg
  · simp only [sdec, fitsWord, Bool.false_eq_true, if_false, decide_eq_true_eq, decide_eq_false_iff_not]
    rw [numericOfStr_decLit hx]
    exact ⟨fun h => ⟨_, _, if_neg (by omega)⟩, fun h => if_pos (by omega)⟩
  · simp only [sdec, fitsWord, if_true, decide_eq_true_eq, decide_eq_false_iff_not]
    rw [numericOfStr_minus, if_pos hx.cond]
    exact ⟨fun h => ⟨_, _, if_neg (by omega)⟩, fun h => if_pos (by omega)⟩

/-- an element that is not a number at all (a symbol, an expression): refused by `elemHex` (`elemHexP` keeps its place) -/
theorem elemHex_nonNumeric {w : Nat} {x : Str} {e : Exn} (hn : numericOfStr x none .none = .error e) :
    elemHex w x = .error e := by
  simp [elemHex, hn]

/-- the two operand fields of the data directives: `w` hex digits, with the range test, the two's complement value and
the digits at that width (FCB: −128..255 in two digits; FDB: −32768..65535 in four) -/
inductive FieldKind : Nat → (Nat → Bool → Bool) → (Nat → Bool → Nat) → (Nat → Str) → Prop
  | byte : FieldKind 2 fitsByte byteField byteHex
  | word : FieldKind 4 fitsWord wordField wordHex

section
variable {w : Nat} {fits : Nat → Bool → Bool} {field : Nat → Bool → Nat} {hex : Nat → Str} (k : FieldKind w fits field hex)
include k

/-- a number in the range of the field: `fit(w)` takes it, and `hex()` of the result is the field's digits -/
theorem FieldKind.fit {n : Nat} {neg : Bool} (h : fits n neg = true) :
    ∃ f, fitNum n neg w = .ok f ∧ f.hex? = some (hex (field n neg)) := by
  cases k
  · exact ⟨_, fitNum_byte h, by rw [hex_hinted (by decide), fmtHex_byte (byteField_lt h)]⟩
  · exact ⟨_, fitNum_word h, by rw [hex_hinted (by decide), fmtHex_word (wordField_lt h)]; rfl⟩

/-- a number outside the range: "does not fit" -/
theorem FieldKind.misfit {n : Nat} {neg : Bool} (h : fits n neg = false) : fitNum n neg w = .error .valueType := by
  cases k
  · exact fitNum_byte_err h
  · exact fitNum_word_err h

theorem FieldKind.fitsWord {n : Nat} {neg : Bool} (h : fits n neg = true) : fitsWord n neg = true := by
  cases k
  · cases neg <;>
      simp only [fitsByte, CoCo.Asm.fitsWord, Bool.false_eq_true, if_false, if_true, decide_eq_true_eq] at h ⊢ <;> omega
  · exact h

/-- a literal is printed as its field's two's complement if it fits, and refused ("does not fit") if not -/
theorem elemHex_fits {x : Str} {i : Nat} {h : Option Nat} {m : Mode} {neg : Bool}
    (hn : numericOfStr x none .none = .ok (.numeric i h m neg)) :
    elemHex w x = if fits i neg then .ok (hex (field i neg)) else .error .valueType := by
  cases hf : fits i neg
  · simp [elemHex, hn, k.misfit hf]
  · obtain ⟨f, h1, h2⟩ := k.fit hf
    simp [elemHex, hn, h1, h2]

theorem elemHex_sdec {e : Bool × Str} (hx : IsDecLit e.2) :
    elemHex w (sdec e) = if fits (parseBase 10 e.2) e.1 then .ok (hex (field (parseBase 10 e.2) e.1))
                          else .error .valueType := by
  cases hw : CoCo.Asm.fitsWord (parseBase 10 e.2) e.1
  · rw [elemHex_nonNumeric ((numericOfStr_sdec hx none .none).2 hw),
      Bool.eq_false_iff.2 fun hf => Bool.false_ne_true (hw ▸ k.fitsWord hf)]
    rfl
  · obtain ⟨h, m, hn⟩ := (numericOfStr_sdec hx none .none).1 hw
    exact elemHex_fits k hn

end

theorem elemHex_word_err {x : Str} {i : Nat} {h : Option Nat} {m : Mode} {neg : Bool}
    (hn : numericOfStr x none .none = .ok (.numeric i h m neg)) (hf : fitsWord i neg = false) :
    elemHex 4 x = .error .valueType := by
  rw [elemHex_fits .word hn, hf]
  rfl

theorem elemHexP_of_ok {w : Nat} {x h : Str} (he : elemHex w x = .ok h) : elemHexP w x = .ok h := by
  simp [elemHexP, he]

theorem elemHexP_of_not_pending {w : Nat} {x : Str} (hp : pendingElem x = false) : elemHexP w x = elemHex w x := by
  unfold elemHexP
  cases elemHex w x <;> simp [hp]

/-- a pending element (a symbol, an expression) that is not a literal holds its place with `w` zeros -/
theorem elemHexP_pending {w : Nat} {x : Str} {e : Exn} (he : elemHex w x = .error e) (hp : pendingElem x = true) :
    elemHexP w x = .ok (List.replicate w '0') := by
  simp [elemHexP, he, hp]

/-- for a list of LITERALS `multi` is `elemHex` mapped over the elements: if `elemHex` renders every element,
`elemHexP` does no more -/
theorem multi_eq_of_literals {w : Nat} {value : Str} (hl : ∀ x ∈ listElems value, ∃ h, elemHex w x = .ok h) :
    multi w value = if !(value.contains ',') then .error .valueType else (listElems value).mapM (elemHex w) := by
  unfold multi
  split
  · rfl
  · exact mapM_congr_mem fun x hx => by obtain ⟨h, hh⟩ := hl x hx; rw [elemHexP_of_ok hh, hh]

theorem listElems_joinWith (lits : List Str) (hne : lits ≠ []) (hl : ∀ x ∈ lits, x ≠ [] ∧ ',' ∉ x) :
    listElems (joinWith ',' lits) = lits := by
  unfold listElems
  rw [splitOn_joinWith ',' lits hne (fun p hp => (hl p hp).2)]
  apply List.filter_eq_self.mpr
  intro p hp
  have := (hl p hp).1
  simpa using this

/-- `multi w "e1,e2,...,en"` (at least two nonempty comma-free elements): element by element -/
theorem multi_of_elems {w : Nat} (lits : List Str) (h2 : 2 ≤ lits.length)
    (hl : ∀ x ∈ lits, x ≠ [] ∧ ',' ∉ x) : multi w (joinWith ',' lits) = lits.mapM (elemHexP w) := by
  obtain ⟨a, b, t, rfl⟩ : ∃ a b t, lits = a :: b :: t := by
    match lits, h2 with
    | a :: b :: t, _ => exact ⟨a, b, t, rfl⟩
  have hc := contains_joinWith ',' a b t
  unfold multi
  rw [hc, listElems_joinWith (a :: b :: t) (by simp) hl]
  simp

/-- a list whose elements are the texts `f a`, each rendered by `elemHex` as `g a`: the renderings -/
theorem multi_of_rendered {α : Type} {w : Nat} (f g : α → Str) (as : List α) (h2 : 2 ≤ as.length)
    (hl : ∀ a ∈ as, f a ≠ [] ∧ ',' ∉ f a) (he : ∀ a ∈ as, elemHex w (f a) = .ok (g a)) :
    multi w (joinWith ',' (as.map f)) = .ok (as.map g) := by
  rw [multi_of_elems (as.map f) (by simpa using h2) ?_, List.mapM_map]
  · exact mapM_ok_of_forall fun a ha => elemHexP_of_ok (he a ha)
  · intro x hx
    obtain ⟨a, ha, rfl⟩ := List.mem_map.mp hx
    exact hl a ha

/-- as soon as one element that is not pending is refused by `elemHex`, the whole list is refused -/
theorem multi_of_refused {α : Type} {w : Nat} (f : α → Str) (as : List α) (h2 : 2 ≤ as.length)
    (hl : ∀ a ∈ as, f a ≠ [] ∧ ',' ∉ f a) {a : α} (ha : a ∈ as) (hp : pendingElem (f a) = false) {e : Exn}
    (he : elemHex w (f a) = .error e) : ∃ err, multi w (joinWith ',' (as.map f)) = .error err := by
  rw [multi_of_elems (as.map f) (by simpa using h2)
    (by intro x hx; obtain ⟨a', ha', rfl⟩ := List.mem_map.mp hx; exact hl a' ha')]
  exact mapM_error_of_mem (List.mem_map.mpr ⟨a, ha, rfl⟩)
    (by rw [elemHexP_of_not_pending hp, he])

/-- `FCB e1,...,en` / `FDB e1,...,en` with signed decimal elements that all fit: the two's complement fields -/
theorem multi_sdec {w : Nat} {fits : Nat → Bool → Bool} {field : Nat → Bool → Nat} {hex : Nat → Str}
    (k : FieldKind w fits field hex) (lits : List (Bool × Str)) (h2 : 2 ≤ lits.length)
    (hl : ∀ e ∈ lits, IsDecLit e.2 ∧ fits (parseBase 10 e.2) e.1 = true) :
    multi w (joinWith ',' (lits.map sdec)) = .ok ((lits.map (fun e => field (parseBase 10 e.2) e.1)).map hex) := by
  rw [List.map_map]
  exact multi_of_rendered sdec _ lits h2 (fun e he => ⟨sdec_ne_nil (hl e he).1, sdec_no_comma (hl e he).1⟩)
    (fun e he => by rw [elemHex_sdec k (hl e he).1, if_pos (hl e he).2]; rfl)

theorem createOperand_multiByte {row : InstrRow} (hp : row.isPseudo = true) (hd : row.isPseudoDefine = false)
    (hmb : row.isMultiByte = true) {s : Str} (hc : s.contains ',' = true) {hs : List Str}
    (hm : multi 2 s = .ok hs) :
    createOperand s row = .ok { kind := .pseudo, text := s, value := .multiByte hs } := by
  have hc' : ',' ∈ s := by simpa using hc
  simp [createOperand, hp, hd, hmb, hc', hm, Except.map]

theorem createOperand_multiWord {row : InstrRow} (hp : row.isPseudo = true) (hd : row.isPseudoDefine = false)
    (hmb : row.isMultiByte = false) (hmw : row.isMultiWord = true) {s : Str} (hc : s.contains ',' = true)
    {hs : List Str} (hm : multi 4 s = .ok hs) :
    createOperand s row = .ok { kind := .pseudo, text := s, value := .multiWord hs } := by
  have hc' : ',' ∈ s := by simpa using hc
  simp [createOperand, hp, hd, hmb, hmw, hc', hm, Except.map]

/-- a refused list refuses the line: `PseudoOperand.__init__` raises -/
theorem createOperand_multiByte_reject {row : InstrRow} (hp : row.isPseudo = true)
    (hmb : row.isMultiByte = true) {s : Str} (hc : s.contains ',' = true) {e : Exn}
    (hm : multi 2 s = .error e) : createOperand s row = .error e := by
  have hc' : ',' ∈ s := by simpa using hc
  simp [createOperand, hp, hmb, hc', hm, Except.map]

theorem createOperand_multiWord_reject {row : InstrRow} (hp : row.isPseudo = true)
    (hmb : row.isMultiByte = false) (hmw : row.isMultiWord = true) {s : Str} (hc : s.contains ',' = true) {e : Exn}
    (hm : multi 4 s = .error e) : createOperand s row = .error e := by
  have hc' : ',' ∈ s := by simpa using hc
  simp [createOperand, hp, hmb, hmw, hc', hm, Except.map]

/-- `PseudoOperand(d)` for a decimal literal, for every pseudo row that is not EQU / INCLUDE / END / FCC -/
theorem createOperand_pseudo_dec {row : InstrRow} (hp : row.isPseudo = true) (hd : row.isPseudoDefine = false)
    (hinc : row.isInclude = false) (hend : row.mnemonic ≠ "END") (hsd : row.isStringDefine = false)
    (h16 : row.is16Bit = false) {x : Str} (hx : IsDecLit x) (hv : parseBase 10 x < 65536) :
    createOperand x row =
      .ok { kind := .pseudo, text := x, value := .numeric (parseBase 10 x) (some 4) .extended false } := by
  have hcomma : ',' ∉ x := decLit_no_comma hx
  have hcv := createV_decLit hx hv false
  simp [createOperand, hp, hd, hinc, hend, hsd, h16, hcomma, hcv]

theorem createOperand_pseudo_neg {row : InstrRow} (hp : row.isPseudo = true) (hd : row.isPseudoDefine = false)
    (hinc : row.isInclude = false) (hsd : row.isStringDefine = false)
    (h16 : row.is16Bit = false) {ds : Str} (hx : IsDecLit ds) (hv : parseBase 10 ds ≤ 32768) :
    createOperand ('-' :: ds) row =
      .ok { kind := .pseudo, text := '-' :: ds, value := .numeric (parseBase 10 ds) (some 4) .extended true } := by
  have hcomma : ',' ∉ ds := decLit_no_comma hx
  have hcv := createV_neg hx hv
  simp [createOperand, hp, hd, hinc, hsd, h16, hcomma, hcv]

/-- a decimal literal below 65536 is a number: not pending -/
theorem pendingElem_dec {x : Str} (hx : IsDecLit x) (hv : parseBase 10 x < 65536) : pendingElem x = false := by
  have := createV_decLit hx hv false
  unfold createV at this
  simp [pendingElem, this, Value.isSymbol, Value.isExpression]

/-- a text with a leading minus sign is a number or an error, never a symbol or an expression: not pending -/
theorem pendingElem_neg {ds : Str} (hx : IsDecLit ds) : pendingElem ('-' :: ds) = false := by
  unfold pendingElem
  rw [create_negLit hx]
  cases hn : numericOfStr ('-' :: ds) (if false = true then some 4 else none) (if true = true then Mode.extended else Mode.none) with
  | error e => rfl
  | ok v => obtain ⟨_, _, _, _, rfl⟩ := numericOfStr_numeric hn; rfl

/-- a signed decimal text that the parser reads as a NUMBER (a minus sign, or below 65536): not pending -/
theorem pendingElem_sdec {e : Bool × Str} (hx : IsDecLit e.2) (hn : e.1 = true ∨ parseBase 10 e.2 < 65536) :
    pendingElem (sdec e) = false := by
  obtain ⟨neg, ds⟩ := e
  cases neg
  · rcases hn with hn | hn
    · cases hn
    · exact pendingElem_dec hx hn
  · exact pendingElem_neg hx

/-- ... whereas an unsigned run of digits from 65536 on is not a number to `Value.create_from_str`: it is taken as a
SYMBOL of that name (as `FDB 70000` is, `C05_finding_FDB_70000_fixed`), so inside a list it is pending and is
refused only when the list is evaluated (the symbol is undefined), not when the line is parsed -/
theorem pendingElem_dec_big {x : Str} (hx : IsDecLit x) (hv : 65536 ≤ parseBase 10 x) : pendingElem x = true := by
  unfold pendingElem
  rw [create_decLit hx, numericOfStr_dec_big hx _ _ hv]
  rfl

/-- as soon as one element THAT THE PARSER READS AS A NUMBER (`hn`: a minus sign, or below 65536) does not fit, the
whole line is refused (for FDB what remains are the negatives below −32768).  (An unsigned run of digits from 65536 on
is a symbol name to the parser — `pendingElem_dec_big` — and is refused only when the list is evaluated.) -/
theorem multi_sdec_reject {w : Nat} {fits : Nat → Bool → Bool} {field : Nat → Bool → Nat} {hex : Nat → Str}
    (k : FieldKind w fits field hex) (lits : List (Bool × Str)) (h2 : 2 ≤ lits.length)
    (hl : ∀ e ∈ lits, IsDecLit e.2) {e : Bool × Str} (he : e ∈ lits) (hn : e.1 = true ∨ parseBase 10 e.2 < 65536)
    (hf : fits (parseBase 10 e.2) e.1 = false) :
    ∃ err, multi w (joinWith ',' (lits.map sdec)) = .error err :=
  multi_of_refused sdec lits h2 (fun e' he' => ⟨sdec_ne_nil (hl e' he'), sdec_no_comma (hl e' he')⟩) he
    (pendingElem_sdec (hl e he) hn) (e := .valueType) (by rw [elemHex_sdec k (hl e he), hf]; rfl)

/-- a text between two equal delimiter characters, with the string flag: the text between them -/
theorem createV_delimited (d : Char) (body : Str) (hs : ∀ c ∈ body, c.toNat < 256) (is16 defExt : Bool) :
    createV (d :: (body ++ [d])) true is16 defExt = .ok (.str body) := by
  have hl : (d :: (body ++ [d])).getLast? = some d := by
    rw [← List.cons_append, List.getLast?_append]; simp
  have hb : (body ++ [d]).dropLast = body := List.dropLast_concat
  have hs' : ∀ c ∈ body, c.toNat ≤ 255 := fun c hc => Nat.le_of_lt_succ (hs c hc)
  rw [createV, create_cons, hb, if_pos]
  simpa [hl] using hs'

/-- `FCC dbodyd`: whatever the delimiter character `d`, the value is the text between the delimiters -/
theorem createOperand_fcc {row : InstrRow} (hp : row.isPseudo = true) (hd : row.isPseudoDefine = false)
    (hmb : row.isMultiByte = false) (hmw : row.isMultiWord = false) (hinc : row.isInclude = false)
    (hsd : row.isStringDefine = true) (d : Char) (body : Str) (hs : ∀ c ∈ body, c.toNat < 256) :
    createOperand (d :: (body ++ [d])) row =
      .ok { kind := .pseudo, text := d :: (body ++ [d]), value := .str body } := by
  simp [createOperand, hp, hd, hmb, hmw, hinc, hsd, createV_delimited d body hs]

/-- every string value `Value.create_from_str` builds consists of one-byte characters (StringValue raises on wider
ones and the cascade goes on), so each character renders as exactly two hex digits -/
theorem createV_str_narrow {value : Str} {isStr is16 defExt : Bool} {cs : Str}
    (h : createV value isStr is16 defExt = .ok (.str cs)) : ∀ c ∈ cs, c.toNat < 256 := (createV_graph h).pv

theorem create_str_bytes {fuel : Nat} {value : Str} {isStr is16 defExt : Bool} {cs : Str}
    (h : create fuel value isStr is16 defExt = .ok (.str cs)) :
    (Value.str cs).hex? = some ((cs.map Char.toNat).flatMap byteHex) ∧ (Value.str cs).byteLen? = some cs.length ∧
      emitValue (.str cs) = some (cs.map Char.toNat) :=
  have hcs : ∀ c ∈ cs, c.toNat < 256 := (create_graph h).pv
  ⟨hex_str cs hcs, byteLen_str cs hcs, emitValue_str cs hcs⟩

end CoCo.Asm
