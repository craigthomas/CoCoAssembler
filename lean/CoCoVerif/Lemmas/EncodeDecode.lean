/-
Lemmas/EncodeDecode.lean — the opcode part of every instruction: what `opVal` emits for a cell of
the table and how the datasheet decoder reads it back; the `Encodes` predicate (an operand
translates, emits, and decodes to a datasheet operand); the table checker (`cellOk`, `rowOk`) and
what it says about one cell.
-/
import CoCoVerif.Spec.MC6809
import CoCoVerif.Lemmas.FitWidth

namespace CoCo.Asm
open CoCo CoCo.Spec.MC6809
open CoCo.Gen (InstrRow)

/-- what `decode` does once the opcode (of `n` bytes) has been looked up -/
def decodeTail (op : String) (mode : AM) (n : Nat) (rest : Bytes) : Option (Instr × Nat) :=
  match mode with
  | .inh => some (⟨op, .none⟩, n)
  | .imm8 => (match rest with | v :: _ => some (⟨op, .imm 8 v⟩, n + 1) | _ => none)
  | .imm16 => (match rest with | h :: l :: _ => some (⟨op, .imm 16 (h * 256 + l)⟩, n + 2) | _ => none)
  | .dir => (match rest with | a :: _ => some (⟨op, .dir a⟩, n + 1) | _ => none)
  | .ext => (match rest with | h :: l :: _ => some (⟨op, .ext (h * 256 + l)⟩, n + 2) | _ => none)
  | .rel8 => (match rest with | d :: _ => some (⟨op, .rel 8 (sext d 8)⟩, n + 1) | _ => none)
  | .rel16 => (match rest with | h :: l :: _ => some (⟨op, .rel 16 (sext (h * 256 + l) 16)⟩, n + 2) | _ => none)
  | .idx => (match decodePostByte rest with | some (i, k) => some (⟨op, .idx i⟩, n + k) | none => none)
  | .pair =>
    (match rest with
     | p :: _ =>
       let s := p / 16
       let t := p % 16
       if pairCodeOk s && pairCodeOk t && (decide (s ≥ 8) == decide (t ≥ 8)) then some (⟨op, .pair s t⟩, n + 1) else none
     | _ => none)
  | .list => (match rest with | m :: _ => some (⟨op, .list m⟩, n + 1) | _ => none)

/-- every opcode of the datasheet map is one byte other than the page prefixes, or a page prefix and a byte -/
theorem map_shape : ∀ e ∈ opcodeMap,
    (e.1 < 256 ∧ e.1 ≠ 0x10 ∧ e.1 ≠ 0x11) ∨ (256 ≤ e.1 ∧ e.1 < 65536 ∧ (e.1 / 256 = 0x10 ∨ e.1 / 256 = 0x11)) := by
  decide +kernel

theorem lookup_mem {c : Nat} {x : String × AM} (h : lookup c = some x) : (c, x) ∈ opcodeMap := by
  simp only [lookup, Option.map_eq_some_iff] at h
  obtain ⟨e, he, rfl⟩ := h
  have h1 := List.find?_some he
  have h2 := List.mem_of_find?_eq_some he
  have : e.1 = c := by simpa using h1
  subst this
  exact h2

theorem lookup_shape {c : Nat} {x : String × AM} (h : lookup c = some x) :
    (c < 256 ∧ c ≠ 0x10 ∧ c ≠ 0x11) ∨ (256 ≤ c ∧ c < 65536 ∧ (c / 256 = 0x10 ∨ c / 256 = 0x11)) :=
  map_shape _ (lookup_mem h)

theorem cell_lt {c : Nat} {x : String × AM} (h : lookup c = some x) : c < 65536 := by
  rcases lookup_shape h with h | h <;> omega

def opcodeBytes (c : Nat) : Bytes := if c < 256 then [c] else [c / 256, c % 256]

theorem opcodeBytes_length (c : Nat) : (opcodeBytes c).length = opcodeLen c := by
  unfold opcodeBytes opcodeLen
  by_cases h : c < 256
  · have : ¬ c > 255 := by omega
    simp [h, this]
  · have : c > 255 := by omega
    simp [h, this]

/-- the NumericValue built for an opcode cell -/
def opv (c : Nat) : Value := if c < 256 then .numeric c (some 2) .direct false else .numeric c none .extended false

theorem opVal_ok {c : Nat} (h : c < 65536) : opVal (some c) = .ok (opv c) := by
  unfold opv
  by_cases h1 : c < 256
  · simpa [opVal, h1, numV] using numV_byte h1
  · simpa [opVal, h1, numV] using numV_word (by omega) h

theorem codeOk_opv {c : Nat} (h : c < 65536) : CodeOk (opv c) (opcodeBytes c) := by
  unfold opv opcodeBytes
  by_cases h1 : c < 256
  · rw [if_pos h1, if_pos h1]; exact .byte h1
  · rw [if_neg h1, if_neg h1]; exact .word (by omega) h

theorem decode_opcode {c : Nat} {op : String} {am : AM} (h : lookup c = some (op, am)) (rest : Bytes) :
    decode (opcodeBytes c ++ rest) = decodeTail op am (opcodeLen c) rest := by
  rcases lookup_shape h with ⟨h1, h2, h3⟩ | ⟨h1, h2, h3⟩
  · have hl : opcodeLen c = 1 := by simp [opcodeLen]; omega
    have hp : ¬ (c = 0x10 ∨ c = 0x11) := by omega
    simp only [opcodeBytes, h1, if_true, List.cons_append, List.nil_append, decode, hp, if_false, h, hl]
    cases am <;> rfl
  · have hl : opcodeLen c = 2 := by simp [opcodeLen]; omega
    have hn : ¬ c < 256 := by omega
    have hp : (c / 256 = 0x10 ∨ c / 256 = 0x11) := h3
    have hc : c / 256 * 256 + c % 256 = c := by omega
    simp only [opcodeBytes, hn, if_false, List.cons_append, List.nil_append, decode, hp, if_true, hc, h, hl]
    cases am <;> rfl

/-- `decodePostByte` unfolded (stated once; `simp [decodePostByte]` itself is too slow) -/
theorem decodePostByte_cons (p : Nat) (rest : Bytes) : decodePostByte (p :: rest) =
    (if p < 128 then some (.off ((p / 32) % 4) (sext (p % 32) 5) false 5, 1)
    else
      if p % 16 = 0 then (if (p / 16) % 2 = 1 then none else some (.inc1 ((p / 32) % 4), 1))
      else if p % 16 = 1 then some (.inc2 ((p / 32) % 4) ((p / 16) % 2 = 1), 1)
      else if p % 16 = 2 then (if (p / 16) % 2 = 1 then none else some (.dec1 ((p / 32) % 4), 1))
      else if p % 16 = 3 then some (.dec2 ((p / 32) % 4) ((p / 16) % 2 = 1), 1)
      else if p % 16 = 4 then some (.off ((p / 32) % 4) 0 ((p / 16) % 2 = 1) 0, 1)
      else if p % 16 = 5 ∨ p % 16 = 6 ∨ p % 16 = 11 then some (.acc (p % 16) ((p / 32) % 4) ((p / 16) % 2 = 1), 1)
      else if p % 16 = 8 then (match rest with | o :: _ => some (.off ((p / 32) % 4) (sext o 8) ((p / 16) % 2 = 1) 8, 2) | _ => none)
      else if p % 16 = 9 then (match rest with | h :: l :: _ => some (.off ((p / 32) % 4) (sext (h * 256 + l) 16) ((p / 16) % 2 = 1) 16, 3) | _ => none)
      else if p % 16 = 12 then (match rest with | o :: _ => some (.pcr (sext o 8) ((p / 16) % 2 = 1) 8, 2) | _ => none)
      else if p % 16 = 13 then (match rest with | h :: l :: _ => some (.pcr (sext (h * 256 + l) 16) ((p / 16) % 2 = 1) 16, 3) | _ => none)
      else if p % 16 = 15 then (if p = 0x9F then (match rest with | h :: l :: _ => some (.extInd (h * 256 + l), 3) | _ => none) else none)
      else none) := rfl

/-- the post bytes `1kkqqqqq`: register `k`, form bits `q` (bit 4 of `q`: indirect) -/
theorem decodePostByte_form {k q : Nat} (hk : k < 4) (hq : q < 32) (rest : Bytes) :
    decodePostByte ((128 + 32 * k + q) :: rest) =
      (if q % 16 = 0 then (if q / 16 = 1 then none else some (.inc1 k, 1))
      else if q % 16 = 1 then some (.inc2 k (q / 16 = 1), 1)
      else if q % 16 = 2 then (if q / 16 = 1 then none else some (.dec1 k, 1))
      else if q % 16 = 3 then some (.dec2 k (q / 16 = 1), 1)
      else if q % 16 = 4 then some (.off k 0 (q / 16 = 1) 0, 1)
      else if q % 16 = 5 ∨ q % 16 = 6 ∨ q % 16 = 11 then some (.acc (q % 16) k (q / 16 = 1), 1)
      else if q % 16 = 8 then (match rest with | o :: _ => some (.off k (sext o 8) (q / 16 = 1) 8, 2) | _ => none)
      else if q % 16 = 9 then (match rest with | h :: l :: _ => some (.off k (sext (h * 256 + l) 16) (q / 16 = 1) 16, 3) | _ => none)
      else if q % 16 = 12 then (match rest with | o :: _ => some (.pcr (sext o 8) (q / 16 = 1) 8, 2) | _ => none)
      else if q % 16 = 13 then (match rest with | h :: l :: _ => some (.pcr (sext (h * 256 + l) 16) (q / 16 = 1) 16, 3) | _ => none)
      else if q % 16 = 15 then (if 128 + 32 * k + q = 0x9F then (match rest with | h :: l :: _ => some (.extInd (h * 256 + l), 3) | _ => none) else none)
      else none) := by
  have a : ¬ 128 + 32 * k + q < 128 := by omega
  have b : (128 + 32 * k + q) / 32 % 4 = k := by omega
  have c : (128 + 32 * k + q) % 16 = q % 16 := by omega
  have d : (128 + 32 * k + q) / 16 % 2 = q / 16 := by omega
  rw [decodePostByte_cons, if_neg a, b, c, d]

/-- the post bytes `0kkvvvvv`: a 5-bit offset from register `k` -/
theorem decodePostByte_off5 {k v : Nat} (hk : k < 4) (hv : v < 32) (rest : Bytes) :
    decodePostByte ((32 * k + v) :: rest) = some (.off k (sext v 5) false 5, 1) := by
  have a : 32 * k + v < 128 := by omega
  have b : (32 * k + v) / 32 % 4 = k := by omega
  have d : (32 * k + v) % 32 = v := by omega
  rw [decodePostByte_cons, if_pos a, b, d]

/-- `o` translates for row `r`; every statement that carries row, operand and package (the statement
`translateAll` builds) passes `fitWidth` and then emits `bytes`, as many as the package announces; and the
datasheet decoder reads `bytes` back as the operation of `r` with operand `operand`, consuming all of them.
The package does not wait for an address (`needsRes = false`), so for a label-free operand `fixOne`, which runs
between `translateAll` and `fitWidth`, is the identity: `Encodes.through_fix`. -/
def Encodes (o : Operand) (r : InstrRow) (operand : Spec.MC6809.Operand) : Prop :=
  ∃ pkg bytes, translateOperand o r = .ok pkg ∧ pkg.needsRes = false ∧
    (∀ s : Stmt, s.row = r → s.operand = o → s.pkg = pkg → ∃ s', fitWidth s = .ok s' ∧ stmtBytes s' = some bytes) ∧
    bytes.length = pkg.size ∧ decode bytes = some (⟨opOf r.mnemonic, operand⟩, bytes.length)

def mkStmt (r : InstrRow) (o : Operand) (p : Pkg) : Stmt := { (default : Stmt) with row := r, operand := o, pkg := p }

/-- from the package level to every statement that carries the package -/
theorem emitted_of_fitPkg {r : InstrRow} {o : Operand} {pkg p' : Pkg} {bytes : Bytes}
    (hf : fitPkg r pkg = .ok p') (hb : pkgBytes p' = some bytes) :
    ∀ s : Stmt, s.row = r → s.operand = o → s.pkg = pkg → ∃ s', fitWidth s = .ok s' ∧ stmtBytes s' = some bytes :=
  fun s hr _ hp => emitted_iff_fitPkg.mpr ⟨p', hf, hb⟩ s hr hp

/-- and back -/
theorem fitPkg_of_emitted {r : InstrRow} {o : Operand} {pkg : Pkg} {bytes : Bytes}
    (h : ∀ s : Stmt, s.row = r → s.operand = o → s.pkg = pkg → ∃ s', fitWidth s = .ok s' ∧ stmtBytes s' = some bytes) :
    ∃ p', fitPkg r pkg = .ok p' ∧ pkgBytes p' = some bytes :=
  fitWidth_emits_iff.mp (h (mkStmt r o pkg) rfl rfl rfl)

theorem stmtBytes_of (s : Stmt) {a b c : Bytes} (h1 : emitValue s.pkg.opCode = some a)
    (h2 : emitValue s.pkg.postByte = some b) (h3 : emitValue s.pkg.additional = some c) :
    stmtBytes s = some (a ++ b ++ c) :=
  stmtBytes_eq_some.mpr ⟨a, b, c, h1, h2, h3, rfl⟩

/-- one cell of the instruction table against the datasheet map -/
def cellOk (mn : String) (cell : Option Nat) (sz : Nat) (allowed : List AM) : Bool :=
  match cell with
  | none => sz == 0
  | some c =>
    match lookup c with
    | none => false
    | some (op, am) => op == opOf mn && allowed.contains am && sz == opcodeLen c + operandLen am

def rowOk (r : InstrRow) : Bool :=
  r.isPseudo ||
  (cellOk r.mnemonic r.inh r.inhSz [.inh] && cellOk r.mnemonic r.imm r.immSz [.imm8, .imm16, .pair, .list] &&
   cellOk r.mnemonic r.dir r.dirSz [.dir] && cellOk r.mnemonic r.ind r.indSz [.idx] &&
   cellOk r.mnemonic r.ext r.extSz [.ext] && cellOk r.mnemonic r.rel r.relSz [.rel8, .rel16])

def allCells : List Nat :=
  Gen.instructions.flatMap (fun r => [r.inh, r.imm, r.dir, r.ind, r.ext, r.rel].filterMap id)

def reachable (c : Nat) : Bool := allCells.contains c

theorem cellOk_some {mn : String} {c sz : Nat} {allowed : List AM} (h : cellOk mn (some c) sz allowed = true) :
    ∃ am, lookup c = some (opOf mn, am) ∧ am ∈ allowed ∧ sz = opcodeLen c + operandLen am := by
  unfold cellOk at h
  simp only at h
  split at h
  · exact absurd h (by simp)
  · rename_i op am hl
    simp only [Bool.and_eq_true, beq_iff_eq, List.contains_iff_mem] at h
    obtain ⟨⟨h1, h2⟩, h3⟩ := h
    exact ⟨am, by rw [hl, h1], h2, h3⟩

/-- a column with a single addressing mode -/
theorem cellOk_single {mn : String} {c sz : Nat} {am : AM} (h : cellOk mn (some c) sz [am] = true) :
    lookup c = some (opOf mn, am) ∧ sz = opcodeLen c + operandLen am := by
  obtain ⟨am', h1, h2, h3⟩ := cellOk_some h
  obtain rfl : am' = am := by simpa using h2
  exact ⟨h1, h3⟩

end CoCo.Asm
