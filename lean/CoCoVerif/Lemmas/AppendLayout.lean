/-
Lemmas/AppendLayout.lean — for C18-R4 (appending statements): every stage of `back` up to address assignment treats
a list `a ++ b` as `a` followed by `b`; symbol resolution is monotone in the table (`SymTab.Le`, `Resolved.mono`).
-/
import CoCoVerif.Lemmas.FrontInclude
import CoCoVerif.Lemmas.LayoutPasses
import CoCoVerif.Lemmas.ResolveGraph
import CoCoVerif.Lemmas.SymTab

namespace CoCo.Asm
open CoCo
open CoCo.Gen (InstrRow)

theorem parseLines_append_ok {ls ext : List Str} {r' : List Stmt} (h : parseLines (ls ++ ext) = .ok r') :
    ∃ r rx, parseLines ls = .ok r ∧ parseLines ext = .ok rx ∧ r' = r ++ rx := by
  rw [parseLines_append] at h
  exact oapp_eq_ok h

theorem front_append_ok {fs : Files} {ls ext : List Str} {r' : List Stmt}
    (h : front fs (ls ++ ext) = .ok r') :
    ∃ r rx, front fs ls = .ok r ∧ front fs ext = .ok rx ∧ r' = r ++ rx := by
  rw [front_append] at h
  exact oapp_eq_ok h

theorem buildSymTab_append_le {a b : List Stmt} {t2 : SymTab} (h : buildSymTab (a ++ b) 0 [] = some t2) :
    ∃ t1 d, buildSymTab a 0 [] = some t1 ∧ t2 = t1 ++ d ∧ SymTab.Le t1 t2 := by
  rw [buildSymTab_append] at h
  cases h1 : buildSymTab a 0 [] with
  | none => rw [h1] at h; cases h
  | some t1 =>
    rw [h1] at h
    have hd := (buildSymTab_some h).1
    exact ⟨t1, _, rfl, hd, hd ▸ SymTab.le_append t1 _⟩

theorem assignAddrs_append_ok : ∀ (a b : List Stmt) (k : Nat) (r : List Stmt),
    assignAddrs (a ++ b) k = .ok r → ∃ ra rb, assignAddrs a k = .ok ra ∧ r = ra ++ rb := by
  intro a
  induction a with
  | nil => intro b k r _; exact ⟨[], r, rfl, rfl⟩
  | cons s rest ih =>
    intro b k r h
    rw [List.cons_append, assignAddrs_cons_eq] at h
    obtain ⟨⟨s', k'⟩, hp, h⟩ := Outcome.bind_eq_ok h
    obtain ⟨r2, hr, rfl⟩ := Outcome.map_eq_ok h
    obtain ⟨ra, rb, h1, rfl⟩ := ih _ _ _ hr
    exact ⟨s' :: ra, rb, by rw [assignAddrs_cons_eq, hp, Outcome.ok_bind, h1]; rfl, rfl⟩

theorem resolve1_mono {t t' : SymTab} (hle : SymTab.Le t t') (s s' : Stmt) (h : resolve1 t s = some s') :
    resolve1 t' s = some s' :=
  let ⟨o, ho, e⟩ := resolve1_eq_some.1 h
  resolve1_eq_some.2 ⟨o, resolveOperand_mono hle ho, e⟩

theorem resolveAll_mono {t t' : SymTab} (hle : SymTab.Le t t') {a r : List Stmt} (h : resolveAll t a = some r) :
    resolveAll t' a = some r := by
  rw [resolveAll_eq_mapM] at h ⊢
  exact mapM_mono (resolve1_mono hle) h

/-- The stages before the size loop on `a ++ b`, when `a` alone gets through them: the table extends that of `a`
and answers its lookups in the same way, so the statements of `a` are resolved and translated as before and come
first. -/
theorem stages_append {a b : List Stmt} {t1 t2 : SymTab} {a1 a2 s1 s2 : List Stmt}
    (hA0 : buildSymTab a 0 [] = some t1) (hA1 : resolveAll t1 a = some a1) (hA2 : translateAll a1 = some a2)
    (hB0 : buildSymTab (a ++ b) 0 [] = some t2) (hB1 : resolveAll t2 (a ++ b) = some s1)
    (hB2 : translateAll s1 = some s2) :
    (∃ d, t2 = t1 ++ d) ∧ SymTab.Le t1 t2 ∧ ∃ b1 b2, s1 = a1 ++ b1 ∧ s2 = a2 ++ b2 := by
  obtain ⟨t1', d, hT, hd, hle⟩ := buildSymTab_append_le hB0
  rw [hA0] at hT
  cases hT
  rw [resolveAll_eq_mapM] at hA1 hB1
  obtain ⟨b1, _, rfl⟩ := mapM_prefix hA1 hB1 (resolve1_mono hle)
  rw [translateAll_eq_mapM] at hA2 hB2
  obtain ⟨b2, _, rfl⟩ := mapM_prefix hA2 hB2 fun _ _ h => h
  exact ⟨⟨d, hd⟩, hle, b1, b2, rfl, rfl⟩

end CoCo.Asm
