/-
Lemmas/FinalForm.lean — what a statement of an accepted program looks like, by what stands in its operand field: nothing;
a number at the width the size leaves after op code and post byte; an FCB / FDB list of hex strings of the width of the
directive; or a package emitted as `translate` made it (PSHS / TFR .., RMB, FCC ..).  `Stages.finalForm` proves it once,
from the history of the statement (`Stages.compiled`).  Read off it: the statement emits `size` bytes (C02), its hex
strings are made of hex digits (C11), a label as offset of a pointer register has a 16-bit field.
-/
import CoCoVerif.Lemmas.SizeFix

namespace CoCo.Asm
open CoCo

inductive FinalForm (s : Stmt) : Prop
  /-- no field: inherent, register lists, `,R` `A,R` `n5,R`, ORG / EQU / END .. -/
  | bare (hop : CodeVal s.pkg.opCode) (hpb : CodeVal s.pkg.postByte) (ha : s.pkg.additional = .none)
      (hnr : s.pkg.needsRes = false) (hsz : 2 * s.pkg.size = hl s.pkg.opCode + hl s.pkg.postByte)
  /-- a number: every instruction with an operand, FCB / FDB with one value; what `fix_addresses` was to resolve
  (`needsRes`) is among them, the label offset of a pointer register (no post byte choices) in 16 bits -/
  | number {z w : Nat} (hop : CodeVal s.pkg.opCode) (hpb : CodeVal s.pkg.postByte) (hw : w = 2 ∨ w = 4)
      (ha : s.pkg.additional = .numeric z (some w) .extended false) (hz : z < 16 ^ w)
      (hsz : 2 * s.pkg.size = hl s.pkg.opCode + hl s.pkg.postByte + w)
      (hlbl : s.pkg.needsRes = true → s.pkg.choices = [] → w = 4)
  | list {w : Nat} {mk : List Str → Value} {hs : List Str} (k : ListKind w mk) (hop : s.pkg.opCode = .none)
      (hpb : s.pkg.postByte = .none) (ha : s.pkg.additional = mk hs) (hnr : s.pkg.needsRes = false)
      (hlen : ∀ g ∈ hs, g.length = w) (hhex : ∀ g ∈ hs, HexStr g) (hsz : 2 * s.pkg.size = hs.flatten.length)
  /-- a row `fit_operand_width` skips: no list, and a string is the operand value -/
  | plain (hop : CodeVal s.pkg.opCode) (hpb : CodeVal s.pkg.postByte) (h : PlainShape s.operand s.pkg)
      (hnl : (∀ hs, s.pkg.additional ≠ .multiByte hs) ∧ (∀ hs, s.pkg.additional ≠ .multiWord hs))

theorem fitted_lt {n : Nat} {neg : Bool} {w : Nat} (hw : w = 2 ∨ w = 4) :
    (signedK n neg % (2 : Int) ^ (4 * w)).toNat < 16 ^ w := by
  rcases hw with rfl | rfl
  · have e : (2 : Int) ^ (4 * 2) = 256 := by decide
    rw [e]; show _ < 256; omega
  · have e : (2 : Int) ^ (4 * 4) = 65536 := by decide
    rw [e]; show _ < 65536; omega

theorem Stages.finalForm {fs : Files} {lines : List Str} {a : Assembly} (st : Stages fs lines a)
    {i : Nat} {s : Stmt} (hs : a.stmts[i]? = some s) : FinalForm s := by
  obtain ⟨s0, o, p, sz, mx, pb, hint, ad, vf, vw, v, c, rfl⟩ := st.compiled hs
  obtain ⟨hop, hpb⟩ := c.codes
  cases hsk : fitSkipped s0.row with
  | false =>
    have psh := c.parsed.pkgShape c.hres c.htr hsk
    cases hnum : vf.isNumeric with
    | true =>
      -- the field is a number: `fitWidth` gives it the width the size leaves
      obtain ⟨n, hh, m, neg, rfl⟩ := isNumeric_elim hnum
      obtain ⟨w, hw, hsz, rfl⟩ := c.numeric_final hsk
      refine .number hop hpb hw rfl (fitted_lt hw) hsz fun hn hc => ?_
      obtain ⟨rfl, _, rfl, _⟩ := c.fixed hc
      have := psh.lbl hn hc
      omega
    | false =>
      -- the field is not a number: nothing touched it since translation
      obtain rfl : vf = vw := (congrArg (·.pkg.additional) (fitWidth_nonnumeric c.hfit hnum)).symm
      rcases fixOne_field st.addr4_numeric c.hfix with
        hn | ⟨e5, (hneeds : p.needsRes = false), (ha5 : o.value.isAddress = false), (hx5 : o.value.isAddrExpr = false)⟩
      · exact absurd (hn.symm.trans hnum) nofun
      obtain rfl : vf = p.additional := congrArg (·.pkg.additional) e5
      rcases psh.fld with ⟨p1, p2, p3⟩ | ⟨p1, p2⟩ | p1 | p1 | ⟨p1, p2, p3, w, mk, hs', k, q, qa, p5, p5k, p6, p7⟩
      · obtain ⟨rfl, _, rfl, _⟩ := c.fixed p3
        obtain rfl := c.keep (by rw [p1]; nofun) (by rw [p1]; nofun)
        exact .bare hop hpb p1 hneeds p2
      · -- the field is the operand value, a number, a label or a label expression: `fix_addresses` stores a number
        rw [p1] at hnum
        rcases p2 with q | q | q
        · rw [q] at hnum; cases hnum
        · rw [q] at ha5; cases ha5
        · rw [q] at hx5; cases hx5
      · rw [p1] at hnum; cases hnum
      · rw [p1] at hneeds; cases hneeds
      · -- a list: one item per element of the operand text; the list pass replaces every pending element by as many
        -- digits as held its place
        obtain ⟨rfl, _, rfl, _⟩ := c.fixed p3
        have hcnt := (c.parsed.list_count c.hres p5k k (p5.trans q)).1
        obtain ⟨x5, _, _, _, hl⟩ := c.hlist
        obtain ⟨hs'', hev, es⟩ := evalList1_ok_list k q hl
        obtain rfl : v = mk hs'' := congrArg (·.pkg.additional) es
        have qlen : ∀ g ∈ hs', g.length = w := fun g hg => (qa g hg).1
        refine .list k p1 p2 rfl hneeds (evalElems_all_length k.width hev qlen)
          (evalElems_hexStr k.width hev fun g hg => (qa g hg).2) ?_
        show 2 * p.size = hs''.flatten.length
        rw [evalElems_flatten_length k.width hev hcnt.symm qlen, p7]
        omega
  | true =>
    -- PSHS / TFR ..., and the directives other than FCB / FDB: emitted as translated
    have hplain := c.parsed.plainShape c.hres c.htr hsk
    have hk : (o.kind == .relative) = false := by
      rcases c.parsed.skipped_kind c.hres hsk with ⟨_, hk⟩ | ⟨_, _, _, _, hk⟩ <;> rw [hk] <;> rfl
    obtain rfl : vf = p.additional :=
      congrArg (·.pkg.additional) (fixOne_still hk hplain.needs hplain.noaddr hplain.noexpr c.hfix)
    obtain rfl : vw = p.additional := congrArg (·.pkg.additional) (fitWidth_skipped c.hfit hsk)
    obtain ⟨rfl, _, rfl, _⟩ := c.fixed hplain.choices
    have hnl := c.parsed.plain_nolist c.hres c.htr hsk
    obtain rfl := c.keep hnl.1 hnl.2
    exact .plain hop hpb
      ⟨hplain.needs, hplain.choices, hplain.noaddr, hplain.noexpr, hplain.bytes, hplain.addl, hplain.nolist⟩ hnl

namespace FinalForm
variable {s : Stmt}

/-- "bytes = size" -/
theorem bytes (h : FinalForm s) : (stmtBytes s).map List.length = some s.pkg.size := by
  cases h with
  | bare hop hpb ha _ hsz =>
    rw [stmtBytes_len hop.emits.2.2 hpb.emits.2.2 (by rw [ha]; exact none_emits)]
    have := hop.emits.2.1
    have := hpb.emits.2.1
    congr 1
    omega
  | number hop hpb hw ha _ hsz =>
    rw [stmtBytes_len hop.emits.2.2 hpb.emits.2.2 (by rw [ha]; exact fitted_emits _ _ _ _ hw)]
    have := hop.emits.2.1
    have := hpb.emits.2.1
    congr 1
    rcases hw with rfl | rfl <;> omega
  | @list _ _ hs k hop hpb ha _ _ _ hsz =>
    have hev : hs.flatten.length % 2 = 0 := by omega
    rw [stmtBytes_len (a := 0) (b := 0) (by rw [hop]; exact none_emits) (by rw [hpb]; exact none_emits)
      (by rw [ha]; cases k; exact multiByte_emits hev; exact multiWord_emits hev)]
    congr 1
    omega
  | plain _ _ h =>
    obtain ⟨_, _, _, m1, m2, m3, hsum⟩ := h.bytes
    rw [stmtBytes_len m1 m2 m3, hsum]

theorem str (h : FinalForm s) {x : Str} (hx : s.pkg.additional = .str x) : s.operand.value = .str x := by
  cases h with
  | bare _ _ ha => rw [ha] at hx; cases hx
  | number _ _ _ ha => rw [ha] at hx; cases hx
  | list k _ _ ha => rw [ha] at hx; cases k <;> cases hx
  | plain _ _ h => exact h.addl x hx

/-- every hex string the statement carries is made of hex digits -/
theorem mok (h : FinalForm s) : s.pkg.opCode.MOK ∧ s.pkg.postByte.MOK ∧ s.pkg.additional.MOK := by
  cases h with
  | bare hop hpb ha => exact ⟨hop.nm.mok, hpb.nm.mok, by rw [ha]; trivial⟩
  | number hop hpb _ ha => exact ⟨hop.nm.mok, hpb.nm.mok, by rw [ha]; trivial⟩
  | list k hop hpb ha _ _ hhex => exact ⟨by rw [hop]; trivial, by rw [hpb]; trivial, by rw [ha]; cases k <;> exact hhex⟩
  | plain hop hpb _ hnl =>
    refine ⟨hop.nm.mok, hpb.nm.mok, Value.NM.mok ⟨?_, ?_⟩⟩
    · cases hv : s.pkg.additional <;> first | rfl | exact absurd hv (hnl.1 _)
    · cases hv : s.pkg.additional <;> first | rfl | exact absurd hv (hnl.2 _)

/-- a statement resolved at `fix_addresses` that has no post byte choices (a label or label expression as constant offset
of a pointer register, not of the PC) carries a 16-bit field -/
theorem label_offset (h : FinalForm s) (hn : s.pkg.needsRes = true) (hc : s.pkg.choices = []) :
    ∃ n a b, s.pkg.additional = .numeric n (some 4) .extended false ∧ n < 65536 ∧
      s.pkg.opCode.hexLen? = some a ∧ s.pkg.postByte.hexLen? = some b ∧ 2 * s.pkg.size = a + b + 4 := by
  cases h with
  | bare _ _ _ hnr => rw [hn] at hnr; cases hnr
  | list _ _ _ _ hnr => rw [hn] at hnr; cases hnr
  | plain _ _ h => have := h.needs; rw [hn] at this; cases this
  | number hop hpb _ ha hz hsz hlbl =>
    obtain rfl := hlbl hn hc
    exact ⟨_, _, _, ha, hz, hop.emits.1, hpb.emits.1, hsz⟩

end FinalForm

end CoCo.Asm
