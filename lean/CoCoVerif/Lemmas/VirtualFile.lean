/-
Lemmas/VirtualFile.lean — the abstract host file system, and what `storeTo` (open; add; save) can do to it.
-/
import CoCoVerif.Model.VirtualFile

namespace CoCo.VF
open CoCo

theorem FS.get?_nil (p : Path) : FS.get? [] p = none := rfl

/-- replacing the content of `p` keeps every entry's path, so a search by path commutes with it -/
theorem find?_set_map (fs : FS) (p q : Path) (b : Bytes) :
    (fs.map (fun e => if e.1 == p then (p, b) else e)).find? (·.1 == q) =
      (fs.find? (·.1 == q)).map (fun e => if e.1 == p then (p, b) else e) := by
  rw [List.find?_map]
  congr 2
  funext e
  by_cases h : e.1 = p <;> simp [h]

theorem FS.get?_set_other (fs : FS) (p q : Path) (b : Bytes) (h : q ≠ p) : (fs.set p b).get? q = fs.get? q := by
  unfold FS.set FS.get?
  split
  · rw [find?_set_map]
    cases hf : fs.find? (·.1 == q) with
    | none => rfl
    | some e =>
      have he : e.1 = q := by simpa using List.find?_some hf
      simp [he, h]
  · rw [List.find?_append]
    cases fs.find? (·.1 == q) with
    | some x => rfl
    | none => simp [Ne.symm h]

theorem FS.get?_set_same (fs : FS) (p : Path) (b : Bytes) : (fs.set p b).get? p = some b := by
  unfold FS.set FS.get?
  split
  · rename_i h
    rw [find?_set_map]
    cases hf : fs.find? (·.1 == p) with
    | none => simp [hf] at h
    | some e =>
      have he : e.1 = p := by simpa using List.find?_some hf
      simp [he]
  · rename_i h
    have hn : fs.find? (·.1 == p) = none := by
      simp only [Option.isSome_map] at h
      cases hf : fs.find? (·.1 == p) <;> simp_all
    rw [List.find?_append, hn]
    simp

theorem FS.get?_set_set {fs : FS} {a p q : Path} {A : Bytes} (P Q : Bytes) (ha : fs.get? a = some A)
    (hp : fs.get? p = none) (hq : fs.get? q = none) (hne : q ≠ p) :
    (fs.set p P).get? q = none ∧ ((fs.set p P).set q Q).get? a = some A ∧
    ((fs.set p P).set q Q).get? p = some P ∧ ((fs.set p P).set q Q).get? q = some Q := by
  have hap : a ≠ p := by intro h; rw [h, hp] at ha; cases ha
  have haq : a ≠ q := by intro h; rw [h, hq] at ha; cases ha
  refine ⟨by rw [FS.get?_set_other _ _ _ _ hne]; exact hq, ?_, ?_, FS.get?_set_same _ _ _⟩
  · rw [FS.get?_set_other _ _ _ _ haq, FS.get?_set_other _ _ _ _ hap]; exact ha
  · rw [FS.get?_set_other _ _ _ _ (Ne.symm hne)]; exact FS.get?_set_same _ _ _

theorem foldl_addCoco (files : List CFile) :
    ∀ (v : VFile), (files.foldl addCoco v) = { v with files := v.files ++ files } := by
  induction files with
  | nil => intro v; simp
  | cons f rest ih => intro v; rw [List.foldl_cons, ih]; simp [addCoco, List.append_assoc]

/-- opening with a requested kind: a fresh target, or an existing one that the sniffer takes for that kind -/
theorem openVF_ok {fs : FS} {p : Path} {k : Kind} {v : VFile} (h : openVF fs p (some k) = .ok v) :
    v.path = p ∧ v.kind = some k ∧
    (match fs.get? p with
     | none => v.files = [] ∧ v.exists_ = false
     | some old => sniff old = .ok (v.files, k) ∧ v.exists_ = true) := by
  unfold openVF at h
  cases hg : fs.get? p with
  | none =>
    simp only [hg] at h
    cases h
    exact ⟨rfl, rfl, rfl, rfl⟩
  | some buf =>
    simp only [hg] at h
    cases hs : sniff buf with
    | ok r =>
      obtain ⟨files, k'⟩ := r
      simp only [hs] at h
      by_cases hk : k = k'
      · subst hk
        simp only [ne_eq, not_true_eq_false, if_false] at h
        cases h
        exact ⟨rfl, rfl, hs, rfl⟩
      · simp [hk] at h
    | diag => simp [hs] at h
    | internal => simp [hs] at h
    | diverged => simp [hs] at h

theorem openVF_sniffed {fs : FS} {p : Path} {buf : Bytes} {files : List CFile} {k : Kind}
    (hg : fs.get? p = some buf) (hs : sniff buf = .ok (files, k)) :
    openVF fs p none = .ok { path := p, kind := some k, files := files, exists_ := true } := by
  unfold openVF
  simp only [hg, hs]

theorem openVF_fresh {fs : FS} {p : Path} (r : Option Kind) (h : fs.get? p = none) :
    openVF fs p r = .ok { path := p, kind := r } := by
  unfold openVF
  simp only [h]

theorem openVF_congr {fs fs' : FS} {p : Path} (r : Option Kind) (h : fs'.get? p = fs.get? p) :
    openVF fs' p r = openVF fs p r := by
  unfold openVF
  rw [h]

/-- the outcome of `storeTo` once the target has opened: the image of the old files followed by the new ones
is built, and written unless the target exists and append was not asked for -/
theorem storeTo_eq {fs : FS} {p : Path} {k : Kind} {v : VFile} (files : List CFile) (ap : Bool)
    (ho : openVF fs p (some k) = .ok v) :
    storeTo fs p k files ap =
      (match buildImage k (v.files ++ files) with
       | .ok img => if v.exists_ && !ap then .diag else .ok (fs.set p img)
       | .diag => .diag
       | .internal => .internal
       | .diverged => .diverged) := by
  obtain ⟨hp, hk, _⟩ := openVF_ok ho
  unfold storeTo
  simp only [ho]
  rw [foldl_addCoco]
  unfold saveVF
  simp only [hk, hp]
  cases buildImage k (v.files ++ files) <;> rfl

theorem storeTo_build_not_ok {fs : FS} {p : Path} {k : Kind} {v : VFile} {files : List CFile} {ap : Bool}
    (ho : openVF fs p (some k) = .ok v) (hb : ∀ img, buildImage k (v.files ++ files) ≠ .ok img) :
    ∀ fs', storeTo fs p k files ap ≠ .ok fs' := by
  intro fs' h
  rw [storeTo_eq files ap ho] at h
  cases hi : buildImage k (v.files ++ files) with
  | ok img => exact hb img hi
  | diag => rw [hi] at h; cases h
  | internal => rw [hi] at h; cases h
  | diverged => rw [hi] at h; cases h

theorem storeTo_fresh (fs : FS) (path : Path) (k : Kind) (files : List CFile) (ap : Bool) (img : Bytes)
    (hfresh : fs.get? path = none) (hb : buildImage k files = .ok img) :
    storeTo fs path k files ap = .ok (fs.set path img) := by
  rw [storeTo_eq files ap (openVF_fresh (some k) hfresh)]
  simp [hb]

theorem storeTo_append (fs : FS) (path : Path) (k : Kind) (old : Bytes) (oldFiles files : List CFile)
    (img : Bytes) (hold : fs.get? path = some old) (hs : sniff old = .ok (oldFiles, k))
    (hb : buildImage k (oldFiles ++ files) = .ok img) :
    storeTo fs path k files true = .ok (fs.set path img) := by
  have ho : openVF fs path (some k) =
      .ok { path := path, kind := some k, files := oldFiles, exists_ := true } := by
    unfold openVF; simp [hold, hs]
  rw [storeTo_eq files true ho]
  simp [hb]

/-- **what a successful `storeTo` did**: only `path` changed; if it existed, append was requested and the old
content was sniffed as the requested kind; the new content is the image built from old files ++ new files -/
theorem storeTo_ok {fs fs' : FS} {path : Path} {k : Kind} {files : List CFile} {append : Bool}
    (h : storeTo fs path k files append = .ok fs') :
    (∀ q, q ≠ path → fs'.get? q = fs.get? q) ∧
    (match fs.get? path with
     | none => ∃ img, buildImage k files = .ok img ∧ fs'.get? path = some img
     | some old => append = true ∧ ∃ oldFiles img, sniff old = .ok (oldFiles, k) ∧
                     buildImage k (oldFiles ++ files) = .ok img ∧ fs'.get? path = some img) := by
  cases ho : openVF fs path (some k) with
  | ok v =>
    obtain ⟨_, _, hv⟩ := openVF_ok ho
    rw [storeTo_eq files append ho] at h
    cases hb : buildImage k (v.files ++ files) with
    | ok img =>
      simp only [hb] at h
      split at h
      · cases h
      · rename_i hap
        cases h
        refine ⟨fun q hq => FS.get?_set_other fs path q img hq, ?_⟩
        have hget := FS.get?_set_same fs path img
        cases hg : fs.get? path with
        | none =>
          rw [hg] at hv
          rw [hv.1] at hb
          exact ⟨img, hb, hget⟩
        | some old =>
          rw [hg] at hv
          rw [hv.2] at hap
          exact ⟨by simpa using hap, v.files, img, hv.1, hb, hget⟩
    | diag => simp [hb] at h
    | internal => simp [hb] at h
    | diverged => simp [hb] at h
  | diag => simp [storeTo, ho] at h
  | internal => simp [storeTo, ho] at h
  | diverged => simp [storeTo, ho] at h

end CoCo.VF

namespace CoCo.Props
open CoCo CoCo.VF

/-- the host file system after an attempt: the new one when it succeeded, the one before otherwise — a refusal
(`diag`, `internal`, `diverged`) carries no file system, so there is nothing else it could be -/
def hostAfter (fs : FS) (o : Outcome FS) : FS :=
  match o with
  | .ok fs' => fs'
  | _ => fs

theorem hostAfter_not_ok {fs : FS} {o : Outcome FS} (h : ∀ fs', o ≠ .ok fs') : hostAfter fs o = fs := by
  cases o with
  | ok fs' => exact absurd rfl (h fs')
  | diag => rfl
  | internal => rfl
  | diverged => rfl

theorem isOk_false {o : Outcome FS} (h : ∀ fs', o ≠ .ok fs') : o.isOk = false := by
  cases o with
  | ok fs' => exact absurd rfl (h fs')
  | diag => rfl
  | internal => rfl
  | diverged => rfl

end CoCo.Props
