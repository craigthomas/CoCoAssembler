/-
Lemmas/RelocCheck.lean — relocation (C18-R1): executable (Bool) versions of the statement classes
`Unmoved` / `Moved` / `MovedMod` / `MovedNeg` and of the classes of a symbol table entry, sound with respect to the
Prop-valued definitions; the statement list that enters `fixAll` (`stage4`) and the label table (`stageT`) as functions of
the source lines, with `stage4_map` / `stage4T_map` to carry what is evaluated on them to the `Stages` of an accepted run.
That every statement of a concrete program is in one of the classes is shown by evaluation: statements about
`stage4` / `stageT` are `Evaluable` (Lemmas/ParseEval.lean) through `stage4F` / `stageTF`.
-/
import CoCoVerif.Lemmas.ParseEval
import CoCoVerif.Lemmas.RelocEqu
import CoCoVerif.Lemmas.RelocList

namespace CoCo.Asm
open CoCo

def isNumericV : Value → Bool
  | .numeric _ _ _ _ => true
  | _ => false

theorem isNumericV_eq {v : Value} (h : isNumericV v = true) : ∃ k hh mm nn, v = .numeric k hh mm nn := by
  cases v <;> first | exact ⟨_, _, _, _, rfl⟩ | cases h

def boundB (D : Nat) (o : Outcome Value) : Bool :=
  match o with
  | .ok (.numeric z (some 4) .extended false) => decide (z + D ≤ 65535)
  | .ok _ => false
  | _ => true

theorem boundB_sound {D : Nat} {o : Outcome Value} (h : boundB D o = true) :
    ∀ v, o = .ok v → ∃ z, v = .numeric z (some 4) .extended false ∧ z + D ≤ 65535 := by
  intro v hv
  subst hv
  unfold boundB at h
  split at h
  · rename_i z heq
    cases heq
    exact ⟨z, rfl, by simpa using h⟩
  · cases h
  · rename_i hne
    exact absurd rfl (hne v)

def labelSideB (l r : Value) (op : Char) : Bool := l.isAddress || (r.isAddress && op == '+')

theorem labelSideB_sound {l r : Value} {op : Char} (h : labelSideB l r op = true) : LabelSide l r op := by
  unfold labelSideB at h
  simp only [Bool.or_eq_true, Bool.and_eq_true, beq_iff_eq] at h
  exact h

def numExprB (D : Nat) (as : List Stmt) (e : Value) : Bool :=
  match e with
  | .expr l r op _ true =>
    isNumericV (if l.isAddress then r else l) && (op == '+' || op == '-') && labelSideB l r op &&
      boundB D (addrOffset as e)
  | _ => false

theorem numExprB_sound {D : Nat} {as : List Stmt} {e : Value} (h : numExprB D as e = true) : NumExpr D as e := by
  unfold numExprB at h
  split at h
  · rename_i l r op m
    simp only [Bool.and_eq_true, Bool.or_eq_true, beq_iff_eq] at h
    obtain ⟨⟨⟨h1, h2⟩, hs⟩, h3⟩ := h
    obtain ⟨k, hh, mm, nn, hk⟩ := isNumericV_eq h1
    exact ⟨l, r, op, m, k, hh, mm, nn, rfl, hk, h2, labelSideB_sound hs, boundB_sound h3⟩
  · cases h

def diffExprB (e : Value) : Bool :=
  match e with
  | .expr l r op _ true => op == '-' && (if l.isAddress then r else l).isAddress
  | _ => false

theorem diffExprB_sound {e : Value} (h : diffExprB e = true) : DiffExpr e := by
  unfold diffExprB at h
  split at h
  · rename_i l r op m
    simp only [Bool.and_eq_true, beq_iff_eq] at h
    obtain ⟨rfl, h2⟩ := h
    exact ⟨l, r, m, rfl, h2⟩
  · cases h

def fieldWideB (s : Stmt) : Bool :=
  fitSkipped s.row ||
  (match s.pkg.opCode.hexLen?, s.pkg.postByte.hexLen? with
   | some a, some b => 2 * s.pkg.size == a + b + 4
   | _, _ => false)

theorem fieldWideB_sound {s : Stmt} (h : fieldWideB s = true) : FieldWide s := by
  unfold fieldWideB at h
  rcases Bool.or_eq_true _ _ |>.mp h with h | h
  · exact .inl h
  · split at h
    · rename_i a b ha hb
      exact .inr ⟨a, b, ha, hb, by simpa using h⟩
    · cases h

def isAddressV : Value → Bool
  | .address _ _ => true
  | _ => false

def modBoundB (D : Nat) (op : Char) (a k : Nat) (nn : Bool) : Bool :=
  (op == '+' && decide ((a : Int) + signedK k nn + D ≤ 65535)) ||
  (op == '-' && decide ((a : Int) - signedK k nn + D ≤ 65535))

theorem modBoundB_sound {D : Nat} {op : Char} {a k : Nat} {nn : Bool} (h : modBoundB D op a k nn = true) :
    ModBound D op a k nn := by
  unfold modBoundB at h
  simp only [Bool.or_eq_true, Bool.and_eq_true, beq_iff_eq, decide_eq_true_eq] at h
  exact h

def modExprB (D : Nat) (as : List Stmt) (e : Value) : Bool :=
  match e with
  | .expr l r op _ true =>
    (match (if l.isAddress then r else l), (if l.isAddress then l.int? else r.int?) with
     | .numeric k _ _ nn, some t =>
       (match addrIntOf as t with
        | some a => labelSideB l r op && modBoundB D op a k nn
        | none => false)
     | _, _ => false)
  | _ => false

theorem modExprB_sound {D : Nat} {as : List Stmt} {e : Value} (he : modExprB D as e = true) : ModExpr D as e := by
  unfold modExprB at he
  split at he
  · rename_i l r op m
    split at he
    · rename_i k hh mm nn t ho hi
      split at he
      · rename_i a ha
        simp only [Bool.and_eq_true] at he
        exact ⟨l, r, op, m, t, a, k, nn, rfl, ⟨⟨hh, mm, ho⟩, labelSideB_sound he.1, hi, ha⟩, modBoundB_sound he.2⟩
      · cases he
    · cases he
  · cases he

def targetMovesB (D : Nat) (as : List Stmt) (s : Stmt) : Bool :=
  !s.isIdx || !s.pkg.additional.isAddrExpr || (s.isIdx && numExprB D as s.pkg.additional)

theorem targetMovesB_sound {D : Nat} {as : List Stmt} {s : Stmt} (h : targetMovesB D as s = true) :
    TargetMoves D as s := by
  unfold targetMovesB at h
  simp only [Bool.or_eq_true, Bool.and_eq_true, Bool.not_eq_true'] at h
  rcases h with (h | h) | ⟨h1, h2⟩
  · exact .inl h
  · exact .inr (.inl h)
  · exact .inr (.inr ⟨h1, numExprB_sound h2⟩)

def unmovedB (D : Nat) (as : List Stmt) (s : Stmt) : Bool :=
  (s.operand.kind == .relative) ||
  (!(s.operand.kind == .relative) && !s.operand.value.isAddrExpr && !s.operand.value.isAddress &&
    (!s.pkg.needsRes ||
      (!s.pkg.choices.isEmpty && (targetMovesB D as s || (s.isIdx && modExprB D as s.pkg.additional))))) ||
  (!(s.operand.kind == .relative) && !s.pkg.needsRes && diffExprB s.operand.value)

theorem unmovedB_sound {D : Nat} {as : List Stmt} {s : Stmt} (h : unmovedB D as s = true) : Unmoved D as s := by
  unfold unmovedB at h
  simp only [Bool.or_eq_true, Bool.and_eq_true, Bool.not_eq_true', beq_iff_eq] at h
  rcases h with (h | ⟨⟨⟨hk, hE⟩, hA⟩, hr⟩) | ⟨⟨hk, hn⟩, hd⟩
  · exact .inl h
  · refine .inr (.inl ⟨by simpa using hk, hE, hA, ?_⟩)
    rcases hr with hr | ⟨hc, hr | ⟨hidx, hr⟩⟩
    · exact .inl hr
    · exact .inr ⟨hc, .inl (targetMovesB_sound hr)⟩
    · exact .inr ⟨hc, .inr ⟨hidx, modExprB_sound hr⟩⟩
  · exact .inr (.inr ⟨by simpa using hk, hn, diffExprB_sound hd⟩)

def movedRefB (D : Nat) (as : List Stmt) (s : Stmt) : Bool :=
  !(s.operand.kind == .relative) && !s.pkg.needsRes &&
  (isAddressV s.operand.value || numExprB D as s.operand.value) && fieldWideB s

theorem movedRefB_sound {D : Nat} {as : List Stmt} {s : Stmt} (h : movedRefB D as s = true) : MovedRef D as s := by
  unfold movedRefB at h
  simp only [Bool.or_eq_true, Bool.and_eq_true, Bool.not_eq_true'] at h
  obtain ⟨⟨⟨hk, hn⟩, hv⟩, hf⟩ := h
  refine ⟨hk, hn, ?_, fieldWideB_sound hf⟩
  rcases hv with hv | hv
  · left
    cases hx : s.operand.value <;> rw [hx] at hv <;> first | exact ⟨_, _, rfl⟩ | cases hv
  · exact .inr (numExprB_sound hv)

def movedAbsB (D : Nat) (as : List Stmt) (s : Stmt) : Bool :=
  !(s.operand.kind == .relative) && !s.operand.value.isAddrExpr && !s.operand.value.isAddress &&
  s.pkg.needsRes && s.pkg.choices.isEmpty && targetMovesB D as s && fieldWideB s

theorem movedAbsB_sound {D : Nat} {as : List Stmt} {s : Stmt} (h : movedAbsB D as s = true) : MovedAbs D as s := by
  unfold movedAbsB at h
  simp only [Bool.and_eq_true, Bool.not_eq_true'] at h
  obtain ⟨⟨⟨⟨⟨⟨hk, hE⟩, hA⟩, hn⟩, hc⟩, hr⟩, hf⟩ := h
  exact ⟨hk, hE, hA, hn, hc, targetMovesB_sound hr, fieldWideB_sound hf⟩

def movedB (D : Nat) (as : List Stmt) (s : Stmt) : Bool := movedRefB D as s || movedAbsB D as s

theorem movedB_sound {D : Nat} {as : List Stmt} {s : Stmt} (h : movedB D as s = true) : Moved D as s := by
  unfold movedB at h
  rcases Bool.or_eq_true _ _ |>.mp h with h | h
  · exact .inl (movedRefB_sound h)
  · exact .inr (movedAbsB_sound h)

def coverB (D : Nat) (as : List Stmt) : Bool := as.all (fun s => unmovedB D as s || movedB D as s)

theorem coverB_sound {D : Nat} {as : List Stmt} (h : coverB D as = true) :
    ∀ (i : Nat) (s : Stmt), as[i]? = some s → Unmoved D as s ∨ Moved D as s :=
  all_sound (fun _ hs => (Bool.or_eq_true _ _ |>.mp hs).imp unmovedB_sound movedB_sound) h

def field4B (s : Stmt) : Bool :=
  !fitSkipped s.row &&
  (match s.pkg.opCode.hexLen?, s.pkg.postByte.hexLen? with
   | some a, some b => 2 * s.pkg.size == a + b + 4
   | _, _ => false)

theorem field4B_sound {s : Stmt} (h : field4B s = true) : Field4 s := by
  unfold field4B at h
  simp only [Bool.and_eq_true, Bool.not_eq_true'] at h
  obtain ⟨h1, h2⟩ := h
  refine ⟨h1, ?_⟩
  split at h2
  · rename_i a b ha hb
    exact ⟨a, b, ha, hb, by simpa using h2⟩
  · cases h2

def movedModRefB (D : Nat) (as : List Stmt) (s : Stmt) : Bool :=
  !(s.operand.kind == .relative) && !s.pkg.needsRes && field4B s && modExprB D as s.operand.value

theorem movedModRefB_sound {D : Nat} {as : List Stmt} {s : Stmt} (h : movedModRefB D as s = true) :
    MovedModRef D as s := by
  unfold movedModRefB at h
  simp only [Bool.and_eq_true, Bool.not_eq_true'] at h
  obtain ⟨⟨⟨hk, hn⟩, hf⟩, he⟩ := h
  exact ⟨hk, hn, field4B_sound hf, modExprB_sound he⟩

def isPyNoneV : Value → Bool
  | .pyNone => true
  | _ => false

theorem isPyNoneV_false {v : Value} (h : isPyNoneV v = false) : v ≠ .pyNone := by
  intro hv; rw [hv] at h; cases h

def movedModAbsB (D : Nat) (as : List Stmt) (s : Stmt) : Bool :=
  !(s.operand.kind == .relative) && !isPyNoneV s.operand.value && !s.operand.value.isAddrExpr &&
  !s.operand.value.isAddress && s.pkg.needsRes && s.pkg.choices.isEmpty && s.isIdx && field4B s &&
  modExprB D as s.pkg.additional

theorem movedModAbsB_sound {D : Nat} {as : List Stmt} {s : Stmt} (h : movedModAbsB D as s = true) :
    MovedModAbs D as s := by
  unfold movedModAbsB at h
  simp only [Bool.and_eq_true, Bool.not_eq_true'] at h
  obtain ⟨⟨⟨⟨⟨⟨⟨⟨hk, hv⟩, hE⟩, hA⟩, hn⟩, hc⟩, hidx⟩, hf⟩, he⟩ := h
  exact ⟨hk, isPyNoneV_false hv, hE, hA, hn, hc, hidx, field4B_sound hf, modExprB_sound he⟩

def movedModB (D : Nat) (as : List Stmt) (s : Stmt) : Bool := movedModRefB D as s || movedModAbsB D as s

theorem movedModB_sound {D : Nat} {as : List Stmt} {s : Stmt} (h : movedModB D as s = true) : MovedMod D as s := by
  unfold movedModB at h
  rcases Bool.or_eq_true _ _ |>.mp h with h | h
  · exact .inl (movedModRefB_sound h)
  · exact .inr (movedModAbsB_sound h)

def coverModB (D : Nat) (as : List Stmt) : Bool :=
  as.all (fun s => unmovedB D as s || movedB D as s || movedModB D as s)

theorem coverModB_sound {D : Nat} {as : List Stmt} (h : coverModB D as = true) :
    ∀ (i : Nat) (s : Stmt), as[i]? = some s → Unmoved D as s ∨ Moved D as s ∨ MovedMod D as s := by
  refine all_sound (fun s hs => ?_) h
  simp only [Bool.or_eq_true] at hs
  rcases hs with (h1 | h1) | h1
  · exact .inl (unmovedB_sound h1)
  · exact .inr (.inl (movedB_sound h1))
  · exact .inr (.inr (movedModB_sound h1))

def negExprB (as : List Stmt) (e : Value) : Bool :=
  match e with
  | .expr (.numeric k _ _ nn) r op _ true =>
    op == '-' && r.isAddress &&
    (match r.int? with
     | some t => (match addrIntOf as t with
                  | some a => decide (signedK k nn - (a : Int) ≤ 65535)
                  | none => false)
     | none => false)
  | _ => false

def movedNegB (as : List Stmt) (s : Stmt) : Bool :=
  !(s.operand.kind == .relative) && !s.pkg.needsRes && field4B s && negExprB as s.operand.value

theorem negExprB_sound {as : List Stmt} {e : Value} (he : negExprB as e = true) : NegExpr as e := by
  unfold negExprB at he
  split at he
  · rename_i k hh mm nn r op m
    simp only [Bool.and_eq_true, beq_iff_eq] at he
    obtain ⟨⟨rfl, hlab⟩, he⟩ := he
    split at he
    · rename_i t hi
      split at he
      · rename_i a ha
        exact ⟨_, r, m, t, a, k, nn, rfl, ⟨⟨hh, mm, rfl⟩, hlab, hi, ha⟩, by simpa using he⟩
      · cases he
    · cases he
  · cases he

theorem movedNegB_sound {as : List Stmt} {s : Stmt} (h : movedNegB as s = true) : MovedNeg as s := by
  unfold movedNegB at h
  simp only [Bool.and_eq_true, Bool.not_eq_true'] at h
  obtain ⟨⟨⟨hk, hn⟩, hf⟩, he⟩ := h
  exact ⟨hk, hn, field4B_sound hf, negExprB_sound he⟩

def coverNegB (D : Nat) (as : List Stmt) : Bool :=
  as.all (fun s => unmovedB D as s || movedB D as s || movedModB D as s || movedNegB as s)

theorem coverNegB_sound {D : Nat} {as : List Stmt} (h : coverNegB D as = true) :
    ∀ (i : Nat) (s : Stmt), as[i]? = some s →
      Unmoved D as s ∨ Moved D as s ∨ MovedMod D as s ∨ MovedNeg as s := by
  refine all_sound (fun s hs => ?_) h
  simp only [Bool.or_eq_true] at hs
  rcases hs with ((h1 | h1) | h1) | h1
  · exact .inl (unmovedB_sound h1)
  · exact .inr (.inl (movedB_sound h1))
  · exact .inr (.inr (.inl (movedModB_sound h1)))
  · exact .inr (.inr (.inr (movedNegB_sound h1)))

/-- the stages of `assemble` up to `assignAddrs`, for an INCLUDE-free program -/
def stage4 (lines : List Str) : Option (List Stmt) :=
  match parseLines lines with
  | .ok p =>
    if p.all (fun s => !s.row.isInclude) then
      match buildSymTab p 0 [] with
      | some t =>
        match resolveAll t p with
        | some ss1 =>
          match translateAll ss1 with
          | some ss2 =>
            match pcrLoop (ss2.length + 1) ss2 with
            | .ok ss3 =>
              if !orgOK ss3 false then none else
              (match assignAddrs ss3 0 with | .ok ss4 => some ss4 | _ => none)
            | _ => none
          | none => none
        | none => none
      | none => none
    else none
  | _ => none

theorem stage4_eq {fs : Files} {lines : List Str} {A : Assembly} (st : Stages fs lines A) {x : List Stmt}
    (h : stage4 lines = some x) : st.ss4 = x := by
  obtain ⟨parsed, ss0, t, ss1, ss2, ss3, ss4, t1, a0, a1, a2, a3, a4, a5, a6, a7, a8, a9, a10⟩ := st
  dsimp only
  unfold stage4 at h
  rw [a0] at h
  dsimp only at h
  split at h
  · rename_i hinc
    have e := expand_noinclude fs parsed hinc
    rw [a1] at e
    cases e
    rw [a2] at h; dsimp only at h
    rw [a3] at h; dsimp only at h
    rw [a4] at h; dsimp only at h
    rw [a5] at h; dsimp only at h
    rw [a10] at h
    simp only [Bool.not_true, Bool.false_eq_true, if_false] at h
    rw [a6] at h
    simpa using h
  · cases h

/-- `stage4` on the parser of Lemmas/ParseEval.lean, for evaluation -/
def stage4F (lines : List Str) : Option (List Stmt) :=
  match parseLinesF lines with
  | .ok p =>
    if p.all (fun s => !s.row.isInclude) then
      match buildSymTab p 0 [] with
      | some t =>
        match resolveAll t p with
        | some ss1 =>
          match translateAll ss1 with
          | some ss2 =>
            match pcrLoop (ss2.length + 1) ss2 with
            | .ok ss3 =>
              if !orgOK ss3 false then none else
              (match assignAddrs ss3 0 with | .ok ss4 => some ss4 | _ => none)
            | _ => none
          | none => none
        | none => none
      | none => none
    else none
  | _ => none

theorem stage4_fast (lines : List Str) : stage4 lines = stage4F lines := by
  unfold stage4 stage4F
  rw [parseLines_eq]

theorem stage4_map {fs : Files} {lines : List Str} {A : Assembly} (st : Stages fs lines A) {β : Type}
    {f : List Stmt → β} {b : β} (h : (stage4 lines).map f = some b) : f st.ss4 = b := by
  obtain ⟨x, h4, hx⟩ := Option.map_eq_some_iff.mp h
  rw [stage4_eq st h4, hx]

/-- every FCB / FDB list of the program consists of literals (evaluated on `stage4`): every statement that enters
`fixAll` is `ListsConst`, whatever the label table -/
theorem listsConst_of_stage4 {fs : Files} {lines : List Str} {A : Assembly} (st : Stages fs lines A)
    (h : (stage4 lines).map literalListsB = some true) :
    ∀ (i : Nat) (s : Stmt), st.ss4[i]? = some s → ListsConst st.t s :=
  literalListsB_sound (stage4_map st h) st.t

instance {β : Type} [BEq β] [LawfulBEq β] {lines : List Str} {f : List Stmt → β} {b : β} :
    Evaluable ((stage4 lines).map f = some b) ((stage4F lines).map f == some b) :=
  ⟨fun h => by rw [stage4_fast]; exact eq_of_beq h⟩

def equConstB (t : SymTab) (v : Value) : Bool :=
  !v.isEquExpr || (match v.resolve t with | .ok x => !x.isAddrExpr | .error _ => true)

theorem equConstB_sound {t : SymTab} {v : Value} (h : equConstB t v = true) : EquConst t v := by
  intro hv x hx
  unfold equConstB at h
  rw [hv, hx] at h
  simpa using h

def equLabelB (c : Value → Bool) (t : SymTab) (v : Value) : Bool :=
  v.isEquExpr && (match v.resolve t with | .ok x => x.isAddrExpr && c x | .error _ => false)

theorem equLabelB_sound {C : Value → Prop} {c : Value → Bool} (hc : ∀ x, c x = true → C x) {t : SymTab} {v : Value}
    (h : equLabelB c t v = true) : EquLabel C t v := by
  unfold equLabelB at h
  simp only [Bool.and_eq_true] at h
  obtain ⟨hv, h2⟩ := h
  split at h2
  · rename_i x hx
    simp only [Bool.and_eq_true] at h2
    exact ⟨hv, x, hx, h2.1, hc x h2.2⟩
  · cases h2

def equCoveredB (D : Nat) (as : List Stmt) (t : SymTab) (v : Value) : Bool :=
  v.isAddress || (!v.isAddress && equConstB t v) || equLabelB (numExprB D as) t v || equLabelB (modExprB D as) t v ||
    equLabelB diffExprB t v || equLabelB (negExprB as) t v

theorem equCoveredB_sound {D : Nat} {as : List Stmt} {t : SymTab} {v : Value} (h : equCoveredB D as t v = true) :
    EquCovered D as t v := by
  unfold equCoveredB at h
  simp only [Bool.or_eq_true, Bool.and_eq_true, Bool.not_eq_true'] at h
  rcases h with ((((h | ⟨h1, h2⟩) | h) | h) | h) | h
  · exact .inl h
  · exact .inr (.inl ⟨h1, equConstB_sound h2⟩)
  · exact .inr (.inr (.inl (equLabelB_sound (fun _ => numExprB_sound) h)))
  · exact .inr (.inr (.inr (.inl (equLabelB_sound (fun _ => modExprB_sound) h))))
  · exact .inr (.inr (.inr (.inr (.inl (equLabelB_sound (fun _ => diffExprB_sound) h)))))
  · exact .inr (.inr (.inr (.inr (.inr (equLabelB_sound (fun _ => negExprB_sound) h)))))

def equCoverB (D : Nat) (as : List Stmt) (t : SymTab) : Bool := t.all (fun kv => equCoveredB D as t kv.2)

theorem equCoverB_sound {D : Nat} {as : List Stmt} {t : SymTab} (h : equCoverB D as t = true) :
    ∀ kv ∈ t, EquCovered D as t kv.2 :=
  fun kv hkv => equCoveredB_sound (List.all_eq_true.mp h kv hkv)

def noLabelEquB (t : SymTab) : Bool := t.all (fun kv => equConstB t kv.2)

theorem noLabelEquB_sound {t : SymTab} (h : noLabelEquB t = true) : NoLabelEqu t :=
  fun kv hkv => equConstB_sound (List.all_eq_true.mp h kv hkv)

/-- the symbol table built from the labels, for an INCLUDE-free program -/
def stageT (lines : List Str) : Option SymTab :=
  match parseLines lines with
  | .ok p => if p.all (fun s => !s.row.isInclude) then buildSymTab p 0 [] else none
  | _ => none

theorem stageT_eq {fs : Files} {lines : List Str} {A : Assembly} (st : Stages fs lines A) {x : SymTab}
    (h : stageT lines = some x) : st.t = x := by
  obtain ⟨parsed, ss0, t, ss1, ss2, ss3, ss4, t1, a0, a1, a2, a3, a4, a5, a6, a7, a8, a9, a10⟩ := st
  dsimp only
  unfold stageT at h
  rw [a0] at h
  dsimp only at h
  split at h
  · rename_i hinc
    have e := expand_noinclude fs parsed hinc
    rw [a1] at e
    cases e
    rw [a2] at h
    simpa using h
  · cases h

/-- `stageT` on the parser of Lemmas/ParseEval.lean, for evaluation -/
def stageTF (lines : List Str) : Option SymTab :=
  match parseLinesF lines with
  | .ok p => if p.all (fun s => !s.row.isInclude) then buildSymTab p 0 [] else none
  | _ => none

theorem stageT_fast (lines : List Str) : stageT lines = stageTF lines := by
  unfold stageT stageTF
  rw [parseLines_eq]

theorem stage4T_map {fs : Files} {lines : List Str} {A : Assembly} (st : Stages fs lines A) {β : Type}
    {f : List Stmt → SymTab → β} {b : β} (h : (stage4 lines).bind (fun as => (stageT lines).map (f as)) = some b) :
    f st.ss4 st.t = b := by
  obtain ⟨x, h4, h⟩ := Option.bind_eq_some_iff.mp h
  obtain ⟨t, hT, hx⟩ := Option.map_eq_some_iff.mp h
  rw [stage4_eq st h4, stageT_eq st hT, hx]

instance {β : Type} [BEq β] [LawfulBEq β] {lines : List Str} {f : List Stmt → SymTab → β} {b : β} :
    Evaluable ((stage4 lines).bind (fun as => (stageT lines).map (f as)) = some b)
      ((stage4F lines).bind (fun as => (stageTF lines).map (f as)) == some b) :=
  ⟨fun h => by rw [stage4_fast, stageT_fast]; exact eq_of_beq h⟩

instance {lines : List Str} {check : Assembly → Bool} :
    Evaluable (checkProgram lines check = true) (checkProgramF lines check) :=
  ⟨checkProgram_fast⟩

end CoCo.Asm
