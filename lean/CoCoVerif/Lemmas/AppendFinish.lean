/-
Lemmas/AppendFinish.lean — for C18-R4: `fix_addresses` (`fixOne` / `fixAll`), the list pass, the final symbol table and
the image of a program `a ++ b` restricted to `a`.  Every lookup into the statement list (`addrOf`, `sumSizes`, ...)
that succeeds in `ra` gives the same answer in `ra ++ rb`; the rest is carrying that through the stages (for `fixOne`,
through the steps of Lemmas/FixOne.lean).
-/
import CoCoVerif.Lemmas.AssembleStages
import CoCoVerif.Lemmas.EvalLists
import CoCoVerif.Lemmas.ResolveValue

namespace CoCo.Asm
open CoCo

theorem addrOf_append {ra rb : List Stmt} {j : Nat} {v : Value} (h : addrOf ra j = some v) :
    addrOf (ra ++ rb) j = some v := by
  obtain ⟨s, hs, hv⟩ := addrOf_eq_some.1 h
  exact addrOf_eq_some.2 ⟨s, getElem?_append_some hs, hv⟩

theorem addrIntOf_append {ra rb : List Stmt} {j n : Nat} (h : addrIntOf ra j = some n) :
    addrIntOf (ra ++ rb) j = some n := by
  obtain ⟨s, hs, hn⟩ := addrIntOf_eq_some.1 h
  exact addrIntOf_eq_some.2 ⟨s, getElem?_append_some hs, hn⟩

theorem addrOperand_append {ra rb : List Stmt} {v : Value} {n : Int} (h : addrOperand ra v = .ok n) :
    addrOperand (ra ++ rb) v = .ok n := by
  rw [addrOperand_eq] at h ⊢
  exact Outcome.ite_mono (fun _ => Outcome.bind_mono (fun _ => id) fun _ _ =>
    Outcome.map_mono fun _ => Outcome.ofOptionI_mono fun _ => addrIntOf_append) (fun _ => id) h

theorem addrOffset_append {ra rb : List Stmt} {v x : Value} (h : addrOffset ra v = .ok x) :
    addrOffset (ra ++ rb) v = .ok x := by
  cases v with
  | expr l r op m ae =>
    obtain ⟨a, b, h1, h2, h3⟩ := addrOffset_ok.1 h
    exact addrOffset_ok.2 ⟨a, b, addrOperand_append h1, addrOperand_append h2, h3⟩
  | _ => cases h

theorem fixBranch_append {ra rb : List Stmt} {i : Nat} {s : Stmt} (hi : i < ra.length)
    (hb : ∀ b, s.pkg.additional.int? = some b → b ≤ ra.length) :
    fixBranch (ra ++ rb) i s = fixBranch ra i s := by
  rw [fixBranch_eq, fixBranch_eq]
  refine Outcome.bind_congr fun b hbb => ?_
  rw [sumSize_append (show i + 1 ≤ ra.length by omega), sumSize_append (hb b (Outcome.ofOptionI_eq_ok hbb))]

theorem fixPart1_append {ra rb : List Stmt} {s x : Stmt} {ov : Value} (h : fixPart1 ra s ov = .ok x) :
    fixPart1 (ra ++ rb) s ov = .ok x := by
  rw [fixPart1_eq] at h ⊢
  exact Outcome.ite_mono (fun _ => Outcome.map_mono fun _ => addrOffset_append) (fun _ => id) h

theorem fixPart2_append {ra rb : List Stmt} {s1 x : Stmt} {ov : Value} (h : fixPart2 ra ov s1 = .ok x) :
    fixPart2 (ra ++ rb) ov s1 = .ok x := by
  rw [fixPart2_eq] at h ⊢
  exact Outcome.ite_mono (fun _ => Outcome.map_mono fun _ => Outcome.bind_mono (fun _ => id) fun _ _ =>
    Outcome.ofOptionI_mono fun _ => addrOf_append) (fun _ => id) h

theorem fixRelTarget_append {ra rb : List Stmt} {s2 : Stmt} {n : Nat} (h : fixRelTarget ra s2 = .ok n) :
    fixRelTarget (ra ++ rb) s2 = .ok n := by
  rw [fixRelTarget_bind] at h ⊢
  exact Outcome.ite_mono (fun _ => Outcome.bind_mono (fun _ => addrOffset_append) fun _ _ => id)
    (fun _ => Outcome.bind_mono (fun _ => id) fun _ _ => Outcome.ofOptionI_mono fun _ => addrIntOf_append) h

theorem fixPart3_append {ra rb : List Stmt} {i : Nat} {s2 x : Stmt} (h : fixPart3 ra i s2 = .ok x) :
    fixPart3 (ra ++ rb) i s2 = .ok x := by
  rw [fixPart3_eq] at h ⊢
  exact Outcome.ite_mono (fun _ => Outcome.bind_mono (fun _ => fixRelTarget_append) fun _ _ =>
    Outcome.ite_mono (fun _ => id) fun _ => Outcome.bind_mono (fun _ => Outcome.ofOptionI_mono fun _ => addrIntOf_append)
      fun _ _ => id) (fun _ => id) h

theorem fixNonRel_append {ra rb : List Stmt} {i : Nat} {s x : Stmt} {ov : Value}
    (h : fixNonRel ra i s ov = .ok x) : fixNonRel (ra ++ rb) i s ov = .ok x := by
  rw [fixNonRel_bind] at h ⊢
  exact Outcome.bind_mono (fun _ => fixPart1_append) (fun _ _ => Outcome.bind_mono (fun _ => fixPart2_append) fun _ _ =>
    fixPart3_append) h

/-- a statement of the prefix is patched in the same way inside the longer list; for a relative
branch the target index must not lie beyond the end of the prefix -/
theorem fixOne_append {ra rb : List Stmt} {i : Nat} {s x : Stmt} (hi : i < ra.length)
    (hb : s.operand.kind = .relative → ∀ b, s.pkg.additional.int? = some b → b ≤ ra.length)
    (h : fixOne ra i s = .ok x) : fixOne (ra ++ rb) i s = .ok x := by
  rw [fixOne_eq] at h ⊢
  split at h
  · rename_i hk
    rw [if_pos hk, fixBranch_append hi (hb (by simpa using hk))]
    exact h
  · rename_i hk
    rw [if_neg hk]
    cases hov : s.operand.value <;> rw [hov] at h <;> first | exact fixNonRel_append h | cases h

/-- relative branches of `x` aim at an index that is at most `n` -/
def BranchInside (n : Nat) (x : List Stmt) : Prop :=
  ∀ s ∈ x, s.operand.kind = .relative → ∀ b, s.pkg.additional.int? = some b → b ≤ n

theorem fixFit_append {ra rb : List Stmt} {i : Nat} {s x : Stmt} (hi : i < ra.length)
    (hb : s.operand.kind = .relative → ∀ b, s.pkg.additional.int? = some b → b ≤ ra.length)
    (h : fixFit ra i s = .ok x) : fixFit (ra ++ rb) i s = .ok x := by
  obtain ⟨s1, h1, h2⟩ := fixFit_ok.1 h
  exact fixFit_ok.2 ⟨s1, fixOne_append hi hb h1, h2⟩

theorem finalVal_append {ra rb : List Stmt} {v x : Value} (h : finalVal ra v = some x) : finalVal (ra ++ rb) v = some x := by
  cases v with
  | address i m => exact addrOf_append h
  | _ => exact h

theorem finalSym1_append {ra rb : List Stmt} {kv kv' : Str × Value} (h : finalSym1 ra kv = .ok kv') :
    finalSym1 (ra ++ rb) kv = .ok kv' :=
  finalSym1_eq_ok.2 ⟨(finalSym1_eq_ok.1 h).1, finalVal_append (finalSym1_eq_ok.1 h).2⟩

theorem evalSym_mono {ra rb : List Stmt} {t t' : SymTab} (hle : SymTab.Le t t')
    {v v' : Value} (h : evalSym ra t v = .ok v') : evalSym (ra ++ rb) t' v = .ok v' := by
  rw [evalSym_eq] at h ⊢
  exact Outcome.ite_mono (fun _ => Outcome.bind_mono (fun _ => Outcome.ofR_mono fun _ => Value.resolve_mono hle) fun _ _ =>
    Outcome.map_mono fun _ => Outcome.ite_mono (fun _ => addrOffset_append) fun _ => id) (fun _ => id) h

theorem elemNum_mono {ra rb : List Stmt} {r y : Value} (h : elemNum ra r = .ok y) : elemNum (ra ++ rb) r = .ok y := by
  rw [elemNum_eq] at h ⊢
  exact Outcome.ite_mono (fun _ => Outcome.bind_mono (fun _ => id) fun _ _ => Outcome.ofOptionI_mono fun _ => addrOf_append)
    (fun _ => Outcome.ite_mono (fun _ => addrOffset_append) fun _ => id) h

theorem evalElem_mono {ra rb : List Stmt} {t t' : SymTab} (hle : SymTab.Le t t') {w : Nat} {x h : Str}
    (he : evalElem ra t w x = .ok h) : evalElem (ra ++ rb) t' w x = .ok h := by
  rw [evalElem_bind] at he ⊢
  refine Outcome.bind_mono (fun _ => id) (fun _ _ => Outcome.bind_mono
    (fun _ => Outcome.ofR_mono fun _ => Value.resolve_mono hle) fun r _ he => ?_) he
  -- a rendered element is the rendering of a number, and the number stays
  obtain ⟨n, a, b, neg, f, h1, _, _⟩ := elemRender_ok he
  rw [elemNum_mono h1, ← h1]
  exact he

theorem evalElem1_mono {ra rb : List Stmt} {t t' : SymTab} (hle : SymTab.Le t t') {w : Nat} {x g h : Str}
    (he : evalElem1 ra t w x g = .ok h) : evalElem1 (ra ++ rb) t' w x g = .ok h := by
  unfold evalElem1 at he ⊢
  split
  · rename_i hp; rw [if_pos hp] at he; exact evalElem_mono hle he
  · rename_i hp; rw [if_neg hp] at he; exact he

theorem evalElems_mono {ra rb : List Stmt} {t t' : SymTab} (hle : SymTab.Le t t') {w : Nat} {xs hs r : List Str}
    (h : evalElems ra t w xs hs = .ok r) : evalElems (ra ++ rb) t' w xs hs = .ok r := by
  rw [evalElems_eq_traverse _ _ _ 0] at h ⊢
  exact Outcome.traverse_mono (fun _ _ _ _ => evalElem1_mono hle) h

theorem evalList1_mono {ra rb : List Stmt} {t t' : SymTab} (hle : SymTab.Le t t') {s s' : Stmt}
    (h : evalList1 t ra s = .ok s') : evalList1 t' (ra ++ rb) s = .ok s' := by
  rcases list_or_not s.pkg.additional with ⟨w, mk, hs, k, ha⟩ | ⟨hb, hw⟩
  · obtain ⟨hs', h4, rfl⟩ := evalList1_ok_list k ha h
    rw [evalList1_list k _ _ ha, evalElems_mono hle h4]
  · rw [evalList1_keep _ _ hb hw] at h ⊢; exact h

/-- each pass of `finish` over the longer program, with the longer table, keeps what it does on the shorter one -/
theorem finish_prefix {t1 d : SymTab} {la lb : List Stmt} {A B : Assembly}
    (hA : finish t1 la = .ok A) (hB : finish (t1 ++ d) (la ++ lb) = .ok B)
    (hbr : BranchInside la.length la) :
    (∃ r, B.stmts = A.stmts ++ r) ∧ (∃ d', B.symtab = A.symtab ++ d') := by
  have hle := SymTab.le_append t1 d
  obtain ⟨a0, ⟨ta, a3, a2⟩, _⟩ := finish_ok hA
  obtain ⟨b0, ⟨tb, b3, b2⟩, _⟩ := finish_ok hB
  obtain ⟨xa, a1, a1'⟩ := fixAllL_ok.1 a0
  obtain ⟨xb, b1, b1'⟩ := fixAllL_ok.1 b0
  rw [fixAll_eq_traverse] at a1 b1
  rw [evalLists_eq_traverse _ _ 0] at a1' b1'
  rw [evalSyms_eq_traverse _ _ 0] at a3 b3
  rw [finalSymTab_eq_traverse _ 0] at a2 b2
  obtain ⟨yb, rfl⟩ := Outcome.traverse_prefix a1 b1 fun j s _ hs h =>
    fixFit_append (by have := lt_of_getElem? hs; omega) (hbr s (List.mem_of_getElem? hs)) h
  obtain ⟨r, hr⟩ := Outcome.traverse_prefix a1' b1' fun _ _ _ _ => evalList1_mono hle
  rw [hr] at b2 b3
  obtain ⟨ty, rfl⟩ := Outcome.traverse_prefix a3 b3 fun _ _ _ _ hb => by
    obtain ⟨v', h1, rfl⟩ := Outcome.map_eq_ok hb
    rw [evalSym_mono hle h1]; rfl
  obtain ⟨d', hd'⟩ := Outcome.traverse_prefix a2 b2 fun _ _ _ _ => finalSym1_append
  exact ⟨⟨r, hr⟩, ⟨d', hd'⟩⟩

theorem image_prefix {A B : Assembly} {r : List Stmt} (h : B.stmts = A.stmts ++ r) {ib : Bytes}
    (hb : B.image = some ib) : ∃ ia rest, A.image = some ia ∧ ib = ia ++ rest := by
  unfold Assembly.image at hb ⊢
  rw [h] at hb
  cases hm : (A.stmts ++ r).mapM stmtBytes with
  | none => rw [hm] at hb; cases hb
  | some l =>
    rw [hm] at hb
    obtain ⟨rx, ry, e1, _, e3⟩ := mapM_append_some _ _ _ _ hm
    rw [e1]
    simp only [Option.map, Option.some.injEq] at hb ⊢
    exact ⟨_, ry.flatten, rfl, by rw [← hb, e3, List.flatten_append]⟩

end CoCo.Asm
