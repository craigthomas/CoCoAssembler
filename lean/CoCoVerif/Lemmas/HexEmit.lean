/-
Lemmas/HexEmit.lean — the hex path of `Program.get_binary_array`: what `fmtHex` prints (`fmtHex_digits`,
`fmtHex_length`), what `emitPairs` reads back (`emitPairs_eq`: the bytes `pairBytes` spells), `emitValue` and `stmtBytes`
taken apart (`stmtBytes_split`: the bytes of a statement are a prefix and the bytes of its operand field,
`withAdditional s v` being `s` with another field), and `emitValue` of a number (`emit_numeric`, with the values the
translators build as its instances).  The literal lists `.multiByte` / `.multiWord` emit their strings as they are.
Two facts about what is emitted need less than the bytes themselves.  How many there are (`Emits`): `emitHex hex hexLen`
takes `(hexLen + 1) / 2` digit pairs from the front of `hex`, so a value emits `hexLen / 2` bytes as soon as `hexLen` is
even and `hex` is at least that long (`emits_of_hex`).  That they are below 256 (`stmtBytes_lt`): a pair of hex digits
is a byte, and every string `Value.hex?` renders is made of hex digits (`HexStr`) but for the strings of a literal
list, which are stored as they are: `Value.MOK` asks it of them.
-/
import CoCoVerif.Model.Program
import CoCoVerif.Lemmas.ListPass
import CoCoVerif.Lemmas.NumValue

namespace CoCo.Asm
open CoCo
open CoCo.Gen (InstrRow)

theorem digitVal_hexChar : ∀ d, d < 16 → digitVal (hexChar d) = d := by decide

theorem digitVal_lt_16 {c : Char} (h : isHexD c = true) : digitVal c < 16 := by
  simp only [isHexD, isDigit, Bool.or_eq_true, Bool.and_eq_true, decide_eq_true_eq, char_le_iff] at h
  simp only [digitVal, isDigit, Bool.and_eq_true, decide_eq_true_eq, char_le_iff]
  have e0 : '0'.toNat = 48 := rfl
  have e9 : '9'.toNat = 57 := rfl
  have ea : 'a'.toNat = 97 := rfl
  have ef : 'f'.toNat = 102 := rfl
  have eA : 'A'.toNat = 65 := rfl
  have eF : 'F'.toNat = 70 := rfl
  rw [e0, e9, ea, ef, eA, eF] at h
  rw [e0, e9, ea, ef]
  split
  · omega
  · split <;> omega

/-- the `w` base-16 digits of `v`, most significant first -/
def digitsBE : Nat → Nat → List Nat
  | 0, _ => []
  | w + 1, v => digitsBE w (v / 16) ++ [v % 16]

theorem digitsBE_length (w v : Nat) : (digitsBE w v).length = w := by
  induction w generalizing v with
  | zero => rfl
  | succ w ih => simp [digitsBE, ih]

theorem digitsBE_zero (w : Nat) : digitsBE w 0 = List.replicate w 0 := by
  induction w with
  | zero => rfl
  | succ w ih => simp [digitsBE, ih, List.replicate_succ']

theorem digitsBE_lt (w v : Nat) : ∀ d ∈ digitsBE w v, d < 16 := by
  induction w generalizing v with
  | zero => simp [digitsBE]
  | succ w ih =>
    intro d hd
    simp only [digitsBE, List.mem_append, List.mem_singleton] at hd
    rcases hd with hd | hd
    · exact ih _ _ hd
    · omega

theorem natHexF_length_le (f v : Nat) : (natHexF f v).length ≤ f := by
  induction f generalizing v with
  | zero => simp [natHexF]
  | succ f ih =>
    simp only [natHexF]
    split
    · simp
    · have := ih (v / 16); simp; omega

theorem natHexF_lt (f v : Nat) : ∀ d ∈ natHexF f v, d < 16 := by
  induction f generalizing v with
  | zero => simp [natHexF]
  | succ f ih =>
    intro d hd
    simp only [natHexF] at hd
    split at hd
    · simp only [List.mem_singleton] at hd; omega
    · simp only [List.mem_append, List.mem_singleton] at hd
      rcases hd with hd | hd
      · exact ih _ _ hd
      · omega

/-- `"{:0>wX}"` pads, and never cuts -/
theorem fmtHex_length (w v : Nat) : (fmtHex w v).length = max w (natHexF 20 v).length := by
  unfold fmtHex
  simp only [List.length_append, List.length_replicate, List.length_map]
  omega

/-- `"{:X}"` padded on the left with zero digits to width `w` is the `w`-digit expansion, as soon as
the value fits (`v < 16^w`) and the fuel suffices (`v < 16^f`) -/
theorem natHexF_pad (w : Nat) : ∀ f v, 1 ≤ w → v < 16 ^ w → v < 16 ^ f →
    List.replicate (w - (natHexF f v).length) 0 ++ natHexF f v = digitsBE w v := by
  induction w with
  | zero => intro f v h; omega
  | succ w ih =>
    intro f v _ hv hf
    cases f with
    | zero =>
      obtain rfl : v = 0 := by simpa using hf
      simp [natHexF, digitsBE_zero]
    | succ f' =>
      simp only [natHexF, digitsBE]
      by_cases h16 : v < 16
      · have h0 : v / 16 = 0 := by omega
        have hm : v % 16 = v := by omega
        simp [h16, h0, hm, digitsBE_zero]
      · have hw : 1 ≤ w := by
          cases w with
          | zero => simp at hv; omega
          | succ w => omega
        have hv' : v / 16 < 16 ^ w := by
          rw [Nat.pow_succ] at hv; omega
        have hf' : v / 16 < 16 ^ f' := by
          rw [Nat.pow_succ] at hf; omega
        have := ih f' (v / 16) hw hv' hf'
        simp only [h16, if_false, List.length_append, List.length_singleton]
        rw [← this]
        have e : w + 1 - ((natHexF f' (v / 16)).length + 1) = w - (natHexF f' (v / 16)).length := by omega
        rw [e, List.append_assoc]

theorem natHexF_length_le_of_lt {w v : Nat} (hw : 1 ≤ w) (h : v < 16 ^ w) (h20 : v < 16 ^ 20) :
    (natHexF 20 v).length ≤ w := by
  have := congrArg List.length (natHexF_pad w 20 v hw h h20)
  rw [List.length_append, List.length_replicate, digitsBE_length] at this
  omega

/-- the key fact about `"{:0>wX}".format(v)`: for a value that fits it is exactly its `w` digits -/
theorem fmtHex_digits (w v : Nat) (hw1 : 1 ≤ w) (hv : v < 16 ^ w) (h20 : v < 16 ^ 20) :
    fmtHex w v = (digitsBE w v).map hexChar := by
  have h := natHexF_pad w 20 v hw1 hv h20
  simp only [fmtHex]
  rw [← h, List.map_append, List.map_replicate]
  rfl

theorem fmtHex_length_of_lt {w v : Nat} (hw1 : 1 ≤ w) (hv : v < 16 ^ w) (h20 : v < 16 ^ 20) : (fmtHex w v).length = w := by
  rw [fmtHex_digits w v hw1 hv h20, List.length_map, digitsBE_length]

def byteHex (b : Nat) : Str := [hexChar (b / 16), hexChar (b % 16)]

theorem digitsBE_two {b : Nat} (h : b < 256) : (digitsBE 2 b).map hexChar = byteHex b := by
  have : b / 16 % 16 = b / 16 := by omega
  simp [digitsBE, byteHex, this]

theorem digitsBE_add_two (w v : Nat) : digitsBE (w + 2) v = digitsBE w (v / 256) ++ digitsBE 2 (v % 256) := by
  have e1 : v / 16 / 16 = v / 256 := by omega
  have e2 : v / 16 % 16 = v % 256 / 16 % 16 := by omega
  have e3 : v % 16 = v % 256 % 16 := by omega
  simp only [digitsBE, List.nil_append, List.append_assoc, List.cons_append, e1]
  rw [e2, ← e3]

/-- the `k` bytes of `n`, most significant first -/
def bytesBE : Nat → Nat → Bytes
  | 0, _ => []
  | k + 1, n => bytesBE k (n / 256) ++ [n % 256]

theorem bytesBE_length : ∀ k n, (bytesBE k n).length = k
  | 0, _ => rfl
  | k + 1, n => by simp [bytesBE, bytesBE_length k]

theorem bytesBE_lt : ∀ k n, ∀ b ∈ bytesBE k n, b < 256
  | 0, _ => by simp [bytesBE]
  | k + 1, n => by
    intro b hb
    simp only [bytesBE, List.mem_append, List.mem_singleton] at hb
    rcases hb with hb | rfl
    · exact bytesBE_lt k _ b hb
    · omega

theorem bytesBE_zero : ∀ k, bytesBE k 0 = List.replicate k 0
  | 0 => rfl
  | k + 1 => by simp [bytesBE, bytesBE_zero k, List.replicate_succ']

theorem bytesBE_one {v : Nat} (h : v < 256) : bytesBE 1 v = [v] := by
  simp [bytesBE, Nat.mod_eq_of_lt h]

theorem bytesBE_two {v : Nat} (h : v < 65536) : bytesBE 2 v = [v / 256, v % 256] := by
  simp [bytesBE, Nat.mod_eq_of_lt (show v / 256 < 256 by omega)]

theorem digitsBE_bytes : ∀ k n, (digitsBE (2 * k) n).map hexChar = (bytesBE k n).flatMap byteHex
  | 0, _ => rfl
  | k + 1, n => by
    rw [show 2 * (k + 1) = 2 * k + 2 from rfl, digitsBE_add_two, List.map_append, digitsBE_bytes k,
      digitsBE_two (Nat.mod_lt _ (by decide))]
    simp [bytesBE, List.flatMap_append]

theorem fmtHex_byte {v : Nat} (h : v < 256) : fmtHex 2 v = byteHex v := by
  rw [fmtHex_digits 2 v (by omega) (by omega) (by omega), digitsBE_two h]

theorem fmtHex_word {v : Nat} (h : v < 65536) : fmtHex 4 v = byteHex (v / 256) ++ byteHex (v % 256) := by
  rw [fmtHex_digits 4 v (by omega) (by omega) (by omega), digitsBE_add_two 2 v, List.map_append,
    digitsBE_two (by omega), digitsBE_two (by omega)]

theorem natHexF_lt16 {v : Nat} (h : v < 16) : natHexF 20 v = [v] := by simp [natHexF, h]

/-- `"{:X}"` prints `n + 1` digits for `16^n ≤ v < 16^(n+1)` -/
theorem natHexF_len : ∀ {n f v : Nat}, n < f → 16 ^ n ≤ v → v < 16 ^ (n + 1) → (natHexF f v).length = n + 1
  | 0, f + 1, v, _, _, h2 => by simp [natHexF, show v < 16 by omega]
  | n + 1, f + 1, v, hf, h1, h2 => by
    have h16 : ¬ v < 16 := by
      have : 16 ^ 1 ≤ 16 ^ (n + 1) := Nat.pow_le_pow_right (by decide) (by omega)
      omega
    have ih := natHexF_len (n := n) (f := f) (v := v / 16) (by omega) (by rw [Nat.pow_succ] at h1; omega)
      (by rw [Nat.pow_succ] at h2; omega)
    simp [natHexF, h16, ih]

/-- a value wider than the field is NOT truncated by the formatter: `fmtHex 2` of a 3-digit value has 3 digits -/
theorem fmtHex_wide3 {v : Nat} (h1 : 256 ≤ v) (h2 : v < 4096) :
    fmtHex 2 v = [hexChar (v / 256), hexChar (v / 16 % 16), hexChar (v % 16)] := by
  have h := natHexF_pad 3 20 v (by omega) (by omega) (by omega)
  have hl : (natHexF 20 v).length = 3 := natHexF_len (n := 2) (by omega) (by omega) (by omega)
  simp only [hl, Nat.sub_self, List.replicate_zero, List.nil_append] at h
  simp only [fmtHex, h]
  have : v / 16 / 16 % 16 = v / 256 := by omega
  simp [digitsBE, this]

/-- `hex_len()` of a NumericValue without a size hint: digits rounded up to even -/
theorem numHexLen_none_even (i : Nat) : numHexLen i none % 2 = 0 := by
  unfold numHexLen
  dsimp only
  split
  · rename_i h; simp at h; omega
  · rename_i h; simp at h; omega

/-- with the size hints the parser gives, `hex_len()` is even -/
theorem hintOK_even {i : Nat} {h : Option Nat} (hh : HintOK h) : numHexLen i h % 2 = 0 := by
  rcases hh with rfl | rfl | rfl
  · exact numHexLen_none_even i
  · simp [numHexLen]
  · simp [numHexLen]

theorem numHexLen_none_byte {v : Nat} (h : v < 256) : numHexLen v none = 2 := by
  by_cases h16 : v < 16
  · simp [numHexLen, natHexF_lt16 h16]
  · simp [numHexLen, natHexF_len (n := 1) (f := 20) (v := v) (by omega) (by omega) (by omega)]
theorem numHexLen_none_word {v : Nat} (h1 : 256 ≤ v) (h2 : v < 65536) : numHexLen v none = 4 := by
  by_cases h : v < 4096
  · simp [numHexLen, natHexF_len (n := 2) (f := 20) (v := v) (by omega) (by omega) (by omega)]
  · simp [numHexLen, natHexF_len (n := 3) (f := 20) (v := v) (by omega) (by omega) (by omega)]

/-- a post byte is one byte: `NumericValue(v)` for `v < 256` has `hex_len() = 2` -/
theorem numV_hexLen {a : Nat} {v : Value} (h : numV a = .ok v) (ha : a < 256) : v.hexLen? = some 2 := by
  rw [numV_byte ha] at h
  cases h
  rfl

theorem Value.hexLen?_isSome_of_ne_pyNone {v : Value} (h : v ≠ .pyNone) : ∃ a, v.hexLen? = some a := by
  cases v with
  | pyNone => exact absurd rfl h
  | _ => exact ⟨_, rfl⟩

/-- the bytes spelt by a digit string, pair by pair (a last single digit is dropped) -/
def pairBytes : Str → Bytes
  | a :: b :: rest => (digitVal a * 16 + digitVal b) :: pairBytes rest
  | _ => []

/-- `get_binary_array` on one hex string: `n` bytes from the front, or an IndexError when the string is shorter -/
theorem emitPairs_eq : ∀ (n : Nat) (s : Str) (acc : Bytes),
    emitPairs n s acc = if 2 * n ≤ s.length then some (acc.reverse ++ (pairBytes s).take n) else none
  | 0, s, acc => by simp [emitPairs]
  | n + 1, [], acc => by simp [emitPairs]
  | n + 1, [_], acc => by
    have : ¬ 2 * (n + 1) ≤ 1 := by omega
    simp [emitPairs, this]
  | n + 1, a :: b :: rest, acc => by
    rw [emitPairs, emitPairs_eq n rest]
    have : 2 * (n + 1) ≤ (a :: b :: rest).length ↔ 2 * n ≤ rest.length := by simp only [List.length_cons]; omega
    simp only [this, pairBytes, List.take_succ_cons, List.reverse_cons, List.append_assoc, List.singleton_append]

theorem pairBytes_length : ∀ s : Str, (pairBytes s).length = s.length / 2
  | [] => rfl
  | [_] => by simp [pairBytes]
  | a :: b :: rest => by simp only [pairBytes, List.length_cons, pairBytes_length rest]; omega

theorem pairBytes_lt : ∀ {s : Str}, (∀ c ∈ s, digitVal c < 16) → ∀ x ∈ pairBytes s, x < 256
  | [], _, x, hx => by simp [pairBytes] at hx
  | [_], _, x, hx => by simp [pairBytes] at hx
  | a :: b :: rest, h, x, hx => by
    simp only [pairBytes, List.mem_cons] at hx
    rcases hx with rfl | hx
    · have h1 := h a (by simp)
      have h2 := h b (by simp)
      omega
    · exact pairBytes_lt (fun c hc => h c (by simp [hc])) x hx

theorem pairBytes_byteHex (bs : Bytes) (hb : ∀ b ∈ bs, b < 256) (rest : Str) :
    pairBytes (bs.flatMap byteHex ++ rest) = bs ++ pairBytes rest := by
  induction bs with
  | nil => rfl
  | cons b bs ih =>
    have hb0 : b < 256 := hb b (by simp)
    have : b / 16 * 16 + b % 16 = b := by omega
    simp [byteHex, pairBytes, digitVal_hexChar _ (show b / 16 < 16 by omega),
      digitVal_hexChar _ (show b % 16 < 16 by omega), this, ih (fun x hx => hb x (by simp [hx]))]

theorem emitHex_eq (x : Str) (l : Nat) :
    emitHex x l = if 2 * ((l + 1) / 2) ≤ x.length then some ((pairBytes x).take ((l + 1) / 2)) else none := by
  rw [emitHex, emitPairs_eq]
  rfl

/-- `get_binary_array` takes `(hex_len + 1) / 2` bytes -/
theorem emitHex_length {x : Str} {l : Nat} {bs : Bytes} (h : emitHex x l = some bs) : bs.length = (l + 1) / 2 := by
  rw [emitHex_eq] at h
  split at h
  · cases h
    rw [List.length_take, pairBytes_length]
    omega
  · cases h

theorem emitHex_byteHex (bs : Bytes) (hb : ∀ b ∈ bs, b < 256) (rest : Str) :
    emitHex (bs.flatMap byteHex ++ rest) (2 * bs.length) = some bs := by
  have hp := pairBytes_byteHex bs hb rest
  have hl := pairBytes_length (bs.flatMap byteHex ++ rest)
  rw [hp, List.length_append] at hl
  have e : (2 * bs.length + 1) / 2 = bs.length := by omega
  rw [emitHex_eq, e, if_pos (by omega), hp, List.take_left']
  rfl

theorem emitHex_byte {v : Nat} (h : v < 256) (rest : Str) : emitHex (byteHex v ++ rest) 2 = some [v] := by
  have := emitHex_byteHex [v] (by simpa using h) rest
  simpa using this

@[simp] theorem emitValue_none : emitValue .none = some [] := by
  simp [emitValue, Value.hex?, Value.hexLen?, emitHex, emitPairs]

theorem emitValue_numeric (i : Nat) (h : Option Nat) (m : Mode) (n : Bool) :
    emitValue (.numeric i h m n) = emitHex (numHex i h n) (numHexLen i h) := by
  simp [emitValue, Value.hex?, Value.hexLen?]

theorem hex_hinted {w : Nat} (hw : w ≠ 0) (z : Nat) (m : Mode) :
    (Value.numeric z (some w) m false).hex? = some (fmtHex w z) := by
  simp [Value.hex?, numHex, hw, getNegative]

theorem emitValue_eq_some {v : Value} {bs : Bytes} :
    emitValue v = some bs ↔ ∃ x l, v.hex? = some x ∧ v.hexLen? = some l ∧ emitHex x l = some bs := by
  unfold emitValue
  cases v.hex? <;> cases v.hexLen? <;> simp

/-- bytes of a package: `stmtBytes` reads nothing else of the statement -/
def pkgBytes (p : Pkg) : Option Bytes := do
  let a ← emitValue p.opCode
  let b ← emitValue p.postByte
  let c ← emitValue p.additional
  pure (a ++ b ++ c)

theorem stmtBytes_eq_pkgBytes (s : Stmt) : stmtBytes s = pkgBytes s.pkg := rfl

theorem pkgBytes_eq_some {p : Pkg} {bytes : Bytes} :
    pkgBytes p = some bytes ↔
      ∃ a b c, emitValue p.opCode = some a ∧ emitValue p.postByte = some b ∧ emitValue p.additional = some c ∧
        bytes = a ++ b ++ c := by
  unfold pkgBytes
  cases emitValue p.opCode <;> cases emitValue p.postByte <;> cases emitValue p.additional <;> simp [eq_comm]

theorem stmtBytes_eq_some {s : Stmt} {bytes : Bytes} :
    stmtBytes s = some bytes ↔
      ∃ a b c, emitValue s.pkg.opCode = some a ∧ emitValue s.pkg.postByte = some b ∧
        emitValue s.pkg.additional = some c ∧ bytes = a ++ b ++ c :=
  pkgBytes_eq_some

def withAdditional (s : Stmt) (v : Value) : Stmt := { s with pkg := { s.pkg with additional := v } }

theorem stmtBytes_split {s : Stmt} {bs : Bytes} (hb : stmtBytes s = some bs) :
    ∃ pre c, emitValue s.pkg.additional = some c ∧ bs = pre ++ c ∧
      ∀ (v : Value) (c' : Bytes), emitValue v = some c' → stmtBytes (withAdditional s v) = some (pre ++ c') := by
  obtain ⟨a, p, c, ha, hp, hc, rfl⟩ := stmtBytes_eq_some.mp hb
  exact ⟨a ++ p, c, hc, rfl, fun v c' hv => stmtBytes_eq_some.mpr ⟨a, p, c', ha, hp, hv, rfl⟩⟩

/-- `hex()` of a number with a nonzero even `hex_len()`: that many digits (more if the number is wider: the formatter
does not cut); a negative number as `get_negative` has it, four digits as the 16-bit two's complement -/
theorem numHex_even {i : Nat} {h : Option Nat} (n : Bool) (hev : numHexLen i h % 2 = 0) (h0 : numHexLen i h ≠ 0) :
    numHex i h n =
      fmtHex (numHexLen i h) (if (n && numHexLen i h == 4) = true then 0x10000 - i else getNegative i n) := by
  have hsize : numHex i h n = if (n && numHexLen i h == 4) = true then fmtHex 4 (0x10000 - i)
      else fmtHex (numHexLen i h) (getNegative i n) := by
    cases h with
    | none => simp [numHex, hev]
    | some s => simp [numHex, numHexLen, show s ≠ 0 from h0]
  rw [hsize]
  split
  · rename_i hc
    simp only [Bool.and_eq_true, beq_iff_eq] at hc
    rw [hc.2]
  · rfl

/-- a number whose `hex_len()` is `2k` is emitted as `k` bytes, most significant first; a negative one in two's
complement: of 16 bits when four digits are printed, else as `get_negative` has it (8 bits down to -128) -/
theorem emit_numeric {i : Nat} {h : Option Nat} {n : Bool} {k x : Nat} (m : Mode) (hl : numHexLen i h = 2 * k)
    (hx : x = if (n && 2 * k == 4) = true then 0x10000 - i else getNegative i n) (hv : x < 16 ^ (2 * k))
    (h20 : x < 16 ^ 20) : emitValue (.numeric i h m n) = some (bytesBE k x) := by
  rw [emitValue_numeric]
  cases k with
  | zero => simp [hl, emitHex, emitPairs, bytesBE]
  | succ k =>
    rw [numHex_even n (by omega) (by omega), hl, ← hx, fmtHex_digits _ x (by omega) hv h20, digitsBE_bytes]
    have := emitHex_byteHex (bytesBE (k + 1) x) (bytesBE_lt _ x) []
    rwa [bytesBE_length, List.append_nil] at this

/-- what `fit_operand_width` leaves in an operand field (`k = 1, 2`), and the `k` zero bytes of `RMB k` -/
theorem emit_hinted {k n : Nat} (m : Mode) (hn : n < 16 ^ (2 * k)) (h20 : n < 16 ^ 20) :
    emitValue (.numeric n (some (2 * k)) m false) = some (bytesBE k n) :=
  emit_numeric m rfl rfl hn h20

theorem emit_len2 {i : Nat} {h : Option Nat} {n : Bool} (m : Mode) (hl : numHexLen i h = 2)
    (hg : getNegative i n < 256) : emitValue (.numeric i h m n) = some [getNegative i n] := by
  rw [emit_numeric (k := 1) (x := getNegative i n) m hl (by simp) (by omega) (by omega), bytesBE_one hg]

/-- a value printed with four hex digits: two bytes, a negative one as 16-bit two's complement -/
theorem emit_len4 {i : Nat} {h : Option Nat} {n : Bool} {w : Nat} (m : Mode) (hl : numHexLen i h = 4)
    (hw : w = if n then 0x10000 - i else i) (hg : w < 65536) :
    emitValue (.numeric i h m n) = some [w / 256, w % 256] := by
  rw [emit_numeric (k := 2) (x := w) m hl (by subst hw; cases n <;> simp [getNegative]) (by omega) (by omega),
    bytesBE_two hg]

theorem emit_hint2 {v : Nat} (m : Mode) (h : v < 256) : emitValue (.numeric v (some 2) m false) = some [v] :=
  emit_len2 m rfl h

theorem emit_hint4 {v : Nat} (m : Mode) (h : v < 65536) :
    emitValue (.numeric v (some 4) m false) = some [v / 256, v % 256] :=
  emit_len4 m rfl rfl h

theorem emit_hintNone_byte {v : Nat} (m : Mode) (h : v < 256) : emitValue (.numeric v none m false) = some [v] :=
  emit_len2 m (numHexLen_none_byte h) h

/-- no size hint, 256 ≤ v: TWO bytes are emitted (which is why `fit_operand_width` has to refuse `LDA #256`) -/
theorem emit_hintNone_word {v : Nat} (m : Mode) (h1 : 256 ≤ v) (h2 : v < 65536) :
    emitValue (.numeric v none m false) = some [v / 256, v % 256] :=
  emit_len4 m (numHexLen_none_word h1 h2) rfl h2

theorem emit_byte {v : Nat} {h : Option Nat} (m : Mode) (hv : v < 256) (hh : h = none ∨ h = some 2) :
    emitValue (.numeric v h m false) = some [v] := by
  rcases hh with rfl | rfl
  · exact emit_hintNone_byte m hv
  · exact emit_hint2 m hv

theorem emit_word {v : Nat} {h : Option Nat} (m : Mode) (hv : v < 65536) (hh : h = some 4 ∨ (h = none ∧ 256 ≤ v)) :
    emitValue (.numeric v h m false) = some [v / 256, v % 256] := by
  rcases hh with rfl | ⟨rfl, h1⟩
  · exact emit_hint4 m hv
  · exact emit_hintNone_word m h1 hv

theorem emit_neg8 {i : Nat} {h : Option Nat} (m : Mode) (h1 : 1 ≤ i) (h2 : i ≤ 128) (hh : h = none ∨ h = some 2) :
    emitValue (.numeric i h m true) = some [256 - i] := by
  have hg : getNegative i true = 256 - i := by simp [getNegative, h2]
  have hl : numHexLen i h = 2 := by
    rcases hh with rfl | rfl
    · exact numHexLen_none_byte (by omega)
    · rfl
  rw [← hg]
  exact emit_len2 m hl (by omega)

theorem emit_neg16 {i : Nat} {h : Option Nat} (m : Mode) (h1 : 129 ≤ i) (h2 : i ≤ 32768)
    (hh : h = some 4 ∨ (h = none ∧ 256 ≤ i)) :
    emitValue (.numeric i h m true) = some [(65536 - i) / 256, (65536 - i) % 256] := by
  have hl : numHexLen i h = 4 := by
    rcases hh with rfl | ⟨rfl, h3⟩
    · rfl
    · exact numHexLen_none_word h3 (by omega)
  exact emit_len4 m hl rfl (by omega)

theorem emit_numV_byte {v : Nat} (h : v < 256) : ∃ x, numV v = .ok x ∧ emitValue x = some [v] :=
  ⟨_, numV_byte h, emit_hint2 _ h⟩

theorem emit_numV_word {v : Nat} (h1 : 256 ≤ v) (h2 : v < 65536) :
    ∃ x, numV v = .ok x ∧ emitValue x = some [v / 256, v % 256] :=
  ⟨_, numV_word h1 h2, emit_hintNone_word _ h1 h2⟩

/-! `get_binary_array` reads `hex_len()` digits from the front of a string the formatter did not cut: what comes out when
the size hint is narrower than the value.  These are the cases `fit_operand_width` exists to exclude. -/

/-- hint 2 but a 3-digit value: one byte is read from the front of a 3-digit string (`FCB 300` gives `$12`) -/
theorem emit_hint2_wide {v : Nat} (m : Mode) (h1 : 256 ≤ v) (h2 : v < 4096) :
    emitValue (.numeric v (some 2) m false) = some [v / 16] := by
  rw [emitValue_numeric]
  simp only [numHex, numHexLen, getNegative]
  have hq : v / 16 < 256 := by omega
  have e : fmtHex 2 v = byteHex (v / 16) ++ [hexChar (v % 16)] := by
    rw [fmtHex_wide3 h1 h2]
    have a : v / 16 / 16 = v / 256 := by omega
    simp [byteHex, a]
  simpa [e] using emitHex_byte hq [hexChar (v % 16)]

theorem emit_hint2_one {v : Nat} (m : Mode) (h : v < 256) :
    (emitValue (.numeric v (some 2) m false)).map List.length = some 1 := by
  simp [emit_hint2 m h]

theorem emit_hint4_two {v : Nat} (m : Mode) (h : v < 65536) :
    (emitValue (.numeric v (some 4) m false)).map List.length = some 2 := by
  simp [emit_hint4 m h]

/-- a negative value with no hint whose magnitude has at most 2 digits but is above 128 emits only the
HIGH byte of the 16-bit two's complement (`FDB`-less contexts: `-200` gives `$FF`) -/
theorem emit_neg_trunc {i : Nat} (m : Mode) (h1 : 129 ≤ i) (h2 : i < 256) :
    emitValue (.numeric i none m true) = some [(65536 - i) / 256] := by
  rw [emitValue_numeric]
  have hg : getNegative i true = 65536 - i := by
    have : ¬ i ≤ 128 := by omega
    simp [getNegative, this]
  have hl := numHexLen_none_byte h2
  simp only [numHex, hl, hg]
  simp only [beq_self_eq_true, if_true, show (2 % 2 == 1) = false from rfl, Bool.false_eq_true, if_false]
  -- fmtHex 2 of a 4-digit value keeps its 4 digits
  have hlen : (natHexF 20 (65536 - i)).length = 4 := natHexF_len (n := 3) (by omega) (by omega) (by omega)
  have hw := fmtHex_word (show 65536 - i < 65536 by omega)
  have e : fmtHex 2 (65536 - i) = fmtHex 4 (65536 - i) := by simp [fmtHex, hlen]
  rw [e, hw]
  simpa using emitHex_byte (show (65536 - i) / 256 < 256 by omega) (byteHex ((65536 - i) % 256))

/-- four hex digits of a negative value: the 16-bit two's complement (`X EQU -5` is listed as `$FFFB`) -/
theorem numHex_neg_word (i : Nat) (h : Option Nat) : numHex i h true 4 = fmtHex 4 (0x10000 - i) := by
  simp [numHex]

theorem flatten_length_of_all {w : Nat} : ∀ {r : List Str}, (∀ g ∈ r, g.length = w) → r.flatten.length = w * r.length := by
  intro r
  induction r with
  | nil => intro _; simp
  | cons a r ih =>
    intro h
    simp only [List.flatten_cons, List.length_append, List.length_cons]
    rw [ih (fun g hg => h g (by simp [hg])), h a (by simp), Nat.mul_succ]
    omega

def wordHex (v : Nat) : Str := byteHex (v / 256) ++ byteHex (v % 256)

theorem flatten_map_byteHex (bs : Bytes) : (bs.map byteHex).flatten = bs.flatMap byteHex := by
  simp [List.flatMap]

theorem length_flatMap_byteHex (bs : Bytes) : (bs.flatMap byteHex).length = 2 * bs.length := by
  induction bs with
  | nil => rfl
  | cons b bs ih => simp [List.flatMap_cons, byteHex, ih]; omega

theorem hexLen_multiByte (bs : Bytes) : (Value.multiByte (bs.map byteHex)).hexLen? = some (2 * bs.length) := by
  simp only [Value.hexLen?, Value.hex?, flatten_map_byteHex, Option.map_some, length_flatMap_byteHex]

theorem byteLen_multiByte (bs : Bytes) : (Value.multiByte (bs.map byteHex)).byteLen? = some bs.length := by
  simp [Value.byteLen?, hexLen_multiByte]

theorem emitValue_multiByte (bs : Bytes) (hb : ∀ b ∈ bs, b < 256) :
    emitValue (.multiByte (bs.map byteHex)) = some bs := by
  have := emitHex_byteHex bs hb []
  simp only [emitValue, hexLen_multiByte]
  simpa [Value.hex?, flatten_map_byteHex] using this

/-- big-endian bytes of a list of words -/
def wordBytes (ws : List Nat) : Bytes := ws.flatMap (fun v => [v / 256, v % 256])

theorem wordBytes_length (ws : List Nat) : (wordBytes ws).length = 2 * ws.length := by
  induction ws with
  | nil => rfl
  | cons w ws ih => simp [wordBytes, List.flatMap_cons] at ih ⊢; omega

theorem wordBytes_lt (ws : List Nat) (h : ∀ w ∈ ws, w < 65536) : ∀ b ∈ wordBytes ws, b < 256 := by
  intro b hb
  simp only [wordBytes, List.mem_flatMap, List.mem_cons, List.not_mem_nil, or_false] at hb
  obtain ⟨w, hw, rfl | rfl⟩ := hb
  · have := h w hw; omega
  · omega

theorem flatten_map_wordHex (ws : List Nat) : (ws.map wordHex).flatten = (wordBytes ws).flatMap byteHex := by
  induction ws with
  | nil => rfl
  | cons w ws ih => simp [wordBytes, wordHex, List.flatMap_cons] at ih ⊢; exact ih

theorem hexLen_multiWord (ws : List Nat) : (Value.multiWord (ws.map wordHex)).hexLen? = some (2 * (wordBytes ws).length) := by
  simp only [Value.hexLen?, Value.hex?, flatten_map_wordHex, Option.map_some, length_flatMap_byteHex]

theorem byteLen_multiWord (ws : List Nat) : (Value.multiWord (ws.map wordHex)).byteLen? = some (2 * ws.length) := by
  simp [Value.byteLen?, hexLen_multiWord, wordBytes_length]

theorem emitValue_multiWord (ws : List Nat) (hw : ∀ w ∈ ws, w < 65536) :
    emitValue (.multiWord (ws.map wordHex)) = some (wordBytes ws) := by
  have := emitHex_byteHex (wordBytes ws) (wordBytes_lt ws hw) []
  simp only [emitValue, hexLen_multiWord]
  simpa [Value.hex?, flatten_map_wordHex] using this

def Emits (v : Value) (k : Nat) : Prop := ∃ bs, emitValue v = some bs ∧ bs.length = k

theorem emitHex_len {hex : Str} {l : Nat} (hev : l % 2 = 0) (hle : l ≤ hex.length) :
    ∃ bs, emitHex hex l = some bs ∧ bs.length = l / 2 := by
  have h : emitHex hex l = some ((pairBytes hex).take ((l + 1) / 2)) := by rw [emitHex_eq, if_pos (by omega)]
  exact ⟨_, h, by rw [emitHex_length h]; omega⟩

theorem emits_of_hex {v : Value} {x : Str} {l : Nat} (hx : v.hex? = some x) (hl : v.hexLen? = some l)
    (hev : l % 2 = 0) (hle : l ≤ x.length) : Emits v (l / 2) := by
  obtain ⟨bs, h, hb⟩ := emitHex_len hev hle
  exact ⟨bs, emitValue_eq_some.mpr ⟨x, l, hx, hl, h⟩, hb⟩

theorem numeric_emits (i : Nat) (h : Option Nat) (m : Mode) (neg : Bool) (hev : numHexLen i h % 2 = 0) :
    Emits (.numeric i h m neg) (numHexLen i h / 2) := by
  refine emits_of_hex rfl rfl hev ?_
  by_cases h0 : numHexLen i h = 0
  · rw [h0]; exact Nat.zero_le _
  · rw [numHex_even neg hev h0, fmtHex_length]; exact Nat.le_max_left _ _

theorem none_emits : Emits .none 0 := emits_of_hex (x := []) rfl rfl rfl (Nat.le_refl _)

theorem stmtBytes_len {s : Stmt} {a b c : Nat} (ha : Emits s.pkg.opCode a) (hb : Emits s.pkg.postByte b)
    (hc : Emits s.pkg.additional c) : (stmtBytes s).map List.length = some (a + b + c) := by
  obtain ⟨x, hx, rfl⟩ := ha
  obtain ⟨y, hy, rfl⟩ := hb
  obtain ⟨z, hz, rfl⟩ := hc
  rw [stmtBytes_eq_some.mpr ⟨x, y, z, hx, hy, hz, rfl⟩]
  simp only [Option.map_some, List.length_append]

/-- the field after `fitWidth` -/
theorem fitted_emits (n w : Nat) (m : Mode) (neg : Bool) (hw : w = 2 ∨ w = 4) :
    Emits (.numeric n (some w) m neg) (w / 2) :=
  numeric_emits n (some w) m neg (by rcases hw with rfl | rfl <;> simp [numHexLen])

theorem multiByte_emits {hs : List Str} (hev : hs.flatten.length % 2 = 0) :
    Emits (.multiByte hs) (hs.flatten.length / 2) :=
  emits_of_hex rfl rfl hev (Nat.le_refl _)

theorem multiWord_emits {hs : List Str} (hev : hs.flatten.length % 2 = 0) :
    Emits (.multiWord hs) (hs.flatten.length / 2) :=
  emits_of_hex rfl rfl hev (Nat.le_refl _)

/-- `"{:02X}"` per character: every character below 256 gives exactly one byte -/
theorem hex_str (s : Str) (h : ∀ c ∈ s, c.toNat < 256) :
    (Value.str s).hex? = some ((s.map Char.toNat).flatMap byteHex) := by
  simp only [Value.hex?, Option.some.injEq]
  induction s with
  | nil => rfl
  | cons c s ih =>
    have hc := h c (by simp)
    simp only [List.flatMap_cons, List.map_cons, fmtHex_byte hc]
    rw [ih (fun x hx => h x (by simp [hx]))]

theorem hexLen_str (s : Str) (h : ∀ c ∈ s, c.toNat < 256) :
    (Value.str s).hexLen? = some (2 * s.length) := by
  simp only [Value.hexLen?, hex_str s h, Option.map_some, length_flatMap_byteHex, List.length_map]

theorem byteLen_str (s : Str) (h : ∀ c ∈ s, c.toNat < 256) :
    (Value.str s).byteLen? = some s.length := by
  simp [Value.byteLen?, hexLen_str s h]

theorem emitValue_str (s : Str) (h : ∀ c ∈ s, c.toNat < 256) :
    emitValue (.str s) = some (s.map Char.toNat) := by
  have := emitHex_byteHex (s.map Char.toNat) (by simpa using fun c hc => h c hc) []
  simp only [emitValue, hexLen_str s h, hex_str s h]
  simpa using this

theorem str_emits {s : Str} (h : ∀ c ∈ s, c.toNat < 256) : Emits (.str s) s.length :=
  ⟨_, emitValue_str s h, List.length_map _⟩

/-- a string of hex digit characters (as far as `int(_, 16)` — `digitVal` — is concerned) -/
def HexStr (h : Str) : Prop := ∀ c ∈ h, digitVal c < 16

theorem HexStr.nil : HexStr [] := fun _ h => by cases h

theorem HexStr.append {a b : Str} (ha : HexStr a) (hb : HexStr b) : HexStr (a ++ b) := by
  intro c hc
  rcases List.mem_append.mp hc with h | h
  · exact ha c h
  · exact hb c h

theorem HexStr.flatten {hs : List Str} (h : ∀ x ∈ hs, HexStr x) : HexStr hs.flatten := by
  intro c hc
  obtain ⟨x, hx, hcx⟩ := List.mem_flatten.mp hc
  exact h x hx c hcx

theorem HexStr.ite {c : Prop} [Decidable c] {a b : Str} (ha : HexStr a) (hb : HexStr b) :
    HexStr (if c then a else b) := by
  split <;> assumption

theorem HexStr.zeros (n : Nat) : HexStr (List.replicate n '0') := by
  intro c hc
  rw [(List.mem_replicate.mp hc).2]
  decide

theorem fmtHex_hexStr (w v : Nat) : HexStr (fmtHex w v) := by
  unfold fmtHex
  refine HexStr.append (.zeros _) ?_
  intro c hc
  obtain ⟨d, hd, rfl⟩ := List.mem_map.mp hc
  have hlt := natHexF_lt _ _ d hd
  rw [digitVal_hexChar d hlt]
  exact hlt

theorem numHex_hexStr (i : Nat) (h : Option Nat) (neg : Bool) (size : Nat) : HexStr (numHex i h neg size) := by
  unfold numHex
  exact .ite (fmtHex_hexStr _ _) (fmtHex_hexStr _ _)

/-- the strings of a literal list (`FCB 1,2,3`) are hex strings -/
def Value.MOK : Value → Prop
  | .multiByte hs => ∀ h ∈ hs, HexStr h
  | .multiWord hs => ∀ h ∈ hs, HexStr h
  | _ => True

def Value.NM (v : Value) : Prop := v.isMultiByte = false ∧ v.isMultiWord = false

theorem Value.NM.mok {v : Value} (h : v.NM) : v.MOK := by
  cases v with
  | multiByte hs => cases h.1
  | multiWord hs => cases h.2
  | _ => trivial

theorem Value.NM.none : Value.none.NM := ⟨rfl, rfl⟩

theorem Value.NM.of_numeric {v : Value} (h : v.isNumeric = true) : v.NM := by
  cases v with
  | numeric => exact ⟨rfl, rfl⟩
  | _ => cases h

theorem Value.MOK.hex {v : Value} (hv : v.MOK) {size : Nat} {h : Str} (hh : v.hex? size = some h) : HexStr h := by
  cases v with
  | none => cases hh; exact HexStr.nil
  | pyNone => cases hh
  | numeric i hi m n => cases hh; exact numHex_hexStr _ _ _ _
  | symbol s m => cases hh; exact HexStr.nil
  | address i m => cases hh; exact fmtHex_hexStr _ _
  | expr l r op m ae => cases hh; intro c hc; simp only [List.mem_cons, List.mem_nil_iff, or_false] at hc; rcases hc with rfl | rfl <;> decide
  | leftRight l r m => cases hh; exact HexStr.nil
  | str s =>
    cases hh
    intro c hc
    obtain ⟨x, _, hcx⟩ := List.mem_flatMap.mp hc
    exact fmtHex_hexStr _ _ c hcx
  | multiByte hs => cases hh; exact HexStr.flatten hv
  | multiWord hs => cases hh; exact HexStr.flatten hv

theorem emitValue_lt {v : Value} (hv : v.MOK) {bs : Bytes} (h : emitValue v = some bs) : ∀ b ∈ bs, b < 256 := by
  obtain ⟨x, l, hx, _, h⟩ := emitValue_eq_some.mp h
  rw [emitHex_eq] at h
  split at h
  · cases h
    exact fun b hb => pairBytes_lt (hv.hex hx) b (List.mem_of_mem_take hb)
  · cases h

theorem stmtBytes_lt {s : Stmt} (h1 : s.pkg.opCode.MOK) (h2 : s.pkg.postByte.MOK) (h3 : s.pkg.additional.MOK)
    {bs : Bytes} (h : stmtBytes s = some bs) : ∀ b ∈ bs, b < 256 := by
  obtain ⟨a, b, c, ha, hb, hc, rfl⟩ := stmtBytes_eq_some.mp h
  intro x hx
  simp only [List.mem_append] at hx
  rcases hx with (hx | hx) | hx
  · exact emitValue_lt h1 ha x hx
  · exact emitValue_lt h2 hb x hx
  · exact emitValue_lt h3 hc x hx

theorem numV_nm {n : Nat} {v : Value} (hv : numV n = .ok v) : v.NM := .of_numeric (numericOfInt_isNumeric hv)

end CoCo.Asm
