/-
Lemmas/EncodeFccLine.lean — the FCC (string-define) branch of `Statement.parse_line` (fix d74c37d): the string is
taken from the line as it was written, `line[data.start("operands"):].rstrip()` (`rstrip (operandsTail line)`).
`rstrip`, `operandsTail` and `scanLine` on a line `label blank mnemonic blank rest`, and `parseLine` on a string-define
line whose operand text is `d body d tail`.
-/
import CoCoVerif.Lemmas.FrontScan

namespace CoCo.Asm
open CoCo
open CoCo.Gen (InstrRow)

theorem rstrip_append_blanks (s ws : Str) (hs : ∀ c ∈ s.getLast?, isSpace c = false) (hw : ∀ c ∈ ws, isSpace c = true) :
    rstrip (s ++ ws) = s := by
  unfold rstrip
  rw [List.reverse_append, List.dropWhile_append_of_pos (by simpa using hw),
    dropWhile_stops (fun a ha => hs a (by rw [List.getLast?_eq_head?_reverse]; exact ha)), List.reverse_reverse]

theorem dotStarEnd_of_noNewline (s : Str) (h : '\n' ∉ s) : dotStarEnd s = some s := by
  have h1 : (s.getLast? == some '\n') = false := by
    cases hl : s.getLast? with
    | none => rfl
    | some c =>
      have : c ≠ '\n' := by rintro rfl; exact h (List.mem_of_getLast? hl)
      simpa using this
  simp [dotStarEnd, h1, h]

theorem not_mem_dropWhile {α} {p : α → Bool} {x : α} {l : List α} (h : x ∉ l) : x ∉ l.dropWhile p :=
  fun hm => h ((List.dropWhile_sublist p).subset hm)

/-! ### a line `label blank mnemonic blank rest` (one blank each, `rest` not starting with a blank) -/

section line
variable {label mn rest : Str} (hl : ∀ c ∈ label, isLabelCh c = true) (hm : ∀ c ∈ mn, isWord c = true)
  (hne : mn ≠ []) (hr : Stops isSpace rest)
include hl hm hne hr

/-- the `operands` group starts after label, blanks, mnemonic, blanks: whatever follows is taken as it is -/
theorem operandsTail_line : operandsTail (label ++ ' ' :: (mn ++ ' ' :: rest)) = rest := by
  unfold operandsTail
  rw [dropWhile_all_stops hl (stops_cons (by decide)), List.dropWhile_cons_of_pos (by decide),
    dropWhile_stops (stops_of_all hne hm fun _ => not_space_of_word),
    dropWhile_all_stops hm (stops_cons (by decide)), List.dropWhile_cons_of_pos (by decide), dropWhile_stops hr]

/-- the scanner finds label and mnemonic; the `operands` group is the longest prefix of `rest` in the operand class, the
comment what `.*$` makes of the remainder -/
theorem scanLine_line {c : Str}
    (hc : dotStarEnd (((rest.dropWhile isOperandCh).dropWhile isSpace).dropWhile (· == ';')) = some c) :
    scanLine (label ++ ' ' :: (mn ++ ' ' :: rest)) = .asm label mn (rest.takeWhile isOperandCh) c := by
  have sMn : Stops isSpace (mn ++ ' ' :: rest) := stops_of_all hne hm fun _ => not_space_of_word
  have sSp : ∀ {p : Char → Bool} {r : Str}, p ' ' = false → Stops p (' ' :: r) := stops_cons
  obtain ⟨a, m, rfl⟩ := List.exists_cons_of_ne_nil hne
  refine scanLine_asm_of ?_ ?_ (takeWhile_all_stops hl (sSp (by decide))) (dropWhile_all_stops hl (sSp (by decide)))
    (by rw [List.takeWhile_cons_of_pos (by decide)]; rfl)
    (by rw [List.dropWhile_cons_of_pos (by decide), dropWhile_stops sMn])
    (takeWhile_all_stops hm (sSp (by decide))) rfl (dropWhile_all_stops hm (sSp (by decide)))
    (by rw [List.takeWhile_cons_of_pos (by decide)]; rfl)
    (by rw [List.dropWhile_cons_of_pos (by decide), dropWhile_stops hr]) rfl rfl hc
  · -- the line is not blank: the mnemonic is there
    simp only [List.all_eq_false]
    exact ⟨a, by simp, by simp [not_space_of_word (hm a (by simp))]⟩
  · -- and not a comment line: its first non-blank character belongs to the label or the mnemonic
    apply head_ne_semi_of_stops
    cases label with
    | nil =>
      rw [List.nil_append, List.dropWhile_cons_of_pos (by decide), dropWhile_stops sMn]
      exact stops_cons (not_semi_of_word (hm a (by simp)))
    | cons x xs =>
      have hx := hl x (by simp)
      rw [List.cons_append, List.dropWhile_cons_of_neg (by simp [not_space_of_label hx])]
      exact stops_cons (not_semi_of_label hx)

end line

theorem findIdx_delim (d : Char) (body rest : Str) (hd : d ∉ body) :
    (body ++ d :: rest).findIdx? (· == d) = some body.length := by
  induction body with
  | nil => simp [List.findIdx?_cons]
  | cons a b ih =>
    have hne : (a == d) = false := by
      simp only [beq_eq_false_iff_ne, ne_eq]; rintro rfl; exact hd (by simp)
    have := ih (fun h => hd (by simp [h]))
    simp [List.findIdx?_cons, hne, this]

theorem strip_delimited (d : Char) (body : Str) (hd : isSpace d = false) :
    strip (d :: (body ++ [d])) = d :: (body ++ [d]) := by
  unfold strip
  rw [List.dropWhile_cons_of_neg (by simp [hd])]
  have : (d :: (body ++ [d])).reverse = d :: (body.reverse ++ [d]) := by simp
  rw [this, List.dropWhile_cons_of_neg (by simp [hd])]
  simp

theorem lineField_fcc {line ops cmt : Str} {row : InstrRow} (d : Char) (body rest : Str)
    (hsd : row.isStringDefine = true) (hoo : rstrip (operandsTail line) = d :: (body ++ d :: rest))
    (hd : d ∉ body) (hdsp : isSpace d = false) :
    lineField line ops cmt row = some (d :: (body ++ [d]), strip ((strip rest).dropWhile (· == ';'))) := by
  have hf : findFrom1 d (d :: (body ++ d :: rest)) = some (body.length + 1) := by
    simp [findFrom1, findIdx_delim d body rest hd]
  have ht : (d :: (body ++ d :: rest)).take (body.length + 1 + 1) = d :: (body ++ [d]) := by
    rw [List.take_succ_cons, List.append_cons, List.take_left' (by simp)]
  have hdr : (d :: (body ++ d :: rest)).drop (body.length + 1 + 1) = rest := by
    rw [List.drop_succ_cons, List.append_cons, List.drop_left' (by simp)]
  simp only [lineField, hsd, if_true, hoo, hf, ht, hdr, strip_delimited d body hdsp]

/-- FCC takes its string from the line as it was written (fix d74c37d): when the text from the operand column to the
end of the line (blanks at the end removed) is `d body d rest`, `d` not in `body`, the operand is built from `d body d`
— `body` is ARBITRARY: blanks, runs of blanks, `;` and characters outside the operand class are all kept — and the
comment is `rest` without its blanks and leading semicolons -/
theorem parseLine_fcc {line label mn0 ops cmt : Str} {row : InstrRow} {o : Operand} (d : Char) (body rest : Str)
    (hscan : scanLine line = .asm label mn0 ops cmt) (hrow : findRow (mn0.map upperC) = some row)
    (hsd : row.isStringDefine = true) (hoo : rstrip (operandsTail line) = d :: (body ++ d :: rest))
    (hd : d ∉ body) (hdsp : isSpace d = false) (hc : createOperand (d :: (body ++ [d])) row = .ok o) :
    parseLine line = .ok (some {
      label := label, mnemonic := mn0.map upperC, row := row, operand := o, origText := o.text,
      comment := strip ((strip rest).dropWhile (· == ';')) }) :=
  parseLine_eq_some.2 ⟨_, _, _, _, _, _, _, hscan, hrow, lineField_fcc d body rest hsd hoo hd hdsp, hc, rfl⟩

/-- ... on the line `label mnemonic d body d tail`: `d` any non-blank delimiter, no newline, `tail` not ending in a
blank (so that `rstrip` removes nothing) -/
theorem parseLine_fcc_line {label mn : Str} {row : InstrRow} {o : Operand} (d : Char) (body tail : Str)
    (hl : ∀ c ∈ label, isLabelCh c = true) (hm : ∀ c ∈ mn, isWord c = true) (hne : mn ≠ [])
    (hrow : findRow (mn.map upperC) = some row) (hsd : row.isStringDefine = true)
    (hdsp : isSpace d = false) (hd : d ∉ body) (hnl : '\n' ∉ d :: (body ++ d :: tail))
    (ht : ∀ c ∈ tail.getLast?, isSpace c = false) (hc : createOperand (d :: (body ++ [d])) row = .ok o) :
    parseLine (label ++ ' ' :: (mn ++ ' ' :: (d :: (body ++ d :: tail)))) = .ok (some {
      label := label, mnemonic := mn.map upperC, row := row, operand := o, origText := o.text,
      comment := strip ((strip tail).dropWhile (· == ';')) }) := by
  have hr : Stops isSpace (d :: (body ++ d :: tail)) := stops_cons hdsp
  -- the last character of the operand text is the last of `tail`, or the closing delimiter
  have hlast : ∀ c ∈ (d :: (body ++ d :: tail)).getLast?, isSpace c = false := by
    intro c hc
    rw [← List.cons_append, List.getLast?_append, List.getLast?_cons, Option.some_or, Option.mem_def,
      Option.some.injEq] at hc
    subst hc
    cases hg : tail.getLast? with
    | none => exact hdsp
    | some x => exact ht x hg
  refine parseLine_fcc d body tail
    (scanLine_line hl hm hne hr (dotStarEnd_of_noNewline _ (not_mem_dropWhile (not_mem_dropWhile (not_mem_dropWhile hnl)))))
    hrow hsd ?_ hd hdsp hc
  rw [operandsTail_line hl hm hne hr]
  simpa using rstrip_append_blanks _ [] hlast (by simp)

end CoCo.Asm
