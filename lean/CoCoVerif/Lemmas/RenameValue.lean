/-
C18-R2 (renaming): a renaming `R : Ren` acts on values (`rnValue`), on the symbol table (`rnTab`), on operands
and statements; `SymTab.get?` and `Value.resolve` commute with it when `R.sym` is injective ON THE NAMES THAT OCCUR
(a list `N`), not necessarily everywhere.

`R.sym` renames symbol names, `R.left` the (still textual) left part of an indexed operand, `R.txt` the operand text
(which only the listing, the register lists of PSHS/EXG, NAM and the FCB / FDB list pass read).
-/
import CoCoVerif.Lemmas.ResolveValue
import CoCoVerif.Lemmas.SymTab

namespace CoCo.Asm.Rename
open CoCo

structure Ren where
  sym : Str → Str
  left : Str → Str
  txt : Str → Str

def rnValue (R : Ren) : Value → Value
  | .symbol n m => .symbol (R.sym n) m
  | .expr l r op m a => .expr (rnValue R l) (rnValue R r) op m a
  | .leftRight l r m => .leftRight (R.left l) r m
  | v => v

def rnSide (R : Ren) : Side → Side
  | .text l => .text (R.left l)
  | .val v => .val (rnValue R v)
  | .noneV => .noneV

def rnTab (R : Ren) (t : SymTab) : SymTab := t.map (fun kv => (R.sym kv.1, rnValue R kv.2))

def rnOperand (R : Ren) (o : Operand) : Operand :=
  { o with text := R.txt o.text, value := rnValue R o.value, left := rnSide R o.left }

/-- op code and post byte are numbers (`opVal`, `numV`); names can only sit in `address` (the operand of an ORG) and
`additional` (the operand bytes before `fix_addresses`) -/
def rnPkg (R : Ren) (p : Pkg) : Pkg :=
  { p with address := rnValue R p.address, additional := rnValue R p.additional }

def rnLabel (R : Ren) (l : Str) : Str := if l = [] then [] else R.sym l

/-- the renaming of a statement as it comes from the parser: label and operand (the listing text `origText` follows
the operand text); row, mnemonic, comment and the (still empty) code package are untouched -/
def renameStmt (R : Ren) (s : Stmt) : Stmt :=
  { s with label := rnLabel R s.label, operand := rnOperand R s.operand, origText := R.txt s.origText }

/-- the renaming of a statement in the later stages: the values in the code package as well -/
def rnStmt (R : Ren) (s : Stmt) : Stmt :=
  { s with label := rnLabel R s.label, operand := rnOperand R s.operand, origText := R.txt s.origText,
           pkg := rnPkg R s.pkg }

/-- the symbol names inside a value (what `resolve` can look up) -/
def valSyms : Value → List Str
  | .symbol n _ => [n]
  | .expr l r _ _ _ => valSyms l ++ valSyms r
  | _ => []

section
variable {R : Ren}

@[simp] theorem rnValue_isAddress (v : Value) : (rnValue R v).isAddress = v.isAddress := by cases v <;> rfl
@[simp] theorem rnValue_isNumeric (v : Value) : (rnValue R v).isNumeric = v.isNumeric := by cases v <;> rfl
@[simp] theorem rnValue_isNone (v : Value) : (rnValue R v).isNone = v.isNone := by cases v <;> rfl
@[simp] theorem rnValue_isLeftRight (v : Value) : (rnValue R v).isLeftRight = v.isLeftRight := by cases v <;> rfl
@[simp] theorem rnValue_isSymbol (v : Value) : (rnValue R v).isSymbol = v.isSymbol := by cases v <;> rfl
@[simp] theorem rnValue_isMultiByte (v : Value) : (rnValue R v).isMultiByte = v.isMultiByte := by cases v <;> rfl
@[simp] theorem rnValue_isMultiWord (v : Value) : (rnValue R v).isMultiWord = v.isMultiWord := by cases v <;> rfl
@[simp] theorem rnValue_isNegative (v : Value) : (rnValue R v).isNegative = v.isNegative := by cases v <;> rfl
@[simp] theorem rnValue_mode (v : Value) : (rnValue R v).mode = v.mode := by cases v <;> rfl
@[simp] theorem rnValue_int? (v : Value) : (rnValue R v).int? = v.int? := by cases v <;> rfl
@[simp] theorem rnValue_hex? (v : Value) (n : Nat) : (rnValue R v).hex? n = v.hex? n := by cases v <;> rfl
@[simp] theorem rnValue_hexLen? (v : Value) : (rnValue R v).hexLen? = v.hexLen? := by cases v <;> rfl
@[simp] theorem rnValue_byteLen? (v : Value) : (rnValue R v).byteLen? = v.byteLen? := by
  simp [Value.byteLen?]
@[simp] theorem rnValue_isExtendedLike (v : Value) : (rnValue R v).isExtendedLike = v.isExtendedLike := by
  simp [Value.isExtendedLike]
@[simp] theorem rnValue_isDirect (v : Value) : (rnValue R v).isDirect = v.isDirect := by simp [Value.isDirect]
@[simp] theorem rnValue_isImmediate (v : Value) : (rnValue R v).isImmediate = v.isImmediate := by
  simp [Value.isImmediate]
@[simp] theorem rnValue_isExplicitDirect (v : Value) : (rnValue R v).isExplicitDirect = v.isExplicitDirect := by
  simp [Value.isExplicitDirect]
@[simp] theorem rnValue_isExplicitExtended (v : Value) :
    (rnValue R v).isExplicitExtended = v.isExplicitExtended := by
  simp [Value.isExplicitExtended]
@[simp] theorem rnValue_isExpression (v : Value) : (rnValue R v).isExpression = v.isExpression := by
  cases v with
  | expr l r op m ae => cases ae <;> rfl
  | _ => rfl
@[simp] theorem rnValue_isAddrExpr (v : Value) : (rnValue R v).isAddrExpr = v.isAddrExpr := by
  cases v with
  | expr l r op m ae => cases ae <;> rfl
  | _ => rfl

theorem rnValue_of_numeric {v : Value} (h : v.isNumeric = true) : rnValue R v = v := by
  cases v <;> first | rfl | cases h

theorem rnValue_of_address {v : Value} (h : v.isAddress = true) : rnValue R v = v := by
  cases v <;> first | rfl | cases h

@[simp] theorem rnValue_numeric (i : Nat) (h : Option Nat) (m : Mode) (n : Bool) :
    rnValue R (.numeric i h m n) = .numeric i h m n := rfl
@[simp] theorem rnValue_address (i : Nat) (m : Mode) : rnValue R (.address i m) = .address i m := rfl
@[simp] theorem rnValue_none : rnValue R .none = .none := rfl
@[simp] theorem rnValue_pyNone : rnValue R .pyNone = .pyNone := rfl

theorem rnValue_eq_pyNone {v : Value} : rnValue R v = .pyNone ↔ v = .pyNone := by
  cases v <;> simp [rnValue]

theorem numericOfInt_isNumeric' {z : Int} {h : Option Nat} {m : Mode} {x : Value}
    (hx : numericOfInt z h m = .ok x) : x.isNumeric = true := numericOfInt_isNumeric hx

theorem numericOfStr_isNumeric'' {s : Str} {h : Option Nat} {m : Mode} {x : Value}
    (hx : numericOfStr s h m = .ok x) : x.isNumeric = true := numericOfStr_isNumeric hx

theorem numericOfInt_rn (z : Int) (h : Option Nat) (m : Mode) :
    (numericOfInt z h m).map (rnValue R) = numericOfInt z h m :=
  Except.map_eq_self fun _ hx => rnValue_of_numeric (numericOfInt_isNumeric hx)

theorem numericOfInt_ok_rn {z : Int} {h : Option Nat} {m : Mode} {v : Value} (hv : numericOfInt z h m = .ok v) :
    rnValue R v = v := rnValue_of_numeric (numericOfInt_isNumeric hv)

theorem numV_rn (n : Nat) : (numV n).map (rnValue R) = numV n := numericOfInt_rn _ _ _

theorem numV_ok_rn {n : Nat} {v : Value} (h : numV n = .ok v) : rnValue R v = v :=
  rnValue_of_numeric (numericOfInt_isNumeric h)

theorem opVal_ok_rn {o : Option Nat} {v : Value} (h : opVal o = .ok v) : rnValue R v = v := by
  cases o with
  | none => cases h
  | some n => exact rnValue_of_numeric (numericOfInt_isNumeric (z := (n : Int)) (h := none) (m := .none) h)

theorem numericOfStr_rn (s : Str) (h : Option Nat) (m : Mode) :
    (numericOfStr s h m).map (rnValue R) = numericOfStr s h m :=
  Except.map_eq_self fun _ hx => rnValue_of_numeric (numericOfStr_isNumeric hx)

theorem get?_rn (t : SymTab) (k : Str) (hinj : ∀ kv ∈ t, R.sym kv.1 = R.sym k → kv.1 = k) :
    (rnTab R t).get? (R.sym k) = (t.get? k).map (rnValue R) := by
  induction t with
  | nil => rfl
  | cons kv rest ih =>
    obtain ⟨k0, v0⟩ := kv
    have hb : (R.sym k0 == R.sym k) = (k0 == k) := by
      by_cases h : k0 = k
      · subst h; rw [beq_self_eq_true, beq_self_eq_true]
      · have : R.sym k0 ≠ R.sym k := fun hc => h (hinj (k0, v0) (by simp) hc)
        rw [beq_eq_false_iff_ne.mpr this, beq_eq_false_iff_ne.mpr h]
    have ih' := ih (fun kv hkv => hinj kv (by simp [hkv]))
    simp only [SymTab.get?, rnTab, List.map_cons, List.find?_cons, hb] at ih' ⊢
    cases k0 == k with
    | true => rfl
    | false => exact ih'

theorem rnTab_length (t : SymTab) : (rnTab R t).length = t.length := by simp [rnTab]

theorem rnTab_append (t d : SymTab) : rnTab R (t ++ d) = rnTab R t ++ rnTab R d := by simp [rnTab]

def InjOn (f : Str → Str) (N : List Str) : Prop := ∀ x ∈ N, ∀ y ∈ N, f x = f y → x = y

def TabIn (N : List Str) (t : SymTab) : Prop := ∀ kv ∈ t, kv.1 ∈ N ∧ ∀ x ∈ valSyms kv.2, x ∈ N

/-- a list with the keys and the symbols of `t` and the symbols of `v`: a globally injective `ρ` is injective on it -/
theorem _root_.CoCo.Props.names_of (t : SymTab) (v : Value) : ∃ N, Rename.TabIn N t ∧ ∀ x ∈ Rename.valSyms v, x ∈ N :=
  ⟨t.flatMap (fun kv => kv.1 :: Rename.valSyms kv.2) ++ Rename.valSyms v,
   fun kv hkv =>
    ⟨List.mem_append.mpr (.inl (List.mem_flatMap.mpr ⟨kv, hkv, List.mem_cons_self⟩)),
     fun x hx => List.mem_append.mpr (.inl (List.mem_flatMap.mpr ⟨kv, hkv, List.mem_cons_of_mem _ hx⟩))⟩,
   fun x hx => List.mem_append.mpr (.inr hx)⟩

theorem exprPost_rn (l r : Value) (op : Char) (mode : Mode) :
    exprPost (rnValue R l) (rnValue R r) op mode = (exprPost l r op mode).map (rnValue R) := by
  by_cases hn : l.isNumeric = true ∧ r.isNumeric = true
  · -- two numbers are left alone, and so is the number they make
    rw [rnValue_of_numeric hn.1, rnValue_of_numeric hn.2]
    cases hx : exprPost l r op mode with
    | error e => rfl
    | ok w =>
      rcases exprPost_ok hx with ⟨s, m, hs⟩ | ⟨ha, _⟩
      · simp [Except.map, rnValue_of_numeric (numericOfStr_isNumeric hs)]
      · obtain ⟨_, _, _, _, rfl⟩ := isNumeric_elim hn.1
        obtain ⟨_, _, _, _, rfl⟩ := isNumeric_elim hn.2
        cases ha
  · rw [exprPost_of_not_numeric op mode hn, exprPost_of_not_numeric op mode (by simpa using hn)]
    simp only [rnValue_isAddress]
    split <;> rfl

theorem symPost_rn (s : Value) : symPost (rnValue R s) = (symPost s).map (rnValue R) := by
  cases s with
  | address i m' => rfl
  | numeric i h m' n =>
    simp only [symPost, Value.isAddress, Value.isNumeric, rnValue, Bool.false_eq_true, if_false, if_true]
    exact (numericOfInt_rn _ _ _).symm
  | _ => rfl

theorem resolveF_rn (N : List Str) (hinj : InjOn R.sym N) (t : SymTab) (ht : TabIn N t) : ∀ (n : Nat) (v : Value),
    (∀ x ∈ valSyms v, x ∈ N) →
    resolveF n (rnValue R v) (rnTab R t) = (resolveF n v t).map (rnValue R) := by
  intro n
  induction n with
  | zero => intro v _; rfl
  | succ n ih =>
    intro v hv
    have hsym : ∀ name : Str, name ∈ N →
        getSymF n (rnTab R t) (R.sym name) = (getSymF n t name).map (rnValue R) := by
      intro name hname
      unfold getSymF
      rw [get?_rn t name fun kv hkv he => hinj _ (ht kv hkv).1 _ hname he]
      cases hg : t.get? name with
      | none => rfl
      | some s =>
        simp only [Option.map_some, rnValue_isExpression]
        split
        · exact ih s (ht _ (get?_mem_key hg)).2
        · rfl
    have hlook : ∀ x : Value, (∀ y ∈ valSyms x, y ∈ N) →
        lookStep (getSymF n (rnTab R t)) (rnValue R x) = (lookStep (getSymF n t) x).map (rnValue R) := by
      intro x hx
      cases x with
      | symbol name m => exact hsym name (hx name (by simp [valSyms]))
      | _ => rfl
    rw [resolveF_succ, resolveF_succ]
    cases v with
    | symbol name m =>
      simp only [rnValue, resolveStep, hsym name (hv name (by simp [valSyms]))]
      cases getSymF n t name with
      | error e => rfl
      | ok s => exact symPost_rn s
    | expr l r op mode ae =>
      simp only [rnValue, resolveStep, hlook l (fun y hy => hv y (by simp [valSyms, hy])),
        hlook r (fun y hy => hv y (by simp [valSyms, hy]))]
      cases lookStep (getSymF n t) l with
      | error e => rfl
      | ok l' =>
        cases lookStep (getSymF n t) r with
        | error e => rfl
        | ok r' => exact exprPost_rn l' r' op mode
    | _ => rfl

theorem resolve_rn (N : List Str) (hinj : InjOn R.sym N) (t : SymTab) (ht : TabIn N t) (v : Value)
    (hv : ∀ x ∈ valSyms v, x ∈ N) :
    (rnValue R v).resolve (rnTab R t) = (v.resolve t).map (rnValue R) := by
  unfold Value.resolve
  rw [rnTab_length]
  exact resolveF_rn N hinj t ht _ v hv

end

end CoCo.Asm.Rename
