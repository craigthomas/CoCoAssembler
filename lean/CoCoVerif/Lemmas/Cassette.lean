/-
Lemmas/Cassette.lean — the cassette writer and the scanning reader against the tape grammar `Spec.Tape.WellFormed`:
the writer's output is a well-formed stream of the files written (`write_wf`); the reader lists the files of any
well-formed stream up to the first one without data (`list_wellFormed`); hence the listing of a written cassette
(`list_write`).
-/
import CoCoVerif.Lemmas.NamePad
import CoCoVerif.Lemmas.TapeParse
import CoCoVerif.Props.TapeDefs

namespace CoCo.Cas
open CoCo

theorem dataBlocksF_fuel (fuel : Nat) (d : Bytes) (h : d.length / 255 + 1 ≤ fuel) :
    dataBlocksF fuel d = dataBlocks d := by
  unfold dataBlocks
  induction fuel generalizing d with
  | zero => omega
  | succ fuel ih =>
    rw [dataBlocksF]
    conv => rhs; rw [dataBlocksF]
    split
    · rfl
    · split
      · rfl
      · rename_i h0 h1
        have hl : (d.drop 255).length / 255 + 1 = d.length / 255 := by
          simp [List.length_drop]; omega
        rw [ih (d.drop 255) (by omega), ← hl]

theorem dataBlocks_eq (d : Bytes) :
    dataBlocks d = if d.length = 0 then [] else if d.length < 255 then block d
                   else block (d.take 255) ++ dataBlocks (d.drop 255) := by
  conv => lhs; unfold dataBlocks; rw [dataBlocksF]
  split
  · rfl
  · split
    · rfl
    · rename_i h0 h1
      rw [dataBlocksF_fuel]
      simp [List.length_drop]; omega

theorem write_eq_flatten (fs : List CFile) : write fs = (fs.map fileBytes).flatten := by
  unfold write
  have : ∀ (acc : Bytes), fs.foldl addFile acc = acc ++ (fs.map fileBytes).flatten := by
    induction fs with
    | nil => intro acc; simp
    | cons f fs ih => intro acc; simp [List.foldl, addFile, ih, List.append_assoc]
  simpa using this []

theorem write_cons (f : CFile) (fs : List CFile) : write (f :: fs) = fileBytes f ++ write fs := by
  simp [write_eq_flatten]

theorem write_isEmpty (fs : List CFile) : (write fs).isEmpty = fs.isEmpty := by
  cases fs with
  | nil => rfl
  | cons f t => rw [write_cons]; rfl

theorem skipTo_length {pat l r} (h : skipTo pat l = some r) : r.length ≤ l.length := by
  induction l with
  | nil => simp [skipTo] at h
  | cons b rest ih =>
    simp only [skipTo] at h
    split at h
    · cases h; simp
    · have := ih h; simp; omega

/-- gap bytes are skipped by any pattern that does not start with 0 -/
theorem skipTo_rep0 (p : Nat) (ps : Bytes) (hp0 : p ≠ 0) (n : Nat) (rest : Bytes) :
    skipTo (p :: ps) (List.replicate n 0 ++ rest) = skipTo (p :: ps) rest := by
  induction n with
  | zero => simp
  | succ n ih =>
    simp only [List.replicate_succ, List.cons_append, skipTo, List.isPrefixOf]
    have : (p == 0) = false := by simpa using hp0
    simp [this, ih]

/-- leader bytes are passed over by a pattern `55 x …` with `x ≠ 55`: the byte after a leader byte is `55` -/
theorem skipTo_rep55 {x : Nat} {ps : Bytes} (hx : x ≠ 0x55) (n : Nat) (l : Bytes) :
    skipTo (0x55 :: x :: ps) (List.replicate n 0x55 ++ 0x55 :: l) = skipTo (0x55 :: x :: ps) (0x55 :: l) := by
  induction n with
  | zero => rfl
  | succ n ih =>
    have hx' : (x == 0x55) = false := by simpa using hx
    rw [List.replicate_succ, List.cons_append, skipTo, ih]
    cases n <;> simp [List.isPrefixOf, List.replicate_succ, hx']

theorem skipTo_filler {g : Bytes} (hg : Spec.Tape.Filler g) {x : Nat} {ps l : Bytes} (hx : x ≠ 0x55)
    (hp : (0x55 :: x :: ps).isPrefixOf (0x55 :: l) = true) :
    skipTo (0x55 :: x :: ps) (g ++ 0x55 :: l) = some (0x55 :: l) := by
  obtain ⟨a, b, rfl⟩ := hg
  rw [List.append_assoc, skipTo_rep0 _ _ (by decide), skipTo_rep55 hx, skipTo, if_pos hp]

theorem skipTo_filler_only {g : Bytes} (hg : Spec.Tape.Filler g) {x : Nat} (ps : Bytes) (hx : x ≠ 0x55) :
    skipTo (0x55 :: x :: ps) g = none := by
  obtain ⟨a, b, rfl⟩ := hg
  rw [skipTo_rep0 _ _ (by decide)]
  cases b with
  | zero => rfl
  | succ b =>
    rw [List.replicate_succ', skipTo_rep55 hx]
    simp [skipTo, List.isPrefixOf]

theorem utf8Decode_ascii (bs : Bytes) (h : ∀ b ∈ bs, b < 128) : utf8Decode bs = some bs := by
  unfold utf8Decode
  induction bs with
  | nil => rfl
  | cons b r ih =>
    have hb : b < 0x80 := h b List.mem_cons_self
    simp only [List.length_cons, utf8DecodeF, hb, if_true]
    rw [ih (fun x hx => h x (List.mem_cons_of_mem _ hx))]
    rfl

/-- one framed data block (after any filler) is consumed by one iteration; the payload is arbitrary -/
theorem readBlocksF_frame {g : Bytes} (hg : Spec.Tape.Filler g) (p rest acc : Bytes) (fuel : Nat) :
    readBlocksF (fuel + 1) (g ++ (Spec.Tape.frame 0x01 p ++ rest)) acc
      = readBlocksF fuel rest (acc ++ p) := by
  simp only [Spec.Tape.frame, List.append_assoc, List.cons_append, List.nil_append]
  rw [readBlocksF, skipTo_filler hg (by decide) (by simp [List.isPrefixOf])]
  simp only [List.drop_succ_cons, List.drop_zero]
  have h1 : ¬ ((1 : Nat) = 0xFF) := by decide
  simp only [h1, if_false, if_true]
  have hlen : ¬ ((p ++ ((1 + p.length + bsum p) % 256 :: 85 :: rest)).length < p.length) := by
    simp
  simp only [hlen, if_false]
  congr 1
  · rw [show p ++ ((1 + p.length + bsum p) % 256 :: 85 :: rest)
        = (p ++ [(1 + p.length + bsum p) % 256, 85]) ++ rest by simp]
    exact List.drop_left' (by simp)
  · rw [List.take_left' rfl]

theorem readBlocksF_eof {g : Bytes} (hg : Spec.Tape.Filler g) (rest acc : Bytes) (fuel : Nat) :
    readBlocksF (fuel + 1) (g ++ (Spec.Tape.frame 0xFF [] ++ rest)) acc = .ok (acc, rest) := by
  simp only [Spec.Tape.frame, List.cons_append, List.nil_append, List.append_nil]
  rw [readBlocksF, skipTo_filler hg (by decide) (by simp [List.isPrefixOf])]
  simp

/-- the block reader returns the data of a `DataBlocks` stream that ends in an EOF block; every block has at least
one payload byte, so fuel `d.length + 1` is enough -/
theorem readBlocksF_dataBlocks {d db : Bytes} (h : Spec.Tape.DataBlocks d db)
    {g₂ : Bytes} (hg₂ : Spec.Tape.Filler g₂) (rest acc : Bytes) (fuel : Nat) (hf : d.length + 1 ≤ fuel) :
    readBlocksF fuel (db ++ (g₂ ++ (Spec.Tape.frame 0xFF [] ++ rest))) acc = .ok (acc ++ d, rest) := by
  induction h generalizing acc fuel with
  | nil =>
    cases fuel with
    | zero => omega
    | succ f => simpa using readBlocksF_eof hg₂ rest acc f
  | @cons p d g bs hp0 hp255 hg _ ih =>
    cases fuel with
    | zero => omega
    | succ f =>
      rw [List.append_assoc, List.append_assoc, readBlocksF_frame hg]
      rw [ih (acc ++ p) f (by simp at hf; omega)]
      simp [List.append_assoc]

end CoCo.Cas

namespace CoCo.VF
open CoCo

theorem hdrPayload_norm (f : CFile) : Cas.hdrPayload (Cas.norm f) = Cas.hdrPayload f := by
  simp [Cas.hdrPayload, Cas.norm, padName_padName]

theorem write_append (a b : List CFile) : Cas.write (a ++ b) = Cas.write a ++ Cas.write b := by
  rw [Cas.write_eq_flatten, Cas.write_eq_flatten, Cas.write_eq_flatten, List.map_append, List.flatten_append]

end CoCo.VF

namespace CoCo.Props
open CoCo CoCo.VF

theorem cas_fileBytes_norm (f : CFile) : Cas.fileBytes (Cas.norm f) = Cas.fileBytes f := by
  unfold Cas.fileBytes Cas.header
  rw [hdrPayload_norm]
  rfl

theorem cas_write_norm (fs : List CFile) : Cas.write (fs.map Cas.norm) = Cas.write fs := by
  rw [Cas.write_eq_flatten, Cas.write_eq_flatten, List.map_map]
  have : List.map (Cas.fileBytes ∘ Cas.norm) fs = List.map Cas.fileBytes fs :=
    List.map_congr_left (fun f _ => cas_fileBytes_norm f)
  rw [this]

theorem cas_norm_idem (f : CFile) : Cas.norm (Cas.norm f) = Cas.norm f := by
  cases f
  simp only [Cas.norm, padName_padName]
  congr

end CoCo.Props

theorem CoCo.VF.write_norm_append (a b : List CFile) : Cas.write (a.map Cas.norm ++ b) = Cas.write (a ++ b) := by
  rw [write_append, write_append, Props.cas_write_norm]

namespace CoCo.Props
open CoCo CoCo.Cas CoCo.Spec.Tape

theorem filler_nil : Filler [] := ⟨0, 0, rfl⟩
theorem filler_gap_leader : Filler (blank ++ leader) := ⟨128, 128, rfl⟩

theorem dataBlocks_wf (n : Nat) : ∀ (d g : Bytes), d.length ≤ n → (d = [] → g = []) → Filler g →
    DataBlocks d (g ++ dataBlocks d) := by
  induction n with
  | zero =>
    intro d g hl hg _
    have hd : d = [] := List.eq_nil_of_length_eq_zero (by omega)
    rw [hd, hg hd]
    exact DataBlocks.nil
  | succ n ih =>
    intro d g hl hne hg
    by_cases hd : d = []
    · rw [hd, hne hd]
      exact DataBlocks.nil
    have hpos : d.length ≠ 0 := fun h => hd (List.eq_nil_of_length_eq_zero h)
    rw [dataBlocks_eq]
    simp only [hpos, if_false]
    split
    · have := DataBlocks.cons (p := d) (d := []) (g := g) (bs := []) (by omega) (by omega) hg DataBlocks.nil
      simpa [block, frame] using this
    · have := DataBlocks.cons (p := d.take 255) (d := d.drop 255) (g := g) (bs := [] ++ dataBlocks (d.drop 255))
        (by simp [List.length_take]; omega) (by simp [List.length_take]; omega) hg
        (ih (d.drop 255) [] (by simp [List.length_drop]; omega) (fun _ => rfl) filler_nil)
      rw [List.take_append_drop] at this
      simpa [block, frame, List.append_assoc] using this

theorem header_eq_frame (f : CFile) : header f = frame 0x00 (namePayload (toTape f)) := by
  have hl : (hdrPayload f).length = 15 := by simp [hdrPayload, padName_length]
  have : namePayload (toTape f) = hdrPayload f := by simp [namePayload, toTape, hdrPayload]
  rw [this]
  simp [header, frame, hl]

theorem fileBytes_stream (f : CFile) : FileStream (toTape f) (fileBytes f) := by
  refine ⟨by simp [toTape, padName_length], ?_⟩
  by_cases hd : f.data = []
  · refine ⟨blank ++ leader, [], blank ++ leader, filler_gap_leader, ?_, filler_gap_leader, ?_⟩
    · simpa [toTape, hd] using DataBlocks.nil
    · have : dataBlocks f.data = [] := by rw [hd]; rfl
      simp [fileBytes, this, header_eq_frame, eof, frame, List.append_assoc]
  · refine ⟨blank ++ leader, (blank ++ leader) ++ dataBlocks f.data, [], filler_gap_leader, ?_, filler_nil, ?_⟩
    · exact dataBlocks_wf f.data.length f.data _ (Nat.le_refl _) (fun h => absurd h hd) filler_gap_leader
    · simp [fileBytes, header_eq_frame, eof, frame, List.append_assoc]

theorem toTape_ok (f : CFile) (hv : ValidFile f) : FileOK (toTape f) := by
  obtain ⟨hn, ht, hdt, hl, he, hd⟩ := hv
  refine ⟨?_, ht, hdt, by simp [toTape], hl, he, hd⟩
  intro c hc
  rcases mem_padName hc with h | h
  · exact hn c h
  · omega

theorem write_wf (fs : List CFile) : WellFormed (fs.map toTape) (Cas.write fs) := by
  induction fs with
  | nil => simpa [write] using WellFormed.nil filler_nil
  | cons f fs ih =>
    rw [write_cons]
    exact WellFormed.cons (fileBytes_stream f) ih

theorem dataBlocks_length_le {d db : Bytes} (h : DataBlocks d db) : d.length ≤ db.length := by
  induction h with
  | nil => simp
  | cons _ _ _ _ ih => simp [frame] at ih ⊢; omega

/-- for a file without data `read_file` answers `(None, pointer)` (finding E1): the `none` branch -/
theorem readFile_stream (t : Spec.Tape.File) (b rest : Bytes) (hs : FileStream t b) (hn : AsciiName t.name) :
    readFile (b ++ rest) = .ok (if t.data.isEmpty then none else some (ofTape t, rest)) := by
  obtain ⟨hlen, g₁, db, g₂, hg₁, hdb, hg₂, rfl⟩ := hs
  obtain ⟨n0, n1, n2, n3, n4, n5, n6, n7, hname⟩ := list8 t.name hlen
  have hutf : utf8Decode [n0, n1, n2, n3, n4, n5, n6, n7] = some [n0, n1, n2, n3, n4, n5, n6, n7] := by
    rw [← hname]; exact utf8Decode_ascii _ hn
  have hle := dataBlocks_length_le hdb
  obtain ⟨X, hX⟩ : ∃ X, X = db ++ (g₂ ++ (frame 0xFF [] ++ rest)) := ⟨_, rfl⟩
  have hrb : readBlocksF (X.length + 1) X [] = .ok (t.data, rest) := by
    have := readBlocksF_dataBlocks hdb hg₂ rest [] (X.length + 1) (by subst hX; simp; omega)
    simpa [hX] using this
  have hbuf : g₁ ++ frame 0x00 (namePayload t) ++ db ++ g₂ ++ frame 0xFF [] ++ rest
      = g₁ ++ (0x55 :: 0x3C :: 0x00 :: 15 :: n0 :: n1 :: n2 :: n3 :: n4 :: n5 :: n6 :: n7 :: t.ftype :: t.dtype ::
          t.gap :: (t.load / 256) :: (t.load % 256) :: (t.exec / 256) :: (t.exec % 256) ::
          ((0 + 15 + bsum (namePayload t)) % 256) :: 0x55 :: X) := by
    subst hX
    simp [namePayload, hname, frame, List.append_assoc]
  rw [hbuf]
  unfold readFile
  rw [skipTo_filler hg₁ (by decide) (by simp [List.isPrefixOf])]
  simp only [List.drop_succ_cons, List.drop_zero, List.take_succ_cons, List.take_zero, hutf, readBlocks]
  simp [hrb, ofTape, hname, Nat.div_add_mod']
  rw [if_neg (by omega), if_neg (by omega), if_neg (by omega)]
  split <;> rfl

theorem listF_wellFormed {ts : List Spec.Tape.File} {bytes : Bytes} (h : WellFormed ts bytes)
    (hn : ∀ t ∈ ts, AsciiName t.name) (acc : List CFile) (fuel : Nat) (hf : ts.length + 1 ≤ fuel) :
    listF fuel bytes acc = .ok (acc ++ (ts.takeWhile (fun t => !t.data.isEmpty)).map ofTape) := by
  induction h generalizing acc fuel with
  | nil hg =>
    cases fuel with
    | zero => omega
    | succ f => simp [listF, readFile, skipTo_filler_only hg _ (show (0x3C : Nat) ≠ 0x55 by decide)]
  | @cons t ts b bs hs _ ih =>
    cases fuel with
    | zero => omega
    | succ f =>
      rw [listF, readFile_stream t b bs hs (hn t List.mem_cons_self), List.takeWhile_cons]
      cases t.data.isEmpty with
      | true => simp
      | false =>
        simp only [Bool.false_eq_true, if_false, Bool.not_false, if_true]
        rw [ih (fun x hx => hn x (List.mem_cons_of_mem _ hx)) (acc ++ [ofTape t]) f (by simp at hf; omega)]
        simp [List.append_assoc]

/-- the listing of a well-formed tape stream, any leader lengths, any gaps, any payload bytes (markers
included): the files in front of the first one without data. With no such file it is (b) of C06; a tape that
starts with one lists as empty (finding E1). -/
theorem list_wellFormed (ts : List Spec.Tape.File) (bytes : Bytes) (h : WellFormed ts bytes)
    (hn : ∀ t ∈ ts, AsciiName t.name) :
    Cas.list bytes = .ok ((ts.takeWhile (fun t => !t.data.isEmpty)).map ofTape) := by
  have := listF_wellFormed h hn [] (bytes.length + 1) (by have := wellFormed_length h; omega)
  simpa [Cas.list] using this

theorem norm_eq (f : CFile) : ofTape (toTape f) = Cas.norm f := rfl

theorem toTape_ascii {f : CFile} (hn : AsciiName f.name) : AsciiName (toTape f).name := by
  intro c hc
  rcases mem_padName hc with hc | hc
  · exact hn c hc
  · omega

/-- write-then-list, every list of files with ASCII names, any field values: the files in front of the
first one without data, up to `norm` -/
theorem list_write (fs : List CFile) (hn : ∀ f ∈ fs, AsciiName f.name) :
    Cas.list (Cas.write fs) = .ok ((fs.takeWhile (fun f => !f.data.isEmpty)).map Cas.norm) := by
  rw [list_wellFormed (fs.map toTape) (Cas.write fs) (write_wf fs)
    (List.forall_mem_map.mpr (fun f hf => toTape_ascii (hn f hf))), List.takeWhile_map, List.map_map]
  rfl

/-- the first file has no data: none is listed (E1) -/
theorem list_write_E1 (f : CFile) (fs : List CFile) (hn : ∀ g ∈ f :: fs, AsciiName g.name) (hd : f.data = []) :
    Cas.list (Cas.write (f :: fs)) = .ok [] := by
  rw [list_write _ hn, List.takeWhile_cons, hd]
  rfl

end CoCo.Props
