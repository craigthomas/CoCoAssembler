/-
Lemmas/RelocFront.lean — relocation (C18-R1): the stages before `assignAddrs`.  The PCR size loop and the ORG check do not
read `operand`, `origText` or `pkg.address`: two lists that agree on every other field (`Inert`) go through `pcrLoop` in
lockstep (an instance of Lemmas/PcrLoopLockstep.lean).  On two parsed programs that differ only in the numeric operand of
their ORG statements (`OrgRel`) the symbol table is the same, and the statement lists stay related (`OrgRelT`) through
`resolveAll`, `translateAll`, `pcrLoop`.
-/
import CoCoVerif.Lemmas.PcrLoopLockstep
import CoCoVerif.Lemmas.RelocAddr
import CoCoVerif.Lemmas.ResolveGraph
import CoCoVerif.Lemmas.TranslateGraph

namespace CoCo.Asm
open CoCo

/-- the three fields the back end never reads between `translate` and `assignAddrs` -/
def Stmt.setInert (s : Stmt) (o : Operand) (tx : Str) (a : Value) : Stmt :=
  { s with operand := o, origText := tx, pkg := { s.pkg with address := a } }

def Inert (s s' : Stmt) : Prop := s' = s.setInert s'.operand s'.origText s'.pkg.address

theorem Inert.refl (s : Stmt) : Inert s s := rfl

theorem Inert.exists {s s' : Stmt} (h : Inert s s') : ∃ o tx a, s' = s.setInert o tx a := ⟨_, _, _, h⟩

section simp_lemmas
variable (s : Stmt) (o : Operand) (tx : Str) (a : Value)
@[simp] theorem setInert_fixedSize : (s.setInert o tx a).fixedSize = s.fixedSize := by cases s; rfl
@[simp] theorem setInert_pcrHint : (s.setInert o tx a).pcrHint = s.pcrHint := by cases s; rfl
@[simp] theorem setInert_row : (s.setInert o tx a).row = s.row := by cases s; rfl
@[simp] theorem setInert_label : (s.setInert o tx a).label = s.label := by cases s; rfl
@[simp] theorem setInert_choices : (s.setInert o tx a).pkg.choices = s.pkg.choices := by cases s; rfl
@[simp] theorem setInert_additional : (s.setInert o tx a).pkg.additional = s.pkg.additional := by cases s; rfl
@[simp] theorem setInert_size : (s.setInert o tx a).pkg.size = s.pkg.size := by cases s; rfl
@[simp] theorem setInert_maxSize : (s.setInert o tx a).pkg.maxSize = s.pkg.maxSize := by cases s; rfl
@[simp] theorem setInert_postByte : (s.setInert o tx a).pkg.postByte = s.pkg.postByte := by cases s; rfl
@[simp] theorem setInert_needsRes : (s.setInert o tx a).pkg.needsRes = s.pkg.needsRes := by cases s; rfl
@[simp] theorem setInert_opCode : (s.setInert o tx a).pkg.opCode = s.pkg.opCode := by cases s; rfl
@[simp] theorem setInert_address : (s.setInert o tx a).pkg.address = a := by cases s; rfl
@[simp] theorem setInert_operand : (s.setInert o tx a).operand = o := by cases s; rfl
@[simp] theorem setInert_origText : (s.setInert o tx a).origText = tx := by cases s; rfl
end simp_lemmas

theorem Inert.view {s s' : Stmt} (h : Inert s s') : PcrView s s' := by
  obtain ⟨o, tx, a, rfl⟩ := h.exists
  exact ⟨rfl, rfl, rfl, rfl, rfl, rfl, rfl, rfl⟩

theorem Inert.settled {s s' : Stmt} (e hint : Nat) (pb : Value) (h : Inert s s') :
    Inert (s.settled e hint pb) (s'.settled e hint pb) := by
  obtain ⟨o, tx, a, rfl⟩ := h.exists
  rfl

theorem Inert.size {s s' : Stmt} (h : Inert s s') : s'.pkg.size = s.pkg.size := h.view.size
theorem Inert.choices {s s' : Stmt} (h : Inert s s') : s'.pkg.choices = s.pkg.choices := h.view.choices

theorem pcrLoop_inert : ∀ (fuel : Nat) (ss ss' : List Stmt), PW Inert ss ss' →
    OutRel (PW Inert) (pcrLoop fuel ss) (pcrLoop fuel ss') :=
  pcrLoop_lockstep Inert.view Inert.settled

theorem orgOK_inert (ss ss' : List Stmt) (laid : Bool) (h : PW Inert ss ss') : orgOK ss' laid = orgOK ss laid :=
  orgOK_lockstep ss ss' laid <| h.mono fun s s' hi => by
    obtain ⟨o, tx, a, rfl⟩ := hi.exists
    exact ⟨rfl, rfl, rfl⟩

/-- parsed statements: the same non-ORG statement, or two ORG statements whose operands are the numbers
`n` and `n + D` (four hex digits: hint 4, mode EXTENDED) -/
def OrgRel (D : Nat) (P : Nat → Prop) (s s' : Stmt) : Prop :=
  (s' = s ∧ (s.row.mnemonic == "ORG") = false) ∨
  (s.row.mnemonic = "ORG" ∧ s.row.isPseudoDefine = false ∧ Inert s s' ∧
    s.operand.kind = .pseudo ∧ s'.operand.kind = .pseudo ∧
    ∃ n, P n ∧ s.operand.value = .numeric n (some 4) .extended false ∧
         s'.operand.value = .numeric (n + D) (some 4) .extended false)

/-- translated statements: the same statement without a preset address, or two inert (pseudo, numeric
operand, no PCR) statements whose preset addresses are `n` and `n + D` -/
def OrgRelT (D : Nat) (P : Nat → Prop) (s s' : Stmt) : Prop :=
  (s' = s ∧ s.pkg.address = .none ∧ (s.row.mnemonic == "ORG") = false) ∨
  (Inert s s' ∧ s.row.mnemonic = "ORG" ∧ s.pkg.needsRes = false ∧ s.operand.kind = .pseudo ∧
    s'.operand.kind = .pseudo ∧ s.operand.value.isNumeric = true ∧ s'.operand.value.isNumeric = true ∧
    ∃ n, P n ∧ s.pkg.address = .numeric n (some 4) .extended false ∧
         s'.pkg.address = .numeric (n + D) (some 4) .extended false)

theorem OrgRel.inert {D : Nat} {P : Nat → Prop} {s s' : Stmt} (h : OrgRel D P s s') : Inert s s' := by
  rcases h with ⟨rfl, _⟩ | ⟨_, _, h, _⟩
  · exact .refl _
  · exact h

theorem _root_.CoCo.Props.OrgRel.mono {D : Nat} {P Q : Nat → Prop} (hPQ : ∀ n, P n → Q n) {s s' : Stmt} (h : OrgRel D P s s') :
    OrgRel D Q s s' := by
  rcases h with h | ⟨h1, h2, h3, h4, h5, n, hP, h6⟩
  · exact .inl h
  · exact .inr ⟨h1, h2, h3, h4, h5, n, hPQ n hP, h6⟩

theorem OrgRelT.inert {D : Nat} {P : Nat → Prop} {s s' : Stmt} (h : OrgRelT D P s s') : Inert s s' := by
  rcases h with ⟨rfl, _⟩ | ⟨h, _⟩
  · exact .refl _
  · exact h

theorem buildSymTab_orgRel {D : Nat} {P : Nat → Prop} : ∀ (ss ss' : List Stmt) (i : Nat) (t : SymTab), PW (OrgRel D P) ss ss' →
    buildSymTab ss' i t = buildSymTab ss i t := by
  intro ss
  induction ss with
  | nil => intro ss' i t h; rw [h.nil_left]
  | cons s rest ih =>
    intro ss' i t h
    obtain ⟨s', rest', rfl, hr, hrest⟩ := h.cons_left
    rcases hr with ⟨rfl, _⟩ | ⟨_, hpd, hin, _⟩
    · rw [buildSymTab, buildSymTab]
      simp only [ih rest' _ _ hrest]
    · obtain ⟨o, tx, a, rfl⟩ := hin.exists
      rw [buildSymTab, buildSymTab]
      simp only [setInert_label, setInert_row, hpd, ih rest' _ _ hrest, Bool.false_eq_true, if_false]

theorem resolveAll_orgRel {D : Nat} {P : Nat → Prop} {t : SymTab} {ss ss' r r' : List Stmt} (h : PW (OrgRel D P) ss ss')
    (h1 : resolveAll t ss = some r) (h2 : resolveAll t ss' = some r') : PW (OrgRel D P) r r' := by
  have p1 := resolveAll_pw h1
  have p2 := resolveAll_pw h2
  refine ⟨by rw [p2.1, p1.1, h.1], ?_⟩
  intro j x x' hx hx'
  obtain ⟨s, hs, o, ho, rfl⟩ := p1.get' hx
  obtain ⟨s', hs', o', ho', rfl⟩ := p2.get' hx'
  rcases h.2 j s s' hs hs' with ⟨rfl, hm⟩ | ⟨hm, hpd, hin, hk, hk', n, hP, hv, hv'⟩
  · rw [ho] at ho'; cases ho'
    exact .inl ⟨rfl, hm⟩
  · have e1 := resolveOperand_pseudo_numeric ho hk (by rw [hv]; rfl)
    have e2 := resolveOperand_pseudo_numeric ho' hk' (by rw [hv']; rfl)
    subst e1 e2
    exact .inr ⟨hm, hpd, hin, hk, hk', n, hP, hv, hv'⟩

theorem translateAll_orgRel {D : Nat} {P : Nat → Prop} {ss ss' r r' : List Stmt} (h : PW (OrgRel D P) ss ss')
    (h1 : translateAll ss = some r) (h2 : translateAll ss' = some r') : PW (OrgRelT D P) r r' := by
  have p1 := translateAll_pw h1
  have p2 := translateAll_pw h2
  refine ⟨by rw [p2.1, p1.1, h.1], ?_⟩
  intro j x x' hx hx'
  obtain ⟨s, hs, p, hp, rfl⟩ := p1.get' hx
  obtain ⟨s', hs', p', hp', rfl⟩ := p2.get' hx'
  rcases h.2 j s s' hs hs' with ⟨rfl, hm⟩ | ⟨hm, hpd, hin, hk, hk', n, hP, hv, hv'⟩
  · rw [hp] at hp'; cases hp'
    exact .inl ⟨rfl, translateOperand_AN _ _ hm p hp, hm⟩
  · obtain ⟨o, tx, a, rfl⟩ := hin.exists
    simp only [setInert_operand, setInert_row] at hp' hk' hv'
    have e1 := (translate_org_eq hk hm hp).1
    have e2 := (translate_org_eq hk' hm hp').1
    subst e1 e2
    refine .inr ⟨rfl, hm, rfl, hk, hk', ?_, ?_, n, hP, hv, hv'⟩
    · rw [hv]; rfl
    · show o.value.isNumeric = true
      rw [hv']; rfl

theorem pcrLoop_orgRelT {D : Nat} {P : Nat → Prop} {fuel : Nat} {ss ss' r r' : List Stmt} (h : PW (OrgRelT D P) ss ss')
    (h1 : pcrLoop fuel ss = .ok r) (h2 : pcrLoop fuel ss' = .ok r') : PW (OrgRelT D P) r r' := by
  have hin : PW Inert r r' := by
    have := pcrLoop_inert fuel ss ss' (h.mono (fun _ _ => OrgRelT.inert))
    rw [h1, h2] at this
    exact this.rel
  have p1 := pcrLoop_pw fuel ss h1
  have p2 := pcrLoop_pw fuel ss' h2
  refine ⟨hin.1, ?_⟩
  intro j x x' hx hx'
  have hi := hin.2 j x x' hx hx'
  obtain ⟨s, hs, sz, mx, pb, hint, fx, rfl⟩ := p1.get' hx
  obtain ⟨s', hs', sz', mx', pb', hint', fx', rfl⟩ := p2.get' hx'
  rcases h.2 j s s' hs hs' with ⟨rfl, ha, hm⟩ | ⟨_, hm, hn, hk, hk', hv, hv', n, hP, ha, ha'⟩
  · refine .inl ⟨?_, ha, hm⟩
    rw [hi]; rfl
  · exact .inr ⟨hi, hm, hn, hk, hk', hv, hv', n, hP, ha, ha'⟩

theorem OrgRelT.orgShift {D : Nat} {P : Nat → Prop} {s s' : Stmt} (h : OrgRelT D P s s') : OrgShift D s s' := by
  rcases h with ⟨rfl, ha, _⟩ | ⟨hi, _, _, _, _, _, _, n, _, ha, ha'⟩
  · exact ⟨rfl, .inl ⟨ha, ha⟩⟩
  · exact ⟨hi.size, .inr ⟨n, some 4, .extended, false, ha, ha'⟩⟩

theorem OrgRelT.orgWide {D : Nat} {P : Nat → Prop} {s s' : Stmt} (h : OrgRelT D P s s') : OrgWide s := by
  rcases h with ⟨rfl, ha, _⟩ | ⟨hi, _, _, _, _, _, _, n, _, ha, ha'⟩
  · exact .inl ha
  · exact .inr ⟨n, .extended, ha⟩

theorem _root_.CoCo.Props.OrgRelT.all_orgWide {D : Nat} {P : Nat → Prop} {l l' : List Stmt} (h : PW (OrgRelT D P) l l') :
    ∀ s ∈ l, OrgWide s := by
  intro s hs
  obtain ⟨j, hj⟩ := List.getElem?_of_mem hs
  obtain ⟨s', _, hr⟩ := h.get hj
  exact hr.orgWide

theorem orgOK_orgRelT {D : Nat} {P : Nat → Prop} {ss ss' : List Stmt} (h : PW (OrgRelT D P) ss ss') (laid : Bool) :
    orgOK ss' laid = orgOK ss laid :=
  orgOK_inert ss ss' laid (h.mono (fun _ _ => OrgRelT.inert))

end CoCo.Asm
