/-
Lemmas/FitWidth.lean — `NumericValue.fit` (`fitNum`) and `Statement.fit_operand_width` (`fitWidth`): the operand field
of an instruction is re-rendered at the width the instruction form announces (size less op code and post byte), a
negative value in two's complement at that width; a value that does not fit is a diagnostic.  `fitNum_eq` is `fit` at
two and four digits.  `fitPkg` is `fitWidth` on the package alone (the statement enters only through its row and its
package, `fitWidth_eq`), and `FitOf` its graph: one constructor per way `fit_operand_width` returns, so that a fact
about the fitted statement is one `cases`.  `ByteLayout.cases` is the one lemma about `fit_operand_width` and the
emission: on a package whose op code and post byte emit known bytes and whose `size` leaves a field of 0, 1 or 2 bytes,
the field fits and the bytes are op code, post byte, field, or the statement is refused.
-/
import CoCoVerif.Lemmas.HexEmit

namespace CoCo.Asm
open CoCo
open CoCo.Gen (InstrRow)

theorem fitNum_def (n : Nat) (neg : Bool) (w : Nat) :
    fitNum n neg w =
      if -((2 : Int) ^ (4 * w - 1)) ≤ signedK n neg ∧ signedK n neg < (2 : Int) ^ (4 * w) then
        numericOfInt (signedK n neg % (2 : Int) ^ (4 * w)) (some w) .none
      else .error .valueType := rfl

/-- `NumericValue.fit(w)` at 2 and 4 digits: a number in `-2^(4w-1) .. 2^(4w)-1` becomes its residue modulo
`2^(4w)` with size hint `w`; any other is refused -/
theorem fitNum_eq {w : Nat} (hw : w = 2 ∨ w = 4) (n : Nat) (neg : Bool) :
    fitNum n neg w =
      if -((2 : Int) ^ (4 * w - 1)) ≤ signedK n neg ∧ signedK n neg < (2 : Int) ^ (4 * w) then
        .ok (.numeric (signedK n neg % (2 : Int) ^ (4 * w)).toNat (some w) .extended false)
      else .error .valueType := by
  have hpow : (0 : Int) < (2 : Int) ^ (4 * w) ∧ (2 : Int) ^ (4 * w) ≤ 65536 := by
    rcases hw with rfl | rfl <;> decide
  rw [fitNum_def]
  generalize (2 : Int) ^ (4 * w) = P at hpow
  split
  · have h0 := Int.emod_nonneg (signedK n neg) (show P ≠ 0 by omega)
    have h1 := Int.emod_lt_of_pos (signedK n neg) hpow.1
    generalize signedK n neg % P = z at h0 h1
    have := numericOfInt_hint (v := z.toNat) w (by omega)
    rwa [Int.toNat_of_nonneg h0] at this
  · rfl

/-- the fitted value, whatever the width: always a non-negative number with the width as its size hint -/
theorem fitNum_shape {n : Nat} {neg : Bool} {d : Nat} {v : Value} (h : fitNum n neg d = .ok v) :
    ∃ w, v = .numeric w (some d) .extended false := by
  rw [fitNum_def] at h
  split at h
  · have hp : (0 : Int) < (2 : Int) ^ (4 * d) := Int.pow_pos (by decide)
    have h0 := Int.emod_nonneg (signedK n neg) (Int.ne_of_gt hp)
    generalize signedK n neg % (2 : Int) ^ (4 * d) = z at h h0
    by_cases hz : z.toNat < 65536
    · rw [← Int.toNat_of_nonneg h0, numericOfInt_hint d hz] at h
      cases h
      exact ⟨_, rfl⟩
    · rw [numericOfInt_big (by omega)] at h
      cases h
  · cases h

theorem fitNum_isNumeric {n : Nat} {neg : Bool} {w : Nat} {v : Value} (hf : fitNum n neg w = .ok v) :
    v.isNumeric = true := by
  obtain ⟨_, rfl⟩ := fitNum_shape hf
  rfl

theorem fitNum_nm {n : Nat} {neg : Bool} {d : Nat} {v : Value} (h : fitNum n neg d = .ok v) : v.NM :=
  .of_numeric (fitNum_isNumeric h)

theorem fitNum_hex_some {n : Nat} {neg : Bool} {w : Nat} {v : Value} (hf : fitNum n neg w = .ok v) :
    ∃ h, v.hex? = some h := by
  obtain ⟨_, rfl⟩ := fitNum_shape hf
  exact ⟨_, rfl⟩

/-- a number that fills the field already: rendered anew with the width as size hint -/
theorem fitNum_nat {n w : Nat} (hw : w = 2 ∨ w = 4) (h : n < 16 ^ w) :
    fitNum n false w = .ok (.numeric n (some w) .extended false) := by
  have hp : (2 : Int) ^ (4 * w) = ((16 ^ w : Nat) : Int) ∧ (0 : Int) ≤ (2 : Int) ^ (4 * w - 1) := by
    rcases hw with rfl | rfl <;> decide
  have hn : signedK n false = (n : Int) := rfl
  rw [fitNum_eq hw, hn, hp.1, if_pos ⟨by omega, by omega⟩, Int.emod_eq_of_lt (by omega) (by omega)]
  rfl

theorem fitNum_hex_length {n : Nat} {neg : Bool} {w : Nat} {v : Value} {h : Str} (hw : w = 2 ∨ w = 4)
    (hf : fitNum n neg w = .ok v) (hh : v.hex? = some h) : h.length = w := by
  have hp : (2 : Int) ^ (4 * w) = ((16 ^ w : Nat) : Int) ∧ 0 < 16 ^ w ∧ 16 ^ w ≤ 65536 := by
    rcases hw with rfl | rfl <;> decide
  rw [fitNum_eq hw, hp.1] at hf
  split at hf
  · cases hf
    have h0 := Int.emod_nonneg (signedK n neg) (show ((16 ^ w : Nat) : Int) ≠ 0 by omega)
    have h1 := Int.emod_lt_of_pos (signedK n neg) (show (0 : Int) < ((16 ^ w : Nat) : Int) by omega)
    rw [hex_hinted (by omega)] at hh
    cases hh
    exact fmtHex_length_of_lt (by omega) (by omega) (by omega)
  · cases hf

/-- the byte a number stands for in an 8-bit field (a negative one in two's complement) -/
def byteField (n : Nat) (neg : Bool) : Nat := if neg then (256 - n) % 256 else n
/-- the word a number stands for in a 16-bit field -/
def wordField (n : Nat) (neg : Bool) : Nat := if neg then (65536 - n) % 65536 else n

/-- -128 .. 255 -/
def fitsByte (n : Nat) (neg : Bool) : Bool := if neg then decide (n ≤ 128) else decide (n ≤ 255)
/-- -32768 .. 65535 -/
def fitsWord (n : Nat) (neg : Bool) : Bool := if neg then decide (n ≤ 32768) else decide (n ≤ 65535)

theorem fitsByte_iff (n : Nat) (neg : Bool) : fitsByte n neg = true ↔ (-128 ≤ signedK n neg ∧ signedK n neg ≤ 255) := by
  cases neg <;> simp [fitsByte, signedK] <;> omega

theorem fitsWord_iff (n : Nat) (neg : Bool) :
    fitsWord n neg = true ↔ (-32768 ≤ signedK n neg ∧ signedK n neg ≤ 65535) := by
  cases neg <;> simp [fitsWord, signedK] <;> omega

/-- the field values are the residues `fit` computes -/
theorem byteField_eq {n : Nat} {neg : Bool} (h : fitsByte n neg = true) : byteField n neg = (signedK n neg % 256).toNat := by
  cases neg <;> simp [fitsByte, byteField, signedK] at h ⊢ <;> omega

theorem wordField_eq {n : Nat} {neg : Bool} (h : fitsWord n neg = true) :
    wordField n neg = (signedK n neg % 65536).toNat := by
  cases neg <;> simp [fitsWord, wordField, signedK] at h ⊢ <;> omega

theorem _root_.CoCo.Props.fitsByte_neg {n : Nat} (h : n ≤ 128) : fitsByte n true = true := decide_eq_true h
theorem _root_.CoCo.Props.fitsWord_neg {n : Nat} (h : n ≤ 32768) : fitsWord n true = true := decide_eq_true h

/-- the two's complement of −n at the width of the directive -/
theorem _root_.CoCo.Props.byteField_neg {n : Nat} (h1 : 1 ≤ n) (h2 : n ≤ 128) : byteField n true = 256 - n := by
  simp only [byteField, if_true]; omega

theorem _root_.CoCo.Props.wordField_neg {n : Nat} (h1 : 1 ≤ n) (h2 : n ≤ 32768) : wordField n true = 65536 - n := by
  simp only [wordField, if_true]; omega

theorem byteField_lt {n : Nat} {neg : Bool} (h : fitsByte n neg = true) : byteField n neg < 256 := by
  rw [byteField_eq h]; omega

theorem wordField_lt {n : Nat} {neg : Bool} (h : fitsWord n neg = true) : wordField n neg < 65536 := by
  rw [wordField_eq h]; omega

theorem pow7 : (2 : Int) ^ (4 * 2 - 1) = 128 := by decide
theorem pow8 : (2 : Int) ^ (4 * 2) = 256 := by decide
theorem pow15 : (2 : Int) ^ (4 * 4 - 1) = 32768 := by decide
theorem pow16 : (2 : Int) ^ (4 * 4) = 65536 := by decide

theorem fitNum_byte {n : Nat} {neg : Bool} (h : fitsByte n neg = true) :
    fitNum n neg 2 = .ok (.numeric (byteField n neg) (some 2) .extended false) := by
  have hr := (fitsByte_iff n neg).mp h
  rw [fitNum_eq (.inl rfl), pow7, pow8, if_pos ⟨hr.1, by omega⟩, byteField_eq h]

theorem fitNum_byte_err {n : Nat} {neg : Bool} (h : fitsByte n neg = false) : fitNum n neg 2 = .error .valueType := by
  have hr := mt (fitsByte_iff n neg).mpr (by rw [h]; decide)
  rw [fitNum_eq (.inl rfl), pow7, pow8, if_neg (by omega)]

theorem fitNum_word {n : Nat} {neg : Bool} (h : fitsWord n neg = true) :
    fitNum n neg 4 = .ok (.numeric (wordField n neg) (some 4) .extended false) := by
  have hr := (fitsWord_iff n neg).mp h
  rw [fitNum_eq (.inr rfl), pow15, pow16, if_pos ⟨hr.1, by omega⟩, wordField_eq h]

theorem fitNum_word_err {n : Nat} {neg : Bool} (h : fitsWord n neg = false) : fitNum n neg 4 = .error .valueType := by
  have hr := mt (fitsWord_iff n neg).mpr (by rw [h]; decide)
  rw [fitNum_eq (.inr rfl), pow15, pow16, if_neg (by omega)]

/-- the statement classes `fitWidth` leaves alone -/
def fitSkipped (row : Gen.InstrRow) : Bool :=
  (row.isPseudo && !(row.isMultiByte || row.isMultiWord)) || row.isSpecial

/-- `fitWidth` reads the row and the package of the statement and changes only `pkg.additional` -/
def fitPkg (r : InstrRow) (p : Pkg) : Outcome Pkg :=
  if (r.isPseudo && !(r.isMultiByte || r.isMultiWord)) || r.isSpecial then .ok p else
  match p.additional with
  | .numeric n _ _ neg =>
    match p.opCode.hexLen?, p.postByte.hexLen? with
    | some a, some b =>
      let digits : Int := 2 * (p.size : Int) - a - b
      if digits = 2 ∨ digits = 4 then
        (match fitNum n neg digits.toNat with
         | .ok v => .ok { p with additional := v }
         | .error _ => .diag)
      else .diag
    | _, _ => .internal
  | _ => .ok p

theorem fitWidth_eq (s : Stmt) : fitWidth s = (fitPkg s.row s.pkg).map fun p => { s with pkg := p } := by
  unfold fitWidth fitPkg
  by_cases hrow : ((s.row.isPseudo && !(s.row.isMultiByte || s.row.isMultiWord)) || s.row.isSpecial) = true
  · rw [if_pos hrow, if_pos hrow]; rfl
  · rw [if_neg hrow, if_neg hrow]
    cases hadd : s.pkg.additional with
    | numeric n h m neg =>
      simp only []
      cases ha : s.pkg.opCode.hexLen? with
      | none => rfl
      | some a =>
        cases hb : s.pkg.postByte.hexLen? with
        | none => rfl
        | some b =>
          simp only []
          split
          · cases hf : fitNum n neg (2 * (s.pkg.size : Int) - a - b).toNat <;> rfl
          · rfl
    | _ => rfl

theorem fitWidth_ok {s : Stmt} {p : Pkg} (h : fitPkg s.row s.pkg = .ok p) : fitWidth s = .ok { s with pkg := p } := by
  rw [fitWidth_eq, h]; rfl

theorem fitWidth_diag {s : Stmt} (h : fitPkg s.row s.pkg = .diag) : fitWidth s = .diag := by
  rw [fitWidth_eq, h]; rfl

theorem fitWidth_ok_iff {s s' : Stmt} : fitWidth s = .ok s' ↔ ∃ p, fitPkg s.row s.pkg = .ok p ∧ s' = { s with pkg := p } := by
  rw [fitWidth_eq]
  cases h : fitPkg s.row s.pkg <;> simp [eq_comm]

/-- a statement passes `fitWidth` and emits `bytes`: a fact about its row and its package -/
theorem fitWidth_emits_iff {s : Stmt} {bytes : Bytes} :
    (∃ s', fitWidth s = .ok s' ∧ stmtBytes s' = some bytes) ↔
      ∃ p', fitPkg s.row s.pkg = .ok p' ∧ pkgBytes p' = some bytes := by
  constructor
  · rintro ⟨s', hs', hb⟩
    obtain ⟨p', hp', rfl⟩ := fitWidth_ok_iff.mp hs'
    exact ⟨p', hp', hb⟩
  · rintro ⟨p', hf, hb⟩
    exact ⟨_, fitWidth_ok hf, hb⟩

/-- the same of every statement that carries row `r` and package `pkg` (there is one: the rest of a statement is not
looked at) -/
theorem emitted_iff_fitPkg {r : InstrRow} {pkg : Pkg} {bytes : Bytes} :
    (∀ s : Stmt, s.row = r → s.pkg = pkg → ∃ s', fitWidth s = .ok s' ∧ stmtBytes s' = some bytes) ↔
      ∃ p', fitPkg r pkg = .ok p' ∧ pkgBytes p' = some bytes :=
  ⟨fun h => fitWidth_emits_iff.mp (h { (default : Stmt) with row := r, pkg := pkg } rfl rfl),
    by rintro h s rfl rfl; exact fitWidth_emits_iff.mpr h⟩

theorem fitWidth_diag_iff {s : Stmt} : fitWidth s = .diag ↔ fitPkg s.row s.pkg = .diag := by
  rw [fitWidth_eq]
  cases fitPkg s.row s.pkg <;> simp

/-- every statement that carries row and package is refused -/
theorem refused_iff_fitPkg {r : InstrRow} {pkg : Pkg} :
    (∀ s : Stmt, s.row = r → s.pkg = pkg → fitWidth s = .diag) ↔ fitPkg r pkg = .diag :=
  ⟨fun h => fitWidth_diag_iff.mp (h { (default : Stmt) with row := r, pkg := pkg } rfl rfl),
    by rintro h s rfl rfl; exact fitWidth_diag h⟩

/-- a package whose `additional` is not a number is left alone, whatever the row -/
theorem fitPkg_nonNumeric (r : InstrRow) {p : Pkg} (h : p.additional.isNumeric = false) : fitPkg r p = .ok p := by
  unfold fitPkg
  split
  · rfl
  · split
    · rename_i hn; rw [hn] at h; simp [Value.isNumeric] at h
    · rfl

/-- the rows `fitWidth` skips: register-operand instructions and the pseudo operations other than FCB / FDB -/
theorem fitPkg_skip {r : InstrRow} (p : Pkg) (h : fitSkipped r = true) : fitPkg r p = .ok p :=
  if_pos h

/-- the working case: a numeric `additional`, the hex lengths of op code and post byte known, the field
`d` hex digits wide -/
theorem fitPkg_numeric {r : InstrRow} {p : Pkg} {n : Nat} {h : Option Nat} {m : Mode} {neg : Bool} {a b d : Nat}
    (hrow : fitSkipped r = false)
    (hadd : p.additional = .numeric n h m neg) (ha : p.opCode.hexLen? = some a) (hb : p.postByte.hexLen? = some b)
    (hsz : 2 * p.size = a + b + d) (hd : d = 2 ∨ d = 4) :
    fitPkg r p = (match fitNum n neg d with | .ok v => .ok { p with additional := v } | .error _ => .diag) := by
  have hrow : ((r.isPseudo && !(r.isMultiByte || r.isMultiWord)) || r.isSpecial) = false := hrow
  have e : (2 * (p.size : Int) - (a : Int) - (b : Int)) = (d : Int) := by omega
  have hd' : ((d : Int) = 2 ∨ (d : Int) = 4) := by omega
  simp only [fitPkg, hrow, Bool.false_eq_true, if_false, hadd, ha, hb, e, hd', if_true, Int.toNat_natCast]

/-- the field is neither two nor four digits wide: a diagnostic -/
theorem fitPkg_badWidth {r : InstrRow} {p : Pkg} {n : Nat} {h : Option Nat} {m : Mode} {neg : Bool} {a b : Nat}
    (hrow : fitSkipped r = false)
    (hadd : p.additional = .numeric n h m neg) (ha : p.opCode.hexLen? = some a) (hb : p.postByte.hexLen? = some b)
    (hd : ¬ (2 * (p.size : Int) - a - b = 2 ∨ 2 * (p.size : Int) - a - b = 4)) :
    fitPkg r p = .diag := by
  have hrow : ((r.isPseudo && !(r.isMultiByte || r.isMultiWord)) || r.isSpecial) = false := hrow
  simp only [fitPkg, hrow, Bool.false_eq_true, if_false, hadd, ha, hb, hd]

/-- `hex_len()` of a Python `None` in the op code or post byte -/
theorem fitPkg_noLen {r : InstrRow} {p : Pkg} {n : Nat} {h : Option Nat} {m : Mode} {neg : Bool}
    (hrow : fitSkipped r = false) (hadd : p.additional = .numeric n h m neg)
    (hl : p.opCode.hexLen? = none ∨ p.postByte.hexLen? = none) : fitPkg r p = .internal := by
  have hrow' : ((r.isPseudo && !(r.isMultiByte || r.isMultiWord)) || r.isSpecial) = false := hrow
  simp only [fitPkg, hrow', Bool.false_eq_true, if_false, hadd]
  rcases hl with hl | hl
  · rw [hl]
  · rw [hl]; cases p.opCode.hexLen? <;> rfl

/-- the graph of `fit_operand_width` on row and package: everything `fitPkg r p` can be, one constructor per
return of the Python method; a fitted field holds the residue of the signed number at the width `w` that the size
leaves after op code and post byte -/
inductive FitOf (r : InstrRow) (p : Pkg) : Outcome Pkg → Prop
  /-- PSHS / TFR .., and the directives other than FCB / FDB -/
  | skipped (hr : fitSkipped r = true) : FitOf r p (.ok p)
  | noNumber (hr : fitSkipped r = false) (ha : p.additional.isNumeric = false) : FitOf r p (.ok p)
  /-- `hex_len()` of a Python `None` -/
  | noLen {n : Nat} {h : Option Nat} {m : Mode} {neg : Bool} (hr : fitSkipped r = false)
      (ha : p.additional = .numeric n h m neg) (hl : p.opCode.hexLen? = none ∨ p.postByte.hexLen? = none) :
      FitOf r p .internal
  /-- "the statement has no room for an operand value" -/
  | noRoom {n : Nat} {h : Option Nat} {m : Mode} {neg : Bool} {a b : Nat} (hr : fitSkipped r = false)
      (ha : p.additional = .numeric n h m neg) (hla : p.opCode.hexLen? = some a) (hlb : p.postByte.hexLen? = some b)
      (hw : ¬ (2 * p.size = a + b + 2 ∨ 2 * p.size = a + b + 4)) : FitOf r p .diag
  /-- "value does not fit" -/
  | misfit {n : Nat} {h : Option Nat} {m : Mode} {neg : Bool} {a b w : Nat} (hr : fitSkipped r = false)
      (ha : p.additional = .numeric n h m neg) (hla : p.opCode.hexLen? = some a) (hlb : p.postByte.hexLen? = some b)
      (hw : w = 2 ∨ w = 4) (hsz : 2 * p.size = a + b + w)
      (hz : ¬ (-((2 : Int) ^ (4 * w - 1)) ≤ signedK n neg ∧ signedK n neg < (2 : Int) ^ (4 * w))) : FitOf r p .diag
  | fitted {n : Nat} {h : Option Nat} {m : Mode} {neg : Bool} {a b w : Nat} (hr : fitSkipped r = false)
      (ha : p.additional = .numeric n h m neg) (hla : p.opCode.hexLen? = some a) (hlb : p.postByte.hexLen? = some b)
      (hw : w = 2 ∨ w = 4) (hsz : 2 * p.size = a + b + w)
      (hlo : -((2 : Int) ^ (4 * w - 1)) ≤ signedK n neg) (hhi : signedK n neg < (2 : Int) ^ (4 * w)) :
      FitOf r p (.ok { p with additional := .numeric (signedK n neg % (2 : Int) ^ (4 * w)).toNat (some w) .extended false })

/-- the graph is a function: `fitPkg` computed from a constructor -/
theorem FitOf.eq {r : InstrRow} {p : Pkg} {o : Outcome Pkg} (g : FitOf r p o) : fitPkg r p = o := by
  cases g with
  | skipped hr => exact fitPkg_skip p hr
  | noNumber _ ha => exact fitPkg_nonNumeric r ha
  | noLen hr ha hl => exact fitPkg_noLen hr ha hl
  | noRoom hr ha hla hlb hw => exact fitPkg_badWidth hr ha hla hlb (by omega)
  | misfit hr ha hla hlb hw hsz hz => rw [fitPkg_numeric hr ha hla hlb hsz hw, fitNum_eq hw, if_neg hz]
  | fitted hr ha hla hlb hw hsz hlo hhi => rw [fitPkg_numeric hr ha hla hlb hsz hw, fitNum_eq hw, if_pos ⟨hlo, hhi⟩]

theorem FitOf.total (r : InstrRow) (p : Pkg) : ∃ o, FitOf r p o := by
  cases hr : fitSkipped r with
  | true => exact ⟨_, .skipped hr⟩
  | false =>
    cases hn : p.additional.isNumeric with
    | false => exact ⟨_, .noNumber hr hn⟩
    | true =>
      obtain ⟨n, h, m, neg, ha⟩ := isNumeric_elim hn
      cases hla : p.opCode.hexLen? with
      | none => exact ⟨_, .noLen hr ha (.inl hla)⟩
      | some a =>
        cases hlb : p.postByte.hexLen? with
        | none => exact ⟨_, .noLen hr ha (.inr hlb)⟩
        | some b =>
          by_cases hw : 2 * p.size = a + b + 2 ∨ 2 * p.size = a + b + 4
          · obtain ⟨w, hw, hsz⟩ : ∃ w, (w = 2 ∨ w = 4) ∧ 2 * p.size = a + b + w :=
              hw.elim (fun h => ⟨2, .inl rfl, h⟩) (fun h => ⟨4, .inr rfl, h⟩)
            by_cases hz : -((2 : Int) ^ (4 * w - 1)) ≤ signedK n neg ∧ signedK n neg < (2 : Int) ^ (4 * w)
            · exact ⟨_, .fitted hr ha hla hlb hw hsz hz.1 hz.2⟩
            · exact ⟨_, .misfit hr ha hla hlb hw hsz hz⟩
          · exact ⟨_, .noRoom hr ha hla hlb hw⟩

theorem fitPkg_graph (r : InstrRow) (p : Pkg) : FitOf r p (fitPkg r p) := by
  obtain ⟨o, g⟩ := FitOf.total r p
  rw [g.eq]
  exact g

/-- what `fit_operand_width` reads of the package: whether `additional` is a number and which, the hex lengths of op
code and post byte, the size; it writes `additional`.  A change `g` of the package that keeps the first and commutes
with writing a number there commutes with the fit -/
theorem fitPkg_map (r : InstrRow) (p : Pkg) (g : Pkg → Pkg)
    (hnn : p.additional.isNumeric = false → (g p).additional.isNumeric = false)
    (hnum : ∀ {n h m neg}, p.additional = .numeric n h m neg → (g p).additional = .numeric n h m neg)
    (hop : (g p).opCode.hexLen? = p.opCode.hexLen?) (hpb : (g p).postByte.hexLen? = p.postByte.hexLen?)
    (hsz : (g p).size = p.size)
    (hg : ∀ n h m neg, g { p with additional := .numeric n h m neg } = { g p with additional := .numeric n h m neg }) :
    fitPkg r (g p) = (fitPkg r p).map g := by
  obtain ⟨o, c⟩ := FitOf.total r p
  rw [c.eq]
  refine FitOf.eq ?_
  cases c with
  | skipped hr => exact .skipped hr
  | noNumber hr ha => exact .noNumber hr (hnn ha)
  | noLen hr ha hl => exact .noLen hr (hnum ha) (hop ▸ hpb ▸ hl)
  | noRoom hr ha hla hlb hw => exact .noRoom hr (hnum ha) (hop ▸ hla) (hpb ▸ hlb) (hsz ▸ hw)
  | misfit hr ha hla hlb hw hsz' hz => exact .misfit hr (hnum ha) (hop ▸ hla) (hpb ▸ hlb) hw (hsz ▸ hsz') hz
  | fitted hr ha hla hlb hw hsz' hlo hhi =>
    have c' := FitOf.fitted hr (hnum ha) (hop ▸ hla) (hpb ▸ hlb) hw (hsz ▸ hsz') hlo hhi
    rwa [← hg] at c'

theorem fitWidth_outcome (s : Stmt) : ∃ o, FitOf s.row s.pkg o ∧ fitWidth s = o.map fun p => { s with pkg := p } :=
  ⟨_, fitPkg_graph s.row s.pkg, fitWidth_eq s⟩

theorem fitWidth_graph {s s' : Stmt} (h : fitWidth s = .ok s') :
    ∃ p, FitOf s.row s.pkg (.ok p) ∧ s' = { s with pkg := p } := by
  obtain ⟨p, hp, rfl⟩ := fitWidth_ok_iff.mp h
  exact ⟨p, hp ▸ fitPkg_graph s.row s.pkg, rfl⟩

/-- `fitWidth` on a statement with a numeric field: the field gets the width `w` (2 or 4 hex digits) that the size
leaves after op code and post byte, and holds the residue of the signed number modulo `16^w` -/
theorem fitWidth_numeric {s s' : Stmt} {n : Nat} {h : Option Nat} {m : Mode} {neg : Bool}
    (hfit : fitWidth s = .ok s') (hrow : fitSkipped s.row = false)
    (hadd : s.pkg.additional = .numeric n h m neg) :
    ∃ a b w, s.pkg.opCode.hexLen? = some a ∧ s.pkg.postByte.hexLen? = some b ∧ (w = 2 ∨ w = 4) ∧
      2 * s.pkg.size = a + b + w ∧
      -((2 : Int) ^ (4 * w - 1)) ≤ signedK n neg ∧ signedK n neg < (2 : Int) ^ (4 * w) ∧
      s' = withAdditional s (.numeric (signedK n neg % (2 : Int) ^ (4 * w)).toNat (some w) .extended false) := by
  obtain ⟨p, g, rfl⟩ := fitWidth_graph hfit
  cases g with
  | skipped hr => rw [hrow] at hr; cases hr
  | noNumber _ ha => rw [hadd] at ha; cases ha
  | fitted _ ha hla hlb hw hsz hlo hhi =>
    rw [hadd] at ha
    cases ha
    exact ⟨_, _, _, hla, hlb, hw, hsz, hlo, hhi, rfl⟩

/-- the integer `d` stored by `fix_addresses` and rendered by `fit_operand_width`: the field has the width `w` that the size
leaves after op code and post byte, `d` is a signed or unsigned number of that width, and the field is its residue -/
theorem fitWidth_int {s s' : Stmt} {d : Int} {h : Option Nat} {v : Value} (hnum : numericOfInt d h .none = .ok v)
    (hfit : fitWidth (withAdditional s v) = .ok s') (hsk : fitSkipped s.row = false) :
    ∃ a b w, s.pkg.opCode.hexLen? = some a ∧ s.pkg.postByte.hexLen? = some b ∧ (w = 2 ∨ w = 4) ∧
      2 * s.pkg.size = a + b + w ∧ -((2 : Int) ^ (4 * w - 1)) ≤ d ∧ d < (2 : Int) ^ (4 * w) ∧
      s'.pkg.additional = .numeric (d % (2 : Int) ^ (4 * w)).toNat (some w) .extended false := by
  obtain ⟨_, rfl⟩ := numericOfInt_ok hnum
  obtain ⟨a, b, w, ha, hb, hw, hsz, hlo, hhi, rfl⟩ := fitWidth_numeric hfit hsk rfl
  rw [signedK_natAbs] at hlo hhi
  refine ⟨a, b, w, ha, hb, hw, hsz, hlo, hhi, ?_⟩
  show Value.numeric (signedK d.natAbs (decide (d < 0)) % (2 : Int) ^ (4 * w)).toNat (some w) .extended false = _
  rw [signedK_natAbs]

theorem fitWidth_nonnumeric {s s' : Stmt} (hfit : fitWidth s = .ok s') (hadd : s.pkg.additional.isNumeric = false) :
    s' = s := by
  rw [fitWidth_eq, fitPkg_nonNumeric _ hadd] at hfit
  cases hfit
  rfl

theorem fitWidth_skipped {s s' : Stmt} (hfit : fitWidth s = .ok s') (hrow : fitSkipped s.row = true) : s' = s := by
  rw [fitWidth_eq, fitPkg_skip _ hrow] at hfit
  cases hfit
  rfl

theorem _root_.CoCo.Props.table_org_skipped : ∀ r ∈ Gen.instructions, r.mnemonic = "ORG" → fitSkipped r = true := by decide +kernel

theorem _root_.CoCo.Props.table_data_fitted : ∀ r ∈ Gen.instructions, (r.mnemonic == "FCB" || r.mnemonic == "FDB") = true →
    fitSkipped r = false := by decide +kernel

theorem fitWidth_isNumeric {s s' : Stmt} (h : fitWidth s = .ok s') (hn : s.pkg.additional.isNumeric = true) :
    s'.pkg.additional.isNumeric = true := by
  obtain ⟨p, g, rfl⟩ := fitWidth_graph h
  cases g with
  | skipped | noNumber => exact hn
  | fitted => rfl

/-- `fitWidth` changes a number only: a list stays the list it was, and no list appears -/
theorem fitWidth_list {s s' : Stmt} (h : fitWidth s = .ok s') :
    (∀ hs, s'.pkg.additional = .multiByte hs ↔ s.pkg.additional = .multiByte hs) ∧
    (∀ hs, s'.pkg.additional = .multiWord hs ↔ s.pkg.additional = .multiWord hs) := by
  obtain ⟨p, g, rfl⟩ := fitWidth_graph h
  cases g with
  | skipped | noNumber => exact ⟨fun _ => Iff.rfl, fun _ => Iff.rfl⟩
  | fitted _ ha =>
    constructor <;> intro hs <;> constructor <;> intro e
    · cases e
    · rw [ha] at e; cases e
    · cases e
    · rw [ha] at e; cases e

/-- what follows op code and post byte: nothing, one byte, or two bytes (high byte first) -/
inductive FieldFit (n : Nat) (neg : Bool) : Bytes → Prop
  | byte : fitsByte n neg = true → FieldFit n neg [byteField n neg]
  | word : fitsWord n neg = true → FieldFit n neg [wordField n neg / 256, wordField n neg % 256]

theorem FieldFit.digits {n : Nat} {neg : Bool} {ad : Bytes} (h : FieldFit n neg ad) :
    2 * ad.length = 2 ∨ 2 * ad.length = 4 := by
  cases h <;> simp

theorem FieldFit.fit {n : Nat} {neg : Bool} {ad : Bytes} (h : FieldFit n neg ad) :
    ∃ v, fitNum n neg (2 * ad.length) = .ok v ∧ emitValue v = some ad := by
  cases h with
  | byte hb => exact ⟨_, fitNum_byte hb, emit_hint2 _ (byteField_lt hb)⟩
  | word hw => exact ⟨_, fitNum_word hw, emit_hint4 _ (wordField_lt hw)⟩

/-- what a code part (op code, post byte) of a translated package emits: nothing, one byte, or the two bytes of a
page-2 / page-3 op code -/
inductive CodeOk : Value → Bytes → Prop
  | none : CodeOk .none []
  | byte {p : Nat} : p < 256 → CodeOk (.numeric p (some 2) .direct false) [p]
  | word {c : Nat} : 256 ≤ c → c < 65536 → CodeOk (.numeric c none .extended false) [c / 256, c % 256]

theorem CodeOk.emit {v : Value} {b : Bytes} (h : CodeOk v b) : emitValue v = some b := by
  cases h with
  | none => exact emitValue_none
  | byte hp => exact emit_hint2 _ hp
  | word h1 h2 => exact emit_hintNone_word _ h1 h2

theorem CodeOk.hexLen {v : Value} {b : Bytes} (h : CodeOk v b) : v.hexLen? = some (2 * b.length) := by
  cases h with
  | none => rfl
  | byte => rfl
  | word h1 h2 => simp [Value.hexLen?, numHexLen_none_word h1 h2]

/-- the bytes of an operand field of `w` bytes after `fit_operand_width`: nothing, the two's complement byte, the
two's complement word (`none`: the number does not fit, or there is no such field) -/
def fieldBytes : Nat → Value → Option Bytes
  | 0, .none => some []
  | 1, .numeric n _ _ neg => if fitsByte n neg then some [byteField n neg] else none
  | 2, .numeric n _ _ neg => if fitsWord n neg then some [wordField n neg / 256, wordField n neg % 256] else none
  | _, _ => none

theorem fieldBytes_length {w : Nat} {a : Value} {f : Bytes} (h : fieldBytes w a = some f) : f.length = w := by
  unfold fieldBytes at h
  split at h
  · cases h; rfl
  · split at h <;> cases h; rfl
  · split at h <;> cases h; rfl
  · cases h

theorem fieldBytes_byte {n : Nat} {h : Option Nat} {m : Mode} {neg : Bool} (hf : fitsByte n neg = true) :
    fieldBytes 1 (.numeric n h m neg) = some [byteField n neg] :=
  if_pos hf

theorem fieldBytes_word {n : Nat} {h : Option Nat} {m : Mode} {neg : Bool} (hf : fitsWord n neg = true) :
    fieldBytes 2 (.numeric n h m neg) = some [wordField n neg / 256, wordField n neg % 256] :=
  if_pos hf

/-- the byte layout of a package: the op code emits `ob`, the post byte `pb`, and `size` counts these and `w` more
bytes, for which the package holds nothing (`w = 0`) or a number that `fit_operand_width` will render (`w = 1, 2`, on a
row it looks at).  An instruction is such a package (`PkgLayout.bytes`, Lemmas/EncodeLayout.lean), and so is a single
FCB / FDB value: no op code, no post byte, a field of one or two bytes. -/
structure ByteLayout (r : InstrRow) (p : Pkg) (ob pb : Bytes) (w : Nat) : Prop where
  op : CodeOk p.opCode ob
  post : CodeOk p.postByte pb
  size : p.size = ob.length + pb.length + w
  fld : (w = 0 ∧ p.additional = .none) ∨ ((w = 1 ∨ w = 2) ∧ p.additional.isNumeric = true ∧ fitSkipped r = false)

/-- `fit_operand_width` and the emission on a package of known byte layout: the field fits and the bytes are op
code, post byte, field; or it does not fit and the statement is refused -/
theorem ByteLayout.cases {r : InstrRow} {p : Pkg} {ob pb : Bytes} {w : Nat} (h : ByteLayout r p ob pb w) :
    match fieldBytes w p.additional with
    | some f => ∃ p', fitPkg r p = .ok p' ∧ pkgBytes p' = some (ob ++ pb ++ f)
    | none => fitPkg r p = .diag := by
  rcases h.fld with ⟨rfl, had⟩ | ⟨hw, hnum, hrow⟩
  · rw [had]
    exact ⟨p, fitPkg_nonNumeric r (by rw [had]; rfl),
      pkgBytes_eq_some.mpr ⟨_, _, _, h.op.emit, h.post.emit, by rw [had]; exact emitValue_none, by simp⟩⟩
  · obtain ⟨n, hh, m, neg, had⟩ := isNumeric_elim hnum
    -- `fit_operand_width` finds the field `2 * w` hex digits wide, and the outcome is that of `NumericValue.fit`
    have hfit := fitPkg_numeric (d := 2 * w) hrow had h.op.hexLen h.post.hexLen (by rw [h.size]; omega) (by omega)
    have hemit : ∀ {v : Value} {f : Bytes}, emitValue v = some f →
        pkgBytes { p with additional := v } = some (ob ++ pb ++ f) :=
      fun hv => pkgBytes_eq_some.mpr ⟨_, _, _, h.op.emit, h.post.emit, hv, rfl⟩
    rw [had]
    rcases hw with rfl | rfl
    · cases hf : fitsByte n neg
      · rw [fitNum_byte_err hf] at hfit
        simpa [fieldBytes, hf] using hfit
      · rw [fitNum_byte hf] at hfit
        rw [fieldBytes_byte hf]
        exact ⟨_, hfit, hemit (emit_hint2 _ (byteField_lt hf))⟩
    · cases hf : fitsWord n neg
      · rw [fitNum_word_err hf] at hfit
        simpa [fieldBytes, hf] using hfit
      · rw [fitNum_word hf] at hfit
        rw [fieldBytes_word hf]
        exact ⟨_, hfit, hemit (emit_hint4 _ (wordField_lt hf))⟩

end CoCo.Asm
