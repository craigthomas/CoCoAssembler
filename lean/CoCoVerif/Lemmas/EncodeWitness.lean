/-
Lemmas/EncodeWitness.lean — end-to-end evaluation of one source statement (for finding witnesses and
non-vacuity examples) and the two refutation principles: the emitted length differs from the announced size, or the
emitted bytes decode to another operand.
-/
import CoCoVerif.Lemmas.EncodeSpecial
import CoCoVerif.Lemmas.ParseEval

namespace CoCo.Asm
open CoCo CoCo.Spec.MC6809
open CoCo.Gen (InstrRow)

/-- mnemonic and operand text to the resolved operand (empty symbol table) -/
def asmOperand (mn operand : String) : Option (InstrRow × Operand) :=
  match findRow mn.toList with
  | none => none
  | some row =>
    match createOperand operand.toList row with
    | .ok o => (match resolveOperand o row [] with | .ok o' => some (row, o') | .error _ => none)
    | .error _ => none

/-- `(size, bytes)` of one source statement: create, resolve (empty symbol table), translate, fit, emit -/
def asmOne (mn operand : String) : Option (Nat × Bytes) :=
  match asmOperand mn operand with
  | some (row, o) => sizeAndBytes o row
  | none => none

/-- the decoder's reading of the emitted bytes: (operation, operand, bytes consumed) -/
def asmDecode (mn operand : String) : Option (Instr × Nat) :=
  match asmOne mn operand with
  | some (_, bytes) => decode bytes
  | none => none

theorem asmDecode_of_asmOne {mn operand : String} {sz : Nat} {bytes : Bytes} (h : asmOne mn operand = some (sz, bytes)) :
    asmDecode mn operand = decode bytes := by rw [asmDecode, h]

/-! ### evaluating a witness in the kernel

`asmOperand` finds the row with `findRow`, which is what the kernel spends most of an evaluation on; `findRowF`
(Lemmas/ParseEval.lean) is the same lookup through the mnemonics as character lists.  With the instances below
`evaluated (by decide +kernel)` proves `asmOne mn operand = v`, `asmDecode mn operand = v` and conjunctions of them. -/

def asmOperandF (mn operand : String) : Option (InstrRow × Operand) :=
  match findRowF mn.toList with
  | none => none
  | some row =>
    match createOperand operand.toList row with
    | .ok o => (match resolveOperand o row [] with | .ok o' => some (row, o') | .error _ => none)
    | .error _ => none

theorem asmOperand_eq : asmOperand = asmOperandF := by
  funext mn operand
  unfold asmOperand asmOperandF
  rw [findRow_eq]

instance {mn operand : String} {v : Option (Nat × Bytes)} :
    Evaluable (asmOne mn operand = v)
      (decide ((match asmOperandF mn operand with | some (row, o) => sizeAndBytes o row | none => none) = v)) :=
  ⟨fun h => by rw [asmOne, asmOperand_eq]; exact of_decide_eq_true h⟩

instance {mn operand : String} {v : Option (Instr × Nat)} :
    Evaluable (asmDecode mn operand = v)
      (decide ((match (match asmOperandF mn operand with | some (row, o) => sizeAndBytes o row | none => none) with
                | some (_, bytes) => decode bytes
                | none => none) = v)) :=
  ⟨fun h => by rw [asmDecode, asmOne, asmOperand_eq]; exact of_decide_eq_true h⟩

theorem encodes_congr {o o' : Operand} {r : InstrRow} {x : Spec.MC6809.Operand}
    (h : translateOperand o r = translateOperand o' r) (he : Encodes o' r x) : Encodes o r x := by
  obtain ⟨pkg, bytes, ht, hnr, hb, hl, hd⟩ := he
  obtain ⟨p', hf, hb'⟩ := fitPkg_of_emitted hb
  exact ⟨pkg, bytes, by rw [h]; exact ht, hnr, emitted_of_fitPkg hf hb', hl, hd⟩

theorem sizeAndBytes_ok {o : Operand} {r : InstrRow} {sz : Nat} {bytes : Bytes}
    (h : sizeAndBytes o r = some (sz, bytes)) :
    ∃ pkg p', translateOperand o r = .ok pkg ∧ pkg.size = sz ∧ fitPkg r pkg = .ok p' ∧ pkgBytes p' = some bytes := by
  unfold sizeAndBytes at h
  split at h
  · rename_i pkg ht
    simp only [Option.map_eq_some_iff, Prod.mk.injEq] at h
    obtain ⟨b, hb, h1, h2⟩ := h
    obtain ⟨p', hf, hb'⟩ := fittedBytes_some hb
    exact ⟨pkg, p', ht, h1, hf, by rw [hb', h2]⟩
  · exact absurd h (by simp)

/-- `sizeAndBytes` determines what `Encodes` can say: the package and the bytes are these -/
theorem encodes_bytes {o : Operand} {r : InstrRow} {sz : Nat} {bytes : Bytes} {x : Spec.MC6809.Operand}
    (h : sizeAndBytes o r = some (sz, bytes)) (he : Encodes o r x) :
    bytes.length = sz ∧ decode bytes = some (⟨opOf r.mnemonic, x⟩, bytes.length) := by
  obtain ⟨pkg, p', ht, hsz, hf, hb⟩ := sizeAndBytes_ok h
  obtain ⟨pkg', bytes', ht', _, hb', hl', hd'⟩ := he
  rw [ht] at ht'
  have hp : pkg = pkg' := by injection ht'
  subst hp
  obtain ⟨p'', hf', hb''⟩ := fitPkg_of_emitted hb'
  rw [hf] at hf'
  have : p' = p'' := by injection hf'
  subst this
  rw [hb] at hb''
  have : bytes = bytes' := by injection hb''
  subst this
  exact ⟨by rw [hl', hsz], hd'⟩

theorem not_encodes_of_size {o : Operand} {r : InstrRow} {sz : Nat} {bytes : Bytes}
    (h : sizeAndBytes o r = some (sz, bytes)) (hne : bytes.length ≠ sz) (x : Spec.MC6809.Operand) :
    ¬ Encodes o r x := fun he => hne (encodes_bytes h he).1

theorem not_encodes_of_decode {o : Operand} {r : InstrRow} {sz : Nat} {bytes : Bytes} {ins : Instr} {n : Nat}
    (h : sizeAndBytes o r = some (sz, bytes)) (hd : decode bytes = some (ins, n)) (x : Spec.MC6809.Operand)
    (hx : ins.operand ≠ x) : ¬ Encodes o r x := by
  intro he
  have hd' := (encodes_bytes h he).2
  rw [hd] at hd'
  injection hd' with e
  have : ins.operand = x := by rw [Prod.mk.injEq] at e; rw [e.1]
  exact hx this

end CoCo.Asm
