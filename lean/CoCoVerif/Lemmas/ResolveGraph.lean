/-
Lemmas/ResolveGraph.lean — `Operand.resolve_symbols()`.  One equation per kind of operand says what `resolveOperand`
computes (`resolveOperand_special`, `_pseudo_eq`, `_indexed_eq`, `_bracket_eq`, `_value_eq`, `_unknown_eq`): a statement
about failures as well as results (that the function commutes with a map on operands) goes along these.  Every operand
it can return is the graph `Resolved`, an inductive relation with one constructor per `return` of the model: a fact about
resolved operands is proved by `cases` on the graph, one line per constructor; the converse `Resolved.sound` proves
`resolveOperand o row t = .ok o'` by naming the constructor.  The table enters through `resolve` and `resolveLeft` only:
a result stays when the table answers more lookups (`Resolved.mono`, `resolveOperand_mono`).
-/
import CoCoVerif.Lemmas.ResolveValue

namespace CoCo.Asm
open CoCo
open CoCo.Gen (InstrRow)

/-- the directives whose operand `resolve_symbols` looks up (symbols, expressions, labels) -/
def isDataRow (row : InstrRow) : Bool :=
  row.mnemonic == "FCB" || row.mnemonic == "FDB" || row.mnemonic == "RMB" || row.mnemonic == "ORG"

/-- `resolve_symbols` of an operand whose left part is the text `l`: text that names something (not empty, not an
accumulator) is evaluated by `resolveLeft` and kept as a value -/
def resolveSide (o : Operand) (l : Str) (row : InstrRow) (t : SymTab) : R Operand :=
  if l != [] && !isABD l then (resolveLeft l row t).map (fun v => { o with left := .val v }) else .ok o

/-- The kind and value `resolve_symbols` gives an operand of unknown kind whose value `ov` resolved to `v`: an explicit
`>` wins; a number that fits the direct page (or is marked `<`) and a label marked `<` are direct; the rest is extended. -/
def unknownKind (ov v : Value) : R (OpKind × Value) :=
  if ov.isExplicitExtended then .ok (.extended, v)
  else match v with
    | .pyNone => .error .other
    | .numeric i _ _ ng =>
      if !ng && (v.isDirect || ov.isExplicitDirect) then (numericOfInt i none .direct).map fun nv => (.direct, nv)
      else .ok (.extended, v)
    | .address _ _ => if ov.isExplicitDirect then .ok (.direct, v) else .ok (.extended, v)
    | _ => .ok (.extended, v)

section
variable {o : Operand} (row : InstrRow) (t : SymTab)

theorem resolveOperand_special (hk : o.kind = .special) : resolveOperand o row t = .ok o := by
  unfold resolveOperand
  rw [hk]

theorem _root_.CoCo.Props.resolveOperand_special_id {o o' : Operand} {row : Gen.InstrRow} {t : SymTab} (hk : o.kind = .special)
    (h : resolveOperand o row t = .ok o') : o' = o := by
  exact (Except.ok.inj ((resolveOperand_special row t hk).symm.trans h)).symm

/-- `resolve_symbols` of a pseudo operand: only FCB FDB RMB ORG look at the value, and only a symbol or an expression
is looked up -/
theorem resolveOperand_pseudo_eq (hk : o.kind = .pseudo) :
    resolveOperand o row t =
      if isDataRow row then
        (match o.value with
         | .pyNone => .error .other
         | v => if v.isSymbol || v.isExpression then (v.resolve t).map (fun v' => { o with value := v' }) else .ok o)
      else .ok o := by
  unfold resolveOperand
  rw [hk]
  rfl

theorem resolveOperand_indexed_eq (hk : o.kind = .indexed) :
    resolveOperand o row t = match o.left with
      | .text l => resolveSide o l row t
      | _ => .ok o := by
  unfold resolveOperand resolveSide
  rw [hk]
  rfl

/-- `[value]` has its value looked up, `[left,right]` its left part -/
theorem resolveOperand_bracket_eq (hk : o.kind = .extIndirect) :
    resolveOperand o row t =
      if !o.value.isNone && !o.value.isLeftRight then (o.value.resolve t).map (fun v => { o with value := v })
      else match o.left with
        | .text l => resolveSide o l row t
        | _ => .error .other := by
  unfold resolveOperand resolveSide
  rw [hk]
  rfl

theorem resolveOperand_value_eq (hk : o.kind = .relative ∨ o.kind = .inherent ∨ o.kind = .immediate ∨ o.kind = .direct ∨
      o.kind = .extended) :
    resolveOperand o row t = (o.value.resolve t).map fun v => { o with value := v } := by
  unfold resolveOperand
  rcases hk with e | e | e | e | e <;> rw [e] <;> cases o.value.resolve t <;> rfl

theorem resolveOperand_unknown_eq (hk : o.kind = .unknown) :
    resolveOperand o row t =
      (o.value.resolve t).bind fun v => (unknownKind o.value v).map fun kw => { o with kind := kw.1, value := kw.2 } := by
  unfold resolveOperand
  rw [hk]
  dsimp only
  cases o.value.resolve t with
  | error e => rfl
  | ok v =>
    have hb : (OpKind.unknown != OpKind.unknown) = false := by decide
    simp only [hb, Bool.false_eq_true, if_false, Except.bind, unknownKind]
    split
    · rfl
    · cases v with
      | numeric i h m n =>
        dsimp only
        split
        · cases numericOfInt (i : Int) none .direct <;> rfl
        · rfl
      | address i m => dsimp only; split <;> rfl
      | _ => rfl

end

/-- The graph of `resolveSide`. -/
inductive ResolvedLeft (row : InstrRow) (t : SymTab) (o : Operand) (l : Str) : Operand → Prop
  | keep (hn : (l != [] && !isABD l) = false) : ResolvedLeft row t o l o
  | left {v : Value} (hn : (l != [] && !isABD l) = true) (hv : resolveLeft l row t = .ok v) :
      ResolvedLeft row t o l { o with left := .val v }

/-- The graph of `unknownKind`. -/
inductive UnknownKind (ov v : Value) : OpKind → Value → Prop
  | explExt (hx : ov.isExplicitExtended = true) : UnknownKind ov v .extended v
  | directNum {i : Nat} {h : Option Nat} {m : Mode} {nv : Value} (hx : ov.isExplicitExtended = false)
      (hv : v = .numeric i h m false) (hd : (v.isDirect || ov.isExplicitDirect) = true)
      (hn : numericOfInt i none .direct = .ok nv) : UnknownKind ov v .direct nv
  | extNum {i : Nat} {h : Option Nat} {m : Mode} {ng : Bool} (hx : ov.isExplicitExtended = false)
      (hv : v = .numeric i h m ng) (hd : (!ng && (v.isDirect || ov.isExplicitDirect)) = false) :
      UnknownKind ov v .extended v
  | directAddr {i : Nat} {m : Mode} (hx : ov.isExplicitExtended = false) (hv : v = .address i m)
      (hd : ov.isExplicitDirect = true) : UnknownKind ov v .direct v
  | extAddr {i : Nat} {m : Mode} (hx : ov.isExplicitExtended = false) (hv : v = .address i m)
      (hd : ov.isExplicitDirect = false) : UnknownKind ov v .extended v
  | extOther (hx : ov.isExplicitExtended = false) (h1 : v ≠ .pyNone) (h2 : ∀ i h m ng, v ≠ .numeric i h m ng)
      (h3 : ∀ i m, v ≠ .address i m) : UnknownKind ov v .extended v

inductive Resolved (row : InstrRow) (t : SymTab) (o : Operand) : Operand → Prop
  | special (hk : o.kind = .special) : Resolved row t o o
  /-- a directive other than FCB / FDB / RMB / ORG -/
  | pseudoOther (hk : o.kind = .pseudo) (hd : isDataRow row = false) : Resolved row t o o
  /-- FCB / FDB / RMB / ORG with a value that is neither a symbol nor an expression -/
  | pseudoKeep (hk : o.kind = .pseudo) (hd : isDataRow row = true) (hv : o.value ≠ .pyNone)
      (hs : (o.value.isSymbol || o.value.isExpression) = false) : Resolved row t o o
  /-- FCB / FDB / RMB / ORG with a symbol or an expression: the value is looked up -/
  | pseudoValue {v : Value} (hk : o.kind = .pseudo) (hd : isDataRow row = true)
      (hs : (o.value.isSymbol || o.value.isExpression) = true) (hv : o.value.resolve t = .ok v) :
      Resolved row t o { o with value := v }
  | indexedKeep (hk : o.kind = .indexed) (hl : ∀ l, o.left ≠ .text l) : Resolved row t o o
  | indexedLeft {l : Str} {o' : Operand} (hk : o.kind = .indexed) (hl : o.left = .text l)
      (h : ResolvedLeft row t o l o') : Resolved row t o o'
  /-- `[value]` -/
  | extValue {v : Value} (hk : o.kind = .extIndirect) (hc : (!o.value.isNone && !o.value.isLeftRight) = true)
      (hv : o.value.resolve t = .ok v) : Resolved row t o { o with value := v }
  /-- `[left,right]` -/
  | extLeft {l : Str} {o' : Operand} (hk : o.kind = .extIndirect)
      (hc : (!o.value.isNone && !o.value.isLeftRight) = false) (hl : o.left = .text l)
      (h : ResolvedLeft row t o l o') : Resolved row t o o'
  /-- relative, inherent, immediate (and direct, extended): the value is looked up, the kind stays -/
  | value {v : Value} (hk : o.kind = .relative ∨ o.kind = .inherent ∨ o.kind = .immediate ∨ o.kind = .direct ∨
        o.kind = .extended) (hv : o.value.resolve t = .ok v) : Resolved row t o { o with value := v }
  | unknown {v w : Value} {k : OpKind} (hk : o.kind = .unknown) (hv : o.value.resolve t = .ok v)
      (h : UnknownKind o.value v k w) : Resolved row t o { o with kind := k, value := w }

theorem resolvedLeft_graph {row : InstrRow} {t : SymTab} {o o' : Operand} {l : Str}
    (h : resolveSide o l row t = .ok o') : ResolvedLeft row t o l o' := by
  rcases ite_cases h with ⟨hn, h⟩ | ⟨hn, h⟩
  · obtain ⟨v, hv, rfl⟩ := exceptMap_ok h
    exact .left hn hv
  · cases h
    exact .keep (by simpa using hn)

theorem unknownKind_graph {ov v w : Value} {k : OpKind} (h : unknownKind ov v = .ok (k, w)) :
    UnknownKind ov v k w := by
  replace h := ite_cases h
  rcases h with ⟨hx, h⟩ | ⟨hx, h⟩
  · cases h; exact .explExt hx
  have hx : ov.isExplicitExtended = false := by simpa using hx
  split at h
  · cases h
  · rename_i i hh m ng
    rcases ite_cases h with ⟨hd, h⟩ | ⟨hd, h⟩
    · obtain ⟨nv, hn, e⟩ := exceptMap_ok h
      cases e
      obtain ⟨rfl, hd⟩ : ng = false ∧ _ := by simpa using hd
      exact .directNum hx rfl (by simpa using hd) hn
    · cases h; exact .extNum hx rfl (by simpa using hd)
  · rcases ite_cases h with ⟨hd, h⟩ | ⟨hd, h⟩
    · cases h; exact .directAddr hx rfl hd
    · cases h; exact .extAddr hx rfl (by simpa using hd)
  · rename_i h1 h2 h3
    cases h
    exact .extOther hx (fun e => h1 e) (fun i hh m ng e => h2 i hh m ng e) (fun i m e => h3 i m e)

theorem resolveOperand_graph {o o' : Operand} {row : InstrRow} {t : SymTab} (h : resolveOperand o row t = .ok o') :
    Resolved row t o o' := by
  cases hk : o.kind with
  | special => rw [resolveOperand_special row t hk] at h; cases h; exact .special hk
  | pseudo =>
    rw [resolveOperand_pseudo_eq row t hk] at h
    rcases ite_cases h with ⟨hd, h⟩ | ⟨hd, h⟩
    · split at h
      · cases h
      · rename_i hv
        rcases ite_cases h with ⟨hs, h⟩ | ⟨hs, h⟩
        · obtain ⟨v, hr, rfl⟩ := exceptMap_ok h
          exact .pseudoValue hk hd hs hr
        · cases h
          exact .pseudoKeep hk hd (fun e => hv e) (by simpa using hs)
    · cases h
      exact .pseudoOther hk (by simpa using hd)
  | indexed =>
    rw [resolveOperand_indexed_eq row t hk] at h
    split at h
    · rename_i l hl; exact .indexedLeft hk hl (resolvedLeft_graph h)
    · rename_i hl; cases h; exact .indexedKeep hk (fun l e => hl l e)
  | extIndirect =>
    rw [resolveOperand_bracket_eq row t hk] at h
    rcases ite_cases h with ⟨hc, h⟩ | ⟨hc, h⟩
    · obtain ⟨v, hr, rfl⟩ := exceptMap_ok h
      exact .extValue hk hc hr
    · split at h
      · rename_i l hl; exact .extLeft hk (by simpa using hc) hl (resolvedLeft_graph h)
      · cases h
  | unknown =>
    rw [resolveOperand_unknown_eq row t hk] at h
    obtain ⟨v, hv, h⟩ := Except.bind_eq_ok h
    obtain ⟨⟨k, w⟩, hu, rfl⟩ := exceptMap_ok h
    exact .unknown hk hv (unknownKind_graph hu)
  | relative | inherent | immediate | direct | extended =>
    rw [resolveOperand_value_eq row t (by simp [hk])] at h
    obtain ⟨v, hv, rfl⟩ := exceptMap_ok h
    exact .value (by simp [hk]) hv

/-- the left part is read and written only for the indexed operands and `[left,right]`: elsewhere it is carried along -/
theorem resolveOperand_setLeft (o : Operand) (row : InstrRow) (t : SymTab) (x : Side) (hk : o.kind ≠ .indexed)
    (hx : o.kind = .extIndirect → o.value.isNone = false ∧ o.value.isLeftRight = false) :
    resolveOperand { o with left := x } row t = (resolveOperand o row t).map (fun o' => { o' with left := x }) := by
  obtain ⟨k, hkind⟩ : ∃ k, o.kind = k := ⟨_, rfl⟩
  cases k with
  | indexed => exact absurd hkind hk
  | special => rw [resolveOperand_special row t (o := { o with left := x }) hkind, resolveOperand_special row t hkind]; rfl
  | pseudo =>
    rw [resolveOperand_pseudo_eq row t (o := { o with left := x }) hkind, resolveOperand_pseudo_eq row t hkind]
    dsimp only
    split
    · split
      · rfl
      · split
        · cases o.value.resolve t <;> rfl
        · rfl
    · rfl
  | extIndirect =>
    obtain ⟨h1, h2⟩ := hx hkind
    rw [resolveOperand_bracket_eq row t (o := { o with left := x }) hkind, resolveOperand_bracket_eq row t hkind]
    dsimp only
    rw [h1, h2]
    cases o.value.resolve t <;> rfl
  | unknown =>
    rw [resolveOperand_unknown_eq row t (o := { o with left := x }) hkind, resolveOperand_unknown_eq row t hkind]
    dsimp only
    cases o.value.resolve t with
    | error e => rfl
    | ok v =>
      show (unknownKind o.value v).map _ = ((unknownKind o.value v).map _).map _
      cases unknownKind o.value v <;> rfl
  | relative | inherent | immediate | direct | extended =>
    rw [resolveOperand_value_eq row t (o := { o with left := x }) (by simp [hkind]),
      resolveOperand_value_eq row t (by simp [hkind])]
    dsimp only
    cases o.value.resolve t <;> rfl

theorem UnknownKind.kind {ov v w : Value} {k : OpKind} (h : UnknownKind ov v k w) : k = .direct ∨ k = .extended := by
  cases h <;> simp

/-- the kind stays, except that an operand of unknown kind becomes direct or extended -/
theorem Resolved.kind {row : InstrRow} {t : SymTab} {o o' : Operand} (h : Resolved row t o o') :
    o'.kind = o.kind ∨ (o.kind = .unknown ∧ (o'.kind = .direct ∨ o'.kind = .extended)) := by
  cases h with
  | unknown hk _ hu => exact .inr ⟨hk, hu.kind⟩
  | indexedLeft _ _ hl => cases hl <;> exact .inl rfl
  | extLeft _ _ _ hl => cases hl <;> exact .inl rfl
  | _ => exact .inl rfl

/-- the left-hand side stays, or is the value `resolveLeft` gives for the text that was there -/
theorem Resolved.left {row : InstrRow} {t : SymTab} {o o' : Operand} (h : Resolved row t o o') :
    o'.left = o.left ∨ ∃ l v, o.left = .text l ∧ resolveLeft l row t = .ok v ∧ o'.left = .val v := by
  cases h with
  | indexedLeft _ hl h =>
    cases h with
    | keep => exact .inl rfl
    | left _ hv => exact .inr ⟨_, _, hl, hv, rfl⟩
  | extLeft _ _ hl h =>
    cases h with
    | keep => exact .inl rfl
    | left _ hv => exact .inr ⟨_, _, hl, hv, rfl⟩
  | _ => exact .inl rfl

theorem Resolved.frame {row : InstrRow} {t : SymTab} {o o' : Operand} (h : Resolved row t o o') :
    o'.text = o.text ∧ o'.right = o.right := by
  cases h with
  | indexedLeft _ _ hl => cases hl <;> exact ⟨rfl, rfl⟩
  | extLeft _ _ _ hl => cases hl <;> exact ⟨rfl, rfl⟩
  | _ => exact ⟨rfl, rfl⟩

/-- a directive's operand: kept, or (FCB / FDB / RMB / ORG with a symbol or an expression) the value looked up -/
theorem Resolved.pseudo {row : InstrRow} {t : SymTab} {o o' : Operand} (h : Resolved row t o o') (hk : o.kind = .pseudo) :
    o' = o ∨ (isDataRow row = true ∧ (o.value.isSymbol || o.value.isExpression) = true ∧
      ∃ v, o.value.resolve t = .ok v ∧ o' = { o with value := v }) := by
  cases h with
  | pseudoOther | pseudoKeep => exact .inl rfl
  | pseudoValue _ hd hs hv => exact .inr ⟨hd, hs, _, hv, rfl⟩
  | special hk' | indexedKeep hk' | indexedLeft hk' | extValue hk' | extLeft hk' | unknown hk' => rw [hk] at hk'; cases hk'
  | value hk' => rw [hk] at hk'; simp at hk'

/-- where the value of a resolved operand comes from: the parsed value, `resolve` of it, or (an operand found to be on
the direct page) that number made anew -/
theorem Resolved.value_src {o o' : Operand} {row : InstrRow} {t : SymTab} (h : Resolved row t o o') :
    o'.value = o.value ∨ o.value.resolve t = .ok o'.value ∨ ∃ i, numericOfInt i none .direct = .ok o'.value := by
  cases h with
  | special | pseudoOther | pseudoKeep | indexedKeep => exact .inl rfl
  | pseudoValue _ _ _ hv | extValue _ _ hv | value _ hv => exact .inr (.inl hv)
  | indexedLeft _ _ hl | extLeft _ _ _ hl => cases hl <;> exact .inl rfl
  | unknown _ hv hu =>
    cases hu with
    | directNum _ _ _ hn => exact .inr (.inr ⟨_, hn⟩)
    | _ => exact .inr (.inl hv)

theorem resolveOperand_str {o o' : Operand} {row : InstrRow} {t : SymTab} {x : Str}
    (h : resolveOperand o row t = .ok o') (hx : o'.value = .str x) : o.value = .str x := by
  rcases (resolveOperand_graph h).value_src with e | hr | ⟨i, hi⟩
  · rw [← e]; exact hx
  · exact resolve_str hr hx
  · exact absurd hx (numericOfInt_not_str hi)

theorem resolveOperand_kind {o o' : Operand} {row t} (h : resolveOperand o row t = .ok o') :
    o'.kind = o.kind ∨ (o.kind = .unknown ∧ (o'.kind = .direct ∨ o'.kind = .extended)) :=
  (resolveOperand_graph h).kind

/-- `resolve_symbols` never turns an operand into a pseudo operand or a pseudo operand into another kind -/
theorem resolveOperand_kind_pseudo {o o' : Operand} {row t} (h : resolveOperand o row t = .ok o') :
    o'.kind = .pseudo ↔ o.kind = .pseudo := by
  rcases resolveOperand_kind h with e | ⟨hu, e | e⟩
  · rw [e]
  · rw [e, hu]; exact ⟨nofun, nofun⟩
  · rw [e, hu]; exact ⟨nofun, nofun⟩

/-- a pseudo operand of a directive other than FCB / FDB / RMB / ORG is not rewritten -/
theorem resolveOperand_pseudo {o o' : Operand} {row t} (h : resolveOperand o row t = .ok o')
    (hrow : isDataRow row = false) : (o.kind = .pseudo ∨ o'.kind = .pseudo) → o' = o := by
  intro hh
  have hk : o.kind = .pseudo := hh.elim id (resolveOperand_kind_pseudo h).1
  rcases (resolveOperand_graph h).pseudo hk with e | ⟨hd, _⟩
  · exact e
  · rw [hrow] at hd; cases hd

theorem isDataRow_of {row : InstrRow}
    (hm : row.mnemonic = "FCB" ∨ row.mnemonic = "FDB" ∨ row.mnemonic = "RMB" ∨ row.mnemonic = "ORG") :
    isDataRow row = true := by
  rcases hm with hm | hm | hm | hm <;> simp [isDataRow, hm]

/-- a pseudo operand whose value is neither a symbol nor an expression is kept, whatever the directive -/
theorem resolveOperand_pseudo_plain {o : Operand} (row : InstrRow) (t : SymTab) (hk : o.kind = .pseudo)
    (hv : o.value ≠ .pyNone) (hs : o.value.isSymbol = false) (he : o.value.isExpression = false) :
    resolveOperand o row t = .ok o := by
  rw [resolveOperand_pseudo_eq row t hk]
  split
  · split
    · rename_i e; exact absurd e hv
    · rw [hs, he]; rfl
  · rfl

/-- the operand of `ORG $hhhh` is not rewritten -/
theorem resolveOperand_pseudo_numeric {o o' : Operand} {row : Gen.InstrRow} {t : SymTab}
    (h : resolveOperand o row t = .ok o') (hk : o.kind = .pseudo) (hv : o.value.isNumeric = true) : o' = o := by
  cases hx : o.value with
  | numeric n hh m neg =>
    rw [resolveOperand_pseudo_plain row t hk (by rw [hx]; exact Value.noConfusion) (by rw [hx]; rfl) (by rw [hx]; rfl)] at h
    exact (Except.ok.inj h).symm
  | _ => rw [hx] at hv; cases hv

/-- a pseudo operand of FCB / FDB / RMB / ORG: only the value is rewritten (a symbol or an expression is looked up) -/
theorem resolveOperand_pseudo_data {o o' : Operand} {row t} (h : resolveOperand o row t = .ok o')
    (hk : o.kind = .pseudo) : ∃ v, o' = { o with value := v } := by
  rcases (resolveOperand_graph h).pseudo hk with e | ⟨_, _, v, _, e⟩
  · exact ⟨o.value, e⟩
  · exact ⟨v, e⟩

/-- a `.val` left-hand side after `resolve_symbols` that was not there before comes out of `resolveLeft` -/
theorem resolveOperand_left {o o' : Operand} {row : InstrRow} {t : SymTab} (h : resolveOperand o row t = .ok o')
    (hno : ∀ v, o.left ≠ .val v) {v : Value} (hv : o'.left = .val v) : ∃ l, resolveLeft l row t = .ok v := by
  rcases (resolveOperand_graph h).left with e | ⟨l, w, _, hw, e⟩
  · rw [e] at hv; exact absurd hv (hno v)
  · rw [e] at hv; cases hv; exact ⟨l, hw⟩

/-! ### the converse: a fact `resolveOperand o row t = .ok o'` is proved by naming the constructor of the graph -/

theorem ResolvedLeft.sound {row : InstrRow} {t : SymTab} {o o' : Operand} {l : Str} (h : ResolvedLeft row t o l o') :
    resolveSide o l row t = .ok o' := by
  unfold resolveSide
  cases h with
  | keep hn => rw [if_neg (by simp [hn])]
  | left hn hv => rw [if_pos hn, hv]; rfl

theorem UnknownKind.sound {ov v w : Value} {k : OpKind} (h : UnknownKind ov v k w) : unknownKind ov v = .ok (k, w) := by
  unfold unknownKind
  cases h with
  | explExt hx => rw [if_pos hx]
  | directNum hx hv hd hn => subst hv; rw [if_neg (by simp [hx])]; dsimp only; rw [if_pos (by simpa using hd), hn]; rfl
  | extNum hx hv hd => subst hv; rw [if_neg (by simp [hx])]; dsimp only; rw [hd]; rfl
  | directAddr hx hv hd => subst hv; rw [if_neg (by simp [hx])]; dsimp only; rw [if_pos hd]
  | extAddr hx hv hd => subst hv; rw [if_neg (by simp [hx])]; dsimp only; rw [if_neg (by simp [hd])]
  | extOther hx h1 h2 h3 =>
    rw [if_neg (by simp [hx])]
    split
    · exact absurd rfl h1
    · exact absurd rfl (h2 _ _ _ _)
    · exact absurd rfl (h3 _ _)
    · rfl

/-- the converse of `resolveOperand_graph`: the graph holds nothing `resolveOperand` does not return -/
theorem Resolved.sound {row : InstrRow} {t : SymTab} {o o' : Operand} (h : Resolved row t o o') :
    resolveOperand o row t = .ok o' := by
  cases h with
  | special hk => exact resolveOperand_special row t hk
  | pseudoOther hk hd => rw [resolveOperand_pseudo_eq row t hk, hd]; rfl
  | pseudoKeep hk hd hv hs =>
    rw [resolveOperand_pseudo_eq row t hk, hd, if_pos rfl]
    split
    · rename_i e; exact absurd e hv
    · rw [hs]; rfl
  | pseudoValue hk hd hs hv =>
    rw [resolveOperand_pseudo_eq row t hk, hd, if_pos rfl]
    split
    · rename_i e; rw [e] at hs; cases hs
    · rw [if_pos hs, hv]; rfl
  | indexedKeep hk hl =>
    rw [resolveOperand_indexed_eq row t hk]
    split
    · rename_i e; exact absurd e (hl _)
    · rfl
  | indexedLeft hk hl h => rw [resolveOperand_indexed_eq row t hk, hl]; exact h.sound
  | extValue hk hc hv => rw [resolveOperand_bracket_eq row t hk, if_pos hc, hv]; rfl
  | extLeft hk hc hl h => rw [resolveOperand_bracket_eq row t hk, hc, hl]; exact h.sound
  | value hk hv =>
    rw [resolveOperand_value_eq row t hk, hv]
    rfl
  | unknown hk hv h =>
    rw [resolveOperand_unknown_eq row t hk, hv]
    show (unknownKind o.value _).map _ = _
    rw [h.sound]
    rfl

/-- `resolve_symbols` on `ORG SYM` when `resolve` turns `SYM` into `v` -/
theorem _root_.CoCo.Props.resolveOperand_org_symbol {o : Operand} {row : Gen.InstrRow} {t : SymTab} {name : Str}
    {m : Mode} {v : Value} (hk : o.kind = .pseudo) (hm : row.mnemonic = "ORG") (hv : o.value = .symbol name m)
    (hres : (Value.symbol name m).resolve t = .ok v) : resolveOperand o row t = .ok { o with value := v } :=
  (Resolved.pseudoValue hk (isDataRow_of (.inr (.inr (.inr hm)))) (by rw [hv]; rfl) (by rw [hv]; exact hres)).sound

theorem resolveLeft_mono {t t' : SymTab} (hle : SymTab.Le t t') {l : Str} {row : InstrRow} {r : Value}
    (h : resolveLeft l row t = .ok r) : resolveLeft l row t' = .ok r := by
  obtain ⟨v, hc, hr⟩ := resolveLeft_ok h
  rw [resolveLeft_eq, hc]
  exact Value.resolve_mono hle hr

theorem ResolvedLeft.mono {t t' : SymTab} (hle : SymTab.Le t t') {row : InstrRow} {o o' : Operand} {l : Str} :
    ResolvedLeft row t o l o' → ResolvedLeft row t' o l o'
  | .keep hn => .keep hn
  | .left hn hv => .left hn (resolveLeft_mono hle hv)

/-- the table enters `resolveOperand` only through `resolve` and `resolveLeft` -/
theorem Resolved.mono {t t' : SymTab} (hle : SymTab.Le t t') {row : InstrRow} {o o' : Operand}
    (h : Resolved row t o o') : Resolved row t' o o' := by
  cases h with
  | special hk => exact .special hk
  | pseudoOther hk hd => exact .pseudoOther hk hd
  | pseudoKeep hk hd hv hs => exact .pseudoKeep hk hd hv hs
  | pseudoValue hk hd hs hv => exact .pseudoValue hk hd hs (Value.resolve_mono hle hv)
  | indexedKeep hk hl => exact .indexedKeep hk hl
  | indexedLeft hk hl h => exact .indexedLeft hk hl (h.mono hle)
  | extValue hk hc hv => exact .extValue hk hc (Value.resolve_mono hle hv)
  | extLeft hk hc hl h => exact .extLeft hk hc hl (h.mono hle)
  | value hk hv => exact .value hk (Value.resolve_mono hle hv)
  | unknown hk hv h => exact .unknown hk (Value.resolve_mono hle hv) h

theorem resolveOperand_mono {t t' : SymTab} (hle : SymTab.Le t t') {o r : Operand} {row : InstrRow}
    (h : resolveOperand o row t = .ok r) : resolveOperand o row t' = .ok r :=
  ((resolveOperand_graph h).mono hle).sound

end CoCo.Asm
