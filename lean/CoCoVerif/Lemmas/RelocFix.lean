/-
Lemmas/RelocFix.lean — relocation (C18-R1): the parts of `fix_addresses` (`fixOne`) in two layouts whose addresses differ
by `D` (`PW (AddrShiftI D) as as'` / `PW (AddrShift D) as as'`).

`calculate_address_offset` combines its operands IN THE WRITTEN ORDER and, for `+` and `-` alike, rejects a result above
`$FFFF` and reduces one below zero modulo `$10000`: `addrCombine_pm_eq`.  A number in a label expression counts with its sign
(`signedK k nn` is `-k` when the number was written, or defined by an EQU, with a minus sign).

The operands of a label expression `label ± N` with a SIGNED constant `N` (`LabelNum`, `LabelSide`), and the expression class
`ModExpr`: `label ± N` that BOTH layouts accept (`ModBound`), whose value moves by `D` modulo `$10000`.
-/
import CoCoVerif.Lemmas.FixOne
import CoCoVerif.Lemmas.RelocAddr

namespace CoCo.Asm
open CoCo

def Stmt.setAddress (s : Stmt) (v : Value) : Stmt := { s with pkg := { s.pkg with address := v } }

def Stmt.shiftAdditional (D : Nat) (s : Stmt) : Stmt :=
  { s with pkg := { s.pkg with additional := shiftV D s.pkg.additional } }

/-- `AddrShiftAny` looks at address and size only -/
theorem _root_.CoCo.Props.addrShiftAny_sameButAdditional {D : Nat} {as as' fs fs' : List Stmt} (h : PW (AddrShiftAny D) as as')
    (p : PW SameButAdditional as fs) (p' : PW SameButAdditional as' fs') : PW (AddrShiftAny D) fs fs' := by
  refine ⟨by rw [p'.1, p.1, h.1], fun j b b' hb hb' => ?_⟩
  obtain ⟨a, ha, v, rfl⟩ := p.get' hb
  obtain ⟨a', ha', v', rfl⟩ := p'.get' hb'
  exact h.2 j a a' ha ha'

/-- the displacement of a relative branch is a sum of sizes -/
theorem fixBranch_reloc {D : Nat} {as as' : List Stmt} (h : PW (AddrShiftI D) as as') (i : Nat) (s : Stmt) :
    fixBranch as' i s = fixBranch as i s := by
  rw [fixBranch_eq, fixBranch_eq]
  simp only [sumSize_reloc h]

theorem addrOperand_reloc {D : Nat} {as as' : List Stmt} (h : PW (AddrShiftI D) as as') (v : Value) :
    addrOperand as' v = (addrOperand as v).map (fun x => if v.isAddress then x + (D : Int) else x) := by
  rw [addrOperand_eq, addrOperand_eq]
  by_cases hA : v.isAddress = true
  · rw [if_pos hA, if_pos hA, Outcome.map_bind]
    refine Outcome.bind_congr fun j _ => ?_
    rw [addrIntOf_reloc h, Outcome.ofOptionI_map, Outcome.map_map, Outcome.map_map]
    exact Outcome.map_congr fun x _ => by rw [if_pos hA]; exact Int.natCast_add x D
  · rw [if_neg hA, if_neg hA]
    exact (Outcome.map_eq_self fun _ _ => if_neg hA).symm

theorem addrOperand_numeric_signed (ss : List Stmt) (k : Nat) (h : Option Nat) (m : Mode) (n : Bool) :
    addrOperand ss (.numeric k h m n) = .ok (signedK k n) := addrOperand_numeric ss k h m n

theorem addrCombine_plus_int_nonneg {a c : Int} (h0 : 0 ≤ a + c) (h1 : a + c ≤ 65535) :
    addrCombine '+' a c = .ok (.numeric (a + c).toNat (some 4) .extended false) := by
  rw [addrCombine_plus_int, if_pos h1]
  have h3 : (a + c) % 65536 = a + c := by omega
  rw [h3]

theorem addrCombine_plus (a k : Nat) :
    addrCombine '+' a k = if a + k ≤ 65535 then .ok (.numeric (a + k) (some 4) .extended false) else .diag := by
  by_cases hle : a + k ≤ 65535
  · rw [if_pos hle, addrCombine_plus_int_nonneg (by omega) (by omega)]
    congr 2
  · rw [if_neg hle, addrCombine_plus_int, if_neg (by omega)]

theorem addrCombine_plus_comm (a c : Int) : addrCombine '+' a c = addrCombine '+' c a := by
  rw [addrCombine_plus_int, addrCombine_plus_int, Int.add_comm]

theorem addrCombine_minus {a : Nat} (k : Nat) (ha : a ≤ 65535) :
    addrCombine '-' a k = .ok (.numeric (((a : Int) - k) % 65536).toNat (some 4) .extended false) := by
  rw [addrCombine_minus_int, if_pos (by omega)]

theorem addrCombine_reloc_num {D : Nat} {a c : Int} {op : Char} (hop : op = '+' ∨ op = '-')
    (hb : ∀ v, addrCombine op a c = .ok v → ∃ z, v = .numeric z (some 4) .extended false ∧ z + D ≤ 65535) :
    addrCombine op (a + D) c = (addrCombine op a c).map (shiftV D) := by
  rw [addrCombine_pm_eq hop] at hb ⊢
  rw [addrCombine_pm_eq hop, pm_add_left]
  by_cases h1 : pm op a c ≤ 65535
  · rw [if_pos h1] at hb
    obtain ⟨z, hz, hzD⟩ := hb _ rfl
    simp only [Value.numeric.injEq, and_true] at hz
    rw [if_pos h1, if_pos (by omega)]
    simp only [Outcome.map_ok, shiftV_numeric]
    congr 2
    omega
  · rw [if_neg h1, if_neg (by omega)]; rfl

/-- where the label of `label ± number` may stand: the operands are combined IN THE WRITTEN ORDER, so the label is the
LEFT operand, or the operator is `+` (`number - label` is a different thing: it moves by MINUS `D`) -/
def LabelSide (l r : Value) (op : Char) : Prop := l.isAddress = true ∨ (r.isAddress = true ∧ op = '+')

theorem LabelSide.isAddress {l r : Value} {op : Char} (h : LabelSide l r op) :
    (if l.isAddress then l else r).isAddress = true := by
  rcases h with h | ⟨h, _⟩
  · rw [if_pos h]; exact h
  · split <;> assumption

theorem addrOffset_label_num (ss : List Stmt) {l r : Value} {op : Char} (m : Mode) (ae : Bool)
    {k : Nat} {hh : Option Nat} {mm : Mode} {nn : Bool}
    (hother : (if l.isAddress then r else l) = .numeric k hh mm nn) (hside : LabelSide l r op) :
    addrOffset ss (.expr l r op m ae) =
      (match addrOperand ss (if l.isAddress then l else r) with
       | .ok a => addrCombine op a (signedK k nn)
       | .diag => .diag | .internal => .internal | .diverged => .diverged) := by
  rw [addrOffset_expr]
  by_cases hl : l.isAddress = true
  · rw [if_pos hl] at hother ⊢
    subst hother
    simp only [addrOperand_numeric_signed]
    cases addrOperand ss l <;> rfl
  · rw [if_neg hl] at hother ⊢
    subst hother
    rcases hside with h | ⟨_, rfl⟩
    · exact absurd h hl
    · simp only [addrOperand_numeric_signed]
      cases addrOperand ss r with
      | ok a => exact addrCombine_plus_comm _ _
      | _ => rfl

/-- `label + c`, `label - c`, `c + label`.  The bound `z + D ≤ $FFFF` of `hb` is about the value already reduced modulo
`$10000`. -/
theorem addrOffset_reloc_num {D : Nat} {as as' : List Stmt} (h : PW (AddrShiftI D) as as')
    (l r : Value) (op : Char) (m : Mode) (ae : Bool) {k : Nat} {hh : Option Nat} {mm : Mode} {nn : Bool}
    (hother : (if l.isAddress then r else l) = .numeric k hh mm nn) (hop : op = '+' ∨ op = '-')
    (hside : LabelSide l r op)
    (hb : ∀ v, addrOffset as (.expr l r op m ae) = .ok v →
      ∃ z, v = .numeric z (some 4) .extended false ∧ z + D ≤ 65535) :
    addrOffset as' (.expr l r op m ae) = (addrOffset as (.expr l r op m ae)).map (shiftV D) := by
  rw [addrOffset_label_num as m ae hother hside] at hb ⊢
  rw [addrOffset_label_num as' m ae hother hside, addrOperand_reloc h, hside.isAddress]
  cases ha : addrOperand as (if l.isAddress then l else r) with
  | ok a =>
    rw [ha] at hb
    exact addrCombine_reloc_num hop hb
  | _ => rfl

def shiftVmod (D : Nat) : Value → Value
  | .numeric a h m n => .numeric ((a + D) % 65536) h m n
  | v => v

theorem addrCombine_pm_mod {a c : Int} {D : Nat} {op : Char} (hop : op = '+' ∨ op = '-')
    (h : pm op a c + D ≤ 65535) :
    ∃ x : Nat, x < 65536 ∧ (x : Int) = pm op a c % 65536 ∧
      addrCombine op a c = .ok (.numeric x (some 4) .extended false) ∧
      addrCombine op (a + D) c = .ok (.numeric ((x + D) % 65536) (some 4) .extended false) := by
  have p0 : 0 ≤ pm op a c % 65536 := Int.emod_nonneg _ (by decide)
  have p1 : pm op a c % 65536 < 65536 := Int.emod_lt_of_pos _ (by decide)
  refine ⟨(pm op a c % 65536).toNat, by omega, by omega, ?_, ?_⟩
  · rw [addrCombine_pm_eq hop, if_pos (by omega)]
  · rw [addrCombine_pm_eq hop, pm_add_left, if_pos h]
    congr 2
    omega

theorem addrCombine_shift_mod {a c : Int} {D : Nat} {op : Char} (hop : op = '+' ∨ op = '-')
    (h : pm op a c + D ≤ 65535) :
    addrCombine op (a + D) c = (addrCombine op a c).map (shiftVmod D) := by
  obtain ⟨x, _, _, e1, e2⟩ := addrCombine_pm_mod hop h
  rw [e1, e2]; rfl

theorem addrCombine_minus_shift_int (a c : Int) (D : Nat) (h : a - c + D ≤ 65535) :
    addrCombine '-' (a + D) c = (addrCombine '-' a c).map (shiftVmod D) :=
  addrCombine_shift_mod (.inr rfl) (by rw [pm_minus]; exact h)

theorem addrCombine_plus_shift_int (a c : Int) (D : Nat) (h : a + c + D ≤ 65535) :
    addrCombine '+' (a + D) c = (addrCombine '+' a c).map (shiftVmod D) :=
  addrCombine_shift_mod (.inl rfl) (by rw [pm_plus]; exact h)

theorem addrOffset_reloc_mod {D : Nat} {as as' : List Stmt} (h : PW (AddrShiftI D) as as')
    (l r : Value) (op : Char) (m : Mode) (ae : Bool) {k : Nat} {hh : Option Nat} {mm : Mode} {nn : Bool}
    (hother : (if l.isAddress then r else l) = .numeric k hh mm nn) (hop : op = '+' ∨ op = '-')
    (hside : LabelSide l r op)
    (hacc : ∀ a, addrOperand as (if l.isAddress then l else r) = .ok a →
      (if op = '+' then a + signedK k nn else a - signedK k nn) + D ≤ 65535) :
    addrOffset as' (.expr l r op m ae) = (addrOffset as (.expr l r op m ae)).map (shiftVmod D) := by
  rw [addrOffset_label_num as m ae hother hside, addrOffset_label_num as' m ae hother hside,
    addrOperand_reloc h, hside.isAddress]
  cases ha : addrOperand as (if l.isAddress then l else r) with
  | ok a => exact addrCombine_shift_mod hop (hacc a ha)
  | _ => rfl

/-- `label - label`: the difference of two addresses does not move -/
theorem addrOffset_reloc_diff {D : Nat} {as as' : List Stmt} (h : PW (AddrShiftI D) as as')
    (l r : Value) (m : Mode) (ae : Bool) (hother : (if l.isAddress then r else l).isAddress = true) :
    addrOffset as' (.expr l r '-' m ae) = addrOffset as (.expr l r '-' m ae) := by
  have hl : l.isAddress = true := by
    by_cases hl : l.isAddress = true
    · exact hl
    · rw [if_neg hl] at hother; exact hother
  have hr : r.isAddress = true := by rw [if_pos hl] at hother; exact hother
  rw [addrOffset_bind, addrOffset_bind, addrOperand_reloc h l, addrOperand_reloc h r, Outcome.bind_map_left]
  refine Outcome.bind_congr fun a _ => ?_
  rw [Outcome.bind_map_left]
  refine Outcome.bind_congr fun b _ => ?_
  rw [if_pos hl, if_pos hr, addrCombine_minus_int, addrCombine_minus_int,
    show a + (D : Int) - (b + (D : Int)) = a - b by omega]

theorem fixPart1_reloc_num {D : Nat} {as as' : List Stmt} (h : PW (AddrShiftI D) as as') (s : Stmt)
    (l r : Value) (op : Char) (m : Mode) {k : Nat} {hh : Option Nat} {mm : Mode} {nn : Bool}
    (hother : (if l.isAddress then r else l) = .numeric k hh mm nn) (hop : op = '+' ∨ op = '-')
    (hside : LabelSide l r op)
    (hb : ∀ v, addrOffset as (.expr l r op m true) = .ok v →
      ∃ z, v = .numeric z (some 4) .extended false ∧ z + D ≤ 65535) :
    fixPart1 as' s (.expr l r op m true) = (fixPart1 as s (.expr l r op m true)).map (Stmt.shiftAdditional D) := by
  rw [fixPart1_eq, fixPart1_eq, addrOffset_reloc_num h l r op m true hother hop hside hb]
  simp only [Value.isAddrExpr, if_true, Outcome.map_map]
  rfl

theorem fixPart1_reloc_diff {D : Nat} {as as' : List Stmt} (h : PW (AddrShiftI D) as as') (s : Stmt)
    (l r : Value) (m : Mode) (hother : (if l.isAddress then r else l).isAddress = true) :
    fixPart1 as' s (.expr l r '-' m true) = fixPart1 as s (.expr l r '-' m true) := by
  rw [fixPart1_eq, fixPart1_eq, addrOffset_reloc_diff h l r m true hother]

/-- part 2 copies the address VALUE of a plain label into the operand field: this is where `AddrShift` (not `AddrShiftI`) is needed -/
theorem fixPart2_reloc {D : Nat} {as as' : List Stmt} (h : PW (AddrShift D) as as') (ov : Value) (s1 : Stmt) :
    fixPart2 as' ov s1 = (fixPart2 as ov s1).map (fun x => if ov.isAddress then x.shiftAdditional D else x) := by
  rw [fixPart2_eq, fixPart2_eq]
  by_cases hA : ov.isAddress = true
  · simp only [hA, if_true, addrOf_reloc h, Outcome.ofOptionI_map, ← Outcome.map_bind, Outcome.map_map]
    rfl
  · simp only [hA, if_false, Bool.false_eq_true]
    rfl

theorem fixRelTarget_reloc_plain {D : Nat} {as as' : List Stmt} (h : PW (AddrShiftI D) as as') (s2 : Stmt)
    (hp : s2.isIdx = false ∨ s2.pkg.additional.isAddrExpr = false) :
    fixRelTarget as' s2 = (fixRelTarget as s2).map (· + D) := by
  rw [fixRelTarget_plain _ _ hp, fixRelTarget_plain _ _ hp]
  cases s2.pkg.additional.int? with
  | none => rfl
  | some t =>
    dsimp only
    rw [addrIntOf_reloc h]
    cases addrIntOf as t <;> rfl

theorem fixRelTarget_reloc_num {D : Nat} {as as' : List Stmt} (h : PW (AddrShiftI D) as as') (s2 : Stmt)
    {l r : Value} {op : Char} {m : Mode} {k : Nat} {hh : Option Nat} {mm : Mode} {nn : Bool}
    (hidx : s2.isIdx = true) (he : s2.pkg.additional = .expr l r op m true)
    (hother : (if l.isAddress then r else l) = .numeric k hh mm nn) (hop : op = '+' ∨ op = '-')
    (hside : LabelSide l r op)
    (hb : ∀ v, addrOffset as (.expr l r op m true) = .ok v →
      ∃ z, v = .numeric z (some 4) .extended false ∧ z + D ≤ 65535) :
    fixRelTarget as' s2 = (fixRelTarget as s2).map (· + D) := by
  rw [fixRelTarget_expr _ _ hidx he, fixRelTarget_expr _ _ hidx he,
    addrOffset_reloc_num h l r op m true hother hop hside hb]
  cases ho : addrOffset as (.expr l r op m true) with
  | ok v =>
    obtain ⟨z, rfl, _⟩ := hb v ho
    rfl
  | _ => rfl

/-- `label - label` as a PCR target: the TARGET does not move (so the displacement does) -/
theorem fixRelTarget_reloc_diff {D : Nat} {as as' : List Stmt} (h : PW (AddrShiftI D) as as') (s2 : Stmt)
    {l r : Value} {m : Mode} (hidx : s2.isIdx = true) (he : s2.pkg.additional = .expr l r '-' m true)
    (hother : (if l.isAddress then r else l).isAddress = true) :
    fixRelTarget as' s2 = fixRelTarget as s2 := by
  rw [fixRelTarget_expr _ _ hidx he, fixRelTarget_expr _ _ hidx he, addrOffset_reloc_diff h l r m true hother]

/-- part 3 (PCR: `needsRes` with post byte choices): when the target moves by `D` — or by `D` MODULO `$10000`, as a
negative `label + N` does, which `calculate_address_offset` reduces — the displacement, computed modulo `$10000`, is
IDENTICAL -/
theorem fixPart3_reloc_of_target_map {D : Nat} {as as' : List Stmt} {g : Nat → Nat} (hg : ∀ r, g r % 65536 = (r + D) % 65536)
    (h : PW (AddrShiftI D) as as') (i : Nat) (s2 : Stmt) (hc : s2.pkg.choices.isEmpty = false)
    (ht : fixRelTarget as' s2 = (fixRelTarget as s2).map g) :
    fixPart3 as' i s2 = fixPart3 as i s2 := by
  rw [fixPart3_eq, fixPart3_eq, ht, addrIntOf_reloc h]
  have e : ∀ r start, pcrDist s2 (g r) (start + D) = pcrDist s2 r start := fun r start => by
    have := hg r
    unfold pcrDist
    omega
  simp only [hc, Bool.false_eq_true, if_false, Outcome.ofOptionI_map, Outcome.bind_map_left, pcrOut, pcrJump_eq_dist, e]

theorem fixPart3_reloc_of_target {D : Nat} {as as' : List Stmt} (h : PW (AddrShiftI D) as as') (i : Nat) (s2 : Stmt)
    (hc : s2.pkg.choices.isEmpty = false)
    (ht : fixRelTarget as' s2 = (fixRelTarget as s2).map (· + D)) :
    fixPart3 as' i s2 = fixPart3 as i s2 :=
  fixPart3_reloc_of_target_map (fun _ => rfl) h i s2 hc ht

theorem fixPart3_reloc_of_target_mod {D : Nat} {as as' : List Stmt} (h : PW (AddrShiftI D) as as') (i : Nat) (s2 : Stmt)
    (hc : s2.pkg.choices.isEmpty = false)
    (ht : fixRelTarget as' s2 = (fixRelTarget as s2).map (fun x => (x + D) % 65536)) :
    fixPart3 as' i s2 = fixPart3 as i s2 :=
  fixPart3_reloc_of_target_map (fun _ => Nat.mod_mod _ _) h i s2 hc ht

theorem fixPartAbs_reloc_of_target {D : Nat} {as as' : List Stmt} (s2 : Stmt)
    (ht : fixRelTarget as' s2 = (fixRelTarget as s2).map (· + D))
    (hb : ∀ r, fixRelTarget as s2 = .ok r → r + D ≤ 65535) :
    fixPartAbs as' s2 = (fixPartAbs as s2).map (Stmt.shiftAdditional D) := by
  rw [fixPartAbs_eq, fixPartAbs_eq, ht]
  cases hr : fixRelTarget as s2 with
  | ok r =>
    have := hb r hr
    simp only [Outcome.map_ok]
    rw [if_pos (by omega), if_pos (by omega)]
    rfl
  | _ => rfl

structure LabelNum (as : List Stmt) (l r : Value) (op : Char) (t a k : Nat) (nn : Bool) : Prop where
  other : ∃ hh mm, (if l.isAddress then r else l) = .numeric k hh mm nn
  side : LabelSide l r op
  idx : (if l.isAddress then l.int? else r.int?) = some t
  addr : addrIntOf as t = some a

theorem LabelNum.mk' {as : List Stmt} {t a k : Nat} {m0 : Mode} {hh : Option Nat} {mm : Mode} {nn : Bool} (op : Char)
    (h : addrIntOf as t = some a) : LabelNum as (.address t m0) (.numeric k hh mm nn) op t a k nn :=
  ⟨⟨hh, mm, rfl⟩, .inl rfl, rfl, h⟩

theorem LabelNum.reloc {D : Nat} {as as' : List Stmt} {l r : Value} {op : Char} {t a k : Nat} {nn : Bool}
    (hpw : PW (AddrShiftI D) as as') (h : LabelNum as l r op t a k nn) : LabelNum as' l r op t (a + D) k nn :=
  ⟨h.other, h.side, h.idx, by rw [addrIntOf_reloc hpw, h.addr]; rfl⟩

theorem LabelNum.operand {as : List Stmt} {l r : Value} {op : Char} {t a k : Nat} {nn : Bool}
    (h : LabelNum as l r op t a k nn) : addrOperand as (if l.isAddress then l else r) = .ok (a : Int) := by
  have hA := h.side.isAddress
  have hi : (if l.isAddress then l else r).int? = some t := by
    have := h.idx
    by_cases hl : l.isAddress = true
    · rw [if_pos hl] at this ⊢; exact this
    · rw [if_neg hl] at this ⊢; exact this
  exact addrOperand_label hA hi h.addr

theorem addrOffset_labelNum {as : List Stmt} {l r : Value} {op : Char} {t a k : Nat} {nn : Bool}
    (h : LabelNum as l r op t a k nn) (m : Mode) (ae : Bool) :
    addrOffset as (.expr l r op m ae) = addrCombine op a (signedK k nn) := by
  obtain ⟨hh, mm, ho⟩ := h.other
  rw [addrOffset_label_num as m ae ho h.side, h.operand]

def ModBound (D : Nat) (op : Char) (a k : Nat) (nn : Bool) : Prop :=
  (op = '+' ∧ (a : Int) + signedK k nn + D ≤ 65535) ∨ (op = '-' ∧ (a : Int) - signedK k nn + D ≤ 65535)

theorem ModBound.pm {D : Nat} {op : Char} {a k : Nat} {nn : Bool} (h : ModBound D op a k nn) :
    (op = '+' ∨ op = '-') ∧ pm op a (signedK k nn) + D ≤ 65535 := by
  rcases h with ⟨rfl, h⟩ | ⟨rfl, h⟩
  · exact ⟨.inl rfl, by rw [pm_plus]; exact h⟩
  · exact ⟨.inr rfl, by rw [pm_minus]; exact h⟩

def ModExpr (D : Nat) (as : List Stmt) (e : Value) : Prop :=
  ∃ l r op m t a k nn, e = .expr l r op m true ∧ LabelNum as l r op t a k nn ∧ ModBound D op a k nn

section
variable {D : Nat} {as as' : List Stmt}

theorem ModExpr.reloc (h : PW (AddrShiftI D) as as') {e : Value} (he : ModExpr D as e) :
    ∃ x, x < 65536 ∧ addrOffset as e = .ok (.numeric x (some 4) .extended false) ∧
      addrOffset as' e = .ok (.numeric ((x + D) % 65536) (some 4) .extended false) := by
  obtain ⟨l, r, op, m, t, a, k, nn, rfl, hl, hb⟩ := he
  obtain ⟨x, hx, _, e1, e2⟩ := addrCombine_pm_mod hb.pm.1 hb.pm.2
  exact ⟨x, hx, by rw [addrOffset_labelNum hl, e1],
    by rw [addrOffset_labelNum (hl.reloc h), Int.natCast_add, e2]⟩

theorem addrOffset_modExpr (h : PW (AddrShiftI D) as as') {x : Value} (hc : ModExpr D as x) :
    addrOffset as' x = (addrOffset as x).map (shiftVmod D) := by
  obtain ⟨x0, _, e1, e2⟩ := hc.reloc h
  rw [e1, e2]; rfl

theorem ModExpr.isAddrExpr {e : Value} (he : ModExpr D as e) : ∃ l r op m, e = .expr l r op m true := by
  obtain ⟨l, r, op, m, _, _, _, _, rfl, _⟩ := he
  exact ⟨l, r, op, m, rfl⟩

theorem fixRelTarget_modExpr (h : PW (AddrShiftI D) as as') {s : Stmt} (hidx : s.isIdx = true)
    (he : ModExpr D as s.pkg.additional) :
    ∃ x, x < 65536 ∧ fixRelTarget as s = .ok x ∧ fixRelTarget as' s = .ok ((x + D) % 65536) := by
  obtain ⟨x, hx, e1, e2⟩ := he.reloc h
  obtain ⟨l, r, op, m, hadd⟩ := he.isAddrExpr
  rw [hadd] at e1 e2
  exact ⟨x, hx, by rw [fixRelTarget_expr _ _ hidx hadd, e1]; rfl, by rw [fixRelTarget_expr _ _ hidx hadd, e2]; rfl⟩

end

end CoCo.Asm
