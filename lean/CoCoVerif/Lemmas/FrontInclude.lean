/-
Lemmas/FrontInclude.lean — INCLUDE expansion, for C19 (INCLUDE is textual inclusion).

`parseLines` and the recursion `expand.go` distribute over `++` with "first failure wins" (`oapp` of
Lemmas/OutcomeBasics.lean), and so does `front`, the parse-and-expand stage of `assemble` (`front_append`): a program `pre ++ [INCLUDE f] ++ post` is handled piece by
piece, the middle piece by `expandOne` (`front_single`).  Facts about one run of `expand` go by `expand_induct`.  The
nesting budget `includeFuel fs` is never exhausted (pigeonhole on the chain of files being included: `chain_length_le`,
`expand_ne_internal_of_fuel`); with that `front_include_eq` (replacing an INCLUDE line by the lines of the file does not
change the outcome) holds without side conditions, and a file that includes itself through any number of files is a
diagnostic wherever it is included (`front_cycle`).  What holds of every parsed line holds of every statement `front`
returns (`front_forall`); without INCLUDE `front` is `parseLines` (`front_plain`).
-/
import CoCoVerif.Lemmas.AssembleStages
import CoCoVerif.Lemmas.FrontScan

namespace CoCo.Asm
open CoCo

theorem parseLines_cons (l : Str) (ls : List Str) :
    parseLines (l :: ls) =
      oapp (match parseLine l with
            | .ok none => .ok [] | .ok (some s) => .ok [s]
            | .diag => .diag | .internal => .internal | .diverged => .diverged) (parseLines ls) := by
  rw [parseLines]
  cases parseLine l with
  | ok x => cases x <;> cases parseLines ls <;> rfl
  | _ => rfl

theorem parseLines_append (a b : List Str) : parseLines (a ++ b) = oapp (parseLines a) (parseLines b) := by
  induction a with
  | nil => simp [parseLines]
  | cons l ls ih => rw [List.cons_append, parseLines_cons, parseLines_cons, ih, oapp_assoc]

theorem parseLines_replicate {l : Str} {s : Stmt} (hl : parseLine l = .ok (some s)) (rest : List Str) :
    ∀ n, parseLines (List.replicate n l ++ rest) =
      match parseLines rest with | .ok r => .ok (List.replicate n s ++ r) | o => o := by
  intro n
  induction n with
  | zero => simp only [List.replicate_zero, List.nil_append]; cases parseLines rest <;> rfl
  | succ n ih =>
    rw [List.replicate_succ, List.cons_append, parseLines, hl]
    dsimp only
    rw [ih]
    cases parseLines rest <;> rfl

theorem parseLines_ok_or_diag (ls : List Str) : (∃ r, parseLines ls = .ok r) ∨ parseLines ls = .diag := by
  induction ls with
  | nil => exact .inl ⟨[], rfl⟩
  | cons l ls ih =>
    rw [parseLines_cons]
    rcases parseLine_ok_or_diag l with ⟨x, hx⟩ | hx <;> rw [hx]
    · rcases ih with ⟨r, hr⟩ | hr <;> rw [hr] <;> cases x <;> simp
    · simp

theorem parseLines_single_some {l : Str} {s : Stmt} (h : parseLine l = .ok (some s)) :
    parseLines [l] = .ok [s] := by
  simp [parseLines, h]

theorem parseLines_cons_none {l : Str} (hl : parseLine l = .ok none) (ls : List Str) :
    parseLines (l :: ls) = parseLines ls := by
  rw [parseLines, hl]

theorem parseLines_cons_some {l : Str} {s : Stmt} (hl : parseLine l = .ok (some s)) {ls : List Str} {r : List Stmt}
    (h : parseLines (l :: ls) = .ok r) : ∃ r', parseLines ls = .ok r' ∧ r = s :: r' := by
  rw [parseLines_cons, hl] at h
  obtain ⟨_, r', e, hr, rfl⟩ := oapp_eq_ok h
  cases e
  exact ⟨r', hr, rfl⟩

/-- what `expand.go` does with one statement (`go_cons`) -/
def expandOne (fs : Files) (fuel : Nat) (inc : List Str) (s : Stmt) : Outcome (List Stmt) :=
  if s.row.isInclude && !s.operand.text.isEmpty then
    if inc.contains s.operand.text then .diag
    else
      match fs.get? s.operand.text with
      | none => .diag
      | some lines => (parseLines lines).bind (expand fs fuel (inc ++ [s.operand.text]))
  else .ok [s]

theorem expandOne_plain {fs : Files} {fuel : Nat} {inc : List Str} {s : Stmt}
    (h : (s.row.isInclude && !s.operand.text.isEmpty) = false) : expandOne fs fuel inc s = .ok [s] := by
  simp [expandOne, h]

theorem expandOne_cycle {fs : Files} {fuel : Nat} {inc : List Str} {s : Stmt}
    (h : (s.row.isInclude && !s.operand.text.isEmpty) = true) (hc : inc.contains s.operand.text = true) :
    expandOne fs fuel inc s = .diag := by
  simp only [expandOne, h, hc, if_true]

theorem expandOne_missing {fs : Files} {fuel : Nat} {inc : List Str} {s : Stmt}
    (h : (s.row.isInclude && !s.operand.text.isEmpty) = true) (hf : fs.get? s.operand.text = none) :
    expandOne fs fuel inc s = .diag := by
  simp only [expandOne, h, hf, if_true]
  split <;> rfl

theorem expandOne_some {fs : Files} {fuel : Nat} {inc : List Str} {s : Stmt} {lines : List Str}
    (h : (s.row.isInclude && !s.operand.text.isEmpty) = true) (hc : inc.contains s.operand.text = false)
    (hf : fs.get? s.operand.text = some lines) :
    expandOne fs fuel inc s = (parseLines lines).bind (expand fs fuel (inc ++ [s.operand.text])) := by
  simp only [expandOne, h, hc, hf, if_true]
  rfl

theorem go_nil (fs : Files) (fuel : Nat) (inc : List Str) : expand.go fs fuel inc [] = .ok [] :=
  expand.go.eq_1 fs fuel inc

theorem go_cons (fs : Files) (fuel : Nat) (inc : List Str) (s : Stmt) (rest : List Stmt) :
    expand.go fs fuel inc (s :: rest) = oapp (expandOne fs fuel inc s) (expand.go fs fuel inc rest) := by
  rw [expand.go.eq_2]
  by_cases h : (s.row.isInclude && !s.operand.text.isEmpty) = true
  · rw [if_pos h]
    cases hc : inc.contains s.operand.text with
    | true => rw [expandOne_cycle h hc]; rfl
    | false =>
      rw [if_neg (by simp)]
      cases hf : fs.get? s.operand.text with
      | none => rw [expandOne_missing h hf]; rfl
      | some lines =>
        rw [expandOne_some h hc hf]
        dsimp only
        cases parseLines lines with
        | ok p =>
          dsimp only [Outcome.bind]
          cases expand fs fuel (inc ++ [s.operand.text]) p <;> cases expand.go fs fuel inc rest <;> rfl
        | _ => rfl
  · rw [if_neg h, expandOne_plain (by simpa using h)]
    cases expand.go fs fuel inc rest <;> rfl

theorem go_append (fs : Files) (fuel : Nat) (inc : List Str) (a b : List Stmt) :
    expand.go fs fuel inc (a ++ b) = oapp (expand.go fs fuel inc a) (expand.go fs fuel inc b) := by
  induction a with
  | nil => simp [go_nil]
  | cons s rest ih => rw [List.cons_append, go_cons, go_cons, ih, oapp_assoc]

theorem go_single (fs : Files) (fuel : Nat) (inc : List Str) (s : Stmt) :
    expand.go fs fuel inc [s] = expandOne fs fuel inc s := by
  rw [go_cons, go_nil, oapp_nil_right]

theorem expand_succ (fs : Files) (fuel : Nat) (inc : List Str) (ss : List Stmt) :
    expand fs (fuel + 1) inc ss = expand.go fs fuel inc ss := expand.eq_2 fs inc ss fuel

theorem expand_zero (fs : Files) (inc : List Str) (ss : List Stmt) : expand fs 0 inc ss = .internal :=
  expand.eq_1 fs inc ss

/-- the three ways an INCLUDE statement is processed -/
theorem expandOne_cases (fs : Files) (fuel : Nat) (inc : List Str) (s : Stmt) :
    ((s.row.isInclude && !s.operand.text.isEmpty) = false ∧ expandOne fs fuel inc s = .ok [s]) ∨
    ((s.row.isInclude && !s.operand.text.isEmpty) = true ∧
      (inc.contains s.operand.text = true ∨ fs.get? s.operand.text = none ∨
        ∃ lines, fs.get? s.operand.text = some lines ∧ parseLines lines = .diag) ∧
      expandOne fs fuel inc s = .diag) ∨
    ((s.row.isInclude && !s.operand.text.isEmpty) = true ∧ inc.contains s.operand.text = false ∧
      ∃ lines p, fs.get? s.operand.text = some lines ∧ parseLines lines = .ok p ∧
        expandOne fs fuel inc s = expand fs fuel (inc ++ [s.operand.text]) p) := by
  by_cases h : (s.row.isInclude && !s.operand.text.isEmpty) = true
  · cases hc : inc.contains s.operand.text with
    | true => exact .inr (.inl ⟨h, .inl rfl, expandOne_cycle h hc⟩)
    | false =>
      cases hf : fs.get? s.operand.text with
      | none => exact .inr (.inl ⟨h, .inr (.inl rfl), expandOne_missing h hf⟩)
      | some lines =>
        rcases parseLines_ok_or_diag lines with ⟨p, hp⟩ | hp
        · exact .inr (.inr ⟨h, rfl, lines, p, rfl, hp, by rw [expandOne_some h hc hf, hp]; rfl⟩)
        · exact .inr (.inl ⟨h, .inr (.inr ⟨lines, rfl, hp⟩), by rw [expandOne_some h hc hf, hp]; rfl⟩)
  · exact .inl ⟨by simpa using h, expandOne_plain (by simpa using h)⟩

/-- Induction along a run of `expand`: `P n inc ss o` for `o` the outcome of `expand fs n inc ss`.  The cases for the
first statement are those of `expandOne_cases`; an INCLUDE that is followed has the run on the statements of the file, one
level down under the longer chain, as a premise. -/
theorem expand_induct (fs : Files) {P : Nat → List Str → List Stmt → Outcome (List Stmt) → Prop}
    (zero : ∀ inc ss, P 0 inc ss .internal)
    (nil : ∀ n inc, P (n + 1) inc [] (.ok []))
    (plain : ∀ n inc s rest o, (s.row.isInclude && !s.operand.text.isEmpty) = false →
      P (n + 1) inc rest o → P (n + 1) inc (s :: rest) (oapp (.ok [s]) o))
    (reject : ∀ n inc s rest, (s.row.isInclude && !s.operand.text.isEmpty) = true →
      (inc.contains s.operand.text = true ∨ fs.get? s.operand.text = none ∨
        ∃ lines, fs.get? s.operand.text = some lines ∧ parseLines lines = .diag) →
      P (n + 1) inc (s :: rest) .diag)
    (incl : ∀ n inc s rest lines p o1 o2, (s.row.isInclude && !s.operand.text.isEmpty) = true →
      inc.contains s.operand.text = false → fs.get? s.operand.text = some lines → parseLines lines = .ok p →
      P n (inc ++ [s.operand.text]) p o1 → P (n + 1) inc rest o2 → P (n + 1) inc (s :: rest) (oapp o1 o2)) :
    ∀ n inc ss, P n inc ss (expand fs n inc ss) := by
  intro n
  induction n with
  | zero => intro inc ss; rw [expand_zero]; exact zero inc ss
  | succ n ih =>
    intro inc ss
    induction ss with
    | nil => rw [expand_succ, go_nil]; exact nil n inc
    | cons s rest ihr =>
      rw [expand_succ, go_cons, ← expand_succ]
      rcases expandOne_cases fs n inc s with ⟨hp, h0⟩ | ⟨hp, hd, h0⟩ | ⟨hp, hc, lines, p, hf, hpl, h0⟩ <;>
        rw [h0]
      · exact plain n inc s rest _ hp ihr
      · exact reject n inc s rest hp hd
      · exact incl n inc s rest lines p _ _ hp hc hf hpl (ih _ p) ihr

theorem expand_ne_diverged (fs : Files) : ∀ (n : Nat) (inc : List Str) (ss : List Stmt),
    expand fs n inc ss ≠ .diverged := by
  apply expand_induct fs (P := fun _ _ _ o => o ≠ .diverged)
  case zero => nofun
  case nil => nofun
  case plain => intro _ _ _ _ _ _ h; exact oapp_ne_diverged nofun h
  case reject => intro _ _ _ _ _ _; nofun
  case incl => intro _ _ _ _ _ _ _ _ _ _ _ _ h1 h2; exact oapp_ne_diverged h1 h2

theorem expand_mono (fs : Files) : ∀ (n : Nat) (inc : List Str) (ss : List Stmt),
    expand fs n inc ss ≠ .internal → expand fs (n + 1) inc ss = expand fs n inc ss := by
  apply expand_induct fs (P := fun n inc ss o => o ≠ .internal → expand fs (n + 1) inc ss = o)
  case zero => intro _ _ h; exact absurd rfl h
  case nil => intro n inc _; rw [expand_succ, go_nil]
  case plain =>
    intro n inc s rest o hp ih h
    rw [expand_succ, go_cons, expandOne_plain hp, ← expand_succ, ih (fun hc => h (by rw [hc]; rfl))]
  case reject =>
    intro n inc s rest hp hd _
    rw [expand_succ, go_cons]
    rcases hd with hd | hd | ⟨lines, hf, hpl⟩
    · rw [expandOne_cycle hp hd]; rfl
    · rw [expandOne_missing hp hd]; rfl
    · cases hc : inc.contains s.operand.text with
      | true => rw [expandOne_cycle hp hc]; rfl
      | false => rw [expandOne_some hp hc hf, hpl]; rfl
  case incl =>
    intro n inc s rest lines p o1 o2 hp hc hf hpl ih1 ih2 h
    rw [expand_succ, go_cons, expandOne_some hp hc hf, hpl]
    show oapp (expand fs (n + 1) _ p) _ = _
    rw [ih1 (fun e => h (by rw [e]; rfl))]
    cases o1 with
    | ok e => rw [← expand_succ, ih2 (fun e2 => h (by rw [e2]; rfl))]
    | _ => rfl

theorem expand_mono_ok {fs : Files} {n : Nat} {inc : List Str} {ss r : List Stmt}
    (h : expand fs n inc ss = .ok r) : expand fs (n + 1) inc ss = .ok r := by
  rw [expand_mono fs n inc ss (by rw [h]; simp), h]

theorem expand_mono_diag {fs : Files} {n : Nat} {inc : List Str} {ss : List Stmt}
    (h : expand fs n inc ss = .diag) : expand fs (n + 1) inc ss = .diag := by
  rw [expand_mono fs n inc ss (by rw [h]; simp), h]

theorem expand_mono_le {fs : Files} {n m : Nat} {inc : List Str} {ss : List Stmt} (hnm : n ≤ m)
    (h : expand fs n inc ss ≠ .internal) : expand fs m inc ss = expand fs n inc ss := by
  induction hnm with
  | refl => rfl
  | step _ ih => rw [expand_mono fs _ inc ss (by rw [ih]; exact h), ih]

/-! ### the fuel `includeFuel fs` suffices

A file that is being included is rejected, so the chain of files being processed never holds a name twice; every name
in it is a key of `fs`; hence the chain is never longer than `fs` (pigeonhole) and `fs.length + 1` levels are never
exhausted. -/

theorem Files.get?_isSome_mem {fs : Files} {n : Str} (h : (fs.get? n).isSome = true) : n ∈ fs.map (·.1) := by
  unfold Files.get? at h
  rw [Option.isSome_map] at h
  obtain ⟨x, hx⟩ := Option.isSome_iff_exists.1 h
  have h1 := List.find?_some hx
  have h2 := List.mem_of_find?_eq_some hx
  simp only [beq_iff_eq] at h1
  exact List.mem_map.2 ⟨x, h2, h1⟩

theorem chain_length_le (fs : Files) (inc : List Str) (hn : inc.Nodup)
    (hk : ∀ n ∈ inc, (fs.get? n).isSome = true) : inc.length ≤ fs.length := by
  have := nodup_subset_length_le (fs.map (·.1)) inc hn (fun x hx => Files.get?_isSome_mem (hk x hx))
  simpa using this

/-- a file that exists: there is at least one file -/
theorem Files.length_succ_of_get? {fs : Files} {n : Str} {ls : List Str} (h : fs.get? n = some ls) :
    ∃ k, fs.length = k + 1 := by
  have := chain_length_le fs [n] (by simp) (by intro x hx; simp only [List.mem_singleton] at hx; subst hx; simp [h])
  simp only [List.length_singleton] at this
  exact ⟨fs.length - 1, by omega⟩

/-- the fuel suffices: with a duplicate-free chain of existing files and `fs.length < fuel + chain length`,
INCLUDE expansion does not run out of fuel -/
theorem expand_ne_internal_of_fuel (fs : Files) : ∀ (fuel : Nat) (inc : List Str) (ss : List Stmt),
    inc.Nodup → (∀ n ∈ inc, (fs.get? n).isSome = true) → fs.length < fuel + inc.length →
    expand fs fuel inc ss ≠ .internal := by
  apply expand_induct fs (P := fun n inc _ o => inc.Nodup → (∀ x ∈ inc, (fs.get? x).isSome = true) →
    fs.length < n + inc.length → o ≠ .internal)
  case zero => intro inc _ hn hk hl; have := chain_length_le fs inc hn hk; omega
  case nil => intro _ _ _ _ _; nofun
  case plain => intro _ _ _ _ _ _ ih hn hk hl; exact oapp_ne_internal nofun (ih hn hk hl)
  case reject => intro _ _ _ _ _ _ _ _ _; nofun
  case incl =>
    -- the file is not in the chain (`hc`) and exists (`hf`): the longer chain satisfies the hypotheses again
    intro n inc s rest lines p o1 o2 _ hc hf _ ih1 ih2 hn hk hl
    have hni : s.operand.text ∉ inc := by simpa using hc
    refine oapp_ne_internal (ih1 ?_ ?_ ?_) (ih2 hn hk hl)
    · rw [List.nodup_append]
      refine ⟨hn, by simp, ?_⟩
      intro a ha b hb e
      rw [List.mem_singleton.mp hb] at e
      exact hni (e ▸ ha)
    · intro x hx
      rcases List.mem_append.mp hx with hx | hx
      · exact hk x hx
      · rw [List.mem_singleton.mp hx, hf]; rfl
    · simp only [List.length_append, List.length_singleton]; omega

theorem expand_includeFuel_ne_internal (fs : Files) (ss : List Stmt) :
    expand fs (includeFuel fs) [] ss ≠ .internal :=
  expand_ne_internal_of_fuel fs _ [] ss (by simp) (by simp) (by simp [includeFuel])

theorem expand_fuel_irrelevant (fs : Files) (m : Nat) (ss : List Stmt) (h : includeFuel fs ≤ m) :
    expand fs m [] ss = expand fs (includeFuel fs) [] ss :=
  expand_mono_le h (expand_includeFuel_ne_internal fs ss)

theorem expand_fuel_irrelevant' (fs : Files) (n m : Nat) (inc : List Str) (ss : List Stmt)
    (hn : inc.Nodup) (hk : ∀ x ∈ inc, (fs.get? x).isSome = true)
    (h1 : fs.length < n + inc.length) (h2 : fs.length < m + inc.length) :
    expand fs m inc ss = expand fs n inc ss := by
  rcases Nat.le_total n m with h | h
  · exact expand_mono_le h (expand_ne_internal_of_fuel fs n inc ss hn hk h1)
  · exact (expand_mono_le h (expand_ne_internal_of_fuel fs m inc ss hn hk h2)).symm

/-! ### the chain of files being included

A longer chain can only turn results into `diag` (more INCLUDEs count as cycles); a shorter chain and
more fuel preserve success.  Because the Python reports a cycle at the *second* occurrence of a file in
the chain, a chain that does not yet contain the file being processed goes one level deeper before it
reports: the verdict is the same (`diag`) unless the extra level runs out of fuel. -/

theorem expand_ok_mono (fs : Files) : ∀ (n m : Nat) (I J : List Str) (ss r : List Stmt),
    n ≤ m → (∀ x ∈ J, x ∈ I) → expand fs n I ss = .ok r → expand fs m J ss = .ok r := by
  intro n
  induction n with
  | zero => intro m I J ss r _ _ h; rw [expand_zero] at h; cases h
  | succ n ih =>
    intro m I J ss r hnm hsub
    obtain ⟨m, rfl⟩ : ∃ k, m = k + 1 := ⟨m - 1, by omega⟩
    rw [expand_succ, expand_succ]
    induction ss generalizing r with
    | nil => simp [go_nil]
    | cons s rest ihr =>
      rw [go_cons, go_cons]
      intro h
      obtain ⟨a, b, ha, hb, rfl⟩ := oapp_eq_ok h
      rw [ihr b hb]
      suffices hs : expandOne fs m J s = .ok a by rw [hs]; rfl
      rcases expandOne_cases fs n I s with ⟨hp, h0⟩ | ⟨hp, hd, h0⟩ | ⟨hp, hc, lines, p, hf, hpl, h0⟩
      · rw [expandOne_plain hp, ← ha, h0]
      · rw [h0] at ha; cases ha
      · have hcJ : J.contains s.operand.text = false := by
          cases hj : J.contains s.operand.text with
          | false => rfl
          | true => rw [List.contains_iff_mem.mpr (hsub _ (List.contains_iff_mem.mp hj))] at hc; cases hc
        rw [expandOne_some hp hcJ hf, hpl]
        rw [h0] at ha
        refine ih m _ _ p a (by omega) ?_ ha
        intro x hx
        simp only [List.mem_append, List.mem_singleton] at hx ⊢
        exact hx.imp_left (hsub x)

/-- a run that succeeds under chain `J` can, under a chain `I ⊆ J ∪ {f}`, end in `diag` only if the
successful run expanded an `INCLUDE f` below a chain containing `f` -/
theorem expand_diag_of_ok (fs : Files) (f : Str) : ∀ (m : Nat) (J : List Str) (ss r : List Stmt),
    expand fs m J ss = .ok r → ∀ (n : Nat) (I : List Str), (∀ x ∈ I, x ∈ J ∨ x = f) →
    expand fs n I ss = .diag →
    ∃ m' J' lf pf r', (∀ x ∈ J, x ∈ J') ∧ f ∈ J' ∧ fs.get? f = some lf ∧
      parseLines lf = .ok pf ∧ expand fs m' J' pf = .ok r' := by
  intro m
  induction m with
  | zero => intro J ss r h; rw [expand_zero] at h; cases h
  | succ m ih =>
    intro J ss r h n I hsub hd
    rw [expand_succ] at h
    obtain ⟨n, rfl⟩ : ∃ k, n = k + 1 := by
      cases n with
      | zero => rw [expand_zero] at hd; cases hd
      | succ k => exact ⟨k, rfl⟩
    rw [expand_succ] at hd
    induction ss generalizing r with
    | nil => rw [go_nil] at hd; cases hd
    | cons s rest ihr =>
      rw [go_cons] at h hd
      obtain ⟨a, b, ha, hb, rfl⟩ := oapp_eq_ok h
      rcases oapp_eq_diag hd with hd1 | ⟨_, _, hd2⟩
      · rcases expandOne_cases fs m J s with ⟨hp, h0⟩ | ⟨hp, _, h0⟩ | ⟨hp, hcJ, lines, p, hf, hpl, h0⟩
        · rw [expandOne_plain hp] at hd1; cases hd1
        · rw [h0] at ha; cases ha
        · rw [h0] at ha
          cases hcI : I.contains s.operand.text with
          | true =>
            have hmem : s.operand.text ∈ I := by simpa using hcI
            rcases hsub _ hmem with hJ | hJ
            · rw [List.contains_iff_mem.mpr hJ] at hcJ; cases hcJ
            · refine ⟨m, J ++ [s.operand.text], lines, p, a, ?_, ?_, hJ ▸ hf, hpl, ha⟩
              · intro x hx; simp [hx]
              · simp [hJ]
          | false =>
            rw [expandOne_some hp hcI hf, hpl] at hd1
            obtain ⟨m', J', lf, pf, r', h2, h3, h4, h5, h6⟩ :=
              ih _ p a ha n (I ++ [s.operand.text]) (by
                intro x hx
                simp only [List.mem_append, List.mem_singleton] at hx ⊢
                rcases hx with hx | hx
                · rcases hsub x hx with h | h
                  · exact .inl (.inl h)
                  · exact .inr h
                · exact .inl (.inr hx)) hd1
            exact ⟨m', J', lf, pf, r', fun x hx => h2 x (by simp [hx]), h3, h4, h5, h6⟩
      · exact ihr b hb hd2

/-- the lines of file `f`: if they expand successfully under some chain `J`, then under a chain
`I ⊆ J ∪ {f}` they cannot end in `diag` (they end in the same success, or fuel runs out) -/
theorem expand_self_chain (fs : Files) (f : Str) (lf : List Str) (pf : List Stmt)
    (hf : fs.get? f = some lf) (hpf : parseLines lf = .ok pf) :
    ∀ (m : Nat) (J : List Str) (r : List Stmt), expand fs m J pf = .ok r →
    ∀ (n : Nat) (I : List Str), (∀ x ∈ I, x ∈ J ∨ x = f) → expand fs n I pf ≠ .diag := by
  intro m J r h n I hsub hd
  obtain ⟨m', J', lf', pf', r', h2, h3, h4, h5, h6⟩ := expand_diag_of_ok fs f m J pf r h n I hsub hd
  rw [hf] at h4; cases h4
  rw [hpf] at h5; cases h5
  -- the lines succeed under `J' ⊇ I`, hence under `I` given enough fuel; more fuel does not undo the `diag`
  have hok := expand_ok_mono fs m' (max n m') J' I pf r' (Nat.le_max_right n m')
    (fun x hx => (hsub x hx).elim (h2 x) (fun e => e ▸ h3)) h6
  rw [expand_mono_le (Nat.le_max_left n m') (by rw [hd]; simp), hd] at hok
  cases hok

theorem front_ne_diverged (fs : Files) (a : List Str) : front fs a ≠ .diverged := by
  rcases parseLines_ok_or_diag a with ⟨r, hr⟩ | hr
  · rw [front_of_parse_ok hr]; exact expand_ne_diverged fs (includeFuel fs) [] r
  · rw [front_of_parse_diag hr]; simp

theorem front_of_parsed {fs : Files} {a : List Str} {r : List Stmt} (h : parseLines a = .ok r) :
    front fs a = expand.go fs fs.length [] r := by
  rw [front_of_parse_ok h]; exact expand_succ fs fs.length [] r

theorem front_never_internal (fs : Files) (a : List Str) : front fs a ≠ .internal := by
  rcases parseLines_ok_or_diag a with ⟨r, hr⟩ | hr
  · rw [front_of_parse_ok hr]; exact expand_includeFuel_ne_internal fs r
  · rw [front_of_parse_diag hr]; simp

theorem front_ok_or_diag (fs : Files) (a : List Str) : (∃ r, front fs a = .ok r) ∨ front fs a = .diag := by
  have h1 := front_never_internal fs a
  have h2 := front_ne_diverged fs a
  cases h : front fs a <;> simp_all

/-- parse-and-expand treats `a ++ b` as `a` followed by `b` (a diagnostic in `b` hides nothing of `a`: the stage
ends in `ok` or `diag` only) -/
theorem front_append (fs : Files) (a b : List Str) : front fs (a ++ b) = oapp (front fs a) (front fs b) := by
  rcases parseLines_ok_or_diag a with ⟨pa, ha⟩ | ha
  · rcases parseLines_ok_or_diag b with ⟨pb, hb⟩ | hb
    · rw [front_of_parsed (r := pa ++ pb) (by rw [parseLines_append, ha, hb]; rfl), front_of_parsed ha,
        front_of_parsed hb, go_append]
    · rw [front_of_parse_diag (a := a ++ b) (by rw [parseLines_append, ha, hb]; rfl), front_of_parse_diag hb]
      rcases front_ok_or_diag fs a with ⟨r, hr⟩ | hr <;> rw [hr] <;> rfl
  · rw [front_of_parse_diag (a := a ++ b) (by rw [parseLines_append, ha]; rfl), front_of_parse_diag ha]; rfl

theorem front_single {fs : Files} {l : Str} {s : Stmt} (hl : parseLine l = .ok (some s)) :
    front fs [l] = expandOne fs fs.length [] s := by
  rw [front_of_parsed (parseLines_single_some hl), go_single]

/-- an INCLUDE line whose statement is rejected at the top level (`expandOne … = .diag`) makes the whole program a
diagnostic, whatever is before and after it -/
theorem front_diag_of_expandOne_diag {fs : Files} {pre post : List Str} {l : Str} {s : Stmt}
    (hl : parseLine l = .ok (some s)) (hd : expandOne fs fs.length [] s = .diag) :
    front fs (pre ++ [l] ++ post) = .diag := by
  rw [front_append, front_append, front_single hl, hd]
  rcases front_ok_or_diag fs pre with ⟨r, hr⟩ | hr <;> rw [hr] <;> rfl

/-- The lines `inc` of a file `f` expand to the same outcome below the INCLUDE line (chain `[f]`, one unit of fuel
spent) and in place of it (empty chain).  A success carries over (`expand_ok_mono`).  A diagnostic below the INCLUDE
can be a cycle through `f` that is reported at once because `f` is in the chain; in place of the line the inner
`INCLUDE f` is expanded once more and the cycle is reported one level deeper: `expand_self_chain` shows that this
run cannot succeed, and the budget is exhausted on neither side. -/
theorem expand_included {fs : Files} {f : Str} {ls : List Str} {inc : List Stmt} (hf : fs.get? f = some ls)
    (hi : parseLines ls = .ok inc) :
    expand fs fs.length [f] inc = expand fs (fs.length + 1) [] inc := by
  have hR1 := expand_includeFuel_ne_internal fs inc
  have hR2 := expand_ne_diverged fs (fs.length + 1) [] inc
  cases hx : expand fs fs.length [f] inc with
  | ok r => exact (expand_ok_mono fs _ _ [f] [] inc r (by omega) (by simp) hx).symm
  | diag =>
    have hR3 : ∀ r, expand fs (fs.length + 1) [] inc ≠ .ok r := fun r hr =>
      expand_self_chain fs f ls inc hf hi _ [] r hr fs.length [f] (by simp) hx
    cases hy : expand fs (fs.length + 1) [] inc <;> simp_all [includeFuel]
  | internal =>
    exact absurd hx (expand_ne_internal_of_fuel fs _ [f] inc (by simp)
      (by intro x hx; rw [List.mem_singleton.mp hx, hf]; rfl) (by simp))
  | diverged => exact absurd hx (expand_ne_diverged _ _ _ _)

/-- INCLUDE is textual inclusion at the level of the parse-and-expand stage: replacing one INCLUDE line by the
lines of the file does not change the outcome -/
theorem front_include_eq {fs : Files} {pre post ls : List Str} {l : Str} {s : Stmt}
    (hl : parseLine l = .ok (some s))
    (hinc : (s.row.isInclude && !s.operand.text.isEmpty) = true)
    (hf : fs.get? s.operand.text = some ls) :
    front fs (pre ++ [l] ++ post) = front fs (pre ++ ls ++ post) := by
  have hmid : front fs [l] = front fs ls := by
    rw [front_single hl, expandOne_some hinc (by simp) hf]
    rcases parseLines_ok_or_diag ls with ⟨inc, hi⟩ | hi
    · rw [hi, front_of_parsed hi, ← expand_succ]; exact expand_included hf hi
    · rw [hi, front_of_parse_diag hi]; rfl
  rw [front_append, front_append, hmid, ← front_append, ← front_append]

theorem expand_reject {fs : Files} {n : Nat} {inc : List Str} {pre post e : List Stmt} {s : Stmt}
    (hd : expandOne fs n inc s = .diag) (he : expand.go fs n inc pre = .ok e) :
    expand fs (n + 1) inc (pre ++ [s] ++ post) = .diag := by
  rw [expand_succ, go_append, go_append, go_single, hd, he]
  rfl

theorem go_plain (fs : Files) (n : Nat) (inc : List Str) : ∀ (ss : List Stmt),
    (∀ x ∈ ss, x.row.isInclude = false) → expand.go fs n inc ss = .ok ss := by
  intro ss
  induction ss with
  | nil => intro _; exact go_nil fs n inc
  | cons x rest ih =>
    intro h
    rw [go_cons, expandOne_plain (by simp [h x (by simp)]), ih (fun y hy => h y (by simp [hy]))]
    rfl

theorem expand_plain (fs : Files) (n : Nat) (inc : List Str) (ss : List Stmt)
    (h : ∀ x ∈ ss, x.row.isInclude = false) : expand fs (n + 1) inc ss = .ok ss := by
  rw [expand_succ]; exact go_plain fs n inc ss h

theorem expand_includeFuel_plain (fs : Files) (ss : List Stmt) (h : ∀ x ∈ ss, x.row.isInclude = false) :
    expand fs (includeFuel fs) [] ss = .ok ss :=
  expand_plain fs fs.length [] ss h

/-- a program that is one INCLUDE of a file without further INCLUDEs expands to the file's statements -/
theorem front_single_include_plain {fs : Files} {ls : List Str} {l : Str} {s : Stmt} {r : List Stmt}
    (hl : parseLine l = .ok (some s))
    (hinc : (s.row.isInclude && !s.operand.text.isEmpty) = true)
    (hf : fs.get? s.operand.text = some ls)
    (hr : parseLines ls = .ok r) (hpl : ∀ x ∈ r, x.row.isInclude = false) :
    front fs [l] = .ok r := by
  rw [front_single hl, expandOne_some hinc (by simp) hf, hr]
  obtain ⟨k, hk⟩ := Files.length_succ_of_get? hf
  rw [hk]
  exact expand_plain fs k _ r hpl

/-! ### cycles

A run that succeeds has followed every INCLUDE it met (`expand_ok_mem`, `expandOne_ok_incl`), each time under a chain
that did not hold the file; so no file reached from the statements being expanded is in the chain
(`expand_ok_acyclic`), and a file that reaches itself cannot be included with success (`front_cycle`). -/

/-- file `f` holds a statement `INCLUDE g` -/
def Includes (fs : Files) (f g : Str) : Prop :=
  ∃ lines p s, fs.get? f = some lines ∧ parseLines lines = .ok p ∧ s ∈ p ∧
    (s.row.isInclude && !s.operand.text.isEmpty) = true ∧ s.operand.text = g

/-- `f` includes `g` through any number of files -/
inductive IncludesPlus (fs : Files) : Str → Str → Prop
  | one {f g : Str} : Includes fs f g → IncludesPlus fs f g
  | step {f g h : Str} : Includes fs f g → IncludesPlus fs g h → IncludesPlus fs f h

theorem expand_ok_mem {fs : Files} {n : Nat} {inc : List Str} : ∀ {ss r : List Stmt},
    expand fs (n + 1) inc ss = .ok r → ∀ s ∈ ss, ∃ e, expandOne fs n inc s = .ok e := by
  intro ss
  induction ss with
  | nil => intro _ _ _ hs; cases hs
  | cons x rest ih =>
    intro r h s hs
    rw [expand_succ, go_cons] at h
    obtain ⟨a, b, ha, hb, _⟩ := oapp_eq_ok h
    rcases List.mem_cons.mp hs with rfl | hs
    · exact ⟨a, ha⟩
    · exact ih (by rw [expand_succ]; exact hb) s hs

/-- an INCLUDE that expands: the file is not in the chain, and its statements expand one level down -/
theorem expandOne_ok_incl {fs : Files} {n : Nat} {inc : List Str} {s : Stmt} {e : List Stmt}
    (hs : (s.row.isInclude && !s.operand.text.isEmpty) = true) (h : expandOne fs n inc s = .ok e) :
    s.operand.text ∉ inc ∧ ∃ lines p, fs.get? s.operand.text = some lines ∧ parseLines lines = .ok p ∧
      expand fs n (inc ++ [s.operand.text]) p = .ok e := by
  rcases expandOne_cases fs n inc s with ⟨hp, _⟩ | ⟨_, _, h0⟩ | ⟨_, hc, lines, p, hf, hpl, h0⟩
  · rw [hp] at hs; cases hs
  · rw [h0] at h; cases h
  · exact ⟨by simpa using hc, lines, p, hf, hpl, h0 ▸ h⟩

/-- while the statements of `f` expand under the chain `J`, an `INCLUDE g` among them is followed: `g` is not in `J`
and its statements expand under `J ++ [g]` -/
theorem expand_ok_includes {fs : Files} {f g : Str} (hfg : Includes fs f g) {n : Nat} {J : List Str} {lines : List Str}
    {p e : List Stmt} (hl : fs.get? f = some lines) (hp : parseLines lines = .ok p) (he : expand fs n J p = .ok e) :
    g ∉ J ∧ ∃ n' lines' p' e', fs.get? g = some lines' ∧ parseLines lines' = .ok p' ∧
      expand fs n' (J ++ [g]) p' = .ok e' := by
  obtain ⟨_, _, s, hl', hp', hm, hs, rfl⟩ := hfg
  rw [hl] at hl'; cases hl'
  rw [hp] at hp'; cases hp'
  cases n with
  | zero => rw [expand_zero] at he; cases he
  | succ n =>
    obtain ⟨e', h'⟩ := expand_ok_mem he s hm
    obtain ⟨hni, lines', p', hl', hp', he'⟩ := expandOne_ok_incl hs h'
    exact ⟨hni, n, lines', p', e', hl', hp', he'⟩

/-- while the statements of `f` expand under the chain `J`, no file that `f` includes, through any number of files,
is in `J` -/
theorem expand_ok_acyclic {fs : Files} {f g : Str} (hfg : IncludesPlus fs f g) : ∀ {n : Nat} {J lines : List Str}
    {p e : List Stmt}, fs.get? f = some lines → parseLines lines = .ok p → expand fs n J p = .ok e → g ∉ J := by
  induction hfg with
  | one h1 => intro n J lines p e hl hp he; exact (expand_ok_includes h1 hl hp he).1
  | step h1 _ ih =>
    intro n J lines p e hl hp he hc
    obtain ⟨_, n', lines', p', e', hl', hp', he'⟩ := expand_ok_includes h1 hl hp he
    exact ih hl' hp' he' (List.mem_append_left _ hc)

/-- a file that includes itself through any number of files is a diagnostic wherever it is included -/
theorem front_cycle {fs : Files} {pre post : List Str} {l : Str} {s : Stmt} (hl : parseLine l = .ok (some s))
    (hinc : (s.row.isInclude && !s.operand.text.isEmpty) = true)
    (hc : IncludesPlus fs s.operand.text s.operand.text) :
    front fs (pre ++ [l] ++ post) = .diag := by
  rcases front_ok_or_diag fs (pre ++ [l] ++ post) with ⟨r, hr⟩ | hd
  · -- a success would have expanded the statements of the file under the chain `[f]`
    rw [front_append, front_append] at hr
    obtain ⟨a, _, ha, _, _⟩ := oapp_eq_ok hr
    obtain ⟨_, e, _, he, _⟩ := oapp_eq_ok ha
    rw [front_single hl] at he
    obtain ⟨_, lines, p, hf, hp, he⟩ := expandOne_ok_incl hinc he
    exact absurd (by simp) (expand_ok_acyclic hc hf hp he)
  · exact hd

/-- any program that reaches an `INCLUDE f`, where `f` contains an `INCLUDE f` line, ends in `diag` -/
theorem front_self_include_around {fs : Files} {pre post pre0 post0 : List Str} {l : Str} {s : Stmt}
    {rp rq : List Stmt}
    (hl : parseLine l = .ok (some s))
    (hinc : (s.row.isInclude && !s.operand.text.isEmpty) = true)
    (hf : fs.get? s.operand.text = some (pre ++ [l] ++ post))
    (hp : parseLines pre = .ok rp) (hq : parseLines post = .ok rq) :
    front fs (pre0 ++ [l] ++ post0) = .diag :=
  front_cycle hl hinc (.one ⟨_, _, s, hf,
    by rw [parseLines_append, parseLines_append, parseLines_single_some hl, hp, hq]; rfl, by simp, hinc, rfl⟩)

/-! ### a chain of nested files: the only way to `internal` in the expansion stage

`name 0` is a file without INCLUDE, `name (i+1)` is a file whose only statement is `INCLUDE name i`.
Expanding an `INCLUDE name k` needs `k + 1` units of fuel below the current level. -/

theorem expandOne_deep (fs : Files) (name : Nat → Str) (K : Nat) (p0 : List Stmt)
    (hbase : ∃ ls, fs.get? (name 0) = some ls ∧ parseLines ls = .ok p0)
    (hp0 : ∀ x ∈ p0, x.row.isInclude = false)
    (hlink : ∀ i < K, ∃ ls s, fs.get? (name (i + 1)) = some ls ∧ parseLines ls = .ok [s] ∧
      (s.row.isInclude && !s.operand.text.isEmpty) = true ∧ s.operand.text = name i)
    (hinj : ∀ i ≤ K, ∀ j ≤ K, name i = name j → i = j) :
    ∀ k ≤ K, ∀ s : Stmt, (s.row.isInclude && !s.operand.text.isEmpty) = true → s.operand.text = name k →
    ∀ (n : Nat) (I : List Str), (∀ j ≤ k, name j ∉ I) →
      expandOne fs n I s = if n ≤ k then .internal else .ok p0 := by
  intro k
  induction k with
  | zero =>
    intro _ s hc ht n I hI
    obtain ⟨ls, hf, hp⟩ := hbase
    have hnc : I.contains s.operand.text = false := by
      rw [ht]; simpa using hI 0 (Nat.le_refl 0)
    rw [expandOne_some hc hnc (ht ▸ hf), hp]
    show expand fs n _ p0 = _
    cases n with
    | zero => rw [expand_zero]; rfl
    | succ n => rw [expand_plain fs n _ p0 hp0, if_neg (by omega)]
  | succ k ih =>
    intro hk s hc ht n I hI
    obtain ⟨ls, s', hf, hp, hc', ht'⟩ := hlink k (by omega)
    have hnc : I.contains s.operand.text = false := by
      rw [ht]; simpa using hI (k + 1) (Nat.le_refl _)
    rw [expandOne_some hc hnc (ht ▸ hf), hp]
    show expand fs n _ [s'] = _
    cases n with
    | zero => rw [expand_zero, if_pos (by omega)]
    | succ n =>
      rw [expand_succ, go_single, ih (by omega) s' hc' ht' n _ (by
        intro j hj
        simp only [List.mem_append, List.mem_singleton, not_or]
        refine ⟨hI j (by omega), ?_⟩
        rw [ht]
        intro he
        have := hinj j (by omega) (k + 1) hk he
        omega)]
      by_cases h : n ≤ k
      · rw [if_pos h, if_pos (by omega)]
      · rw [if_neg h, if_neg (by omega)]

theorem parseLines_forall {P : Stmt → Prop} (hP : ∀ l s, parseLine l = .ok (some s) → P s) :
    ∀ (ls : List Str) (r : List Stmt), parseLines ls = .ok r → ∀ s ∈ r, P s := by
  intro ls
  induction ls with
  | nil => intro r h; cases h; intro _ hs; cases hs
  | cons l rest ih =>
    intro r h
    rw [parseLines_cons] at h
    refine oapp_ok_forall h (fun a ha s hs => ?_) ih
    cases hl : parseLine l with
    | ok x =>
      rw [hl] at ha
      cases x with
      | none => cases ha; cases hs
      | some s0 => cases ha; rw [List.mem_singleton.mp hs]; exact hP l s0 hl
    | _ => rw [hl] at ha; cases ha

theorem expand_forall {P : Stmt → Prop} (hP : ∀ l s, parseLine l = .ok (some s) → P s) (fs : Files) :
    ∀ (n : Nat) (inc : List Str) (ss : List Stmt), (∀ s ∈ ss, P s) → ∀ r, expand fs n inc ss = .ok r →
      ∀ s ∈ r, P s := by
  apply expand_induct fs (P := fun _ _ ss o => (∀ s ∈ ss, P s) → ∀ r, o = .ok r → ∀ s ∈ r, P s)
  case zero => intro _ _ _ _; nofun
  case nil => intro _ _ _ r h; cases h; intro _ hs; cases hs
  case plain =>
    intro _ _ s rest o _ ih hss r h
    refine oapp_ok_forall h (fun a ha x hx => ?_) (ih fun y hy => hss y (List.mem_cons_of_mem s hy))
    cases ha
    rw [List.mem_singleton.mp hx]
    exact hss s List.mem_cons_self
  case reject => intro _ _ _ _ _ _ _ _; nofun
  case incl =>
    intro _ _ s rest lines p o1 o2 _ _ _ hp ih1 ih2 hss r h
    exact oapp_ok_forall h (ih1 (parseLines_forall hP lines p hp))
      (ih2 fun y hy => hss y (List.mem_cons_of_mem s hy))

theorem front_forall {P : Stmt → Prop} (hP : ∀ l s, parseLine l = .ok (some s) → P s) {fs : Files}
    {ls : List Str} {r : List Stmt} (h : front fs ls = .ok r) : ∀ s ∈ r, P s := by
  obtain ⟨p, hp, he⟩ := front_eq_ok.1 h
  exact expand_forall hP fs (includeFuel fs) [] p (parseLines_forall hP ls p hp) r he

theorem front_plain {fs : Files} {ls : List Str} {p : List Stmt} (hp : parseLines ls = .ok p)
    (hpl : ∀ s ∈ p, s.row.isInclude = false) : front fs ls = .ok p :=
  front_eq_ok.2 ⟨p, hp, expand_includeFuel_plain fs p hpl⟩

end CoCo.Asm
