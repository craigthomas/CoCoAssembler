/-
Lemmas/EncodeLabel.lean — `fix_addresses` in the encoding theorems.  An operand that mentions no label (`LabelFree`) passes
it unchanged (`Encodes.through_fix`).  A LABEL (or label expression) as the constant offset of a pointer
register (`LDA TABLE,X`, `LDB TBL+1,Y`, `LDD [TBL,U]`): `translate` takes the 16-bit offset form at once
(post byte base+9, size + 2, `needsRes`, no `choices`), `fix_addresses` replaces the operand field by the ADDRESS the
label (expression) stands for, `fit_operand_width` renders it in two bytes, and the datasheet decoder reads the bytes
back as `a,R` with a 16-bit offset.
-/
import CoCoVerif.Lemmas.EncodeOffset
import CoCoVerif.Lemmas.FixOne

namespace CoCo.Asm
open CoCo CoCo.Spec.MC6809
open CoCo.Gen (InstrRow)

/-- for a label-free operand the step of `fixAll` (`fix_addresses`, then `fit_operand_width`) is `fitWidth` alone, so on
every statement carrying row, operand and package it yields the bytes `Encodes` speaks about, whatever the other
statements `ss` and the position `i` are -/
theorem Encodes.through_fix {o : Operand} {r : InstrRow} {x : Spec.MC6809.Operand} (he : Encodes o r x)
    (hlf : LabelFree o) :
    ∃ pkg bytes, translateOperand o r = .ok pkg ∧
      (∀ (ss : List Stmt) (i : Nat) (s : Stmt), s.row = r → s.operand = o → s.pkg = pkg →
        ∃ s', (match fixOne ss i s with | .ok s1 => fitWidth s1 | o => o) = .ok s' ∧ stmtBytes s' = some bytes) ∧
      bytes.length = pkg.size ∧ decode bytes = some (⟨opOf r.mnemonic, x⟩, bytes.length) := by
  obtain ⟨pkg, bytes, ht, hnr, hb, hl, hd⟩ := he
  refine ⟨pkg, bytes, ht, ?_, hl, hd⟩
  intro ss i s hr ho hp
  rw [fixOne_eq_fixPart3 (ho ▸ hlf), fixPart3_noRes ss i (hp ▸ hnr)]
  exact hb s hr ho hp

/-- the left part of a label offset and the `additional` value `translate` keeps for it: a label becomes the NUMBER of
its statement (resolved by `fix_addresses`), a label expression is kept as it is -/
inductive LabelLeft : Value → Value → Prop
  | label {j : Nat} {m : Mode} {l : Value} : numV j = .ok l → LabelLeft (.address j m) l
  | expr {a b : Value} {op : Char} {m : Mode} : LabelLeft (.expr a b op m true) (.expr a b op m true)

/-- both are handed to `offBody` with the flag that asks for `fix_addresses` -/
theorem LabelLeft.arg {left l : Value} (h : LabelLeft left l) : OffArg left true l := by
  cases h with
  | label hn => exact .label hn
  | expr => exact .other Value.noConfusion (fun _ _ => Value.noConfusion)

/-- the label-offset branch of `translateOffset`: the 16-bit offset form, whatever the label's address will be -/
theorem translateOffset_label {ind : Bool} {row : InstrRow} {c : Nat} {left l : Value} {right : Str} {raw0 : Nat}
    (hc : row.ind = some c) (hc' : c < 65536) (hr : PlainReg right) (hl : LabelLeft left l)
    (hraw : raw0 ||| ((if ind then 0x90 else 0x80) + 0x09) < 256) :
    translateOffset ind row left right raw0 =
      .ok { opCode := opv c, postByte := .numeric (raw0 ||| ((if ind then 0x90 else 0x80) + 0x09)) (some 2) .direct false,
            additional := l, size := row.indSz + 2, maxSize := row.indSz + 2, needsRes := true } := by
  rw [translateOffset_of_arg hl.arg hr.noSign, offBody_label (indOp hc hc') hr.noPcr]
  unfold offBase
  rw [numV_byte hraw]
  rfl

theorem LabelLeft.notZero {left l : Value} (h : LabelLeft left l) : ∀ h' m n, left ≠ .numeric 0 h' m n := by
  cases h <;> intros <;> simp

/-- a label on the left is an offset, never "no offset" -/
theorem idxNoOffset_label {o : Operand} {right : Str} {left l : Value} (hl : o.left = .val left)
    (hll : LabelLeft left l) : idxNoOffset o right = false := by
  unfold idxNoOffset
  rw [hl]
  cases hll <;> rfl

/-- the address `a` the kept `additional` value stands for, once the statements `ss` have addresses: the address of
the label's statement, or the value of the label expression (`calculate_address_offset`) -/
inductive LabelTarget (ss : List Stmt) : Value → Nat → Prop
  | label {j a : Nat} {h : Option Nat} {m : Mode} {neg : Bool} :
      addrIntOf ss j = some a → LabelTarget ss (.numeric j h m neg) a
  | expr {x y w : Value} {op : Char} {m : Mode} {a : Nat} :
      addrOffset ss (.expr x y op m true) = .ok w → w.int? = some a → LabelTarget ss (.expr x y op m true) a

/-- `fix_addresses` on a label offset: the operand field becomes the address itself, as a 16-bit number (no
PC-relative distance is taken: `choices` is empty) -/
theorem fixOne_label {ss : List Stmt} {i : Nat} {s : Stmt} {a : Nat}
    (hidx : s.operand.kind = .indexed ∨ s.operand.kind = .extIndirect)
    (hv1 : s.operand.value ≠ .pyNone) (hv2 : s.operand.value.isAddrExpr = false)
    (hv3 : s.operand.value.isAddress = false)
    (hnr : s.pkg.needsRes = true) (hch : s.pkg.choices = [])
    (ht : LabelTarget ss s.pkg.additional a) (ha : a < 65536) :
    fixOne ss i s = .ok { s with pkg := { s.pkg with additional := .numeric a (some 4) .extended false } } := by
  have hrel : s.operand.kind ≠ .relative := by rcases hidx with h | h <;> rw [h] <;> decide
  have hidx' : (s.operand.kind == .indexed || s.operand.kind == .extIndirect) = true := by
    rcases hidx with h | h <;> rw [h] <;> rfl
  have htar : fixRelTarget ss s = .ok a := by
    generalize hadd : s.pkg.additional = add at ht
    cases ht with
    | label hj => rw [fixRelTarget_plain ss s (.inr (hadd ▸ rfl)), hadd]; simp only [Value.int?, hj]
    | expr ho hw => rw [fixRelTarget_expr ss s hidx' hadd, ho]; simp only [hw]
  rw [fixOne_abs_eq ss i s (by simpa using hrel) hv1 hv2 hv3 hnr (by rw [hch]; rfl), fixPartAbs_eq, htar]
  exact if_pos (by omega)

/-- the fix step on a label-offset package (`fixOne` then `fitWidth`, the `fixAll` loop body): for a statement of row
`r` whose package is the 16-bit offset form with post byte `128 + 32k + q` (`q = 9`: `a,R`; `q = 25`: `[a,R]`), the
bytes are op code, post byte, high and low byte of the ADDRESS `a`, and they decode as the offset `a` (16-bit) from
register `k` -/
theorem fixFit_label {ss : List Stmt} {i : Nat} {s : Stmt} {c k q a : Nat}
    (hp : s.row.isPseudo = false) (hsp : s.row.isSpecial = false)
    (hlk : lookup c = some (opOf s.row.mnemonic, .idx))
    (hidx : s.operand.kind = .indexed ∨ s.operand.kind = .extIndirect)
    (hv1 : s.operand.value ≠ .pyNone) (hv2 : s.operand.value.isAddrExpr = false)
    (hv3 : s.operand.value.isAddress = false)
    (hop : s.pkg.opCode = opv c)
    (hpb : s.pkg.postByte = .numeric (128 + 32 * k + q) (some 2) .direct false) (hk4 : k < 4) (hq : q = 9 ∨ q = 25)
    (hsz : s.pkg.size = opcodeLen c + 3)
    (hnr : s.pkg.needsRes = true) (hch : s.pkg.choices = [])
    (ht : LabelTarget ss s.pkg.additional a) (ha : a < 65536) :
    ∃ s' bytes, fixFit ss i s = .ok s' ∧ stmtBytes s' = some bytes ∧
      bytes = opcodeBytes c ++ [128 + 32 * k + q, a / 256, a % 256] ∧ bytes.length = s.pkg.size ∧
      decode bytes = some (⟨opOf s.row.mnemonic, .idx (.off k (sext a 16) (q = 25) 16)⟩, bytes.length) := by
  -- the package after `fixOne`: op code cell, post byte and a two-byte field holding the address
  let p1 : Pkg := { s.pkg with additional := .numeric a (some 4) .extended false }
  have L : PkgLayout s.row p1 c .idx [128 + 32 * k + q] 2 :=
    ⟨hlk, hop, by show CodeOk s.pkg.postByte _; rw [hpb]; exact .byte (by omega), by show s.pkg.size = _; rw [hsz]; rfl,
      .inr ⟨.inr rfl, rfl, hp, hsp⟩⟩
  have hfit := L.bytes.cases
  rw [show fieldBytes 2 p1.additional = some [a / 256, a % 256] from fieldBytes_word (fitsWord_pos ha)] at hfit
  obtain ⟨p', hfit, hb⟩ := hfit
  refine ⟨{ s with pkg := p' }, _, fixFit_ok.mpr ⟨_, fixOne_label (i := i) hidx hv1 hv2 hv3 hnr hch ht ha,
    fitWidth_ok (s := { s with pkg := p1 }) hfit⟩, hb, by simp, by simp [opcodeBytes_length, hsz], ?_⟩
  rw [List.append_assoc, decode_opcode hlk]
  simp only [decodeTail, List.singleton_append, decode_off16 hk4 hq, hi_lo]
  simp [opcodeBytes_length]

end CoCo.Asm
