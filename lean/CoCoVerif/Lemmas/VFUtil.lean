/-
Lemmas/VFUtil.lean — `file_util.main`: the shape of a run whose source image opens, and the `--files` selection.
-/
import CoCoVerif.Lemmas.VirtualFile

namespace CoCo.VF
open CoCo

/-- one conversion step of `utilMain` -/
def utilConv (sel : List CFile) (ap : Bool) (st : Outcome FS) (t : Option Path) (k : Kind) : Outcome FS :=
  match st, t with
  | .ok cur, some p => storeTo cur p k sel ap
  | st, _ => st

/-- the `--to_bin` step of `utilMain` -/
def utilBin (files : List CFile) (selArg : Option (List (List Char))) (ap : Bool) (s2 : Outcome FS)
    (t : Option Path) : Outcome FS :=
  match s2, t with
  | .ok cur, some p =>
    (match openVF cur p (some .binary) with
     | .ok tgt =>
       if files.length > 1 then .diag
       else
         match files with
         | [] => .internal
         | f :: _ => saveVF cur (if selected selArg f then addCoco tgt f else tgt) ap
     | o => (match o with | .diag => .diag | .internal => .internal | _ => .diverged))
  | st, _ => st

def utilFinish (fs : FS) (s1 s2 s3 : Outcome FS) : CliResult :=
  { exit := (match s3 with | .ok _ => 0 | _ => 1),
    fs := (match s3 with
           | .ok f => f
           | _ => (match s2 with | .ok f => f | _ => (match s1 with | .ok f => f | _ => fs))) }

/-- the shape of a run of `utilMain` whose source opens (or does not exist) -/
theorem utilMain_open {fs : FS} {args : UtilArgs} {src : VFile} (hs : openVF fs args.host none = .ok src) :
    utilMain fs args =
      (let sel := src.files.filter (selected args.files)
       let s1 := utilConv sel args.append (.ok fs) args.toCas .cassette
       let s2 := utilConv sel args.append s1 args.toDsk .disk
       let s3 := utilBin src.files args.files args.append s2 args.toBin
       utilFinish fs s1 s2 s3) := by
  unfold utilMain
  simp only [hs]
  rfl

theorem utilConv_none (sel : List CFile) (ap : Bool) (st : Outcome FS) (k : Kind) :
    utilConv sel ap st none k = st := by
  cases st <;> rfl

theorem utilBin_none (files : List CFile) (sa : Option (List (List Char))) (ap : Bool) (st : Outcome FS) :
    utilBin files sa ap st none = st := by
  cases st <;> rfl

theorem utilBin_not_ok (files : List CFile) (sa : Option (List (List Char))) (ap : Bool) (st : Outcome FS)
    (t : Option Path) (h : st.isOk = false) : utilBin files sa ap st t = st := by
  cases st <;> cases t <;> first | rfl | cases h

def convTarget (args : UtilArgs) : Kind → Option Path
  | .cassette => args.toCas
  | .disk => args.toDsk
  | .binary => none

/-- **one conversion is one `storeTo`**: `k` is `cassette` or `disk`, `p` its target, the other conversion is not
asked for, and the `--to_bin` step is not asked for or is not reached because the conversion failed -/
theorem utilMain_conv_only {fs : FS} {args : UtilArgs} {src : VFile} (k : Kind) (p : Path)
    (hs : openVF fs args.host none = .ok src) (hk : k ≠ .binary) (hp : convTarget args k = some p)
    (hother : ∀ k', k' ≠ k → convTarget args k' = none)
    (hb : args.toBin = none ∨
      (storeTo fs p k (src.files.filter (selected args.files)) args.append).isOk = false) :
    utilMain fs args =
      { exit := if (storeTo fs p k (src.files.filter (selected args.files)) args.append).isOk then 0 else 1,
        fs := Props.hostAfter fs (storeTo fs p k (src.files.filter (selected args.files)) args.append) } := by
  rw [utilMain_open hs]
  -- `s` is the outcome of the conversion, `s1` the state after the cassette step: untouched, or `s` itself
  have fin : ∀ (s s1 : Outcome FS), (s1 = .ok fs ∨ s1 = s) → (args.toBin = none ∨ s.isOk = false) →
      utilFinish fs s1 s (utilBin src.files args.files args.append s args.toBin) =
        { exit := if s.isOk then 0 else 1, fs := Props.hostAfter fs s } := by
    intro s s1 h1 hb
    have hbin : utilBin src.files args.files args.append s args.toBin = s := by
      rcases hb with h | h
      · rw [h, utilBin_none]
      · exact utilBin_not_ok _ _ _ _ _ h
    rw [hbin]
    rcases h1 with rfl | rfl
    · cases s <;> rfl
    · cases s1 <;> rfl
  cases k with
  | binary => exact absurd rfl hk
  | cassette =>
    have hc : args.toCas = some p := hp
    have hd : args.toDsk = none := hother .disk (by decide)
    simp only [hc, hd, utilConv_none]
    exact fin _ _ (Or.inr rfl) hb
  | disk =>
    have hc : args.toCas = none := hother .cassette (by decide)
    have hd : args.toDsk = some p := hp
    simp only [hc, hd, utilConv_none]
    exact fin _ _ (Or.inl rfl) hb

theorem utilMain_dsk_only {fs : FS} {args : UtilArgs} {src : VFile} (p : Path)
    (hs : openVF fs args.host none = .ok src) (hc : args.toCas = none) (hd : args.toDsk = some p)
    (hb : args.toBin = none ∨
      (storeTo fs p .disk (src.files.filter (selected args.files)) args.append).isOk = false) :
    utilMain fs args =
      { exit := if (storeTo fs p .disk (src.files.filter (selected args.files)) args.append).isOk then 0 else 1,
        fs := Props.hostAfter fs (storeTo fs p .disk (src.files.filter (selected args.files)) args.append) } :=
  utilMain_conv_only .disk p hs (by decide) hd
    (fun k' hk' => match k' with | .cassette => hc | .binary => rfl | .disk => absurd rfl hk') hb

/-- a source image that does not open: exit 1, nothing written -/
theorem utilMain_nosrc {fs : FS} {args : UtilArgs} (hh : fs.get? args.host = some src)
    (hs : ∀ r, sniff src ≠ .ok r) : utilMain fs args = { exit := 1, fs := fs } := by
  unfold utilMain openVF
  simp only [hh]
  cases h : sniff src with
  | ok r => exact absurd h (hs r)
  | diag => rfl
  | internal => rfl
  | diverged => rfl

/-- what `--files` compares: the upper-cased, stripped, NUL-free name -/
def selKey (f : CFile) : List Char :=
  upperS ((Asm.strip (f.name.map Char.ofNat)).filter (· != Char.ofNat 0))

theorem filter_selected_none (l : List CFile) : l.filter (selected none) = l := by
  simp [selected]

theorem selected_some (names : List (List Char)) (f : CFile) :
    selected (some names) f = (names.map upperS).contains (selKey f) := rfl

theorem upperC_ofNat_idem : ∀ n, n < 123 → 97 ≤ n →
    Asm.upperC (Asm.upperC (Char.ofNat n)) = Asm.upperC (Char.ofNat n) := by decide +kernel

theorem upperC_idem (c : Char) : Asm.upperC (Asm.upperC c) = Asm.upperC c := by
  by_cases h : ('a' ≤ c && c ≤ 'z') = true
  · have hc : c = Char.ofNat c.toNat := (Char.ofNat_toNat c).symm
    have h' := h
    simp only [Bool.and_eq_true, decide_eq_true_eq, Char.le_def, UInt32.le_iff_toNat_le] at h'
    have h1 : 97 ≤ c.toNat := h'.1
    have h2 : c.toNat ≤ 122 := h'.2
    rw [hc]
    exact upperC_ofNat_idem c.toNat (by omega) h1
  · have : Asm.upperC c = c := by unfold Asm.upperC; rw [if_neg h]
    rw [this, this]

theorem upperS_idem (s : List Char) : upperS (upperS s) = upperS s := by
  unfold upperS
  rw [List.map_map]
  apply List.map_congr_left
  intro c _
  exact upperC_idem c

theorem selected_case_insensitive (n1 n2 : List (List Char)) (f : CFile) (h : n1.map upperS = n2.map upperS) :
    selected (some n1) f = selected (some n2) f := by
  rw [selected_some, selected_some, h]

end CoCo.VF
