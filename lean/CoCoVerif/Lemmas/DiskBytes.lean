/-
Lemmas/DiskBytes.lean — buffer writes on the flat image (`writeBytes` in range is a `splice`), "changed only inside a
set of offsets" (`Within S b b'`), slices, the geometry of granules (all arithmetic by `omega`), the spec's `fatAt`,
`dirEntry`, `granuleBytes` as reads of the flat image, and the blank image.
-/
import CoCoVerif.Model.Disk
import CoCoVerif.Spec.DiskBasic
import CoCoVerif.Lemmas.ListGetD

namespace CoCo.Dsk
open CoCo

/-! These break if the generated constants change. -/
theorem fatOffset_eq : Gen.fatOffset = 78592 := rfl
theorem dirOffset_eq : Gen.dirOffset = 78848 := rfl
theorem halfTrackLen_eq : Gen.halfTrackLen = 2304 := rfl
theorem imageSize_eq : Gen.imageSize = 161280 := rfl
theorem totalGranules_eq : Gen.totalGranules = 68 := rfl
theorem bytesPerSector_eq : Gen.bytesPerSector = 256 := rfl
theorem FAT_eq : FAT = 78592 := rfl
theorem DIR_eq : DIR = 78848 := rfl
theorem G_eq : G = 2304 := rfl
theorem SIZE_eq : SIZE = 161280 := rfl

theorem seek_eq (g : Nat) : seek g = Spec.DiskBasic.granuleOffset g := by
  unfold seek Spec.DiskBasic.granuleOffset
  simp only [G_eq]
  split <;> split <;> omega

theorem seek_in (g : Nat) (h : g < 68) : seek g + 2304 ≤ 161280 := by
  unfold seek; simp only [G_eq]; split <;> omega

theorem seek_disj (g h : Nat) (hg : g < 68) (hh : h < 68) (hne : g ≠ h) :
    seek g + 2304 ≤ seek h ∨ seek h + 2304 ≤ seek g := by
  unfold seek; simp only [G_eq]; split <;> split <;> omega

/-- no granule meets track 17 (offsets 78336 .. 82943), where the table and the directory live -/
theorem seek_track17 (g : Nat) (hg : g < 68) : seek g + 2304 ≤ 78336 ∨ 82944 ≤ seek g := by
  unfold seek; simp only [G_eq]; split <;> omega

theorem kindOf_ml {ft : Nat} (dt : Nat) (h : ft = 2) : kindOf ft dt = .ml := by
  unfold kindOf; rw [if_pos h]

theorem kindOf_ascii {ft dt : Nat} (h : ft ≠ 2) (hd : dt = 0xFF) : kindOf ft dt = .ascii := by
  unfold kindOf; rw [if_neg h, if_pos hd]

theorem kindOf_basic {ft dt : Nat} (h : ft ≠ 2) (hd : dt ≠ 0xFF) : kindOf ft dt = .basic := by
  unfold kindOf; rw [if_neg h, if_neg hd]

theorem kindOf_eq_ml_iff (ft dt : Nat) : kindOf ft dt = .ml ↔ ft = 2 := by
  unfold kindOf
  split
  · simp [*]
  · split <;> simp [*]

def splice (b : Bytes) (p : Nat) (xs : Bytes) : Bytes := b.take p ++ xs ++ b.drop (p + xs.length)

theorem writeBytes_eq {b : Bytes} {p : Nat} {xs : Bytes} (h : p + xs.length ≤ b.length) :
    writeBytes b p xs = some (splice b p xs) := by
  unfold writeBytes splice; simp [h]

@[simp] theorem splice_nil (b : Bytes) (p : Nat) : splice b p [] = b := by
  unfold splice; simp

@[simp] theorem writeBytes_nil (b : Bytes) (p : Nat) : writeBytes b p [] = some b := by
  unfold writeBytes; simp

theorem splice_length {b : Bytes} {p : Nat} {xs : Bytes} (h : p + xs.length ≤ b.length) :
    (splice b p xs).length = b.length := by
  simp [splice]; omega

theorem splice_inside {b : Bytes} {p : Nat} {xs : Bytes} (h : p ≤ b.length) (j : Nat) (hj : j < xs.length) :
    (splice b p xs)[p + j]? = xs[j]? := by
  have hp : (b.take p).length = p := by simp; omega
  unfold splice
  rw [List.getElem?_append_left (by simp; omega), List.getElem?_append_right (by omega), hp,
    Nat.add_sub_cancel_left]

theorem splice_frame {b : Bytes} {p : Nat} {xs : Bytes} (h : p ≤ b.length) (i : Nat)
    (hi : i < p ∨ p + xs.length ≤ i) : (splice b p xs)[i]? = b[i]? := by
  have hp : (b.take p).length = p := by simp; omega
  unfold splice
  rcases hi with hi | hi
  · rw [List.append_assoc, List.getElem?_append_left (by omega), List.getElem?_take_of_lt hi]
  · rw [List.getElem?_append_right (by simp; omega), List.getElem?_drop]
    congr 1; simp; omega

theorem splice_append {b : Bytes} {p : Nat} {xs ys : Bytes} (h : p ≤ b.length) :
    splice (splice b p xs) (p + xs.length) ys = splice b p (xs ++ ys) := by
  have hp : (b.take p ++ xs).length = p + xs.length := by simp; omega
  unfold splice
  rw [List.take_left' hp, List.drop_append, hp, List.drop_drop]
  simp [Nat.add_assoc]
  omega

theorem writeBytes_splice {b xs ys : Bytes} {p : Nat} (h : p + xs.length + ys.length ≤ b.length) :
    writeBytes (splice b p xs) (p + xs.length) ys = some (splice b p (xs ++ ys)) := by
  rw [writeBytes_eq (by rw [splice_length (by omega)]; omega), splice_append (by omega)]

structure Within (S : Nat → Prop) (b b' : Bytes) : Prop where
  len : b'.length = b.length
  get : ∀ i, ¬ S i → b'[i]? = b[i]?

theorem Within.refl (S : Nat → Prop) (b : Bytes) : Within S b b := ⟨rfl, fun _ _ => rfl⟩

theorem Within.mono {S T : Nat → Prop} {b b' : Bytes} (h : Within S b b') (hst : ∀ i, S i → T i) :
    Within T b b' :=
  ⟨h.len, fun i hi => h.get i (fun hs => hi (hst i hs))⟩

theorem Within.trans {S : Nat → Prop} {b b' b'' : Bytes} (h : Within S b b') (h' : Within S b' b'') :
    Within S b b'' :=
  ⟨h'.len.trans h.len, fun i hi => (h'.get i hi).trans (h.get i hi)⟩

theorem Within.then {S T : Nat → Prop} {b b' b'' : Bytes} (h : Within S b b') (h' : Within T b' b'') :
    Within (fun i => S i ∨ T i) b b'' :=
  (h.mono (fun _ => Or.inl)).trans (h'.mono (fun _ => Or.inr))

theorem within_splice {b : Bytes} {p : Nat} {xs : Bytes} (h : p + xs.length ≤ b.length) :
    Within (fun i => p ≤ i ∧ i < p + xs.length) b (splice b p xs) :=
  ⟨splice_length h, fun i hi => splice_frame (by omega) i (by omega)⟩

theorem slice_get (b : Bytes) (q n i : Nat) :
    ((b.drop q).take n)[i]? = if i < n then b[q + i]? else none := by
  rw [List.getElem?_take]; split <;> simp

theorem slice_congr {b b' : Bytes} {q n : Nat} (h : ∀ i, q ≤ i → i < q + n → b'[i]? = b[i]?) :
    (b'.drop q).take n = (b.drop q).take n := by
  apply List.ext_getElem?
  intro i
  rw [slice_get, slice_get]
  split
  · exact h _ (by omega) (by omega)
  · rfl

theorem Within.slice {S : Nat → Prop} {b b' : Bytes} (h : Within S b b') {q n : Nat}
    (hd : ∀ i, q ≤ i → i < q + n → ¬ S i) : (b'.drop q).take n = (b.drop q).take n :=
  slice_congr (fun i h1 h2 => h.get i (hd i h1 h2))

theorem slice_length {b : Bytes} {q n : Nat} (h : q + n ≤ b.length) : ((b.drop q).take n).length = n := by
  simp [List.length_take, List.length_drop]; omega

theorem splice_read {b : Bytes} {p : Nat} {xs : Bytes} (h : p ≤ b.length) :
    ((splice b p xs).drop p).take xs.length = xs := by
  apply List.ext_getElem?
  intro i
  rw [slice_get]
  split
  · exact splice_inside h i ‹_›
  · exact (List.getElem?_eq_none (by omega)).symm

section accessors
open Spec.DiskBasic

theorem fatAt_eq_get {b : Bytes} {g : Nat} (hb : b.length = 161280) (hg : g < 68) :
    b[FAT + g]? = some (fatAt b g) := by
  unfold fatAt fatOff; rw [FAT_eq]; exact getElem?_eq_getD 0 (by omega)

theorem fatAt_congr {b b' : Bytes} {g : Nat} (h : b'[FAT + g]? = b[FAT + g]?) : fatAt b' g = fatAt b g := by
  rw [FAT_eq] at h; simp [fatAt, fatOff, List.getD_eq_getElem?_getD, h]

theorem dirEntry_eq (b : Bytes) (k : Nat) : dirEntry b k = (b.drop (78848 + 32 * k)).take 32 := rfl

theorem dirEntry_first (b : Bytes) (k : Nat) : (dirEntry b k).getD 0 0 = b.getD (DIR + 32 * k) 0 := by
  rw [dirEntry_eq, DIR_eq]
  exact slice_getD b _ 32 0 0 (by omega)

theorem granuleBytes_eq (b : Bytes) (g : Nat) : granuleBytes b g = (b.drop (seek g)).take 2304 := by
  unfold granuleBytes granuleSize; rw [seek_eq]

theorem granuleBytes_length {b : Bytes} {g : Nat} (hb : b.length = 161280) (hg : g < 68) :
    (granuleBytes b g).length = 2304 := by
  rw [granuleBytes_eq]; have := seek_in g hg
  exact slice_length (by omega)

theorem blank_slice (q n : Nat) (h : q + n ≤ 161280) : (blank.drop q).take n = List.replicate n 0xFF := by
  unfold blank; rw [SIZE_eq]
  rw [List.drop_replicate, List.take_replicate]
  congr 1; omega

theorem blank_getD (i : Nat) (h : i < 161280) : blank.getD i 0 = 0xFF := by
  unfold blank; rw [SIZE_eq]
  rw [List.getD_eq_getElem?_getD, List.getElem?_replicate, if_pos h]
  rfl

theorem blank_length : blank.length = 161280 := by unfold blank; rw [SIZE_eq]; exact List.length_replicate

theorem blank_dirFree (k : Nat) (hk : k < 72) : live (dirEntry blank k) = false := by
  unfold live
  rw [dirEntry_first, blank_getD _ (by rw [DIR_eq]; omega)]
  rfl

theorem blank_fatAt (g : Nat) (hg : g < 68) : fatAt blank g = 0xFF := by
  unfold fatAt fatOff; exact blank_getD _ (by omega)

end accessors

end CoCo.Dsk
