/-
Lemmas/SplitOn.lean — `splitOn` (Python `str.split(c)`) and joining with the separator invert each other.
-/
import CoCoVerif.Model.Values

namespace CoCo.Asm

/-- `c.join(parts)` -/
def joinWith (c : Char) : List Str → Str
  | [] => []
  | [a] => a
  | a :: b :: t => a ++ c :: joinWith c (b :: t)

theorem splitOn_ne_nil (c : Char) (s : Str) : splitOn c s ≠ [] := by
  induction s with
  | nil => simp [splitOn]
  | cons ch s ih =>
    simp only [splitOn, List.foldr_cons] at ih ⊢
    split
    · simp
    · split <;> simp

theorem splitOn_cons_sep (c : Char) (s : Str) : splitOn c (c :: s) = [] :: splitOn c s := by
  simp [splitOn]

theorem splitOn_cons_ne (c ch : Char) (s : Str) (h : ch ≠ c) (a : Str) (t : List Str)
    (hs : splitOn c s = a :: t) : splitOn c (ch :: s) = (ch :: a) :: t := by
  have hb : (ch == c) = false := by simpa using h
  simp only [splitOn, List.foldr_cons] at hs ⊢
  rw [hs]
  simp [hb]

theorem splitOn_noSep (c : Char) (a : Str) (h : c ∉ a) : splitOn c a = [a] := by
  induction a with
  | nil => simp [splitOn]
  | cons ch a ih =>
    have hne : ch ≠ c := by intro e; exact h (by simp [e])
    exact splitOn_cons_ne c ch a hne _ _ (ih (by intro hm; exact h (by simp [hm])))

theorem splitOn_append_sep (c : Char) (a rest : Str) (h : c ∉ a) :
    splitOn c (a ++ c :: rest) = a :: splitOn c rest := by
  induction a with
  | nil => simp [splitOn_cons_sep]
  | cons ch a ih =>
    have hne : ch ≠ c := by intro e; exact h (by simp [e])
    exact splitOn_cons_ne c ch _ hne _ _ (ih (by intro hm; exact h (by simp [hm])))

theorem splitOn_joinWith (c : Char) (parts : List Str) (hne : parts ≠ []) (h : ∀ p ∈ parts, c ∉ p) :
    splitOn c (joinWith c parts) = parts := by
  induction parts with
  | nil => exact absurd rfl hne
  | cons a t ih =>
    cases t with
    | nil => simpa [joinWith] using splitOn_noSep c a (h a (by simp))
    | cons b t =>
      simp only [joinWith]
      rw [splitOn_append_sep c a _ (h a (by simp)), ih (by simp) (fun p hp => h p (by simp [hp]))]

theorem contains_joinWith (c : Char) (a b : Str) (t : List Str) : (joinWith c (a :: b :: t)).contains c = true := by
  simp [joinWith]

theorem _root_.CoCo.Props.contains_joinWith_of_two (c : Char) {l : List Str} (h2 : 2 ≤ l.length) :
    (joinWith c l).contains c = true := by
  match l, h2 with
  | a :: b :: t, _ => exact contains_joinWith c a b t

theorem splitOn_parts_noSep (c : Char) (s : Str) : ∀ p ∈ splitOn c s, c ∉ p := by
  induction s with
  | nil => simp [splitOn]
  | cons ch s ih =>
    by_cases hc : ch = c
    · subst hc
      rw [splitOn_cons_sep]
      intro p hp
      rcases List.mem_cons.mp hp with rfl | hp
      · simp
      · exact ih p hp
    · cases hs : splitOn c s with
      | nil => exact absurd hs (splitOn_ne_nil c s)
      | cons a t =>
        rw [splitOn_cons_ne c ch s hc a t hs]
        rw [hs] at ih
        intro p hp
        rcases List.mem_cons.mp hp with rfl | hp
        · intro hm
          rcases List.mem_cons.mp hm with h | h
          · exact hc h.symm
          · exact ih a (by simp) h
        · exact ih p (by simp [hp])

theorem joinWith_splitOn (c : Char) (s : Str) : joinWith c (splitOn c s) = s := by
  induction s with
  | nil => simp [splitOn, joinWith]
  | cons ch s ih =>
    by_cases hc : ch = c
    · subst hc
      rw [splitOn_cons_sep]
      cases hs : splitOn ch s with
      | nil => exact absurd hs (splitOn_ne_nil ch s)
      | cons a t => rw [hs] at ih; simp [joinWith, ih]
    · cases hs : splitOn c s with
      | nil => exact absurd hs (splitOn_ne_nil c s)
      | cons a t =>
        rw [splitOn_cons_ne c ch s hc a t hs]
        rw [hs] at ih
        cases t with
        | nil => simp only [joinWith] at ih ⊢; rw [ih]
        | cons b t => simp only [joinWith, List.cons_append] at ih ⊢; rw [ih]

end CoCo.Asm
